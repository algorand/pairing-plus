/-
C03 / C11 — BILINEARITY FOR INTEGER SCALARS, the exponent modulo `r`, and the CANCELLATION clause of C11.

`PP.C03Bilinear.bilinear` is stated for `a b : ℕ`; the property says "for all INTEGERS a, b".  Here:

* `bilinear_int`         : `P ∈ G1`, `Q ∈ G2`, `P' = [a]P`, `Q' = [b]Q` with `a b : ℤ` ⇒ `e(P', Q') = e(P, Q)^(a·b)`
                           (integer power in the field `Fq12`; the values are non-zero, `bilinear_int_val`)
* `pairing_ne_zero`, `pairing_isUnit` : every value returned by `pairing` (any inputs) is non-zero
* `pairing_zpow_congr`, `pairing_pow_congr` : the exponent only matters modulo `r` (any inputs)
* `pairing_orderOf`, `pairing_zpow_eq_iff`  : for non-identity `P ∈ G1`, `Q ∈ G2` the value has order EXACTLY `r`
                           and `e^m = e^n ↔ m ≡ n (mod r)`: the exponent matters exactly modulo `r`
* `bilinear_int_mod`     : `e([a]P, [b]Q) = e(P, Q)^((a·b) mod r)` with a natural exponent `< r`
* `multiProduct_exponent_int` : C11's exponent clause with integer scalars
* `multiProduct_cancel`, `multiProduct_cancel_int` : **the multi-product is exactly 1 when `Σ aᵢ bᵢ ≡ 0 (mod r)`**
* `multiProduct_eq_one_iff`   : … and, for non-identity base points, ONLY then
* `pairingProduct_cancel`, `pairingProduct_eq_one_iff` : the two-pair helper `pairing_product`
* `pairing_eq_one_iff_smul`   : `e([a]P, [b]Q) = 1 ↔ r ∣ a·b` for non-identity base points

All statements are about the MODEL's `pairing`, `pairingProduct`, `pairingMultiProduct` (equal to the translated
Rust code by `PP.GenPair`).  `none` (= panic) is excluded by the form `= some _` / by `C11Neg.pairing_some`.
-/
import PP.Props.C03Bilinear

namespace PP.C03BilinearZ
open PP

local notation "b₁" => g1Codec.b
local notation "b₂" => g2Codec.b

/-! ## values of the pairing: non-zero, `r`-th roots of unity; the exponent modulo `r` -/

/-- whatever `pairing` returns (ANY coordinate records) is non-zero -/
theorem pairing_ne_zero (p : Aff Fq) (q : Aff Fq2) (e : Fq12) (h : pairing p q = some e) : e ≠ 0 := by
  intro h0
  have h1 := C03LinP.pairing_pow_r p q e h
  rw [h0, zero_pow Primes.r_prime.ne_zero] at h1
  exact zero_ne_one h1

/-- … hence a unit of `Fq12` -/
theorem pairing_isUnit (p : Aff Fq) (q : Aff Fq2) (e : Fq12) (h : pairing p q = some e) : IsUnit e :=
  (pairing_ne_zero p q e h).isUnit

/-- an `r`-th root of unity raised to integers congruent modulo `r` -/
theorem zpow_congr_of_pow_r {e : Fq12} (h1 : e ^ Gen.r = 1) {m n : ℤ} (hmn : m ≡ n [ZMOD Gen.r]) :
    e ^ m = e ^ n := by
  have he0 : e ≠ 0 := by
    intro h0; rw [h0, zero_pow Primes.r_prime.ne_zero] at h1; exact zero_ne_one h1
  obtain ⟨k, hk⟩ := hmn.symm.dvd
  have : m = n + (Gen.r : ℤ) * k := by omega
  rw [this, zpow_add₀ he0, zpow_mul, zpow_natCast, h1, one_zpow, mul_one]

/-- **the exponent only matters modulo `r`** (integer exponents; any inputs for which `pairing` returns) -/
theorem pairing_zpow_congr (p : Aff Fq) (q : Aff Fq2) (e : Fq12) (h : pairing p q = some e) {m n : ℤ}
    (hmn : m ≡ n [ZMOD Gen.r]) : e ^ m = e ^ n :=
  zpow_congr_of_pow_r (C03LinP.pairing_pow_r p q e h) hmn

/-- the same for natural exponents -/
theorem pairing_pow_congr (p : Aff Fq) (q : Aff Fq2) (e : Fq12) (h : pairing p q = some e) {m n : ℕ}
    (hmn : m ≡ n [MOD Gen.r]) : e ^ m = e ^ n := by
  have := pairing_zpow_congr p q e h (Int.natCast_modEq_iff.mpr hmn)
  simpa using this

/-- reduction of the exponent: `e^m = e^(m mod r)` with `m mod r` a natural number `< r` -/
theorem pairing_zpow_emod (p : Aff Fq) (q : Aff Fq2) (e : Fq12) (h : pairing p q = some e) (m : ℤ) :
    e ^ m = e ^ (m % (Gen.r : ℤ)).toNat := by
  have hr : (0 : ℤ) < Gen.r := by exact_mod_cast Primes.r_prime.pos
  rw [← zpow_natCast, Int.toNat_of_nonneg (Int.emod_nonneg _ hr.ne')]
  exact pairing_zpow_congr p q e h (Int.mod_modEq _ _).symm

/-- **the order is exactly `r`** for non-identity `P ∈ G1`, `Q ∈ G2` (non-degeneracy + `r` prime) -/
theorem pairing_orderOf (p : Aff Fq) (q : Aff Fq2) (hp : Aff.inSubgroup b₁ p = true)
    (hq : Aff.inSubgroup b₂ q = true) (hpi : p.infinity = false) (hqi : q.infinity = false) (e : Fq12)
    (h : pairing p q = some e) : orderOf e = Gen.r := by
  have hne : e ≠ 1 := by
    rintro rfl
    rcases (C03Bilinear.nondegenerate p q hp hq).mp h with h' | h'
    · rw [hpi] at h'; cases h'
    · rw [hqi] at h'; cases h'
  rcases (Nat.dvd_prime Primes.r_prime).mp (C03.pairing_orderOf_dvd p q e h) with h1 | h1
  · exact absurd (orderOf_eq_one_iff.mp h1) hne
  · exact h1

/-- … so the exponent matters EXACTLY modulo `r` -/
theorem pairing_zpow_eq_iff (p : Aff Fq) (q : Aff Fq2) (hp : Aff.inSubgroup b₁ p = true)
    (hq : Aff.inSubgroup b₂ q = true) (hpi : p.infinity = false) (hqi : q.infinity = false) (e : Fq12)
    (h : pairing p q = some e) (m n : ℤ) : e ^ m = e ^ n ↔ m ≡ n [ZMOD Gen.r] := by
  refine ⟨fun hmn => ?_, pairing_zpow_congr p q e h⟩
  have he0 := pairing_ne_zero p q e h
  have hord := pairing_orderOf p q hp hq hpi hqi e h
  have hu : (Units.mk0 e he0) ^ m = (Units.mk0 e he0) ^ n := by
    apply Units.ext
    rw [Units.val_zpow_eq_zpow_val, Units.val_zpow_eq_zpow_val]
    exact hmn
  have := zpow_eq_zpow_iff_modEq.mp hu
  rwa [← orderOf_units, Units.val_mk0, hord] at this

theorem pairing_zpow_eq_one_iff (p : Aff Fq) (q : Aff Fq2) (hp : Aff.inSubgroup b₁ p = true)
    (hq : Aff.inSubgroup b₂ q = true) (hpi : p.infinity = false) (hqi : q.infinity = false) (e : Fq12)
    (h : pairing p q = some e) (m : ℤ) : e ^ m = 1 ↔ (Gen.r : ℤ) ∣ m := by
  rw [← zpow_zero e, pairing_zpow_eq_iff p q hp hq hpi hqi e h, Int.modEq_zero_iff_dvd]

/-! ## bilinearity for integer scalars -/

private theorem isOnCurve_of_inSubgroup {p : Aff Fq} (hp : Aff.inSubgroup b₁ p = true) :
    p.isOnCurve b₁ = true :=
  (Aff.isOnCurve_iff _ p).mpr ((Aff.inSubgroup_iff_inSub p).mp hp).1

/-- an integer multiple of a point killed by `n` is the multiple by the reduced natural scalar -/
private theorem zsmul_eq_nsmul_emod' {G : Type} [AddCommGroup G] {g : G} {n : ℕ} (hn : 0 < n)
    (hg : n • g = 0) (a : ℤ) : a • g = (a % (n : ℤ)).toNat • g := by
  have hr : (0 : ℤ) < n := by exact_mod_cast hn
  have h1 : ((a % (n : ℤ)).toNat : ℤ) = a % (n : ℤ) := Int.toNat_of_nonneg (Int.emod_nonneg _ hr.ne')
  rw [← natCast_zsmul, h1]
  conv_lhs => rw [← Int.emod_add_mul_ediv a (n : ℤ)]
  rw [add_zsmul, mul_zsmul', natCast_zsmul, hg, zsmul_zero, add_zero]

private theorem zsmul_eq_nsmul_emod {G : Type} [AddCommGroup G] {g : G} (hg : Gen.r • g = 0) (a : ℤ) :
    a • g = (a % (Gen.r : ℤ)).toNat • g :=
  zsmul_eq_nsmul_emod' Primes.r_prime.pos hg a

/-- **bilinearity, integer scalars** (value form): for `P ∈ G1`, `Q ∈ G2`, all `a b : ℤ`, if `P'` denotes `[a]P` and
    `Q'` denotes `[b]Q` (identities allowed everywhere, junk-coordinate identity records included) then both pairings
    return, the value `e = e(P, Q)` is non-zero, and `e(P', Q') = e^(a·b)` -/
theorem bilinear_int_val (p p' : Aff Fq) (q q' : Aff Fq2) (a b : ℤ)
    (hp : Aff.inSubgroup b₁ p = true) (hp' : Aff.inSubgroup b₁ p' = true)
    (hq : Aff.inSubgroup b₂ q = true) (hq' : Aff.inSubgroup b₂ q' = true)
    (ha : Aff.abs b₁ p' = a • Aff.abs b₁ p) (hb : Aff.abs b₂ q' = b • Aff.abs b₂ q) :
    ∃ e : Fq12, e ≠ 0 ∧ pairing p q = some e ∧ pairing p' q' = some (e ^ (a * b)) := by
  obtain ⟨e, he0, he⟩ := C11Neg.pairing_some p q (isOnCurve_of_inSubgroup hp) hq
  refine ⟨e, he0, he, ?_⟩
  have hkp := ((Aff.inSubgroup_iff_inSub p).mp hp).2
  have hkq := ((Aff.inSubgroup_iff_inSub q).mp hq).2
  have hr : (0 : ℤ) < Gen.r := by exact_mod_cast Primes.r_prime.pos
  have hb' := C03Bilinear.bilinear p p' q q' (a % (Gen.r : ℤ)).toNat (b % (Gen.r : ℤ)).toNat hp hp' hq hq'
    (by rw [ha]; exact zsmul_eq_nsmul_emod hkp a) (by rw [hb]; exact zsmul_eq_nsmul_emod hkq b)
  rw [hb', he, Option.map_some]
  refine congrArg some ?_
  rw [← zpow_natCast]
  apply pairing_zpow_congr p q e he
  rw [Nat.cast_mul, Int.toNat_of_nonneg (Int.emod_nonneg _ hr.ne'),
    Int.toNat_of_nonneg (Int.emod_nonneg _ hr.ne')]
  exact Int.ModEq.mul (Int.mod_modEq _ _) (Int.mod_modEq _ _)

/-- **bilinearity, integer scalars** (in `Option`, the shape of `C03Bilinear.bilinear`):
    `e([a]P, [b]Q) = e(P, Q)^(a·b)` for all `a b : ℤ` -/
theorem bilinear_int (p p' : Aff Fq) (q q' : Aff Fq2) (a b : ℤ)
    (hp : Aff.inSubgroup b₁ p = true) (hp' : Aff.inSubgroup b₁ p' = true)
    (hq : Aff.inSubgroup b₂ q = true) (hq' : Aff.inSubgroup b₂ q' = true)
    (ha : Aff.abs b₁ p' = a • Aff.abs b₁ p) (hb : Aff.abs b₂ q' = b • Aff.abs b₂ q) :
    pairing p' q' = (pairing p q).map (· ^ (a * b)) := by
  obtain ⟨e, -, he, he'⟩ := bilinear_int_val p p' q q' a b hp hp' hq hq' ha hb
  rw [he, he']; rfl

/-- the exponent reduced to a natural number `< r` -/
theorem bilinear_int_mod (p p' : Aff Fq) (q q' : Aff Fq2) (a b : ℤ)
    (hp : Aff.inSubgroup b₁ p = true) (hp' : Aff.inSubgroup b₁ p' = true)
    (hq : Aff.inSubgroup b₂ q = true) (hq' : Aff.inSubgroup b₂ q' = true)
    (ha : Aff.abs b₁ p' = a • Aff.abs b₁ p) (hb : Aff.abs b₂ q' = b • Aff.abs b₂ q) :
    pairing p' q' = (pairing p q).map (· ^ ((a * b) % (Gen.r : ℤ)).toNat) ∧
      ((a * b) % (Gen.r : ℤ)).toNat < Gen.r := by
  obtain ⟨e, -, he, he'⟩ := bilinear_int_val p p' q q' a b hp hp' hq hq' ha hb
  have hr : (0 : ℤ) < Gen.r := by exact_mod_cast Primes.r_prime.pos
  refine ⟨by rw [he, he', pairing_zpow_emod p q e he]; rfl, ?_⟩
  have := Int.emod_lt_of_pos (a * b) hr
  omega

/-- linearity in the second argument alone, integer scalar (the companion of
    `C03LinP.pairing_zsmul_left`) -/
theorem pairing_zsmul_right (p : Aff Fq) (q qz : Aff Fq2) (z : ℤ) (hp : Aff.inSubgroup b₁ p = true)
    (hq : Aff.inSubgroup b₂ q = true) (hqz : Aff.inSubgroup b₂ qz = true)
    (hz : Aff.abs b₂ qz = z • Aff.abs b₂ q) :
    ∃ e : Fq12, e ≠ 0 ∧ pairing p q = some e ∧ pairing p qz = some (e ^ z) := by
  have := bilinear_int_val p p q qz 1 z hp hp hq hqz (one_zsmul _).symm hz
  rwa [one_mul] at this

/-- `e([a]P, [b]Q) = 1 ↔ r ∣ a·b` for non-identity `P ∈ G1`, `Q ∈ G2` -/
theorem pairing_eq_one_iff_smul (p p' : Aff Fq) (q q' : Aff Fq2) (a b : ℤ)
    (hp : Aff.inSubgroup b₁ p = true) (hp' : Aff.inSubgroup b₁ p' = true)
    (hq : Aff.inSubgroup b₂ q = true) (hq' : Aff.inSubgroup b₂ q' = true)
    (hpi : p.infinity = false) (hqi : q.infinity = false)
    (ha : Aff.abs b₁ p' = a • Aff.abs b₁ p) (hb : Aff.abs b₂ q' = b • Aff.abs b₂ q) :
    pairing p' q' = some 1 ↔ (Gen.r : ℤ) ∣ a * b := by
  obtain ⟨e, -, he, he'⟩ := bilinear_int_val p p' q q' a b hp hp' hq hq' ha hb
  rw [he', Option.some.injEq, pairing_zpow_eq_one_iff p q hp hq hpi hqi e he]

/-! ## C11: products of pairings, integer scalars, cancellation -/

/-- **the exponent clause of C11 with integer scalars**: if `Pᵢ` denotes `[aᵢ]P` and `Qᵢ` denotes `[bᵢ]Q`
    (`P ∈ G1`, `Q ∈ G2`, `aᵢ bᵢ : ℤ`), the product computed by ONE Miller loop and one final exponentiation is
    `e(P, Q)^(Σ aᵢ bᵢ)` -/
theorem multiProduct_exponent_int (p : Aff Fq) (q : Aff Fq2)
    (hp : Aff.inSubgroup b₁ p = true) (hq : Aff.inSubgroup b₂ q = true)
    (ts : List (Aff Fq × Aff Fq2 × ℤ × ℤ))
    (h : ∀ t ∈ ts, Aff.inSubgroup b₁ t.1 = true ∧ Aff.inSubgroup b₂ t.2.1 = true ∧
      Aff.abs b₁ t.1 = t.2.2.1 • Aff.abs b₁ p ∧ Aff.abs b₂ t.2.1 = t.2.2.2 • Aff.abs b₂ q) :
    pairingMultiProduct (ts.map (·.1)) (ts.map (·.2.1)) =
      (pairing p q).map (· ^ (ts.map (fun t => t.2.2.1 * t.2.2.2)).sum) := by
  obtain ⟨e, he0, he⟩ := C11Neg.pairing_some p q (isOnCurve_of_inSubgroup hp) hq
  rw [C11.pairingMultiProduct_eq_prod _ _ (by simp), he]
  induction ts with
  | nil => simp [Miller.optProd]
  | cons t ts ih =>
    obtain ⟨h1, h2, h3, h4⟩ := h t (List.mem_cons_self ..)
    have ih' := ih (fun t' ht' => h t' (List.mem_cons_of_mem _ ht'))
    have hb := bilinear_int p t.1 q t.2.1 t.2.2.1 t.2.2.2 hp h1 hq h2 h3 h4
    rw [he] at hb
    have hc : Miller.optProd (List.zipWith pairing ((t :: ts).map (·.1)) ((t :: ts).map (·.2.1))) =
        Miller.optMul (pairing t.1 t.2.1)
          (Miller.optProd (List.zipWith pairing (ts.map (·.1)) (ts.map (·.2.1)))) := rfl
    rw [hc, ih', hb]
    simp [Miller.optMul, zpow_add₀ he0]

/-- **C11, cancellation (integers)**: the multi-product is exactly `1` when `Σ aᵢ bᵢ ≡ 0 (mod r)` -/
theorem multiProduct_cancel_int (p : Aff Fq) (q : Aff Fq2)
    (hp : Aff.inSubgroup b₁ p = true) (hq : Aff.inSubgroup b₂ q = true)
    (ts : List (Aff Fq × Aff Fq2 × ℤ × ℤ))
    (h : ∀ t ∈ ts, Aff.inSubgroup b₁ t.1 = true ∧ Aff.inSubgroup b₂ t.2.1 = true ∧
      Aff.abs b₁ t.1 = t.2.2.1 • Aff.abs b₁ p ∧ Aff.abs b₂ t.2.1 = t.2.2.2 • Aff.abs b₂ q)
    (hsum : (ts.map (fun t => t.2.2.1 * t.2.2.2)).sum ≡ 0 [ZMOD Gen.r]) :
    pairingMultiProduct (ts.map (·.1)) (ts.map (·.2.1)) = some 1 := by
  obtain ⟨e, -, he⟩ := C11Neg.pairing_some p q (isOnCurve_of_inSubgroup hp) hq
  rw [multiProduct_exponent_int p q hp hq ts h, he, Option.map_some,
    pairing_zpow_congr p q e he hsum, zpow_zero]

/-- **C11, cancellation** (natural scalars, the setting of `C03Bilinear.multiProduct_exponent`):
    `(Σ aᵢ bᵢ) mod r = 0 ⇒ pairing_multi_product = 1` -/
theorem multiProduct_cancel (p : Aff Fq) (q : Aff Fq2)
    (hp : Aff.inSubgroup b₁ p = true) (hq : Aff.inSubgroup b₂ q = true)
    (ts : List (Aff Fq × Aff Fq2 × ℕ × ℕ))
    (h : ∀ t ∈ ts, Aff.inSubgroup b₁ t.1 = true ∧ Aff.inSubgroup b₂ t.2.1 = true ∧
      Aff.abs b₁ t.1 = t.2.2.1 • Aff.abs b₁ p ∧ Aff.abs b₂ t.2.1 = t.2.2.2 • Aff.abs b₂ q)
    (hsum : (ts.map (fun t => t.2.2.1 * t.2.2.2)).sum % Gen.r = 0) :
    pairingMultiProduct (ts.map (·.1)) (ts.map (·.2.1)) = some 1 := by
  obtain ⟨e, -, he⟩ := C11Neg.pairing_some p q (isOnCurve_of_inSubgroup hp) hq
  rw [C03Bilinear.multiProduct_exponent p q hp hq ts h, he, Option.map_some,
    pairing_pow_congr p q e he (n := 0) ((Nat.modEq_zero_iff_dvd).mpr (Nat.dvd_of_mod_eq_zero hsum)),
    pow_zero]

/-- … and for non-identity base points ONLY then: **the multi-product is `1` exactly when the exponents cancel
    modulo `r`** -/
theorem multiProduct_eq_one_iff (p : Aff Fq) (q : Aff Fq2)
    (hp : Aff.inSubgroup b₁ p = true) (hq : Aff.inSubgroup b₂ q = true)
    (hpi : p.infinity = false) (hqi : q.infinity = false)
    (ts : List (Aff Fq × Aff Fq2 × ℤ × ℤ))
    (h : ∀ t ∈ ts, Aff.inSubgroup b₁ t.1 = true ∧ Aff.inSubgroup b₂ t.2.1 = true ∧
      Aff.abs b₁ t.1 = t.2.2.1 • Aff.abs b₁ p ∧ Aff.abs b₂ t.2.1 = t.2.2.2 • Aff.abs b₂ q) :
    pairingMultiProduct (ts.map (·.1)) (ts.map (·.2.1)) = some 1 ↔
      (ts.map (fun t => t.2.2.1 * t.2.2.2)).sum ≡ 0 [ZMOD Gen.r] := by
  obtain ⟨e, -, he⟩ := C11Neg.pairing_some p q (isOnCurve_of_inSubgroup hp) hq
  rw [multiProduct_exponent_int p q hp hq ts h, he, Option.map_some, Option.some.injEq,
    pairing_zpow_eq_one_iff p q hp hq hpi hqi e he, Int.modEq_zero_iff_dvd]

/-- the two-pair helper `pairing_product(P₁, Q₁, P₂, Q₂)` with `Pᵢ = [aᵢ]P`, `Qᵢ = [bᵢ]Q`:
    value `e(P, Q)^(a₁b₁ + a₂b₂)` -/
theorem pairingProduct_exponent_int (p p1 p2 : Aff Fq) (q q1 q2 : Aff Fq2) (a1 b1 a2 b2 : ℤ)
    (hp : Aff.inSubgroup b₁ p = true) (hq : Aff.inSubgroup b₂ q = true)
    (hp1 : Aff.inSubgroup b₁ p1 = true) (hq1 : Aff.inSubgroup b₂ q1 = true)
    (hp2 : Aff.inSubgroup b₁ p2 = true) (hq2 : Aff.inSubgroup b₂ q2 = true)
    (ha1 : Aff.abs b₁ p1 = a1 • Aff.abs b₁ p) (hb1 : Aff.abs b₂ q1 = b1 • Aff.abs b₂ q)
    (ha2 : Aff.abs b₁ p2 = a2 • Aff.abs b₁ p) (hb2 : Aff.abs b₂ q2 = b2 • Aff.abs b₂ q) :
    pairingProduct p1 q1 p2 q2 = (pairing p q).map (· ^ (a1 * b1 + a2 * b2)) := by
  have := multiProduct_exponent_int p q hp hq [(p1, q1, a1, b1), (p2, q2, a2, b2)] (by
    intro t ht
    simp only [List.mem_cons, List.mem_nil_iff, or_false] at ht
    rcases ht with rfl | rfl
    · exact ⟨hp1, hq1, ha1, hb1⟩
    · exact ⟨hp2, hq2, ha2, hb2⟩)
  rw [C11.pairingProduct_eq_multi]
  simpa using this

/-- `pairing_product` is `1` when `a₁b₁ + a₂b₂ ≡ 0 (mod r)` (e.g. signature verification:
    `e(P, [s]Q) · e(−[s]P, Q) = 1`) -/
theorem pairingProduct_cancel (p p1 p2 : Aff Fq) (q q1 q2 : Aff Fq2) (a1 b1 a2 b2 : ℤ)
    (hp : Aff.inSubgroup b₁ p = true) (hq : Aff.inSubgroup b₂ q = true)
    (hp1 : Aff.inSubgroup b₁ p1 = true) (hq1 : Aff.inSubgroup b₂ q1 = true)
    (hp2 : Aff.inSubgroup b₁ p2 = true) (hq2 : Aff.inSubgroup b₂ q2 = true)
    (ha1 : Aff.abs b₁ p1 = a1 • Aff.abs b₁ p) (hb1 : Aff.abs b₂ q1 = b1 • Aff.abs b₂ q)
    (ha2 : Aff.abs b₁ p2 = a2 • Aff.abs b₁ p) (hb2 : Aff.abs b₂ q2 = b2 • Aff.abs b₂ q)
    (hsum : a1 * b1 + a2 * b2 ≡ 0 [ZMOD Gen.r]) :
    pairingProduct p1 q1 p2 q2 = some 1 := by
  obtain ⟨e, -, he⟩ := C11Neg.pairing_some p q (isOnCurve_of_inSubgroup hp) hq
  rw [pairingProduct_exponent_int p p1 p2 q q1 q2 a1 b1 a2 b2 hp hq hp1 hq1 hp2 hq2 ha1 hb1 ha2 hb2, he,
    Option.map_some, pairing_zpow_congr p q e he hsum, zpow_zero]

/-- … and only then, for non-identity base points -/
theorem pairingProduct_eq_one_iff (p p1 p2 : Aff Fq) (q q1 q2 : Aff Fq2) (a1 b1 a2 b2 : ℤ)
    (hp : Aff.inSubgroup b₁ p = true) (hq : Aff.inSubgroup b₂ q = true)
    (hpi : p.infinity = false) (hqi : q.infinity = false)
    (hp1 : Aff.inSubgroup b₁ p1 = true) (hq1 : Aff.inSubgroup b₂ q1 = true)
    (hp2 : Aff.inSubgroup b₁ p2 = true) (hq2 : Aff.inSubgroup b₂ q2 = true)
    (ha1 : Aff.abs b₁ p1 = a1 • Aff.abs b₁ p) (hb1 : Aff.abs b₂ q1 = b1 • Aff.abs b₂ q)
    (ha2 : Aff.abs b₁ p2 = a2 • Aff.abs b₁ p) (hb2 : Aff.abs b₂ q2 = b2 • Aff.abs b₂ q) :
    pairingProduct p1 q1 p2 q2 = some 1 ↔ a1 * b1 + a2 * b2 ≡ 0 [ZMOD Gen.r] := by
  obtain ⟨e, -, he⟩ := C11Neg.pairing_some p q (isOnCurve_of_inSubgroup hp) hq
  rw [pairingProduct_exponent_int p p1 p2 q q1 q2 a1 b1 a2 b2 hp hq hp1 hq1 hp2 hq2 ha1 hb1 ha2 hb2, he,
    Option.map_some, Option.some.injEq, pairing_zpow_eq_one_iff p q hp hq hpi hqi e he,
    Int.modEq_zero_iff_dvd]

/-! ## non-vacuity -/

/-- the hypotheses are satisfiable with a NEGATIVE scalar and non-identity points: with the generators
    (`C07.g1Generator`, `C07.g2Generator`, in the subgroups by kernel evaluation) and `P₂ = −g1 = [−1]g1`:
    `pairing_product(g1, g2, −g1, g2) = 1` because `1·1 + (−1)·1 = 0`, while
    `pairing_product(g1, g2, g1, g2) ≠ 1` because `1·1 + 1·1 = 2 ≢ 0 (mod r)` -/
example :
    pairingProduct C07.g1Generator C07.g2Generator C07.g1Generator.neg C07.g2Generator = some 1 ∧
    pairingProduct C07.g1Generator C07.g2Generator C07.g1Generator C07.g2Generator ≠ some 1 := by
  have hg1 := C07.g1Generator_inSubgroup
  have hg2 := C07.g2Generator_inSubgroup
  have hn : Aff.inSubgroup b₁ C07.g1Generator.neg = true :=
    (Aff.inSubgroup_iff_inSub _).mpr ((Aff.inSubgroup_iff_inSub _).mp hg1).neg
  have hneg : Aff.abs b₁ C07.g1Generator.neg = (-1 : ℤ) • Aff.abs b₁ C07.g1Generator := by
    rw [C01.affNeg_correct C07.g1Generator_inSub.1, neg_one_zsmul]
  constructor
  · exact pairingProduct_cancel C07.g1Generator C07.g1Generator C07.g1Generator.neg C07.g2Generator
      C07.g2Generator C07.g2Generator 1 1 (-1) 1 hg1 hg2 hg1 hg2 hn hg2 (one_zsmul _).symm (one_zsmul _).symm
      hneg (one_zsmul _).symm (by decide)
  · rw [Ne, pairingProduct_eq_one_iff C07.g1Generator C07.g1Generator C07.g1Generator C07.g2Generator
      C07.g2Generator C07.g2Generator 1 1 1 1 hg1 hg2 rfl rfl hg1 hg2 hg1 hg2 (one_zsmul _).symm
      (one_zsmul _).symm (one_zsmul _).symm (one_zsmul _).symm]
    decide +kernel

end PP.C03BilinearZ
