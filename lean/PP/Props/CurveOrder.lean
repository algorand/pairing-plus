/-
CURVE ORDERS.  The orders and exponents of the two curve groups, which the theorems of C17, C07, C14
and C06 about the subgroup take as hypotheses `hexp` / `hord`; no axiom beyond `propext`,
`Classical.choice`, `Quot.sound`.

    E  : y² = x³ + 4        over Fq    (`W b₁`, `b₁ = g1Codec.b`),   h₁ = G1_COFACTOR
    E' : y² = x³ + 4(1 + u) over Fq2   (`W b₂`, `b₂ = g2Codec.b`),   h₂ = G2_COFACTOR

* `g1_card     : #E(Fq)   = h₁·r`,          `g2_card  : #E'(Fq2) = h₂·r`
* `g1_exponent : ((1 - x)·r) • g = 0` for all `g ∈ E(Fq)` (the shape of `hexp` in C17/C14/C06)
* `g1_order    : (h₁·r) • g = 0`,           `g2_order : (h₂·r) • g = 0`  (the shape of `hord`)
* `g2_exponent : (h₂·r/299) • g = 0`
* `g1_structure`, `g2_structure`: `E(Fq) = ⟨P⟩ ⊕ ⟨P₂⟩ ≅ Z/((1-x)r) × Z/((1-x)/3)` and
  `E'(Fq2) = ⟨P⟩ ⊕ ⟨P₂⟩ ≅ Z/(h₂r/299) × Z/299`, with explicit generators.
* at the end: every theorem of C17Inst, C07, C14, C06 that takes `hexp` / `hord`, with that hypothesis
  discharged (primed names).

Method (no point counting, no Hasse bound):
1. `#E(F) ≤ 2·#F + 1` (`PP/Proofs/CurveOrderBound.lean`), and both traces are negative, so
   `2·h·r > 2·#F + 1`: a subgroup of order `h·r` is the whole group (Lagrange).
2. a point `P` of order `B` (`B • P = 0`, `(B/p) • P ≠ 0` for the primes `p ∣ B`; kernel
   evaluations of the model's double-and-add, carried to the group by `Aff.mulBits_spec` of
   `PP/Proofs/Subgroup.lean`, which rests on the C01 theorems).
3. the second generator is `P₂ = ω((B/A) • P)`, `ω(x, y) = (βx, y)`, `β² + β + 1 = 0`
   (`PP/Proofs/CurveOrderOmega.lean`: `ω` is additive, `ω² + ω + 1 = 0`).  `⟨P⟩ ∩ ⟨P₂⟩ = 0`: at a
   prime `p ∣ A`, `ω Y = m • Y` (`Y = (B/p) • P`) forces `p ∣ m² + m + 1`; impossible for
   `p ≡ 2 (mod 3)`, two explicit residues to refute by computation for `p ≡ 1 (mod 3)`
   (`PP/Proofs/CurveOrderGroup.lean`).
4. primes: `r` (`Primes.r_prime`), `3, 11, 10177, 859267, 52437899` (G1); `13, 23, 2713, 11953, 262069` and the
   448-bit `c` (Pratt certificate with 24 nodes, `PP/Proofs/CurveOrderPrimes.lean`) (G2).
-/
import PP.Proofs.CurveOrderG2
import PP.Props.C17Inst
import PP.Props.C07
import PP.Props.C14
import PP.Props.C06

namespace PP.CurveOrder

open PP WeierstrassCurve.Affine

local notation "b₁" => g1Codec.b
local notation "b₂" => g2Codec.b

/-! ## G1 -/

/-- **`#E(Fq) = h₁ · r`** -/
theorem g1_card : Nat.card (W b₁).Point = Gen.G1_COFACTOR * Gen.r :=
  G1.structure_thm.1.trans G1.AB_eq

/-- **the exponent of `E(Fq)` divides `(1 - x) · r`** (hypothesis `hexp` of C17, C14, C06) -/
theorem g1_exponent : ∀ g : (W b₁).Point, (0xd201000000010001 * Gen.r) • g = 0 :=
  G1.structure_thm.2.1

/-- **`h₁ · r` kills `E(Fq)`** (hypothesis `hord` of C07) -/
theorem g1_order : ∀ g : (W b₁).Point, (Gen.G1_COFACTOR * Gen.r) • g = 0 := by
  intro g
  rw [← G1.AB_eq, mul_nsmul, G1.structure_thm.2.1]

/-- **the structure of `E(Fq)`**: with `A = (1 - x)/3 = 11·10177·859267·52437899` and
    `B = (1 - x)·r`, the point `P = (5, y)` has order `B`, `P₂ = ω((B/A)·P)` has order `A`, every
    point is `i·P + j·P₂`, and there are `A·B` points: `E(Fq) = ⟨P⟩ ⊕ ⟨P₂⟩ ≅ Z/B × Z/A`. -/
theorem g1_structure :
    Nat.card (W b₁).Point = G1.A * G1.B ∧ (∀ g : (W b₁).Point, G1.B • g = 0) ∧
      addOrderOf G1.P = G1.B ∧ addOrderOf G1.P₂ = G1.A ∧
      ∀ g : (W b₁).Point, ∃ i j : ℤ, g = i • G1.P + j • G1.P₂ :=
  G1.structure_thm

theorem g1_A_eq : G1.A = 11 * 10177 * 859267 * 52437899 := by decide +kernel
theorem g1_B_eq : G1.B = 0xd201000000010001 * Gen.r := rfl
theorem g1_AB_eq : G1.A * G1.B = Gen.G1_COFACTOR * Gen.r := G1.AB_eq

/-- the trivial bound used instead of Hasse, on any `y² = x³ + b` over a finite field -/
theorem card_le {F : Type} [Field F] [Finite F] (b : F) [ShortW b] :
    Nat.card (W b).Point ≤ 2 * Nat.card F + 1 :=
  card_point_le b

/-! ## G2 -/

/-- **`#E'(Fq2) = h₂ · r`** -/
theorem g2_card : Nat.card (W b₂).Point = Gen.G2_COFACTOR * Gen.r :=
  G2.structure_thm.1.trans G2.AB_eq

/-- **the exponent of `E'(Fq2)` divides `h₂ · r / 299`** -/
theorem g2_exponent : ∀ g : (W b₂).Point, (Gen.G2_COFACTOR * Gen.r / 299) • g = 0 := by
  intro g
  have e : Gen.G2_COFACTOR * Gen.r / 299 = G2.B := by decide +kernel
  rw [e]; exact G2.structure_thm.2.1 g

/-- **`h₂ · r` kills `E'(Fq2)`** (hypothesis `hord` of C17, C14, C06, C07) -/
theorem g2_order : ∀ g : (W b₂).Point, (Gen.G2_COFACTOR * Gen.r) • g = 0 := by
  intro g
  rw [← G2.AB_eq, mul_nsmul, G2.structure_thm.2.1]

/-- **the structure of `E'(Fq2)`**: `A = 13·23`, `B = h₂·r/299`; `P = (u, y)` has order `B`,
    `P₂ = ω((B/A)·P)` has order `A`, every point is `i·P + j·P₂`:
    `E'(Fq2) = ⟨P⟩ ⊕ ⟨P₂⟩ ≅ Z/B × Z/A`. -/
theorem g2_structure :
    Nat.card (W b₂).Point = G2.A * G2.B ∧ (∀ g : (W b₂).Point, G2.B • g = 0) ∧
      addOrderOf G2.P = G2.B ∧ addOrderOf G2.P₂ = G2.A ∧
      ∀ g : (W b₂).Point, ∃ i j : ℤ, g = i • G2.P + j • G2.P₂ :=
  G2.structure_thm

theorem g2_A_eq : G2.A = 13 * 23 := rfl
theorem g2_AB_eq : G2.A * G2.B = Gen.G2_COFACTOR * Gen.r := G2.AB_eq

/-- the factorisation of the G2 cofactor, with `c` the 448-bit prime of
    `PP/Proofs/CurveOrderPrimes.lean` -/
theorem g2_cofactor_factor :
    Gen.G2_COFACTOR = 13 ^ 2 * 23 ^ 2 * 2713 * 11953 * 262069 * Primes.c ∧ Nat.Prime Primes.c :=
  ⟨by decide +kernel, Primes.c_prime⟩

/-- the factorisation of the G1 cofactor -/
theorem g1_cofactor_factor :
    Gen.G1_COFACTOR = 3 * (11 * 10177 * 859267 * 52437899) ^ 2 := by decide +kernel

/-! ## the conditional theorems of C17, C07, C14, C06 with their hypothesis discharged -/

section unconditional

/-! ### C17: `clear_h` lands in the order-`r` subgroup, for EVERY point of the curve -/

theorem g1_clearH_inSub' (P : Jac Fq) (hP : Jac.OnCurve b₁ P) : Jac.InSub b₁ (clearHG1 P) :=
  C17Inst.g1_clearH_inSub g1_exponent P hP

theorem g2_clearH_inSub' (P : Jac Fq2) (hP : Jac.OnCurve b₂ P) : Jac.InSub b₂ (clearHG2 P) :=
  C17Inst.g2_clearH_inSub g2_order P hP

theorem g1_clearH_killed' (P : Jac Fq) (hP : Jac.OnCurve b₁ P) :
    Gen.r • Jac.abs b₁ (clearHG1 P) = 0 :=
  (g1_clearH_inSub' P hP).2

theorem g2_clearH_killed' (P : Jac Fq2) (hP : Jac.OnCurve b₂ P) :
    Gen.r • Jac.abs b₂ (clearHG2 P) = 0 :=
  (g2_clearH_inSub' P hP).2

/-! ### C07: `scale_by_cofactor`, `random` -/

theorem g1_scaleByCofactor_inSub' {A : Aff Fq} (hA : Aff.OnCurve b₁ A) :
    Jac.InSub b₁ (A.mulBits (bitsMSB (limbsOf Gen.G1_COFACTOR_LIMBS Gen.G1_COFACTOR))) :=
  C07.g1_scaleByCofactor_inSub hA g1_order

theorem g2_scaleByCofactor_inSub' {A : Aff Fq2} (hA : Aff.OnCurve b₂ A) :
    Jac.InSub b₂ (A.mulBits (bitsMSB (limbsOf Gen.G2_COFACTOR_LIMBS Gen.G2_COFACTOR))) :=
  C07.g2_scaleByCofactor_inSub hA g2_order

/-- one round of `G1::random`: the candidate is on the curve and its cofactor multiple is in the
    subgroup -/
theorem g1_random_candidate_inSub' [SqrtOps Fq] [LawfulSqrtOps Fq] {x : Fq} {greatest : Bool}
    {p : Aff Fq} (h : Aff.getPointFromX b₁ x greatest = some p) :
    Aff.OnCurve b₁ p ∧
      Jac.InSub b₁ (p.mulBits (bitsMSB (limbsOf Gen.G1_COFACTOR_LIMBS Gen.G1_COFACTOR))) :=
  C07.random_candidate_inSub h g1_cofactor_lt g1_order

/-- one round of `G2::random` -/
theorem g2_random_candidate_inSub' [SqrtOps Fq2] [LawfulSqrtOps Fq2] {x : Fq2} {greatest : Bool}
    {p : Aff Fq2} (h : Aff.getPointFromX b₂ x greatest = some p) :
    Aff.OnCurve b₂ p ∧
      Jac.InSub b₂ (p.mulBits (bitsMSB (limbsOf Gen.G2_COFACTOR_LIMBS Gen.G2_COFACTOR))) :=
  C07.random_candidate_inSub h g2_cofactor_lt g2_order

/-! ### C14: the outputs of `map_to_curve` are in the subgroup -/

theorem g1_map_inSub' (u : Fq) : Jac.InSub b₁ (mapToCurveG1 u) :=
  C14.g1_map_inSub g1_exponent u

theorem g1_map2_inSub' (u0 u1 : Fq) : Jac.InSub b₁ (map2ToCurveG1 u0 u1) :=
  C14.g1_map2_inSub g1_exponent u0 u1

theorem g1_map_inSubgroup' (u : Fq) :
    ∃ A, (mapToCurveG1 u).toAffine = some A ∧ Aff.inSubgroup b₁ A = true :=
  C14.g1_map_inSubgroup g1_exponent u

theorem g1_map2_inSubgroup' (u0 u1 : Fq) :
    ∃ A, (map2ToCurveG1 u0 u1).toAffine = some A ∧ Aff.inSubgroup b₁ A = true :=
  C14.g1_map2_inSubgroup g1_exponent u0 u1

theorem g2_map_inSub' (u : Fq2) : ∃ R, mapToCurveG2 u = some R ∧ Jac.InSub b₂ R :=
  C14.g2_map_inSub g2_order u

theorem g2_map2_inSub' (u0 u1 : Fq2) : ∃ R, map2ToCurveG2 u0 u1 = some R ∧ Jac.InSub b₂ R :=
  C14.g2_map2_inSub g2_order u0 u1

theorem g2_map2_inSubgroup' (u0 u1 : Fq2) :
    ∃ R A, map2ToCurveG2 u0 u1 = some R ∧ R.toAffine = some A ∧ Aff.inSubgroup b₂ A = true :=
  C14.g2_map2_inSubgroup g2_order u0 u1

/-! ### C06: the outputs of `hash_to_curve` / `encode_to_curve` are in the subgroup -/

variable (expand : Bytes → Bytes → Nat → Option Bytes) (msg dst : Bytes)

theorem hashToCurveG1_inSub' {P : Jac Fq} (h : hashToCurveG1 expand msg dst = some P) :
    Jac.InSub b₁ P :=
  C06.hashToCurveG1_inSub expand msg dst g1_exponent h

theorem encodeToCurveG1_inSub' {P : Jac Fq} (h : encodeToCurveG1 expand msg dst = some P) :
    Jac.InSub b₁ P :=
  C06.encodeToCurveG1_inSub expand msg dst g1_exponent h

theorem hashToCurveG2_inSub' {P : Jac Fq2} (h : hashToCurveG2 expand msg dst = some P) :
    Jac.InSub b₂ P :=
  C06.hashToCurveG2_inSub expand msg dst g2_order h

theorem encodeToCurveG2_inSub' {P : Jac Fq2} (h : encodeToCurveG2 expand msg dst = some P) :
    Jac.InSub b₂ P :=
  C06.encodeToCurveG2_inSub expand msg dst g2_order h

end unconditional

end PP.CurveOrder
