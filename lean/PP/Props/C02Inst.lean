/-
C02, INSTANTIATED.  The theorems of `PP/Props/C02.lean` are relative to a `GroupModel`; here they are
restated with the interface discharged by the C01 instance `curveModel b`
(`PP/Proofs/GroupModelInst.lean`): "valid" is `Jac.OnCurve b` / `Aff.OnCurve b` (the curve equation,
or the identity), the denoted point is `Jac.abs b` / `Aff.abs b` in Mathlib's group `(W b).Point`
of `y² = x³ + b`.  No hypothesis is left except "the inputs are points of the curve" and the
documented ranges of `k` and `w`.  Stated three times (any curve, G1, G2): the any-curve theorems are
the C02 theorems at `curveModel b`, the G1 and G2 theorems are these at `g1Codec.b`, `g2Codec.b`.
(`C02.wnaf_form`, `wnaf_form_wraps`, `wnaf_call_fresh`, `wnaf_reuse`, `recommended_for_*` do not
mention the group model: they apply to G1 and G2 as they are.)
-/
import PP.Props.C02
import PP.Proofs.GroupModelInst

namespace PP.C02Inst

open PP

/-! ## any curve `y² = x³ + b` over any field with lawful model operations -/

section generic
variable {F : Type} [Field F] [DecidableEq F] [FieldOps F] [LawfulFieldOps F] (b : F) [ShortW b]

/-- affine `mul`, every 256-bit `k` -/
theorem curve_affine_mul (A : Aff F) (hA : Aff.OnCurve b A) (k : ℕ) (hk : k < 2 ^ 256) :
    Jac.OnCurve b (A.mul k) ∧ Jac.abs b (A.mul k) = k • Aff.abs b A :=
  C02.affine_mul (curveModel b) A hA k hk

/-- `mul_bits` over an arbitrary MSB-first bit string -/
theorem curve_affine_mulBits (A : Aff F) (hA : Aff.OnCurve b A) (bits : List Bool) :
    Jac.OnCurve b (A.mulBits bits) ∧
      Jac.abs b (A.mulBits bits) = ofBitsMSB bits • Aff.abs b A :=
  C02.affine_mulBits (curveModel b) A hA bits

/-- projective `mul_assign`, every 256-bit `k` -/
theorem curve_projective_mul (P : Jac F) (hP : Jac.OnCurve b P) (k : ℕ) (hk : k < 2 ^ 256) :
    Jac.OnCurve b (P.mulAssign k) ∧ Jac.abs b (P.mulAssign k) = k • Jac.abs b P :=
  C02.projective_mul (curveModel b) P hP k hk

/-- without the bound: `k mod 2^256` -/
theorem curve_affine_mul_mod (A : Aff F) (hA : Aff.OnCurve b A) (k : ℕ) :
    Jac.abs b (A.mul k) = (k % 2 ^ 256) • Aff.abs b A :=
  C02.affine_mul_mod (curveModel b) A hA k

/-- `precomp_3` never panics and returns `[2^64·A, 2^128·A, 2^192·A]` -/
theorem curve_precomp3_table (A : Aff F) (hA : Aff.OnCurve b A) :
    ∃ a1 a2 a3, A.precomp3 = some [a1, a2, a3] ∧
      (Aff.OnCurve b a1 ∧ Aff.abs b a1 = 2 ^ 64 • Aff.abs b A) ∧
      (Aff.OnCurve b a2 ∧ Aff.abs b a2 = 2 ^ 128 • Aff.abs b A) ∧
      (Aff.OnCurve b a3 ∧ Aff.abs b a3 = 2 ^ 192 • Aff.abs b A) :=
  C02.precomp3_table (curveModel b) A hA

/-- `mul_precomp_3` with the table of `precomp_3`, every 256-bit `k` -/
theorem curve_precomp3_mul (A : Aff F) (hA : Aff.OnCurve b A) (k : ℕ) (hk : k < 2 ^ 256) :
    ∃ pre, A.precomp3 = some pre ∧
      ∃ R, A.mulPrecomp3 k pre = some R ∧ Jac.OnCurve b R ∧ Jac.abs b R = k • Aff.abs b A :=
  C02.precomp3_mul (curveModel b) A hA k hk

/-- `precomp_256` never panics and returns the documented 256-entry table -/
theorem curve_precomp256_table (A : Aff F) (hA : Aff.OnCurve b A) :
    ∃ pre, A.precomp256 = some pre ∧ pre.length = 256 ∧
      ∀ i < 256, ∃ e, pre[i]? = some e ∧ Aff.OnCurve b e ∧
        Aff.abs b e = spread 32 8 i • Aff.abs b A :=
  C02.precomp256_table (curveModel b) A hA

/-- `mul_precomp_256` with the table of `precomp_256`, every 256-bit `k` -/
theorem curve_precomp256_mul (A : Aff F) (hA : Aff.OnCurve b A) (k : ℕ) (hk : k < 2 ^ 256) :
    ∃ pre, A.precomp256 = some pre ∧
      ∃ R, A.mulPrecomp256 k pre.toArray = some R ∧ Jac.OnCurve b R ∧
        Jac.abs b R = k • Aff.abs b A :=
  C02.precomp256_mul (curveModel b) A hA k hk

/-- windowed NAF, any window `2..=22`, `k < 2^255`: no panic, result `[k]P` -/
theorem curve_wnaf_mul (P : Jac F) (hP : Jac.OnCurve b P) (k w : ℕ) (hw2 : 2 ≤ w) (hw : w ≤ 22)
    (hk : k < 2 ^ 255) :
    ∃ R, (do let f ← wnafForm [] k w; wnafExp (wnafTable [] P w) f) = some R ∧
      Jac.OnCurve b R ∧ Jac.abs b R = k • Jac.abs b P :=
  C02.wnaf_mul (curveModel b) P hP k w hw2 hw hk

/-- staging order "base then scalar", on any used context -/
theorem curve_wnaf_base_then_scalar (rc : WnafRec) (hrc : rc = g1Rec ∨ rc = g2Rec)
    (ctx : WnafCtx F) (P : Jac F) (hP : Jac.OnCurve b P) (n k : ℕ) (hk : k < 2 ^ 255) :
    ∃ R ctx', WnafCtx.baseThenScalar rc ctx P n k = some (R, ctx') ∧
      Jac.OnCurve b R ∧ Jac.abs b R = k • Jac.abs b P :=
  C02.wnaf_base_then_scalar (curveModel b) rc hrc ctx P hP n k hk

/-- staging order "scalar then base", on any used context -/
theorem curve_wnaf_scalar_then_base (rc : WnafRec) (hrc : rc = g1Rec ∨ rc = g2Rec)
    (ctx : WnafCtx F) (P : Jac F) (hP : Jac.OnCurve b P) (k : ℕ) (hk : k < 2 ^ 255) :
    ∃ R ctx', WnafCtx.scalarThenBase rc ctx k P = some (R, ctx') ∧
      Jac.OnCurve b R ∧ Jac.abs b R = k • Jac.abs b P :=
  C02.wnaf_scalar_then_base (curveModel b) rc hrc ctx P hP k hk

/-- for `k < 2^255` every multiplication path returns, without panicking, a representative of the
    same group element `[k]A` -/
theorem curve_all_paths_agree (A : Aff F) (hA : Aff.OnCurve b A) (k w : ℕ) (hw2 : 2 ≤ w)
    (hw : w ≤ 22) (hk : k < 2 ^ 255) (rc : WnafRec) (hrc : rc = g1Rec ∨ rc = g2Rec)
    (ctx : WnafCtx F) (n : ℕ) :
    ∃ pre3 pre256 R3 R256 Rw Rbs Rsb ctx1 ctx2,
      A.precomp3 = some pre3 ∧ A.mulPrecomp3 k pre3 = some R3 ∧
      A.precomp256 = some pre256 ∧ A.mulPrecomp256 k pre256.toArray = some R256 ∧
      (do let f ← wnafForm [] k w; wnafExp (wnafTable [] A.toJac w) f) = some Rw ∧
      WnafCtx.baseThenScalar rc ctx A.toJac n k = some (Rbs, ctx1) ∧
      WnafCtx.scalarThenBase rc ctx k A.toJac = some (Rsb, ctx2) ∧
      Jac.abs b (A.mul k) = k • Aff.abs b A ∧
      Jac.abs b (A.toJac.mulAssign k) = k • Aff.abs b A ∧
      Jac.abs b R3 = k • Aff.abs b A ∧ Jac.abs b R256 = k • Aff.abs b A ∧
      Jac.abs b Rw = k • Aff.abs b A ∧ Jac.abs b Rbs = k • Aff.abs b A ∧
      Jac.abs b Rsb = k • Aff.abs b A :=
  C02.all_paths_agree (curveModel b) A hA k w hw2 hw hk rc hrc ctx n

end generic

/-! ## G1: `E(Fq)`, `y² = x³ + 4` (`g1Codec.b = 4`, `PP.g1Codec_b`) -/

theorem g1_affine_mul (A : Aff Fq) (hA : Aff.OnCurve g1Codec.b A) (k : ℕ) (hk : k < 2 ^ 256) :
    Jac.OnCurve g1Codec.b (A.mul k) ∧ Jac.abs g1Codec.b (A.mul k) = k • Aff.abs g1Codec.b A :=
  curve_affine_mul g1Codec.b A hA k hk

theorem g1_affine_mulBits (A : Aff Fq) (hA : Aff.OnCurve g1Codec.b A) (bits : List Bool) :
    Jac.OnCurve g1Codec.b (A.mulBits bits) ∧
      Jac.abs g1Codec.b (A.mulBits bits) = ofBitsMSB bits • Aff.abs g1Codec.b A :=
  curve_affine_mulBits g1Codec.b A hA bits

theorem g1_projective_mul (P : Jac Fq) (hP : Jac.OnCurve g1Codec.b P) (k : ℕ) (hk : k < 2 ^ 256) :
    Jac.OnCurve g1Codec.b (P.mulAssign k) ∧ Jac.abs g1Codec.b (P.mulAssign k) = k • Jac.abs g1Codec.b P :=
  curve_projective_mul g1Codec.b P hP k hk

theorem g1_affine_mul_mod (A : Aff Fq) (hA : Aff.OnCurve g1Codec.b A) (k : ℕ) :
    Jac.abs g1Codec.b (A.mul k) = (k % 2 ^ 256) • Aff.abs g1Codec.b A :=
  curve_affine_mul_mod g1Codec.b A hA k

theorem g1_precomp3_table (A : Aff Fq) (hA : Aff.OnCurve g1Codec.b A) :
    ∃ a1 a2 a3, A.precomp3 = some [a1, a2, a3] ∧
      (Aff.OnCurve g1Codec.b a1 ∧ Aff.abs g1Codec.b a1 = 2 ^ 64 • Aff.abs g1Codec.b A) ∧
      (Aff.OnCurve g1Codec.b a2 ∧ Aff.abs g1Codec.b a2 = 2 ^ 128 • Aff.abs g1Codec.b A) ∧
      (Aff.OnCurve g1Codec.b a3 ∧ Aff.abs g1Codec.b a3 = 2 ^ 192 • Aff.abs g1Codec.b A) :=
  curve_precomp3_table g1Codec.b A hA

theorem g1_precomp3_mul (A : Aff Fq) (hA : Aff.OnCurve g1Codec.b A) (k : ℕ) (hk : k < 2 ^ 256) :
    ∃ pre, A.precomp3 = some pre ∧
      ∃ R, A.mulPrecomp3 k pre = some R ∧ Jac.OnCurve g1Codec.b R ∧ Jac.abs g1Codec.b R = k • Aff.abs g1Codec.b A :=
  curve_precomp3_mul g1Codec.b A hA k hk

theorem g1_precomp256_table (A : Aff Fq) (hA : Aff.OnCurve g1Codec.b A) :
    ∃ pre, A.precomp256 = some pre ∧ pre.length = 256 ∧
      ∀ i < 256, ∃ e, pre[i]? = some e ∧ Aff.OnCurve g1Codec.b e ∧
        Aff.abs g1Codec.b e = spread 32 8 i • Aff.abs g1Codec.b A :=
  curve_precomp256_table g1Codec.b A hA

theorem g1_precomp256_mul (A : Aff Fq) (hA : Aff.OnCurve g1Codec.b A) (k : ℕ) (hk : k < 2 ^ 256) :
    ∃ pre, A.precomp256 = some pre ∧
      ∃ R, A.mulPrecomp256 k pre.toArray = some R ∧ Jac.OnCurve g1Codec.b R ∧
        Jac.abs g1Codec.b R = k • Aff.abs g1Codec.b A :=
  curve_precomp256_mul g1Codec.b A hA k hk

theorem g1_wnaf_mul (P : Jac Fq) (hP : Jac.OnCurve g1Codec.b P) (k w : ℕ) (hw2 : 2 ≤ w) (hw : w ≤ 22)
    (hk : k < 2 ^ 255) :
    ∃ R, (do let f ← wnafForm [] k w; wnafExp (wnafTable [] P w) f) = some R ∧
      Jac.OnCurve g1Codec.b R ∧ Jac.abs g1Codec.b R = k • Jac.abs g1Codec.b P :=
  curve_wnaf_mul g1Codec.b P hP k w hw2 hw hk

theorem g1_wnaf_base_then_scalar (rc : WnafRec) (hrc : rc = g1Rec ∨ rc = g2Rec)
    (ctx : WnafCtx Fq) (P : Jac Fq) (hP : Jac.OnCurve g1Codec.b P) (n k : ℕ) (hk : k < 2 ^ 255) :
    ∃ R ctx', WnafCtx.baseThenScalar rc ctx P n k = some (R, ctx') ∧
      Jac.OnCurve g1Codec.b R ∧ Jac.abs g1Codec.b R = k • Jac.abs g1Codec.b P :=
  curve_wnaf_base_then_scalar g1Codec.b rc hrc ctx P hP n k hk

theorem g1_wnaf_scalar_then_base (rc : WnafRec) (hrc : rc = g1Rec ∨ rc = g2Rec)
    (ctx : WnafCtx Fq) (P : Jac Fq) (hP : Jac.OnCurve g1Codec.b P) (k : ℕ) (hk : k < 2 ^ 255) :
    ∃ R ctx', WnafCtx.scalarThenBase rc ctx k P = some (R, ctx') ∧
      Jac.OnCurve g1Codec.b R ∧ Jac.abs g1Codec.b R = k • Jac.abs g1Codec.b P :=
  curve_wnaf_scalar_then_base g1Codec.b rc hrc ctx P hP k hk

theorem g1_all_paths_agree (A : Aff Fq) (hA : Aff.OnCurve g1Codec.b A) (k w : ℕ) (hw2 : 2 ≤ w)
    (hw : w ≤ 22) (hk : k < 2 ^ 255) (rc : WnafRec) (hrc : rc = g1Rec ∨ rc = g2Rec)
    (ctx : WnafCtx Fq) (n : ℕ) :
    ∃ pre3 pre256 R3 R256 Rw Rbs Rsb ctx1 ctx2,
      A.precomp3 = some pre3 ∧ A.mulPrecomp3 k pre3 = some R3 ∧
      A.precomp256 = some pre256 ∧ A.mulPrecomp256 k pre256.toArray = some R256 ∧
      (do let f ← wnafForm [] k w; wnafExp (wnafTable [] A.toJac w) f) = some Rw ∧
      WnafCtx.baseThenScalar rc ctx A.toJac n k = some (Rbs, ctx1) ∧
      WnafCtx.scalarThenBase rc ctx k A.toJac = some (Rsb, ctx2) ∧
      Jac.abs g1Codec.b (A.mul k) = k • Aff.abs g1Codec.b A ∧
      Jac.abs g1Codec.b (A.toJac.mulAssign k) = k • Aff.abs g1Codec.b A ∧
      Jac.abs g1Codec.b R3 = k • Aff.abs g1Codec.b A ∧ Jac.abs g1Codec.b R256 = k • Aff.abs g1Codec.b A ∧
      Jac.abs g1Codec.b Rw = k • Aff.abs g1Codec.b A ∧ Jac.abs g1Codec.b Rbs = k • Aff.abs g1Codec.b A ∧
      Jac.abs g1Codec.b Rsb = k • Aff.abs g1Codec.b A :=
  curve_all_paths_agree g1Codec.b A hA k w hw2 hw hk rc hrc ctx n

/-! ## G2: `E'(Fq2)`, `y² = x³ + 4(1+u)` (`g2Codec.b`, `PP.g2Codec_b`) -/

theorem g2_affine_mul (A : Aff Fq2) (hA : Aff.OnCurve g2Codec.b A) (k : ℕ) (hk : k < 2 ^ 256) :
    Jac.OnCurve g2Codec.b (A.mul k) ∧ Jac.abs g2Codec.b (A.mul k) = k • Aff.abs g2Codec.b A :=
  curve_affine_mul g2Codec.b A hA k hk

theorem g2_affine_mulBits (A : Aff Fq2) (hA : Aff.OnCurve g2Codec.b A) (bits : List Bool) :
    Jac.OnCurve g2Codec.b (A.mulBits bits) ∧
      Jac.abs g2Codec.b (A.mulBits bits) = ofBitsMSB bits • Aff.abs g2Codec.b A :=
  curve_affine_mulBits g2Codec.b A hA bits

theorem g2_projective_mul (P : Jac Fq2) (hP : Jac.OnCurve g2Codec.b P) (k : ℕ) (hk : k < 2 ^ 256) :
    Jac.OnCurve g2Codec.b (P.mulAssign k) ∧ Jac.abs g2Codec.b (P.mulAssign k) = k • Jac.abs g2Codec.b P :=
  curve_projective_mul g2Codec.b P hP k hk

theorem g2_affine_mul_mod (A : Aff Fq2) (hA : Aff.OnCurve g2Codec.b A) (k : ℕ) :
    Jac.abs g2Codec.b (A.mul k) = (k % 2 ^ 256) • Aff.abs g2Codec.b A :=
  curve_affine_mul_mod g2Codec.b A hA k

theorem g2_precomp3_table (A : Aff Fq2) (hA : Aff.OnCurve g2Codec.b A) :
    ∃ a1 a2 a3, A.precomp3 = some [a1, a2, a3] ∧
      (Aff.OnCurve g2Codec.b a1 ∧ Aff.abs g2Codec.b a1 = 2 ^ 64 • Aff.abs g2Codec.b A) ∧
      (Aff.OnCurve g2Codec.b a2 ∧ Aff.abs g2Codec.b a2 = 2 ^ 128 • Aff.abs g2Codec.b A) ∧
      (Aff.OnCurve g2Codec.b a3 ∧ Aff.abs g2Codec.b a3 = 2 ^ 192 • Aff.abs g2Codec.b A) :=
  curve_precomp3_table g2Codec.b A hA

theorem g2_precomp3_mul (A : Aff Fq2) (hA : Aff.OnCurve g2Codec.b A) (k : ℕ) (hk : k < 2 ^ 256) :
    ∃ pre, A.precomp3 = some pre ∧
      ∃ R, A.mulPrecomp3 k pre = some R ∧ Jac.OnCurve g2Codec.b R ∧ Jac.abs g2Codec.b R = k • Aff.abs g2Codec.b A :=
  curve_precomp3_mul g2Codec.b A hA k hk

theorem g2_precomp256_table (A : Aff Fq2) (hA : Aff.OnCurve g2Codec.b A) :
    ∃ pre, A.precomp256 = some pre ∧ pre.length = 256 ∧
      ∀ i < 256, ∃ e, pre[i]? = some e ∧ Aff.OnCurve g2Codec.b e ∧
        Aff.abs g2Codec.b e = spread 32 8 i • Aff.abs g2Codec.b A :=
  curve_precomp256_table g2Codec.b A hA

theorem g2_precomp256_mul (A : Aff Fq2) (hA : Aff.OnCurve g2Codec.b A) (k : ℕ) (hk : k < 2 ^ 256) :
    ∃ pre, A.precomp256 = some pre ∧
      ∃ R, A.mulPrecomp256 k pre.toArray = some R ∧ Jac.OnCurve g2Codec.b R ∧
        Jac.abs g2Codec.b R = k • Aff.abs g2Codec.b A :=
  curve_precomp256_mul g2Codec.b A hA k hk

theorem g2_wnaf_mul (P : Jac Fq2) (hP : Jac.OnCurve g2Codec.b P) (k w : ℕ) (hw2 : 2 ≤ w) (hw : w ≤ 22)
    (hk : k < 2 ^ 255) :
    ∃ R, (do let f ← wnafForm [] k w; wnafExp (wnafTable [] P w) f) = some R ∧
      Jac.OnCurve g2Codec.b R ∧ Jac.abs g2Codec.b R = k • Jac.abs g2Codec.b P :=
  curve_wnaf_mul g2Codec.b P hP k w hw2 hw hk

theorem g2_wnaf_base_then_scalar (rc : WnafRec) (hrc : rc = g1Rec ∨ rc = g2Rec)
    (ctx : WnafCtx Fq2) (P : Jac Fq2) (hP : Jac.OnCurve g2Codec.b P) (n k : ℕ) (hk : k < 2 ^ 255) :
    ∃ R ctx', WnafCtx.baseThenScalar rc ctx P n k = some (R, ctx') ∧
      Jac.OnCurve g2Codec.b R ∧ Jac.abs g2Codec.b R = k • Jac.abs g2Codec.b P :=
  curve_wnaf_base_then_scalar g2Codec.b rc hrc ctx P hP n k hk

theorem g2_wnaf_scalar_then_base (rc : WnafRec) (hrc : rc = g1Rec ∨ rc = g2Rec)
    (ctx : WnafCtx Fq2) (P : Jac Fq2) (hP : Jac.OnCurve g2Codec.b P) (k : ℕ) (hk : k < 2 ^ 255) :
    ∃ R ctx', WnafCtx.scalarThenBase rc ctx k P = some (R, ctx') ∧
      Jac.OnCurve g2Codec.b R ∧ Jac.abs g2Codec.b R = k • Jac.abs g2Codec.b P :=
  curve_wnaf_scalar_then_base g2Codec.b rc hrc ctx P hP k hk

theorem g2_all_paths_agree (A : Aff Fq2) (hA : Aff.OnCurve g2Codec.b A) (k w : ℕ) (hw2 : 2 ≤ w)
    (hw : w ≤ 22) (hk : k < 2 ^ 255) (rc : WnafRec) (hrc : rc = g1Rec ∨ rc = g2Rec)
    (ctx : WnafCtx Fq2) (n : ℕ) :
    ∃ pre3 pre256 R3 R256 Rw Rbs Rsb ctx1 ctx2,
      A.precomp3 = some pre3 ∧ A.mulPrecomp3 k pre3 = some R3 ∧
      A.precomp256 = some pre256 ∧ A.mulPrecomp256 k pre256.toArray = some R256 ∧
      (do let f ← wnafForm [] k w; wnafExp (wnafTable [] A.toJac w) f) = some Rw ∧
      WnafCtx.baseThenScalar rc ctx A.toJac n k = some (Rbs, ctx1) ∧
      WnafCtx.scalarThenBase rc ctx k A.toJac = some (Rsb, ctx2) ∧
      Jac.abs g2Codec.b (A.mul k) = k • Aff.abs g2Codec.b A ∧
      Jac.abs g2Codec.b (A.toJac.mulAssign k) = k • Aff.abs g2Codec.b A ∧
      Jac.abs g2Codec.b R3 = k • Aff.abs g2Codec.b A ∧ Jac.abs g2Codec.b R256 = k • Aff.abs g2Codec.b A ∧
      Jac.abs g2Codec.b Rw = k • Aff.abs g2Codec.b A ∧ Jac.abs g2Codec.b Rbs = k • Aff.abs g2Codec.b A ∧
      Jac.abs g2Codec.b Rsb = k • Aff.abs g2Codec.b A :=
  curve_all_paths_agree g2Codec.b A hA k w hw2 hw hk rc hrc ctx n

end PP.C02Inst
