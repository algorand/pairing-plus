/-
OBLIGATIONS "GenHash": the hashing glue of the hand-written model IS the Rust source.

`PP/Gen/HashGlue.lean` (namespace `PP.Gen.H`) is REGENERATED from /repo on every run of
/verif/extract/extract.py by /verif/extract/extract_hash.py: one Lean definition per Rust function, one
line per Rust statement; the length prefix `[(len >> 8) as u8, len as u8, 0u8]`, `dst || [dst.len() as u8]`,
the `ell` computation and its `> 255` panic, the block counter `(idx + 1) as u8`, the XOR of `b_0` with
the previous block (an index loop into `tmp`), the slice bounds, the truncation, the 16 / 8 zero bytes and
the constants `F_2_256` / `F_2_192` of `from_okm`, the chunking of `hash_to_field` and the element counts
2 / 1 of `hash_to_curve` / `encode_to_curve` are translated literally.  Each theorem below states that
such a regenerated definition is equal to the hand-written model function (`PP/Model/Map.lean`) that the
properties C06, C13, C14 are proved about.  An edit of one of these Rust functions changes the generated
text, and the corresponding theorem no longer compiles (or the extractor refuses the new shape).

Correspondence Rust -> generated -> model:
  hash_to_field.rs  ExpandMsgXmd::expand_message   -> `H.ExpandMsgXmd.expandMessage` -> `expandMessageXmd`
                    ExpandMsgXof::expand_message   -> `H.ExpandMsgXof.expandMessage` -> `expandMessageXof`
                    hash_to_field                  -> `H.hashToField`                -> `hashToField`
                    impl<T: BaseFromRO> FromRO for T -> `H.FromRO.fromRo`            -> (the identity)
  fq.rs / fr.rs     Fq::from_okm, Fr::from_okm     -> `H.Fq.fromOkm`, `H.Fr.fromOkm` -> `Fq.fromOkm`, `Fr.fromOkm`
                    type BaseLength = U64 / U48    -> `H.Fq.BaseLength`, `H.Fr.BaseLength`
  fq2.rs            Fq2::from_ro, type Length      -> `H.Fq2.fromRo`, `H.Fq2.Length`  -> `Fq2.fromRo`
  hash_to_curve.rs  hash_to_curve, encode_to_curve (generic over the traits; instantiated HERE for G1 and G2
                    with the generated `osswu_map`, `clear_h`, `add_assign`, `from_ro`, as trait resolution
                    does; `isogeny_map` is the model's `iso11` / `iso3`, which `PP.GenIso.G1_isogenyMap` /
                    `G2_isogenyMap` prove equal to the generated `I.G1.isogenyMap` / `I.G2.isogenyMap`)
                                                   -> `hashToCurveG1` .. `encodeToCurveG2`

Differences of representation that are visible in the statements:
  * a generated function that can PANIC is `Option`-valued, `none` = panic, as in the model;
  * `okm.length = 64 / 48 / 128` is the Rust type `GenericArray<u8, U64 / U48 / U128>` of the argument (the
    model takes `take` / `drop` of any list);
  * `∀ x, (Hh.hash x).length = Hh.outSize` is the result type `GenericArray<u8, OutputSize>` of
    `Digest::result`; without it the slice `b_vals[(idx-1)*b .. idx*b]` of the generated code has no
    counterpart in the model (which carries the previous block along);
  * `0 < Hh.outSize`: for `OutputSize = 0` the Rust code panics (division by zero) and so does the generated
    code, whereas the model returns bytes; no hash function has an empty digest (same hypothesis in C13).

Primitives that are not in /repo and are therefore NOT determined by these theorems: the hash function
itself (a parameter: `XmdHash`, resp. `Bytes → Nat → Bytes`), `Input::chain` as concatenation of the
input, `GenericArray` / `Vec` / slice / iterator operations as list operations, `Cursor` / `Read::chain`,
`FqRepr::read_be`, `Fq::from_repr` (`E.reprReadBe`, `E.Fq.fromRepr` of Enc.lean), `Fq(FqRepr(..))` as
`Fq.ofMont`, `mul_assign` / `add_assign` of `Fq` / `Fr` as `*` / `+` (see the header of HashGlue.lean).
usize overflow of `+` / `*` is not modelled.
-/
import PP.Proofs.GenHash

namespace PP.GenHash
open PP PP.Gen PP.GenHashLemmas

/-! ## hash_to_field.rs -/
theorem ExpandMsgXmd_expandMessage (Hh : XmdHash) (hout : 0 < Hh.outSize)
    (hH : ∀ x, (Hh.hash x).length = Hh.outSize) (msg dst : Bytes) (len : Nat) :
    H.ExpandMsgXmd.expandMessage Hh msg dst len = expandMessageXmd Hh msg dst len := by
  unfold H.ExpandMsgXmd.expandMessage expandMessageXmd
  simp only []
  -- the two panics of `(len + b - 1) / b` (usize underflow, division by zero) are excluded by `hout`
  rw [if_neg (by omega), if_neg (by omega)]
  by_cases hell : (len + Hh.outSize - 1) / Hh.outSize > 255
  · rw [if_pos hell, if_pos hell]
  rw [if_neg hell, if_neg hell]
  simp only [List.nil_append, Expand.u8_eq]
  rw [foldlM_xmdBlocks Hh hH
    (Hh.hash (List.replicate Hh.blockSize (0 : UInt8) ++ msg ++ [UInt8.ofNat (len >>> 8), UInt8.ofNat len, 0] ++ dst
      ++ [UInt8.ofNat dst.length]))
    (dst ++ [UInt8.ofNat dst.length]) _ ?hf _ 1 _ _ (Nat.le_refl 1)
    (by rw [hH, Nat.one_mul]) (by rw [Nat.sub_self, Nat.zero_mul, List.drop_zero, List.take_of_length_le (Nat.le_of_eq (hH _))])]
  case hf =>
    intro acc idx h1 hl
    -- `idx - 1` does not underflow (`h1`), and the slice of `b_vals` is in bounds (`hl`)
    rw [if_neg (by omega)]
    have e1 : idx * Hh.outSize = (idx - 1) * Hh.outSize + Hh.outSize := by
      have : idx = (idx - 1) + 1 := by omega
      rw [this, Nat.succ_mul, Nat.add_sub_cancel]
    rw [if_neg (by rw [hl]; omega)]
    have e2 : idx * Hh.outSize - (idx - 1) * Hh.outSize = Hh.outSize := by
      rw [e1]; exact Nat.add_sub_cancel_left _ _
    rw [e2, xor_fold _ (fun t j x y => rfl) _ _ _ (by rw [hH, List.length_replicate])
      (by rw [List.length_take, List.length_drop, List.length_replicate, hl]; omega)]
    simp only [List.append_assoc, Expand.u8_eq]
  simp only [List.append_assoc]
theorem ExpandMsgXof_expandMessage (xof : Bytes → Nat → Bytes) :
    H.ExpandMsgXof.expandMessage xof = expandMessageXof xof := by
  funext msg dst len
  unfold H.ExpandMsgXof.expandMessage expandMessageXof
  simp only [Expand.u8_eq, List.nil_append]
theorem hashToField {T : Type} (L : Nat) (fromRo : Bytes → Option T) (expand : Bytes → Bytes → Nat → Option Bytes)
    (msg dst : Bytes) (count : Nat) :
    H.hashToField L fromRo expand msg dst count = PP.hashToField expand L fromRo msg dst count :=
  H_hashToField_eq L fromRo expand msg dst count
theorem FromRO_fromRo {T : Type} (BaseLength : Nat) (from_okm : Bytes → Option T) :
    H.FromRO.fromRo BaseLength from_okm = from_okm := rfl

/-! ## fq.rs, fr.rs, fq2.rs -/
theorem Fq_BaseLength : H.Fq.BaseLength = 64 := rfl
theorem Fr_BaseLength : H.Fr.BaseLength = 48 := rfl
theorem Fq2_Length : H.Fq2.Length = 128 := rfl
theorem Fq_fromOkm_F_2_256 : H.Fq.fromOkm.F_2_256 = fqF2_256 := by
  unfold H.Fq.fromOkm.F_2_256 fqF2_256
  exact congrArg Fq.ofMont (by decide)
theorem Fr_fromOkm_F_2_192 : H.Fr.fromOkm.F_2_192 = frF2_192 := by
  unfold H.Fr.fromOkm.F_2_192 frF2_192
  exact congrArg Fr.ofMont (by decide)
theorem Fq_fromOkm (okm : Bytes) (h : okm.length = 64) : H.Fq.fromOkm okm = PP.Fq.fromOkm okm := by
  unfold H.Fq.fromOkm PP.Fq.fromOkm
  have h1 : (List.replicate 16 (0 : UInt8) ++ okm.take 32).length = 48 := by
    rw [List.length_append, List.length_replicate, List.length_take, h]; rfl
  have h2 : (List.replicate 16 (0 : UInt8) ++ okm.drop 32).length = 48 := by
    rw [List.length_append, List.length_replicate, List.length_drop, h]
  have h3 : (okm.drop 32).take 32 = okm.drop 32 :=
    List.take_of_length_le (by rw [List.length_drop, h]; decide)
  rw [reprReadBe_exact 48 _ h1, reprReadBe_exact 48 _ h2, h3, Fq_fromBytes_eq, Fq_fromBytes_eq,
    Fq_fromOkm_F_2_256]
  simp only []
  cases E.Fq.fromRepr (beToNat (List.replicate 16 (0 : UInt8) ++ okm.take 32)) with
  | none => rfl
  | some e1 =>
    simp only []
    cases E.Fq.fromRepr (beToNat (List.replicate 16 (0 : UInt8) ++ okm.drop 32)) with
    | none => rfl
    | some e2 => rfl
theorem Fr_fromOkm (okm : Bytes) (h : okm.length = 48) : H.Fr.fromOkm okm = PP.Fr.fromOkm okm := by
  unfold H.Fr.fromOkm PP.Fr.fromOkm
  have h1 : (List.replicate 8 (0 : UInt8) ++ okm.take 24).length = 32 := by
    rw [List.length_append, List.length_replicate, List.length_take, h]; rfl
  have h2 : (List.replicate 8 (0 : UInt8) ++ okm.drop 24).length = 32 := by
    rw [List.length_append, List.length_replicate, List.length_drop, h]
  have h3 : (okm.drop 24).take 24 = okm.drop 24 :=
    List.take_of_length_le (by rw [List.length_drop, h]; decide)
  rw [reprReadBe_exact 32 _ h1, reprReadBe_exact 32 _ h2, h3, Fr_fromBytes_eq, Fr_fromBytes_eq,
    Fr_fromOkm_F_2_192]
  simp only []
  cases E.Fr.fromRepr (beToNat (List.replicate 8 (0 : UInt8) ++ okm.take 24)) with
  | none => rfl
  | some e1 =>
    simp only []
    cases E.Fr.fromRepr (beToNat (List.replicate 8 (0 : UInt8) ++ okm.drop 24)) with
    | none => rfl
    | some e2 => rfl
theorem Fq2_fromRo (okm : Bytes) (h : okm.length = 128) : H.Fq2.fromRo okm = PP.Fq2.fromRo okm := by
  unfold H.Fq2.fromRo PP.Fq2.fromRo
  have h1 : (okm.take 64).length = 64 := by rw [List.length_take, h]; rfl
  have h2 : (okm.drop 64).length = 64 := by rw [List.length_drop, h]
  have h3 : (okm.drop 64).take 64 = okm.drop 64 := List.take_of_length_le (Nat.le_of_eq h2)
  rw [Fq_fromOkm _ h1, Fq_fromOkm _ h2, h3]
  cases PP.Fq.fromOkm (okm.take 64) with
  | none => rfl
  | some c0 =>
    simp only []
    cases PP.Fq.fromOkm (okm.drop 64) with
    | none => rfl
    | some c1 => rfl

/-! ## hash_to_curve.rs: the generic code instantiated as trait resolution does for G1 and G2 -/
variable (expand : Bytes → Bytes → Nat → Option Bytes) (msg dst : Bytes)

theorem hashToCurve_G1 :
    H.HashToCurve.hashToCurve (Length := H.Fq.BaseLength) (from_ro := H.FromRO.fromRo H.Fq.BaseLength H.Fq.fromOkm)
        (expand_message := expand) (osswu_map := fun u => some (A.G1.osswuMap u)) (isogeny_map := PP.iso11)
        (clear_h := A.G1.clearH) (add_assign := A.Jac.add) msg dst
      = hashToCurveG1 expand msg dst :=
  hashToCurve_generic _ _ _ expand _ _ _ _ msg dst Fq_fromOkm _ GenArithLemmas.map2ToCurve_G1_eq _
    (hashToCurveG1_cases expand msg dst)
theorem encodeToCurve_G1 :
    H.HashToCurve.encodeToCurve (Length := H.Fq.BaseLength) (from_ro := H.FromRO.fromRo H.Fq.BaseLength H.Fq.fromOkm)
        (expand_message := expand) (osswu_map := fun u => some (A.G1.osswuMap u)) (isogeny_map := PP.iso11)
        (clear_h := A.G1.clearH) (add_assign := A.Jac.add) msg dst
      = encodeToCurveG1 expand msg dst :=
  encodeToCurve_generic _ _ _ expand _ _ _ _ msg dst Fq_fromOkm _ GenArithLemmas.mapToCurve_G1_eq _
    (encodeToCurveG1_cases expand msg dst)
theorem hashToCurve_G2 :
    H.HashToCurve.hashToCurve (Length := H.Fq2.Length) (from_ro := H.Fq2.fromRo)
        (expand_message := expand) (osswu_map := A.G2.osswuMap) (isogeny_map := PP.iso3)
        (clear_h := A.G2.clearH) (add_assign := A.Jac.add) msg dst
      = hashToCurveG2 expand msg dst :=
  hashToCurve_generic _ _ _ expand _ _ _ _ msg dst Fq2_fromRo _ GenArithLemmas.map2ToCurve_G2_eq _
    (hashToCurveG2_cases expand msg dst)
theorem encodeToCurve_G2 :
    H.HashToCurve.encodeToCurve (Length := H.Fq2.Length) (from_ro := H.Fq2.fromRo)
        (expand_message := expand) (osswu_map := A.G2.osswuMap) (isogeny_map := PP.iso3)
        (clear_h := A.G2.clearH) (add_assign := A.Jac.add) msg dst
      = encodeToCurveG2 expand msg dst :=
  encodeToCurve_generic _ _ _ expand _ _ _ _ msg dst Fq2_fromRo _ GenArithLemmas.mapToCurve_G2_eq _
    (encodeToCurveG2_cases expand msg dst)

end PP.GenHash
