/-
C16 at the level of denoted points, in terms of the C01 abstraction: the images are on the target
curves, `abs_iso11`, `abs_iso3` (`isoMapPoint` is the RFC's `iso_map`: rational map, identity on the
poles), negation.  (The `iso3_*` theorems of this namespace are in `PP/Props/C16.lean`.)

The homomorphism law of the two isogenies is proved in PP/Props/C16Hom.lean and PP/Props/C16Hom11.lean.
-/
import PP.Proofs.Assembly

namespace PP.C16Inst

open PP IsoPoly Iso

/-! ## in terms of the C01 abstraction -/

/-- points of `E₁'` go to points of `E₁` -/
theorem iso11_jac_onCurve (p : Jac Fq)
    (hp : p.z = 0 ∨ p.y ^ 2 = p.x ^ 3 + g1EllpA * p.x * p.z ^ 4 + g1EllpB * p.z ^ 6) :
    Jac.OnCurve g1Codec.b (iso11 p) := iso11_onCurve' p hp

/-- points of `E₂'` go to points of `E₂` -/
theorem iso3_jac_onCurve (p : Jac Fq2)
    (hp : p.z = 0 ∨ p.y ^ 2 = p.x ^ 3 + g2EllpA * p.x * p.z ^ 4 + g2EllpB * p.z ^ 6) :
    Jac.OnCurve g2Codec.b (iso3 p) := iso3_onCurve' p hp

/-- `iso11` computes the RFC's `iso_map` on every finite point of `E₁'` -/
theorem abs_iso11 (p : Jac Fq) (hz : p.z ≠ 0)
    (hp : p.y ^ 2 = p.x ^ 3 + g1EllpA * p.x * p.z ^ 4 + g1EllpB * p.z ^ 6) :
    Jac.abs g1Codec.b (iso11 p) =
      isoMapPoint g1Codec.b iso11XNum iso11XDen iso11YNum iso11YDen (p.x / p.z ^ 2) (p.y / p.z ^ 3) :=
  abs_iso11_eq p hz hp

/-- `iso3` computes the RFC's `iso_map` on every finite point of `E₂'` -/
theorem abs_iso3 (p : Jac Fq2) (hz : p.z ≠ 0)
    (hp : p.y ^ 2 = p.x ^ 3 + g2EllpA * p.x * p.z ^ 4 + g2EllpB * p.z ^ 6) :
    Jac.abs g2Codec.b (iso3 p) =
      isoMapPoint g2Codec.b iso3XNum iso3XDen iso3YNum iso3YDen (p.x / p.z ^ 2) (p.y / p.z ^ 3) :=
  abs_iso3_eq p hz hp

/-- the identity of `E'` goes to the identity of `E` -/
theorem abs_iso11_zero (p : Jac Fq) (hz : p.z = 0) : Jac.abs g1Codec.b (iso11 p) = 0 :=
  Jac.abs_of_z_eq_zero ((jac_isZero_iff _).mp (C16.iso11_identity p ((jac_isZero_iff p).mpr hz)))

theorem abs_iso3_zero (p : Jac Fq2) (hz : p.z = 0) : Jac.abs g2Codec.b (iso3 p) = 0 :=
  Jac.abs_of_z_eq_zero ((jac_isZero_iff _).mp (iso3_identity p ((jac_isZero_iff p).mpr hz)))

/-- compatibility with negation, at the level of points -/
theorem abs_iso11_neg (p : Jac Fq)
    (hp : p.z = 0 ∨ p.y ^ 2 = p.x ^ 3 + g1EllpA * p.x * p.z ^ 4 + g1EllpB * p.z ^ 6) :
    Jac.abs g1Codec.b (iso11 p.neg) = -Jac.abs g1Codec.b (iso11 p) := by
  rw [C16.iso11_neg, C01.neg_correct (iso11_onCurve' p hp)]

theorem abs_iso3_neg (p : Jac Fq2)
    (hp : p.z = 0 ∨ p.y ^ 2 = p.x ^ 3 + g2EllpA * p.x * p.z ^ 4 + g2EllpB * p.z ^ 6) :
    Jac.abs g2Codec.b (iso3 p.neg) = -Jac.abs g2Codec.b (iso3 p) := by
  rw [iso3_neg, C01.neg_correct (iso3_onCurve' p hp)]

end PP.C16Inst
