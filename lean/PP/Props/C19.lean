/-
C19 — "For every scalar, target-group element and G1/G2 point (projective or affine), writing to a byte
stream and reading back with the same compression flag returns the original value, produces exactly 32,
576, 48/96 or 96/192 bytes, and for points the bytes are those of the point encoding. Reading consumes
exactly that many bytes on success, never panics, and returns an error - not a value - for truncated
input, a compression flag that contradicts the data, non-reduced field values, and every point encoding
the checked decoders reject."

Model: `serFr/deserFr`, `serFq12/deserFq12`, `serAffine/deserAffine`, `serJac/deserJac` over a byte-list
reader returning the value and the unread rest (PP.Model.Enc).  `…_ok_iff` are the strongest statements:
a value comes back EXACTLY when the input starts with the canonical serialisation of that value (points:
exactly when the checked decoder of C04 accepts the prefix), and the rest is exactly what follows it.
For points the validity hypotheses are those of C05 (`hinf`, subgroup membership per the model predicate).
Projective points: the value read back is `into_projective (into_affine P)`; that this is the same group
element as `P` is C01's `GroupModel` (`deserJac_serJac_abs`).
-/
import PP.Proofs.Serdes
import PP.Proofs.Generators

-- the theorems are stated for a lawful field and codec throughout, also where a proof uses less
set_option linter.unusedSectionVars false

namespace PP.C19

/-! ### scalars (`Fr`, 32 bytes) -/

theorem serFr_length (a : Fr) : (serFr a).length = 32 := Fr.toBytes_length a

theorem deserFr_serFr (a : Fr) (tail : Bytes) : deserFr (serFr a ++ tail) = .ok (a, tail) :=
  deserFr_append _ tail a (Fr.toBytes_length a) (Fr.fromBytes_toBytes a)

theorem deserFr_truncated (rd : Bytes) (h : rd.length < 32) : deserFr rd = .error .eof := by
  unfold deserFr; rw [readExact_eof _ _ h]

theorem deserFr_nonreduced (rd : Bytes) (h : 32 ≤ rd.length) (hr : ¬ beToNat (rd.take 32) < Gen.r) :
    deserFr rd = .error .notInField := by
  unfold deserFr
  rw [readExact_ok _ _ h]
  simp only [(Fr.fromBytes_eq_none_iff _).mpr hr]

/-- a value is returned only for a canonical 32-byte prefix, and exactly 32 bytes are consumed -/
theorem deserFr_ok_iff (rd : Bytes) (a : Fr) (rest : Bytes) :
    deserFr rd = .ok (a, rest) ↔ rd = serFr a ++ rest := by
  constructor
  · intro h
    by_cases hl : rd.length < 32
    · rw [deserFr_truncated rd hl] at h; cases h
    unfold deserFr at h
    rw [readExact_ok _ _ (by omega)] at h
    dsimp only at h
    cases hf : Fr.fromBytes (rd.take 32) with
    | none => rw [hf] at h; cases h
    | some a' =>
      rw [hf] at h
      cases h
      rw [serFr, Fr.toBytes_of_fromBytes _ _ hf (by rw [List.length_take]; omega), List.take_append_drop]
  · rintro rfl; exact deserFr_serFr a rest

theorem deserFr_ne_panic (rd : Bytes) : deserFr rd ≠ .error .panic := by
  by_cases hl : rd.length < 32
  · rw [deserFr_truncated rd hl]; nofun
  unfold deserFr
  rw [readExact_ok _ _ (by omega)]
  dsimp only
  cases Fr.fromBytes (rd.take 32) <;> nofun

/-! ### target group (`Fq12`, 576 bytes = twelve 48-byte coefficients) -/

theorem serFq12_length (a : Fq12) : (serFq12 a).length = 576 := by
  unfold serFq12; rw [flatten_toBytes_length, Fq12.coeffs_length]

theorem deserFq12_serFq12 (a : Fq12) (tail : Bytes) : deserFq12 (serFq12 a ++ tail) = .ok (a, tail) :=
  deserFq12_of_readFqs _ a tail (readFqs_append a.coeffs tail)

/-- a value is returned only for twelve canonical 48-byte coefficients, and exactly 576 bytes are consumed -/
theorem deserFq12_ok_iff (rd : Bytes) (a : Fq12) (rest : Bytes) :
    deserFq12 rd = .ok (a, rest) ↔ rd = serFq12 a ++ rest := by
  constructor
  · intro h
    unfold deserFq12 at h
    cases hr : readFqs 12 rd with
    | error e => rw [hr] at h; cases h
    | ok p =>
      obtain ⟨as, rest'⟩ := p
      obtain ⟨hlen, hrd⟩ := readFqs_ok _ _ _ _ hr
      obtain ⟨a0, a1, a2, a3, a4, a5, a6, a7, a8, a9, a10, a11, rfl⟩ := list12 as hlen
      rw [hr] at h
      cases h
      exact hrd
  · rintro rfl; exact deserFq12_serFq12 a rest

/-- truncation of a valid stream at EVERY prefix length -/
theorem deserFq12_truncated (a : Fq12) (k : Nat) (hk : k < 576) :
    deserFq12 ((serFq12 a).take k) = .error .eof := by
  have h : readFqs 12 ((serFq12 a).take k) = .error .eof := readFqs_truncated a.coeffs k hk
  unfold deserFq12
  rw [h]

theorem deserFq12_error (rd : Bytes) (e : SerErr) (h : deserFq12 rd = .error e) : e = .eof ∨ e = .notInField := by
  unfold deserFq12 at h
  cases hr : readFqs 12 rd with
  | error e' => rw [hr] at h; cases h; exact readFqs_error _ _ _ hr
  | ok p =>
    obtain ⟨as, rest'⟩ := p
    obtain ⟨a0, a1, a2, a3, a4, a5, a6, a7, a8, a9, a10, a11, rfl⟩ := list12 as (readFqs_ok _ _ _ _ hr).1
    rw [hr] at h; cases h

/-- any input shorter than 576 bytes: an error (`eof`, or `notInField` if an earlier complete coefficient
is not reduced — the reader checks each coefficient before reading the next) -/
theorem deserFq12_short (rd : Bytes) (h : rd.length < 576) :
    deserFq12 rd = .error .eof ∨ deserFq12 rd = .error .notInField := by
  cases hd : deserFq12 rd with
  | error e => rcases deserFq12_error _ _ hd with rfl | rfl <;> simp
  | ok p =>
    obtain ⟨a, rest⟩ := p
    rw [(deserFq12_ok_iff _ _ _).mp hd, List.length_append, serFq12_length] at h; omega

/-- a non-reduced coefficient after fewer than twelve valid ones -/
theorem deserFq12_nonreduced (as : List Fq) (bad tail : Bytes) (hn : as.length < 12)
    (hb : bad.length = 48) (hbad : ¬ beToNat bad < Gen.q) :
    deserFq12 ((as.map Fq.toBytes).flatten ++ (bad ++ tail)) = .error .notInField := by
  unfold deserFq12
  rw [readFqs_notInField 12 as bad tail hn hb hbad]

/-- the `panic` arm of the model (`.ok _ => .error .panic`) is unreachable -/
theorem deserFq12_ne_panic (rd : Bytes) : deserFq12 rd ≠ .error .panic := by
  intro h; rcases deserFq12_error _ _ h with h' | h' <;> cases h'

/-! ### points -/
section points
variable {F : Type} [Field F] [DecidableEq F] [FieldOps F] [LawfulFieldOps F] [SqrtOps F] [LawfulSqrtOps F]
variable {cc : Codec F} {C : ZCash.Coord F}

/-- the bytes are those of the point encoding (C05) -/
theorem serAffine_eq_encode (A : Aff F) (c : Bool) :
    serAffine cc A c = if c then encodeCompressed cc A else encodeUncompressed cc A := rfl

theorem serAffine_eq_zcash (L : cc.Lawful C) (A : Aff F) (c : Bool) :
    serAffine cc A c = ZCash.encode (cc.curve C) (if c then .compressed else .uncompressed) A := by
  cases c
  · exact encodeUncompressed_eq L A
  · exact encodeCompressed_eq L A

theorem serAffine_length (L : cc.Lawful C) (A : Aff F) (c : Bool) :
    (serAffine cc A c).length = if c then cc.size else 2 * cc.size := by
  cases c
  · exact encodeUncompressed_length L A
  · exact encodeCompressed_length L A

/-- projective and affine forms coincide: `serialize` of a projective point is that of `into_affine` -/
theorem serJac_eq (p : Jac F) (c : Bool) : serJac cc p c = p.toAffine.map (fun a => serAffine cc a c) := rfl

theorem deserJac_eq (rd : Bytes) (c : Bool) :
    deserJac cc rd c = (deserAffine cc rd c).map (fun p => (p.1.toJac, p.2)) := by
  unfold deserJac
  cases deserAffine cc rd c with
  | error e => rfl
  | ok p => rfl

/-- a value is returned exactly when the checked decoder accepts the prefix; exactly that prefix is consumed -/
theorem deserAffine_compressed_ok_iff (L : cc.Lawful C) (rd : Bytes) (A : Aff F) (rest : Bytes) :
    deserAffine cc rd true = .ok (A, rest) ↔
      cc.size ≤ rd.length ∧ decodeCompressed cc (rd.take cc.size) = .ok A ∧ rest = rd.drop cc.size :=
  deserAffine_ok_iff_c L.size_pos rd A rest

theorem deserAffine_uncompressed_ok_iff (L : cc.Lawful C) (rd : Bytes) (A : Aff F) (rest : Bytes) :
    deserAffine cc rd false = .ok (A, rest) ↔
      2 * cc.size ≤ rd.length ∧ decodeUncompressed cc (rd.take (2 * cc.size)) = .ok A ∧
        rest = rd.drop (2 * cc.size) := deserAffine_ok_iff_u L.size_pos rd A rest

theorem deserJac_ok_iff (rd : Bytes) (c : Bool) (P : Jac F) (rest : Bytes) :
    deserJac cc rd c = .ok (P, rest) ↔ ∃ A, deserAffine cc rd c = .ok (A, rest) ∧ P = A.toJac := by
  unfold deserJac
  cases deserAffine cc rd c with
  | error e' => exact ⟨nofun, fun ⟨_, h, _⟩ => nomatch h⟩
  | ok p =>
    obtain ⟨a, r⟩ := p
    exact ⟨fun h => by cases h; exact ⟨a, rfl, rfl⟩, fun ⟨A, h, hP⟩ => by cases h; rw [hP]⟩

/-- round trip, exact consumption, any trailing data -/
theorem deserAffine_serAffine (L : cc.Lawful C) (A : Aff F) (c : Bool) (tail : Bytes)
    (hinf : A.infinity = true → A = Aff.zero) (hs : Aff.inSubgroup cc.b A = true) :
    deserAffine cc (serAffine cc A c ++ tail) c = .ok (A, tail) := by
  have hc := Aff.isOnCurve_of_inSubgroup _ _ hs
  cases c
  · have hl : (serAffine cc A false).length = 2 * cc.size := encodeUncompressed_length L A
    rw [deserAffine_uncompressed_ok_iff L, List.take_left' hl, List.drop_left' hl, List.length_append, hl]
    exact ⟨by omega, decodeUncompressed_encode L A hinf hc hs, rfl⟩
  · have hl : (serAffine cc A true).length = cc.size := encodeCompressed_length L A
    rw [deserAffine_compressed_ok_iff L, List.take_left' hl, List.drop_left' hl, List.length_append, hl]
    exact ⟨by omega, decodeCompressed_encode L A hinf hs, rfl⟩

theorem deserJac_serJac (L : cc.Lawful C) (P : Jac F) (A : Aff F) (c : Bool) (tail : Bytes)
    (hA : P.toAffine = some A) (hs : Aff.inSubgroup cc.b A = true) :
    serJac cc P c = some (serAffine cc A c) ∧
      deserJac cc (serAffine cc A c ++ tail) c = .ok (A.toJac, tail) := by
  refine ⟨by rw [serJac_eq, hA]; rfl, ?_⟩
  rw [deserJac_ok_iff]
  exact ⟨A, deserAffine_serAffine L A c tail (Jac.toAffine_infinity P A hA) hs, rfl⟩

/-- with the group abstraction of C01: what is read back is the ORIGINAL group element -/
theorem deserJac_serJac_abs {G : Type} [AddCommGroup G] (GM : GroupModel F G) (L : cc.Lawful C)
    (P : Jac F) (c : Bool) (tail : Bytes) (hP : GM.ValidJ P)
    (hs : ∀ A, P.toAffine = some A → Aff.inSubgroup cc.b A = true) :
    ∃ bytes Q, serJac cc P c = some bytes ∧ deserJac cc (bytes ++ tail) c = .ok (Q, tail) ∧
      GM.ValidJ Q ∧ GM.absJ Q = GM.absJ P := by
  obtain ⟨A, hA, hvA, habs⟩ := GM.toAffine_ok P hP
  obtain ⟨h1, h2⟩ := deserJac_serJac L P A c tail hA (hs A hA)
  exact ⟨_, _, h1, h2, GM.toJac_valid A hvA, by rw [GM.toJac_abs A hvA, habs]⟩

/-- truncated input, first read -/
theorem deserAffine_truncated (rd : Bytes) (c : Bool) (h : rd.length < cc.size) :
    deserAffine cc rd c = .error .eof := deserAffine_eof rd c h

/-- truncated input, second read of the uncompressed form -/
theorem deserAffine_truncated2 (L : cc.Lawful C) (rd : Bytes) (h1 : cc.size ≤ rd.length)
    (h2 : rd.length < 2 * cc.size) (h7 : rd.headD 0 &&& 0x80 = 0) :
    deserAffine cc rd false = .error .eof := by
  rw [deserAffine_uncompressed L.size_pos rd h1, if_neg (not_not.mpr h7), if_pos h2]

/-- a compression flag that contradicts bit 7 of the data -/
theorem deserAffine_flag_mismatch (L : cc.Lawful C) (rd : Bytes) (c : Bool) (h : cc.size ≤ rd.length)
    (hflag : decide (rd.headD 0 &&& 0x80 ≠ 0) ≠ c) : deserAffine cc rd c = .error .compressness := by
  cases c
  · rw [deserAffine_uncompressed L.size_pos rd h, if_pos (by simpa using hflag)]
  · rw [deserAffine_compressed L.size_pos rd h, if_pos (by simpa using hflag)]

/-- everything the checked decoders reject is rejected (with the decoder's reason) -/
theorem deserAffine_decode_error_compressed (L : cc.Lawful C) (rd : Bytes) (h : cc.size ≤ rd.length)
    (h7 : rd.headD 0 &&& 0x80 ≠ 0) (e : DecodeErr) (he : decodeCompressed cc (rd.take cc.size) = .error e) :
    deserAffine cc rd true = .error (.decode e) := by
  rw [deserAffine_compressed L.size_pos rd h, if_neg h7, he]

theorem deserAffine_decode_error_uncompressed (L : cc.Lawful C) (rd : Bytes) (h : 2 * cc.size ≤ rd.length)
    (h7 : rd.headD 0 &&& 0x80 = 0) (e : DecodeErr)
    (he : decodeUncompressed cc (rd.take (2 * cc.size)) = .error e) :
    deserAffine cc rd false = .error (.decode e) := by
  rw [deserAffine_uncompressed L.size_pos rd (by omega), if_neg (not_not.mpr h7), if_neg (by omega), he]

theorem deserJac_error_iff (rd : Bytes) (c : Bool) (e : SerErr) :
    deserJac cc rd c = .error e ↔ deserAffine cc rd c = .error e := by
  unfold deserJac
  cases deserAffine cc rd c with
  | error e' => exact ⟨fun h => by cases h; rfl, fun h => by cases h; rfl⟩
  | ok p => exact ⟨nofun, nofun⟩

/-- the only errors are `eof`, `compressness`, `decode _`; in particular never `panic` -/
theorem deserAffine_error (L : cc.Lawful C) (rd : Bytes) (c : Bool) (e : SerErr)
    (h : deserAffine cc rd c = .error e) : e = .eof ∨ e = .compressness ∨ ∃ d, e = .decode d := by
  by_cases hl : cc.size ≤ rd.length
  swap
  · rw [deserAffine_truncated rd c (by omega)] at h; cases h; exact Or.inl rfl
  cases c
  · rw [deserAffine_uncompressed L.size_pos rd hl] at h
    by_cases h7 : rd.headD 0 &&& 0x80 ≠ 0
    · rw [if_pos h7] at h; cases h; exact Or.inr (Or.inl rfl)
    rw [if_neg h7] at h
    by_cases h2 : rd.length < 2 * cc.size
    · rw [if_pos h2] at h; cases h; exact Or.inl rfl
    rw [if_neg h2] at h
    cases hd : decodeUncompressed cc (rd.take (2 * cc.size)) with
    | error d => rw [hd] at h; cases h; exact Or.inr (Or.inr ⟨d, rfl⟩)
    | ok a => rw [hd] at h; cases h
  · rw [deserAffine_compressed L.size_pos rd hl] at h
    by_cases h7 : rd.headD 0 &&& 0x80 = 0
    · rw [if_pos h7] at h; cases h; exact Or.inr (Or.inl rfl)
    rw [if_neg h7] at h
    cases hd : decodeCompressed cc (rd.take cc.size) with
    | error d => rw [hd] at h; cases h; exact Or.inr (Or.inr ⟨d, rfl⟩)
    | ok a => rw [hd] at h; cases h

theorem deserAffine_ne_panic (L : cc.Lawful C) (rd : Bytes) (c : Bool) : deserAffine cc rd c ≠ .error .panic := by
  intro h
  rcases deserAffine_error L rd c _ h with h' | h' | ⟨d, h'⟩ <;> cases h'

theorem deserJac_ne_panic (L : cc.Lawful C) (rd : Bytes) (c : Bool) : deserJac cc rd c ≠ .error .panic :=
  fun h => deserAffine_ne_panic L rd c ((deserJac_error_iff rd c _).mp h)

end points

/-! ### non-vacuity: concrete evaluations (kernel, `decide +kernel`) -/
namespace Examples

def outcome {α : Type} (r : Except SerErr (α × Bytes)) : Option SerErr × Option (α × Bytes) :=
  match r with
  | .ok a => (none, some a)
  | .error e => (some e, none)

def gen1 : Aff Fq := ⟨Fq.ofMont Gen.G1_GENERATOR_X, Fq.ofMont Gen.G1_GENERATOR_Y, false⟩

example : outcome (deserFr (List.replicate 31 0 ++ [5, 0xaa])) = (none, some (Zp.ofNat 5, [0xaa])) := by
  decide +kernel
example : outcome (deserFr (List.replicate 31 0)) = (some .eof, none) := by decide +kernel
example : outcome (deserFr (List.replicate 32 0xff)) = (some .notInField, none) := by decide +kernel
example : (outcome (deserFq12 (List.replicate 575 0))).1 = some .eof := by decide +kernel
example : (outcome (deserFq12 (List.replicate 576 0 ++ [7]))).2.map (·.2) = some [7] := by decide +kernel
example : (outcome (deserFq12 (List.replicate 48 0 ++ List.replicate 48 0xff))).1 = some .notInField := by
  decide +kernel
-- points: each error class
example : (outcome (deserAffine g1Codec (List.replicate 47 0) true)).1 = some .eof := by decide +kernel
example : (outcome (deserAffine g1Codec (List.replicate 95 0) false)).1 = some .eof := by decide +kernel
example : (outcome (deserAffine g1Codec (List.replicate 48 0) true)).1 = some .compressness := by decide +kernel
example : (outcome (deserAffine g1Codec (0xc0 :: List.replicate 95 0) false)).1 = some .compressness := by
  decide +kernel
example : (outcome (deserAffine g1Codec (0x80 :: List.replicate 47 0) true)).1 =
    some (.decode .notInSubgroup) := by
  have hd : decodeCompressed g1Codec ((0x80 :: List.replicate 47 0 : Bytes).take g1Codec.size) = .error .notInSubgroup :=
    decodeCompressed_g1_x0
  rw [deserAffine_compressed (by decide) _ (by decide), if_neg (by decide), hd]
  rfl
example : (outcome (deserAffine g1Codec (List.replicate 96 0) false)).1 = some (.decode .notOnCurve) := by
  decide +kernel
example : outcome (deserAffine g1Codec (0xc0 :: List.replicate 47 0 ++ [1, 2, 3]) true) =
    (none, some (Aff.zero, [1, 2, 3])) := by
  have hu : decodeCompressedUnchecked g1Codec ((0xc0 :: List.replicate 47 0 ++ [1, 2, 3] : Bytes).take g1Codec.size) =
      .ok Aff.zero := by decide +kernel
  rw [(deserAffine_ok_iff_c (by decide) _ Aff.zero [1, 2, 3]).mpr ⟨by decide,
    (decodeCompressed_ok_iff_unchecked _ _).mpr ⟨hu, Aff.inSubgroup_of_infinity (by decide) _ _ rfl⟩, by decide⟩]
  rfl
example : outcome (deserAffine g1Codec (serAffine g1Codec gen1 false ++ [9]) false) = (none, some (gen1, [9])) := by
  have hu : decodeUncompressedUnchecked g1Codec ((serAffine g1Codec gen1 false ++ [9]).take (2 * g1Codec.size)) =
      .ok gen1 := by decide +kernel
  rw [(deserAffine_ok_iff_u (by decide) _ gen1 [9]).mpr ⟨by decide +kernel,
    (decodeUncompressed_ok_iff_unchecked _ _).mpr
      ⟨hu, Aff.isOnCurve_of_inSubgroup _ _ generatorG1_inSubgroup, generatorG1_inSubgroup⟩,
    by decide +kernel⟩]
  rfl
-- the hypotheses of the round-trip theorem hold of the generator (`LawfulSqrtOps Fq` is assumed here only
-- because this file does not import its instance)
example [LawfulSqrtOps Fq] (c : Bool) (tail : Bytes) :
    deserAffine g1Codec (serAffine g1Codec gen1 c ++ tail) c = .ok (gen1, tail) :=
  deserAffine_serAffine g1Codec_lawful gen1 c tail (fun h => nomatch h) generatorG1_inSubgroup

end Examples

end PP.C19
