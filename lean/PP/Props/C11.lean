/-
PROPERTY C11.  "For every list of (G1,G2) pairs, of any length including zero, final exponentiation of
the joint Miller loop equals the product of the individual pairings; pairs containing the identity
contribute the factor 1 regardless of their position. The two-pair and slice-based product helpers agree
with this for equal-length inputs, so that for P_i=[a_i]g1, Q_i=[b_i]g2 the result is
e(g1,g2)^(sum a_i b_i) - in particular exactly 1 when the exponents cancel. Prepared elements can be
reused across any number of evaluations."

How the statement is rendered.
* `millerLoop : List (Aff Fq × G2Prepared) → Option Fq12`, `finalExponentiation`, `pairing`,
  `pairingProduct`, `pairingMultiProduct` are the model functions of `PP/Model/Pairing.lean`; `none` is a
  panic of the Rust code (`unwrap` of an exhausted coefficient iterator in `miller_loop`, `unwrap` of the
  `None` of `final_exponentiation`, out-of-bounds index `prep_q[i]` in `pairing_multi_product`).
* products are taken in `Option`: `Miller.optMul`, `Miller.optProd` are `none` as soon as one factor is
  `none`, so every equation below also says exactly when the two sides panic.
* `Fq12` carries the `Field` structure of `PP.Proofs.Tower` built on the model's own operations.

WHAT IS PROVED: the product STRUCTURE, for all inputs (no curve/subgroup hypothesis is needed):
joint Miller loop = product of single Miller loops; identity pairs contribute `1` at any position;
the order of the pairs is irrelevant; exactly when the loop panics (a non-identity pair with fewer than
68 coefficients; never for pairs prepared by `G2Prepared::from_affine`, which produces exactly 68);
final exponentiation of the joint loop = product of the individual pairings; the two-pair and the slice
helpers are these products; the slice helper panics when `q` is shorter than `p`.

PROVED ELSEWHERE: the clause "for P_i=[a_i]g1, Q_i=[b_i]g2 the result is e(g1,g2)^(Σ a_i b_i)" needs the
BILINEARITY of the pairing; it is `multiProduct_exponent` of PP/Props/C03Bilinear.lean (and
PP/Props/C03BilinearZ.lean for integer scalars), from `pairingMultiProduct_eq_prod`.  The cancelling
instances at the generators (`cancel_instance_*`, on the points `g1`, `g2` defined at the end of this file)
are proved in PP/Props/C11Neg.lean from the cancellation law.
-/
import PP.Proofs.Miller

namespace PP.C11
open PP Miller

/-! ## coefficient counting: the Miller loop never runs out of prepared coefficients -/

/-- the loop runs over 62 bits of `BLS_X >> 1` (those after the leading one), 5 of which are set -/
theorem blsXBits_length : blsXBits.length = 62 := Miller.blsXBits_length
theorem blsXBits_popcount : blsXBits.count true = 5 := Miller.blsXBits_count

/-- `G2Prepared::from_affine` of a finite point has exactly 62 + 5 + 1 = 68 coefficients … -/
theorem prepared_length (q : Aff Fq2) (h : q.infinity = false) :
    (G2Prepared.fromAffine q).coeffs.length = 68 := by
  rw [fromAffine_length q h, coeffCount_eq]

/-- … and of the point at infinity none, with the flag set -/
theorem prepared_infinity (q : Aff Fq2) : (G2Prepared.fromAffine q).infinity = q.infinity :=
  fromAffine_infinity q

theorem prepared_length_infinity (q : Aff Fq2) (h : q.infinity = true) :
    (G2Prepared.fromAffine q).coeffs = [] := fromAffine_coeffs_infinity q h

/-- **exactly when the Miller loop panics**: some pair without identity member carries fewer than 68
    coefficients (the loop consumes exactly 68 per such pair) -/
theorem miller_none_iff (ps : List (Aff Fq × G2Prepared)) :
    millerLoop ps = none ↔
      ∃ pq ∈ ps, pq.1.infinity = false ∧ pq.2.infinity = false ∧ pq.2.coeffs.length < 68 := by
  rw [millerLoop_eq_none_iff, coeffCount_eq]

theorem miller_ne_none_of_length (ps : List (Aff Fq × G2Prepared))
    (h : ∀ pq ∈ ps, pq.1.infinity = false → pq.2.infinity = false → 68 ≤ pq.2.coeffs.length) :
    millerLoop ps ≠ none := by
  rw [Ne, miller_none_iff]
  rintro ⟨pq, hm, h1, h2, h3⟩
  exact absurd (h pq hm h1 h2) (Nat.not_le.mpr h3)

/-- pairs prepared by `from_affine` never make the loop panic -/
theorem miller_prepared_ne_none (ps : List (Aff Fq)) (qs : List (Aff Fq2)) :
    millerLoop (List.zip ps (qs.map G2Prepared.fromAffine)) ≠ none :=
  millerLoop_zip_fromAffine_ne_none ps qs

theorem miller_prepared_single_ne_none (p : Aff Fq) (q : Aff Fq2) :
    millerLoop [(p, G2Prepared.fromAffine q)] ≠ none := by
  rw [millerLoop_single]; exact single_fromAffine_ne_none p q

/-! ## the joint Miller loop is the product of the individual Miller loops -/

/-- length zero: the empty product -/
theorem miller_nil : millerLoop [] = some 1 := millerLoop_nil

/-- a pair with an identity member contributes the factor `1` -/
theorem miller_identity_pair (pq : Aff Fq × G2Prepared)
    (h : pq.1.infinity = true ∨ pq.2.infinity = true) : millerLoop [pq] = some 1 := by
  rw [millerLoop_single, single]
  rcases h with h | h <;> simp [h]

/-- **product structure**, in `Option`, for every list of prepared pairs: the joint loop is the product
    of the single loops and panics exactly when one of them does -/
theorem miller_product_option (ps : List (Aff Fq × G2Prepared)) :
    millerLoop ps = optProd (ps.map fun pq => millerLoop [pq]) := millerLoop_eq_optProd ps

/-- **product structure**: if the individual loops give `m_p` then the joint loop gives `∏ m_p` -/
theorem miller_product (ps : List (Aff Fq × G2Prepared)) (ms : List Fq12)
    (h : List.Forall₂ (fun pq m => millerLoop [pq] = some m) ps ms) :
    millerLoop ps = some ms.prod := by
  rw [miller_product_option]
  have : (ps.map fun pq => millerLoop [pq]) = ms.map some := by
    induction h with
    | nil => rfl
    | cons h _ ih => simp [h, ih]
  rw [this, optProd_map_some]

/-- conversely a successful joint loop is such a product -/
theorem miller_product_converse (ps : List (Aff Fq × G2Prepared)) (f : Fq12)
    (h : millerLoop ps = some f) :
    ∃ ms : List Fq12, List.Forall₂ (fun pq m => millerLoop [pq] = some m) ps ms ∧ f = ms.prod := by
  rw [miller_product_option, optProd_eq_some_iff] at h
  obtain ⟨ms, h1, h2⟩ := h
  refine ⟨ms, ?_, h2⟩
  clear h2
  induction ps generalizing ms with
  | nil =>
    have : ms = [] := by simpa using h1.symm
    subst this; exact List.Forall₂.nil
  | cons pq ps ih =>
    cases ms with
    | nil => simp at h1
    | cons m ms =>
      simp only [List.map_cons, List.cons.injEq] at h1
      exact List.Forall₂.cons h1.1 (ih ms h1.2)

theorem miller_append (l₁ l₂ : List (Aff Fq × G2Prepared)) :
    millerLoop (l₁ ++ l₂) = optMul (millerLoop l₁) (millerLoop l₂) := by
  rw [miller_product_option, List.map_append, optProd_append, ← miller_product_option,
    ← miller_product_option]

/-- a pair with an identity member can be removed **at any position** -/
theorem identity_pair_any_position (l₁ l₂ : List (Aff Fq × G2Prepared)) (pq : Aff Fq × G2Prepared)
    (h : pq.1.infinity = true ∨ pq.2.infinity = true) :
    millerLoop (l₁ ++ pq :: l₂) = millerLoop (l₁ ++ l₂) := by
  rw [miller_append, millerLoop_cons, miller_identity_pair pq h, optMul_one_left, ← miller_append]

/-- the order of the pairs is irrelevant -/
theorem miller_perm {ps ps' : List (Aff Fq × G2Prepared)} (h : ps.Perm ps') :
    millerLoop ps = millerLoop ps' := by
  rw [miller_product_option, miller_product_option]
  exact optProd_perm (h.map _)

/-! ## final exponentiation of the joint Miller loop = product of the individual pairings -/

/-- the final exponentiation of a product is the product of the final exponentiations (`FinalExp.fe_mul_all`
    iterated), in `Option`: `none` exactly when a factor is `0` -/
theorem fe_product (ms : List Fq12) :
    finalExponentiation ms.prod = optProd (ms.map finalExponentiation) := by
  induction ms with
  | nil => rw [List.prod_nil, List.map_nil, optProd_nil]; exact FinalExp.fe_one
  | cons m ms ih =>
    rw [List.prod_cons, List.map_cons, optProd_cons, ← ih, FinalExp.fe_mul_all]
    cases finalExponentiation m <;> cases finalExponentiation ms.prod <;> rfl

/-- **final exponentiation of the joint Miller loop** of any list of prepared pairs = product of the
    final exponentiations of the individual Miller loops -/
theorem fe_miller_product (ps : List (Aff Fq × G2Prepared)) :
    (millerLoop ps).bind finalExponentiation =
      optProd (ps.map fun pq => (millerLoop [pq]).bind finalExponentiation) := fe_millerLoop ps

/-- `pairing` is the final exponentiation of the one-pair Miller loop on the freshly prepared `q` -/
theorem pairing_eq (p : Aff Fq) (q : Aff Fq2) :
    pairing p q = (millerLoop [(p, G2Prepared.fromAffine q)]).bind finalExponentiation :=
  Miller.pairing_eq p q

/-- `pairing` panics exactly when the Miller value is `0` (the Miller loop itself never panics) -/
theorem pairing_none_iff (p : Aff Fq) (q : Aff Fq2) :
    pairing p q = none ↔ millerLoop [(p, G2Prepared.fromAffine q)] = some 0 := by
  rw [pairing_eq]
  cases h : millerLoop [(p, G2Prepared.fromAffine q)] with
  | none => exact absurd h (miller_prepared_single_ne_none p q)
  | some m => simp [FinalExp.fe_none_iff]

/-- **the slice-based helper** `pairing_multi_product(p, q)` with `p.len() ≤ q.len()` (in particular for
    equal lengths, including zero) is the product of the individual pairings `e(p_i, q_i)`; surplus
    entries of `q` are ignored as in the Rust code -/
theorem pairingMultiProduct_eq_prod (ps : List (Aff Fq)) (qs : List (Aff Fq2))
    (h : ps.length ≤ qs.length) :
    pairingMultiProduct ps qs = optProd (List.zipWith pairing ps qs) := by
  rw [pairingMultiProduct_eq ps qs (Nat.not_lt.mpr h), fe_millerLoop]
  congr 1
  clear h
  induction ps generalizing qs with
  | nil => rfl
  | cons p ps ih =>
    cases qs with
    | nil => rfl
    | cons q qs => simp only [List.map_cons, List.zip_cons_cons, List.zipWith_cons_cons, ih]; rfl

/-- in terms of results -/
theorem pairingMultiProduct_some (ps : List (Aff Fq)) (qs : List (Aff Fq2)) (es : List Fq12)
    (hlen : ps.length = qs.length) (h : List.zipWith pairing ps qs = es.map some) :
    pairingMultiProduct ps qs = some es.prod := by
  rw [pairingMultiProduct_eq_prod ps qs hlen.le, h, optProd_map_some]

/-- it panics exactly when one of the individual pairings would (a zero Miller value) -/
theorem pairingMultiProduct_none_iff (ps : List (Aff Fq)) (qs : List (Aff Fq2))
    (h : ps.length ≤ qs.length) :
    pairingMultiProduct ps qs = none ↔ none ∈ List.zipWith pairing ps qs := by
  rw [pairingMultiProduct_eq_prod ps qs h, optProd_eq_none_iff]

/-- the explicit guard of the model = the out-of-bounds index `prep_q[i]` of the Rust code -/
theorem pairingMultiProduct_short (ps : List (Aff Fq)) (qs : List (Aff Fq2))
    (h : qs.length < ps.length) : pairingMultiProduct ps qs = none := by
  unfold pairingMultiProduct; rw [if_pos h]

/-- length zero -/
theorem pairingMultiProduct_nil (qs : List (Aff Fq2)) : pairingMultiProduct [] qs = some 1 := by
  rw [pairingMultiProduct_eq_prod [] qs (Nat.zero_le _)]; rfl

/-- **the two-pair helper** `pairing_product(p1, q1, p2, q2) = e(p1,q1) · e(p2,q2)` -/
theorem pairingProduct_eq_mul (p1 : Aff Fq) (q1 : Aff Fq2) (p2 : Aff Fq) (q2 : Aff Fq2) :
    pairingProduct p1 q1 p2 q2 = optMul (pairing p1 q1) (pairing p2 q2) := by
  rw [pairingProduct_eq, fe_millerLoop]
  simp only [List.map_cons, List.map_nil, optProd_cons, optProd_nil, optMul_one_right]
  rfl

theorem pairingProduct_some (p1 : Aff Fq) (q1 : Aff Fq2) (p2 : Aff Fq) (q2 : Aff Fq2)
    (e1 e2 : Fq12) (h1 : pairing p1 q1 = some e1) (h2 : pairing p2 q2 = some e2) :
    pairingProduct p1 q1 p2 q2 = some (e1 * e2) := by
  rw [pairingProduct_eq_mul, h1, h2]; rfl

/-- the helpers agree with each other -/
theorem pairingProduct_eq_multi (p1 : Aff Fq) (q1 : Aff Fq2) (p2 : Aff Fq) (q2 : Aff Fq2) :
    pairingProduct p1 q1 p2 q2 = pairingMultiProduct [p1, p2] [q1, q2] := by
  rw [pairingProduct_eq_mul, pairingMultiProduct_eq_prod _ _ (le_refl _)]
  simp [optMul_one_right]

theorem pairing_eq_multi (p : Aff Fq) (q : Aff Fq2) :
    pairing p q = pairingMultiProduct [p] [q] := by
  rw [pairingMultiProduct_eq_prod _ _ (le_refl _)]
  simp [optMul_one_right]

/-- a pair with an identity member has pairing `1` … -/
theorem pairing_identity (p : Aff Fq) (q : Aff Fq2) (h : p.infinity = true ∨ q.infinity = true) :
    pairing p q = some 1 := by
  rw [pairing_eq, miller_identity_pair _ (by rw [prepared_infinity]; exact h), Option.bind_some]
  exact FinalExp.fe_one

/-- … hence can be removed from the slice-based product **at any position** -/
theorem pairingMultiProduct_identity_any_position (ps₁ ps₂ : List (Aff Fq)) (qs₁ qs₂ : List (Aff Fq2))
    (p : Aff Fq) (q : Aff Fq2) (h₁ : ps₁.length = qs₁.length) (h₂ : ps₂.length ≤ qs₂.length)
    (h : p.infinity = true ∨ q.infinity = true) :
    pairingMultiProduct (ps₁ ++ p :: ps₂) (qs₁ ++ q :: qs₂) =
      pairingMultiProduct (ps₁ ++ ps₂) (qs₁ ++ qs₂) := by
  rw [pairingMultiProduct_eq_prod _ _ (by simp [h₁]; omega),
    pairingMultiProduct_eq_prod _ _ (by simp [h₁]; omega),
    List.zipWith_append h₁, List.zipWith_append h₁, optProd_append, optProd_append,
    List.zipWith_cons_cons, optProd_cons, pairing_identity p q h, optMul_one_left]

/-! ## reuse of prepared elements

`G2Prepared.fromAffine` is a function and `millerLoop` receives the prepared value by value (the Rust
code takes `&G2Prepared` and creates a fresh `coeffs.iter()` for every pair of every call), so nothing is
consumed: any number of evaluations with the same prepared element see the same coefficients.  In the
pure model this is `rfl`; the one non-trivial instance is the reuse of one prepared element several
times inside the SAME call, which is the product of the individual evaluations: -/

theorem prepared_reuse_across_calls (prep : G2Prepared) (p : Aff Fq) :
    millerLoop [(p, prep)] = millerLoop [(p, prep)] := rfl

theorem prepared_reuse_same_call (prep : G2Prepared) (pts : List (Aff Fq)) :
    millerLoop (pts.map fun p => (p, prep)) = optProd (pts.map fun p => millerLoop [(p, prep)]) := by
  rw [miller_product_option, List.map_map]; rfl

/-! ## the generators and their negatives, for the instances `cancel_instance_*` of PP/Props/C11Neg.lean -/

def g1 : Aff Fq := ⟨Fq.ofMont Gen.G1_GENERATOR_X, Fq.ofMont Gen.G1_GENERATOR_Y, false⟩
def g2 : Aff Fq2 :=
  ⟨⟨Fq.ofMont Gen.G2_GENERATOR_X_C0, Fq.ofMont Gen.G2_GENERATOR_X_C1⟩,
   ⟨Fq.ofMont Gen.G2_GENERATOR_Y_C0, Fq.ofMont Gen.G2_GENERATOR_Y_C1⟩, false⟩
/-- `-g1`, `-g2` (`y ↦ -y`) -/
def g1neg : Aff Fq := ⟨g1.x, -g1.y, false⟩
def g2neg : Aff Fq2 := ⟨g2.x, -g2.y, false⟩

end PP.C11
