/-
C17, INSTANTIATED.  `clear_h` for G1 (`clearHG1 : Jac Fq → Jac Fq`) and G2 (`clearHG2 : Jac Fq2 →
Jac Fq2`, literally at the type `Fq2` of the model's tower) with the `GroupModel` interface of
`PP/Props/C17.lean` discharged by the C01 instances `g1Model`, `g2Model`: on EVERY point of the
curve (not only of the order-`r` subgroup) cofactor clearing is multiplication by `h_eff` in
Mathlib's group `(W b).Point`; it is additive and maps the identity to the identity.

The subgroup clauses keep the hypotheses of C17, with the same names: `hexp` (the exponent of
`E(Fq)` divides `(1 − x)·r`) and `hord` (`#E'(Fq2) = h₂·r`).  They are hypotheses in this file and
are PROVED in PP.Props.CurveOrder (`g1_exponent`, `g2_order`, without point counting: trivial bound +
negative trace + explicit generators), which states the hypothesis-free `g1_clearH_inSub'`, `g2_clearH_inSub'`.
-/
import PP.Proofs.Assembly
import PP.Proofs.Subgroup

namespace PP.C17Inst

open PP C17

local notation "b₁" => g1Codec.b
local notation "b₂" => g2Codec.b

/-- **C17, G1**: `clear_h(P) = [0xd201000000010001] P` for every point `P` of `E(Fq)` -/
theorem g1_clearH (P : Jac Fq) (hP : Jac.OnCurve b₁ P) :
    Jac.OnCurve b₁ (clearHG1 P) ∧ Jac.abs b₁ (clearHG1 P) = hEffG1 • Jac.abs b₁ P :=
  PP.g1_clearH P hP

/-- additive -/
theorem g1_clearH_add (P Q : Jac Fq) (hP : Jac.OnCurve b₁ P) (hQ : Jac.OnCurve b₁ Q) :
    Jac.abs b₁ (clearHG1 (P.add Q)) = Jac.abs b₁ (clearHG1 P) + Jac.abs b₁ (clearHG1 Q) :=
  C17.clearH_G1_add g1Model P Q hP hQ

/-- identity to identity -/
theorem g1_clearH_zero :
    Jac.OnCurve b₁ (clearHG1 Jac.zero) ∧ Jac.abs b₁ (clearHG1 Jac.zero) = 0 ∧
      (clearHG1 Jac.zero).isZero = true :=
  C17.clearH_G1_zero g1Model

/-- any triple with `z = 0` (any representation of the identity) goes to the identity -/
theorem g1_clearH_isZero (P : Jac Fq) (h : P.isZero = true) : (clearHG1 P).isZero = true :=
  C17.smulMap_isZero g1Model (f := clearHG1) (C17.clearH_G1 g1Model) P (Or.inl ((Iso.jac_isZero_iff P).mp h)) h

/-- subgroup clause, hypothesis `hexp` -/
theorem g1_clearH_inSub (hexp : ∀ g : (W b₁).Point, (0xd201000000010001 * Gen.r) • g = 0)
    (P : Jac Fq) (hP : Jac.OnCurve b₁ P) : Jac.InSub b₁ (clearHG1 P) :=
  ⟨(g1_clearH P hP).1, g1_clearH_killed hexp P hP⟩

/-- on a point that is already in the subgroup no hypothesis is needed -/
theorem g1_clearH_inSub_of_inSub (P : Jac Fq) (hP : Jac.InSub b₁ P) : Jac.InSub b₁ (clearHG1 P) :=
  ⟨(g1_clearH P hP.1).1, by rw [(g1_clearH P hP.1).2]; exact killed_nsmul hP.2 _⟩

/-- **C17, G2**: `clear_h(P) = [h_eff] P` (`h_eff = 3(x²−1)h₂`, the 636-bit RFC 9380 constant) for
    every point `P` of `E'(Fq2)` -/
theorem g2_clearH (P : Jac Fq2) (hP : Jac.OnCurve b₂ P) :
    Jac.OnCurve b₂ (clearHG2 P) ∧ Jac.abs b₂ (clearHG2 P) = hEffG2 • Jac.abs b₂ P :=
  PP.g2_clearH P hP

/-- additive -/
theorem g2_clearH_add (P Q : Jac Fq2) (hP : Jac.OnCurve b₂ P) (hQ : Jac.OnCurve b₂ Q) :
    Jac.abs b₂ (clearHG2 (P.add Q)) = Jac.abs b₂ (clearHG2 P) + Jac.abs b₂ (clearHG2 Q) :=
  C17.clearH_G2_add g2Model P Q hP hQ

/-- identity to identity -/
theorem g2_clearH_zero :
    Jac.OnCurve b₂ (clearHG2 Jac.zero) ∧ Jac.abs b₂ (clearHG2 Jac.zero) = 0 ∧
      (clearHG2 Jac.zero).isZero = true :=
  C17.clearH_G2_zero g2Model

theorem g2_clearH_isZero (P : Jac Fq2) (h : P.isZero = true) : (clearHG2 P).isZero = true :=
  C17.smulMap_isZero g2Model (f := clearHG2) (C17.clearH_G2 g2Model) P (Or.inl ((Iso.jac_isZero_iff P).mp h)) h

/-- subgroup clause, hypothesis `hord` -/
theorem g2_clearH_inSub (hord : ∀ g : (W b₂).Point, (Gen.G2_COFACTOR * Gen.r) • g = 0)
    (P : Jac Fq2) (hP : Jac.OnCurve b₂ P) : Jac.InSub b₂ (clearHG2 P) :=
  ⟨(g2_clearH P hP).1, g2_clearH_killed hord P hP⟩

theorem g2_clearH_inSub_of_inSub (P : Jac Fq2) (hP : Jac.InSub b₂ P) : Jac.InSub b₂ (clearHG2 P) :=
  ⟨(g2_clearH P hP.1).1, by rw [(g2_clearH P hP.1).2]; exact killed_nsmul hP.2 _⟩

theorem hEffG1_val : hEffG1 = Gen.BLS_X + 1 := C17.hEffG1_eq
theorem hEffG2_val : hEffG2 = 3 * (Gen.BLS_X ^ 2 - 1) * Gen.G2_COFACTOR := C17.hEffG2_eq

end PP.C17Inst
