/-
PROPERTY C18.  "For every element a of Fq, Fr or Fq2, the square-root routine returns some b with
b^2=a whenever a is a square and reports failure otherwise, and the Legendre symbol is zero /
residue / non-residue exactly according to Euler's criterion (for Fq2: of the norm). sgn0 is the
parity of the canonical integer (for Fq2: of the first non-zero coefficient, real part first), the
order on Fq is that of canonical integers and on Fq2 lexicographic with the u-coefficient most
significant, so for every y != 0 exactly one of y, -y is the larger and sgn0(-y) != sgn0(y) in Fq."

Status: everything is proved unconditionally for `Fq`, `Fr` and for the sign / order / Legendre
part of `Fq2`.  The `Fq2.sqrt` statements (`fq2_sqrt_*_of`) carry the explicit hypothesis
`Fq2Sqrt.FieldHyp` (a `Field Fq2` on the model's operations, `x^(q²-1) = 1`,
`frobeniusMap x 1 = x^q`), which the tower proofs discharge.
-/
import PP.Proofs.Sqrt
import PP.Proofs.SqrtFr
import PP.Proofs.SqrtFq2

namespace PP
namespace C18

/-! ## Fq -/

/-- `Fq::sqrt`: a returned value is a square root. -/
theorem fq_sqrt_sound (a b : Fq) (h : Fq.sqrt a = some b) : b * b = a := Fq.sqrt_sound a b h

/-- `Fq::sqrt` reports failure exactly on non-squares. -/
theorem fq_sqrt_none_iff (a : Fq) : Fq.sqrt a = none ↔ ¬ IsSquare a := Fq.sqrt_none_iff a

/-- `Fq::sqrt` returns a root of every square (including `0`). -/
theorem fq_sqrt_complete (a : Fq) (h : IsSquare a) : ∃ b, Fq.sqrt a = some b ∧ b * b = a :=
  Fq.sqrt_complete a h

/-- `Fq::legendre` computes `a^((q-1)/2)` and classifies it (Euler's criterion, formula). -/
theorem fq_legendre_formula (a : Fq) : Fq.legendre a =
    if a ^ ((Gen.q - 1) / 2) = 0 then .zero
    else if a ^ ((Gen.q - 1) / 2) = 1 then .residue else .nonResidue := Fq.legendre_eq a

/-- `Fq::legendre` is zero / residue / non-residue exactly as `a` is `0` / a non-zero square /
    a non-square. -/
theorem fq_legendre (a : Fq) :
    (Fq.legendre a = .zero ↔ a = 0) ∧ (Fq.legendre a = .residue ↔ a ≠ 0 ∧ IsSquare a) ∧
    (Fq.legendre a = .nonResidue ↔ ¬ IsSquare a) :=
  ⟨Fq.legendre_zero_iff a, Fq.legendre_residue_iff a, Fq.legendre_nonResidue_iff a⟩

/-! ## Fr -/

/-- The fuel of the model of `Fr::sqrt` is never exhausted: the Rust `while`/`loop` loops terminate
    on every input and `m - i - 1` never underflows. -/
theorem fr_sqrt_terminates (a : Fr) : Fr.sqrtFuel a ≠ none := Fr.sqrtFuel_ne_none a

theorem fr_sqrtFuel_sound (a b : Fr) (h : Fr.sqrtFuel a = some (some b)) : b * b = a :=
  Fr.sqrtFuel_sound a b h

theorem fr_sqrtFuel_none_iff (a : Fr) : Fr.sqrtFuel a = some none ↔ ¬ IsSquare a :=
  Fr.sqrtFuel_none_iff a

/-- `Fr::sqrt` (Tonelli–Shanks): a returned value is a square root. -/
theorem fr_sqrt_sound (a b : Fr) (h : Fr.sqrt a = some b) : b * b = a := Fr.sqrt_sound a b h

/-- `Fr::sqrt` reports failure exactly on non-squares. -/
theorem fr_sqrt_none_iff (a : Fr) : Fr.sqrt a = none ↔ ¬ IsSquare a := Fr.sqrt_none_iff a

theorem fr_sqrt_complete (a : Fr) (h : IsSquare a) : ∃ b, Fr.sqrt a = some b ∧ b * b = a :=
  Fr.sqrt_complete a h

theorem fr_legendre_formula (a : Fr) : Fr.legendre a =
    if a ^ ((Gen.r - 1) / 2) = 0 then .zero
    else if a ^ ((Gen.r - 1) / 2) = 1 then .residue else .nonResidue := Fr.legendre_eq a

theorem fr_legendre (a : Fr) :
    (Fr.legendre a = .zero ↔ a = 0) ∧ (Fr.legendre a = .residue ↔ a ≠ 0 ∧ IsSquare a) ∧
    (Fr.legendre a = .nonResidue ↔ ¬ IsSquare a) :=
  ⟨Fr.legendre_zero_iff a, Fr.legendre_residue_iff a, Fr.legendre_nonResidue_iff a⟩

/-- the Tonelli–Shanks constant has multiplicative order exactly `2^S = 2^32` -/
theorem fr_root_of_unity_order :
    (Fr.ofMont Gen.fr_ROOT_OF_UNITY) ^ (2 ^ 32) = 1 ∧ (Fr.ofMont Gen.fr_ROOT_OF_UNITY) ^ (2 ^ 31) ≠ 1 :=
  ⟨Fr.root_pow_full, Fr.root_pow_half_ne_one⟩

/-! ## sign and order on the prime fields (`Fq`; the same lemmas hold for `Fr`) -/

/-- `sgn0` is the parity of the canonical integer. -/
theorem sgn0_fq (a : Fq) : Zp.sgn0 a = .negative ↔ a.v % 2 = 1 := Zp.sgn0_negative_iff a

/-- `Ord for Fq` is `<` on canonical integers … -/
theorem lt_fq (a b : Fq) : Zp.lt a b = true ↔ a.v < b.v := Zp.lt_iff a b

/-- … hence a strict total order. -/
theorem lt_fq_strict_total :
    (∀ a : Fq, Zp.lt a a = false) ∧
    (∀ a b : Fq, Zp.lt a b = true → Zp.lt b a = false) ∧
    (∀ a b c : Fq, Zp.lt a b = true → Zp.lt b c = true → Zp.lt a c = true) ∧
    (∀ a b : Fq, a ≠ b → Zp.lt a b = true ∨ Zp.lt b a = true) :=
  ⟨Zp.lt_irrefl, Zp.lt_asymm, Zp.lt_trans, Zp.lt_total⟩

/-- for `y ≠ 0`, `y ≠ -y` and exactly one of `y`, `-y` is the larger -/
theorem neg_order (y : Fq) (hy : y ≠ 0) :
    y ≠ -y ∧ (Zp.lt y (-y) = true ↔ Zp.lt (-y) y = false) :=
  ⟨Fq.ne_neg_self y hy, Fq.neg_order y hy⟩

theorem neg_order_xor (y : Fq) (hy : y ≠ 0) :
    (Zp.lt y (-y) = true ∧ Zp.lt (-y) y = false) ∨ (Zp.lt (-y) y = true ∧ Zp.lt y (-y) = false) :=
  Zp.neg_order_xor Fq.q_odd y hy

theorem sgn0_neg (y : Fq) (hy : y ≠ 0) : Zp.sgn0 (-y) ≠ Zp.sgn0 y := Fq.sgn0_neg y hy

theorem sgn0_neg_fr (y : Fr) (hy : y ≠ 0) : Zp.sgn0 (-y) ≠ Zp.sgn0 y := Fr.sgn0_neg y hy

/-! ## Fq2: sign, order, Legendre symbol (unconditional) -/

/-- `sgn0` on `Fq2`: of the first non-zero coefficient, real part first. -/
theorem sgn0_fq2 (a : Fq2) :
    Fq2.sgn0 a = if a.c0 = 0 then Zp.sgn0 a.c1 else Zp.sgn0 a.c0 := Fq2Sqrt.sgn0_eq a

/-- `Ord for Fq2` is lexicographic with the `u`-coefficient most significant … -/
theorem lt_fq2 (a b : Fq2) :
    Fq2.lt a b = true ↔ a.c1.v < b.c1.v ∨ (a.c1.v = b.c1.v ∧ a.c0.v < b.c0.v) :=
  Fq2Sqrt.lt_iff a b

/-- … hence a strict total order. -/
theorem lt_fq2_strict_total :
    (∀ a : Fq2, Fq2.lt a a = false) ∧
    (∀ a b : Fq2, Fq2.lt a b = true → Fq2.lt b a = false) ∧
    (∀ a b c : Fq2, Fq2.lt a b = true → Fq2.lt b c = true → Fq2.lt a c = true) ∧
    (∀ a b : Fq2, a ≠ b → Fq2.lt a b = true ∨ Fq2.lt b a = true) :=
  ⟨Fq2Sqrt.lt_irrefl, Fq2Sqrt.lt_asymm, Fq2Sqrt.lt_trans, Fq2Sqrt.lt_total⟩

/-- for `y ≠ 0` in `Fq2` (componentwise negation) exactly one of `y`, `-y` is the larger -/
theorem neg_order_fq2 (y : Fq2) (hy : y ≠ 0) :
    (Fq2.lt y (-y) = true ∧ Fq2.lt (-y) y = false) ∨
    (Fq2.lt (-y) y = true ∧ Fq2.lt y (-y) = false) := Fq2Sqrt.neg_order_fq2 y hy

/-- `Fq2::legendre` is the Legendre symbol of the norm, i.e. Euler's criterion applied to the norm. -/
theorem fq2_legendre (a : Fq2) :
    Fq2.legendre a = Fq.legendre (Fq2.norm a) ∧
    Fq2.norm a = a.c1 * a.c1 + a.c0 * a.c0 ∧
    (Fq2.legendre a = .zero ↔ a = 0) ∧
    (Fq2.legendre a = .residue ↔ a ≠ 0 ∧ IsSquare (Fq2.norm a)) ∧
    (Fq2.legendre a = .nonResidue ↔ ¬ IsSquare (Fq2.norm a)) :=
  ⟨rfl, rfl, Fq2Sqrt.legendre_zero_iff a, Fq2Sqrt.legendre_residue_iff a,
    Fq2Sqrt.legendre_nonResidue_iff a⟩

/-! ## Fq2: square root, under the explicit hypotheses `Fq2Sqrt.FieldHyp` -/

section
-- as in `PP.Proofs.SqrtFq2`: switch the model's notation instances off locally, so that `b * b`
-- and `IsSquare` below are those of the hypothesised `Field Fq2` (which `FieldHyp` equates with
-- the model's operations)
attribute [-instance] Fq2.instMul Fq2.instOne Fq2.instZero Fq2.instAdd Fq2.instNeg Fq2.instSub
  Fq2.instInhabited
variable [Field Fq2]

/-- `Fq2::sqrt` (Algorithm 9): a returned value is a square root. -/
theorem fq2_sqrt_sound_of (H : Fq2Sqrt.FieldHyp) (a b : Fq2) (h : Fq2.sqrt a = some b) :
    b * b = a := Fq2Sqrt.fq2_sqrt_sound_of H a b h

/-- `Fq2::sqrt` reports failure exactly on non-squares. -/
theorem fq2_sqrt_none_iff_of (H : Fq2Sqrt.FieldHyp) (a : Fq2) :
    Fq2.sqrt a = none ↔ ¬ IsSquare a := Fq2Sqrt.fq2_sqrt_none_iff_of H a

/-- `Fq2::sqrt` returns a root of every square. -/
theorem fq2_sqrt_complete_of (H : Fq2Sqrt.FieldHyp) (a : Fq2) (h : IsSquare a) :
    ∃ b, Fq2.sqrt a = some b ∧ b * b = a := Fq2Sqrt.fq2_sqrt_complete_of H a h

end

/-! ## the interface instances consumed by the decoders -/

example : LawfulSqrtOps Fq := inferInstance
example : LawfulSqrtOps Fr := inferInstance

/-! ## non-vacuity: the routines on concrete inputs (kernel evaluation of the model; where the
theorems above tie a value to one already evaluated, through them) -/

theorem fq_sqrt_four : Fq.sqrt (Zp.ofNat 4) = some (Zp.ofNat (Gen.q - 2)) := by decide +kernel
theorem fq_legendre_two : Fq.legendre (Zp.ofNat 2) = .nonResidue := by decide +kernel

example : Fq.sqrt (Zp.ofNat 4) = some (Zp.ofNat (Gen.q - 2)) := fq_sqrt_four
example : Fq.sqrt 0 = some 0 := by
  obtain ⟨b, hb, hbb⟩ := Fq.sqrt_complete 0 ⟨0, (mul_zero 0).symm⟩
  rw [hb, mul_self_eq_zero.1 hbb]
example : Fq.sqrt (Zp.ofNat 2) = none :=
  (Fq.sqrt_none_iff _).2 ((Fq.legendre_nonResidue_iff _).1 fq_legendre_two)
example : Fq.legendre (Zp.ofNat 2) = .nonResidue := fq_legendre_two
example : Fq.legendre (Zp.ofNat 4) = .residue :=
  (Fq.legendre_residue_iff _).2 ⟨by decide +kernel, _, (Fq.sqrt_sound _ _ fq_sqrt_four).symm⟩
example : Fq.legendre 0 = .zero := (Fq.legendre_zero_iff 0).2 rfl
example : Fr.sqrtFuel (Zp.ofNat 4) = some (some (Zp.ofNat (Gen.r - 2))) := by decide +kernel
example : Fr.sqrt (Zp.ofNat 7) = none := by decide +kernel
example : Fr.legendre (Zp.ofNat 5) = .nonResidue := by decide +kernel
/-- an input on which the Tonelli–Shanks outer loop actually iterates -/
example : Fr.sqrt (Fr.ofMont Gen.fr_ROOT_OF_UNITY * Fr.ofMont Gen.fr_ROOT_OF_UNITY)
    = some (Fr.ofMont Gen.fr_ROOT_OF_UNITY) := by decide +kernel
example : Fq2.sqrt ⟨Zp.ofNat 3, Zp.ofNat 4⟩ = some ⟨Zp.ofNat 2, 1⟩ := by decide +kernel
example : Fq2.sqrt ⟨1, 1⟩ = none := by decide +kernel
example : (Fq2.sqrt ⟨0, 1⟩).isSome = true := by decide +kernel
example : Fq2.legendre ⟨1, 1⟩ = .nonResidue := by
  have e : Fq2.norm ⟨1, 1⟩ = Zp.ofNat 2 := by decide +kernel
  exact (congrArg Fq.legendre e).trans fq_legendre_two
example : Fq2.sgn0 ⟨0, 1⟩ = .negative := by decide +kernel
example : Fq2.lt ⟨Zp.ofNat 5, 1⟩ ⟨0, Zp.ofNat 2⟩ = true := by decide +kernel
example : Zp.sgn0 (-(1 : Fq)) = .nonNegative ∧ Zp.sgn0 (1 : Fq) = .negative := by decide +kernel

end C18
end PP
