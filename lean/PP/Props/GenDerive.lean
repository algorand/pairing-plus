/-
GENERATED CODE = HAND MODEL, for the derive output of `Fq` / `Fr` / `FqRepr` / `FrRepr`.

Objects.
* `PP.Gen.D.*` (PP/Gen/Derive.lean): one Lean definition per Rust function of the `#[derive(PrimeField)]`
  output other than the unrolled multiplication, translated on every run from the macro-expanded crate by
  extract/extract_derive.py (one `let` per Rust statement; conventions in the header of that file), plus
  `Field::pow` translated from the sources of the `ff` crate.  Primitives taken as given (their Rust text
  is checked by the extractor): `ff::adc`, `ff::sbb`, `BitIterator`; `u64::leading_zeros`; the loop
  combinators.  `mul_assign` / `square` / `mont_reduce` are the IR programs of PP/Gen/MontProg.lean run by
  the interpreter of PP/Model/MontLimb.lean (PP/Props/C08Limb.lean).
* `PP.Mont.*` (PP/Model/Mont.lean): the hand-written model -- limb lists for the repr type, integers
  (raw Montgomery values) for the field type -- about which PP/Props/C08.lean proves "arithmetic mod p".
* `Limbs n a` : `a` has `n` limbs, each `< 2^64`; `limbsToNat` / `limbsOf n` : value of / limbs of.

Statements: for the repr type `D.R.f a = Mont.f a` (equality of limb lists); for the field type
`D.F.f a = limbsOf n (Mont.f P (limbsToNat a))`, for ALL well-formed limb lists (also unreduced values).
Loops: a generated function with a `while` takes `fuel` (`none` = not finished after `fuel` tests of the
loop condition, the convention of the model's `invLoop`); `inverse` is proved equal to the model's with the
model's own fuel, and `PP.Props.C08.inverse_ok` (fuel adequacy) is then applied.  `legendre` / `sqrt` are
compared with the canonical-level model (`PP.Fq.sqrt`, `PP.Fr.sqrtFuel`) through `toFq` / `toFr`.

NOT covered: that rustc compiles the expanded source faithfully; Rust's overflow checks on `u32`/`usize`
arithmetic (listed in the header of PP/Gen/Derive.lean; the one place where this matters is
`m - i - 1` in `Fr::sqrt`, where the model returns `none` on underflow and the theorem goes through the
model's proof that this never happens); functions listed as NOT TRANSLATED in PP/Gen/Derive.lean.
-/
import PP.Proofs.GenDerive


namespace PP.GenDerive
open PP PP.Gen PP.Mont PP.Limbs PP.C08Limb PP.Props.C08

/-- `Ordering` as the model's `-1 / 0 / 1` is injective, so `ordToInt (cmp ..) = Mont.cmp ..` determines `cmp` -/
theorem ordToInt_inj {x y : Ordering} (h : ordToInt x = ordToInt y) : x = y := ordToInt_injective h

/-- the primitives are the model's -/
theorem prim_adc {a b c : Nat} (ha : a < 2 ^ 64) (hb : b < 2 ^ 64) (hc : c < 2 ^ 64) :
    D.adc a b c = Mont.adc a b c := adc_eq ha hb hc
theorem prim_sbb (a b c : Nat) : D.sbb a b c = Mont.sbb a b c := sbb_eq a b c
theorem prim_leading_zeros (w : Nat) : D.leading_zeros w = Mont.leadingZeros64 w := rfl

/-! ## 1. `FqRepr` = `[u64; 6]` and `Fq` -/

section fq
variable {a b : List Nat}

/-! ### constants -/

theorem fq_consts :
    D.Fq.MODULUS = limbsOf 6 Gen.fq_MODULUS ∧ D.Fq.R = limbsOf 6 Gen.fq_R ∧
    D.Fq.R2 = limbsOf 6 Gen.fq_R2 ∧ D.Fq.INV = Gen.fq_INV ∧
    D.Fq.GENERATOR = limbsOf 6 Gen.fq_GENERATOR ∧ D.Fq.ROOT_OF_UNITY = limbsOf 6 Gen.fq_ROOT_OF_UNITY ∧
    D.Fq.S = Gen.fq_S ∧ D.Fq.MODULUS_BITS = Gen.fq_MODULUS_BITS ∧
    D.Fq.REPR_SHAVE_BITS = Gen.fq_REPR_SHAVE_BITS ∧
    D.Fq.PrimeField_NUM_BITS = Gen.fq_MODULUS_BITS ∧ D.Fq.PrimeField_CAPACITY = Gen.fq_MODULUS_BITS - 1 ∧
    D.Fq.PrimeField_S = Gen.fq_S := by decide +kernel

/-! ### `FqRepr` (limb lists; `Mont.*` of PP/Model/Mont.lean) -/

/-- `Default`: all limbs zero -/
theorem fqrepr_default : D.FqRepr.default = limbsOf 6 0 := by decide
/-- derived `PartialEq`: equality of the limb arrays -/
theorem fqrepr_eq (a b : List Nat) : D.FqRepr.eq a b = (a == b) := rfl
/-- `From<u64>` (the expression of `Mont.reprOp "from_u64"`) -/
theorem fqrepr_from_u64 {v : Nat} (hv : v < 2 ^ 64) :
    D.FqRepr.from_u64 v = (v % Mont.W64) :: List.replicate (6 - 1) 0 := by
  rw [Mont.W64, Nat.mod_eq_of_lt hv]; rfl
/-- `Ord::cmp`, for ALL lists -/
theorem fqrepr_cmp (a b : List Nat) : ordToInt (D.FqRepr.cmp a b) = Mont.cmp a b := FqRepr_cmp a b
theorem fqrepr_partial_cmp (a b : List Nat) : D.FqRepr.partial_cmp a b = some (D.FqRepr.cmp a b) := FqRepr_partial_cmp a b
theorem fqrepr_is_odd (a : List Nat) : D.FqRepr.is_odd a = Mont.isOdd a := FqRepr_is_odd a
theorem fqrepr_is_even (a : List Nat) : D.FqRepr.is_even a = !Mont.isOdd a := FqRepr_is_even a
theorem fqrepr_is_zero (a : List Nat) : D.FqRepr.is_zero a = Mont.isZero a := rfl
theorem fqrepr_div2 (a : List Nat) : D.FqRepr.div2 a = Mont.div2 a := FqRepr_div2 a
theorem fqrepr_mul2 (a : List Nat) : D.FqRepr.mul2 a = Mont.mul2 a := FqRepr_mul2 a
/-- `shr(n)`: the `while n >= 64` loop needs `n / 64 + 1` tests of its condition -/
theorem fqrepr_shr (fuel n : Nat) (hl : a.length = 6) (hf : n / 64 < fuel) :
    D.FqRepr.shr fuel a n = some (Mont.shr a n) :=
  G.shift_eq (fun _ h => forMutRev_swap_shrLimb (fun _ _ => rfl) h) shrLimb_ne_nil
    (fun _ _ => forMutRev_shrBits (fun _ _ => rfl) _) fuel n hl hf
theorem fqrepr_shl (fuel n : Nat) (hl : a.length = 6) (hf : n / 64 < fuel) :
    D.FqRepr.shl fuel a n = some (Mont.shl a n) :=
  G.shift_eq (fun _ h => forMut_swap_shlLimb (fun _ _ => rfl) h) shlLimb_ne_nil
    (fun _ _ => forMut_shlBits (fun _ _ => rfl) _) fuel n hl hf
theorem fqrepr_num_bits (hl : a.length = 6) : D.FqRepr.num_bits a = Mont.numBits a := G.num_bits_eq hl
theorem fqrepr_add_nocarry (ha : Limbs 6 a) (hb : Limbs 6 b) :
    D.FqRepr.add_nocarry a b = Mont.addNocarry a b 0 := FqRepr_add_nocarry ha.2 hb.2 (by rw [ha.1, hb.1])
theorem fqrepr_sub_noborrow (hl : a.length = b.length) :
    D.FqRepr.sub_noborrow a b = Mont.subNoborrow a b 0 := FqRepr_sub_noborrow hl

/-! ### `Fq` (value level: `limbsToNat` of the argument, `limbsOf 6` of the model's result) -/

theorem fq_eq (a b : List Nat) : D.Fq.eq a b = (a == b) := Fq_eq a b
theorem fq_is_valid (ha : Limbs 6 a) : D.Fq.is_valid a = decide (limbsToNat a < fqP.p) :=
  is_valid_rep ⟨ha, rfl⟩ fqC.hM
theorem fq_reduce (ha : Limbs 6 a) : D.Fq.reduce a = limbsOf 6 (Mont.reduce fqP (limbsToNat a)) :=
  (fqC.reduce ⟨ha, rfl⟩).eq_limbsOf
/-- the unrolled multiplication (PP/Gen/MontProg.lean; proved in PP/Props/C08Limb.lean) -/
theorem fq_mul_assign (ha : Limbs 6 a) (hb : Limbs 6 b) :
    D.Fq.mul_assign a b = limbsOf 6 (Mont.mul fqP (limbsToNat a) (limbsToNat b)) :=
  (fqC.hmul ⟨ha, rfl⟩ ⟨hb, rfl⟩).eq_limbsOf
theorem fq_square (ha : Limbs 6 a) : D.Fq.square a = limbsOf 6 (Mont.square fqP (limbsToNat a)) :=
  (fqC.hsq ⟨ha, rfl⟩).eq_limbsOf
theorem fq_mont_reduce (s : List Nat) {rs : List Nat} (hrs : Limbs 12 rs) :
    D.Fq.mont_reduce s rs = limbsOf 6 (Mont.montReduce fqP (limbsToNat rs)) :=
  Rep.eq_limbsOf ⟨runMontReduce_limbs fqP _ hrs.2, fq_mont_reduce_limb_eq rs hrs⟩
theorem fq_zero : D.Fq.zero = limbsOf 6 0 := by decide
theorem fq_one : D.Fq.one = limbsOf 6 fqP.R := fqC.hR.eq_limbsOf
theorem fq_is_zero (a : List Nat) : D.Fq.is_zero a = decide (limbsToNat a = 0) := is_zero_val a
theorem fq_add_assign (ha : Limbs 6 a) (hb : Limbs 6 b) :
    D.Fq.add_assign a b = limbsOf 6 (Mont.add fqP (limbsToNat a) (limbsToNat b)) :=
  (fqC.add_assign ⟨ha, rfl⟩ ⟨hb, rfl⟩).eq_limbsOf
theorem fq_double (ha : Limbs 6 a) : D.Fq.double a = limbsOf 6 (Mont.double fqP (limbsToNat a)) :=
  (fqC.double ⟨ha, rfl⟩).eq_limbsOf
theorem fq_sub_assign (ha : Limbs 6 a) (hb : Limbs 6 b) :
    D.Fq.sub_assign a b = limbsOf 6 (Mont.sub fqP (limbsToNat a) (limbsToNat b)) :=
  (fqC.sub_assign ⟨ha, rfl⟩ ⟨hb, rfl⟩).eq_limbsOf
theorem fq_negate (ha : Limbs 6 a) : D.Fq.negate a = limbsOf 6 (Mont.neg fqP (limbsToNat a)) :=
  (fqC.negate ⟨ha, rfl⟩).eq_limbsOf
/-- `from_repr`: `Err(..)` is `none` -/
theorem fq_from_repr (ha : Limbs 6 a) :
    D.Fq.from_repr a = (Mont.fromRepr fqP (limbsToNat a)).map (limbsOf 6) := fqC.from_repr ⟨ha, rfl⟩
theorem fq_into_repr (ha : Limbs 6 a) :
    D.Fq.into_repr a = limbsOf 6 (Mont.intoRepr fqP (limbsToNat a)) :=
  (Fq_into_repr ⟨ha, rfl⟩).eq_limbsOf
theorem fq_char : D.Fq.char = limbsOf 6 fqP.p := fqC.hM.eq_limbsOf
theorem fq_multiplicative_generator : D.Fq.multiplicative_generator = limbsOf 6 Gen.fq_GENERATOR :=
  fq_consts.2.2.2.2.1
theorem fq_root_of_unity : D.Fq.root_of_unity = limbsOf 6 Gen.fq_ROOT_OF_UNITY :=
  fq_consts.2.2.2.2.2.1
/-- `Ord for Fq` compares `into_repr()` -/
theorem fq_cmp (ha : Limbs 6 a) (hb : Limbs 6 b) :
    D.Fq.cmp a b = compare (Mont.intoRepr fqP (limbsToNat a)) (Mont.intoRepr fqP (limbsToNat b)) :=
  cmp_rep (Fq_into_repr ⟨ha, rfl⟩) (Fq_into_repr ⟨hb, rfl⟩)
theorem fq_partial_cmp (a b : List Nat) : D.Fq.partial_cmp a b = some (D.Fq.cmp a b) := Fq_partial_cmp a b
theorem fqrepr_from_fe (a : List Nat) : D.FqRepr.from_fe a = D.Fq.into_repr a := FqRepr_from_fe a
theorem fq_frobenius_map (a : List Nat) (k : Nat) : D.Fq.frobenius_map a k = a := Fq_frobenius_map a k
/-- `Field::pow` (ff crate), exponent = ANY list of limbs -/
theorem fq_pow (e : List Nat) (ha : Limbs 6 a) :
    D.Fq.pow a e = limbsOf 6 (Mont.pow fqP (limbsToNat a) e) :=
  (fqC.pow ⟨ha, rfl⟩ e).eq_limbsOf

/-- `inverse`, any outer fuel, inner loops with fuel `≥ 64·6`: the model's main loop with the same fuel
    (`none` = out of fuel), for ALL well-formed inputs (also unreduced ones) -/
theorem fq_inverse_fuel (fuel : Nat) (hf : 64 * 6 ≤ fuel) (ha : Limbs 6 a) :
    D.Fq.inverse fuel a =
      if limbsToNat a = 0 then some none
      else (Mont.invLoop fqP fuel (limbsToNat a) fqP.p fqP.R2 0).map (fun x => some (limbsOf 6 x)) :=
  (Fq_inverse_unfold fuel a).trans (fqC.inverse_invLoop fuel hf ⟨ha, rfl⟩)

/-- `inverse` with the model's fuel `2·64·6 + 2` IS the model's `inverse` (outer `none` = out of fuel;
    by `PP.Props.C08.inverse_ok` that does not happen for reduced inputs and a prime modulus) -/
theorem fq_inverse (ha : Limbs 6 a) :
    D.Fq.inverse (2 * 64 * 6 + 2) a =
      (Mont.inverse fqP (limbsToNat a)).map (fun o => o.map (limbsOf 6)) :=
  (Fq_inverse_unfold _ a).trans (fqC.inverse ⟨ha, rfl⟩)

/-- … hence, for a reduced input: never out of fuel, `None` exactly for zero, otherwise
    the Montgomery form of the modular inverse -/
theorem fq_inverse_total (ha : Limbs 6 a) (hlt : limbsToNat a < fqP.p) :
    (limbsToNat a = 0 → D.Fq.inverse (2 * 64 * 6 + 2) a = some none) ∧
    (limbsToNat a ≠ 0 → ∃ x, D.Fq.inverse (2 * 64 * 6 + 2) a = some (some (limbsOf 6 x)) ∧ x < fqP.p ∧
      dec fqP (limbsToNat a) * dec fqP x % fqP.p = 1) := by
  rw [fq_inverse ha]
  refine ⟨fun h0 => ?_, fun h0 => ?_⟩
  · rw [(inverse_none_iff fqP _).2 h0]; rfl
  · obtain ⟨x, hx, hxl, hxv⟩ := inverse_ok fqP_wf hlt (fqP_p ▸ Primes.q_prime) h0
    exact ⟨x, by rw [hx]; rfl, hxl, hxv⟩

/-- `legendre` against the canonical-level model (reduced input) -/
theorem fq_legendre (ha : Limbs 6 a) (hlt : limbsToNat a < Gen.q) :
    D.Fq.legendre a = PP.Fq.legendre (toFq (limbsToNat a)) :=
  Fq_legendre ⟨ha, fqP_p ▸ hlt, rfl⟩

/-- every operation returns `6` limbs `< 2^64` -/
theorem fq_closed (ha : Limbs 6 a) (hb : Limbs 6 b) :
    Limbs 6 (D.FqRepr.add_nocarry a b) ∧ Limbs 6 (D.FqRepr.sub_noborrow a b) ∧ Limbs 6 (D.FqRepr.div2 a) ∧
    Limbs 6 (D.FqRepr.mul2 a) ∧ Limbs 6 (D.Fq.reduce a) ∧ Limbs 6 (D.Fq.add_assign a b) ∧
    Limbs 6 (D.Fq.sub_assign a b) ∧ Limbs 6 (D.Fq.double a) ∧ Limbs 6 (D.Fq.negate a) ∧
    Limbs 6 (D.Fq.mul_assign a b) ∧ Limbs 6 (D.Fq.square a) ∧ Limbs 6 (D.Fq.into_repr a) ∧
    (∀ e, Limbs 6 (D.Fq.pow a e)) :=
  have ra : Rep 6 a _ := ⟨ha, rfl⟩
  have rb : Rep 6 b _ := ⟨hb, rfl⟩
  ⟨(add_nocarry_rep ra rb).1, (sub_noborrow_rep ra rb).1, (div2_rep ra).1, (mul2_rep ra).1, (fqC.reduce ra).1,
    (fqC.add_assign ra rb).1, (fqC.sub_assign ra rb).1, (fqC.double ra).1, (fqC.negate ra).1, (fqC.hmul ra rb).1,
    (fqC.hsq ra).1, (Fq_into_repr ra).1, fun e => (fqC.pow ra e).1⟩

end fq

/-! ## 2. `FrRepr` = `[u64; 4]` and `Fr` -/

section fr
variable {a b : List Nat}

/-! ### constants -/

theorem fr_consts :
    D.Fr.MODULUS = limbsOf 4 Gen.fr_MODULUS ∧ D.Fr.R = limbsOf 4 Gen.fr_R ∧
    D.Fr.R2 = limbsOf 4 Gen.fr_R2 ∧ D.Fr.INV = Gen.fr_INV ∧
    D.Fr.GENERATOR = limbsOf 4 Gen.fr_GENERATOR ∧ D.Fr.ROOT_OF_UNITY = limbsOf 4 Gen.fr_ROOT_OF_UNITY ∧
    D.Fr.S = Gen.fr_S ∧ D.Fr.MODULUS_BITS = Gen.fr_MODULUS_BITS ∧
    D.Fr.REPR_SHAVE_BITS = Gen.fr_REPR_SHAVE_BITS ∧
    D.Fr.PrimeField_NUM_BITS = Gen.fr_MODULUS_BITS ∧ D.Fr.PrimeField_CAPACITY = Gen.fr_MODULUS_BITS - 1 ∧
    D.Fr.PrimeField_S = Gen.fr_S := by decide +kernel

/-! ### `FrRepr` (limb lists; `Mont.*` of PP/Model/Mont.lean) -/

/-- `Default`: all limbs zero -/
theorem frrepr_default : D.FrRepr.default = limbsOf 4 0 := by decide
/-- derived `PartialEq`: equality of the limb arrays -/
theorem frrepr_eq (a b : List Nat) : D.FrRepr.eq a b = (a == b) := rfl
/-- `From<u64>` (the expression of `Mont.reprOp "from_u64"`) -/
theorem frrepr_from_u64 {v : Nat} (hv : v < 2 ^ 64) :
    D.FrRepr.from_u64 v = (v % Mont.W64) :: List.replicate (4 - 1) 0 := by
  rw [Mont.W64, Nat.mod_eq_of_lt hv]; rfl
/-- `Ord::cmp`, for ALL lists -/
theorem frrepr_cmp (a b : List Nat) : ordToInt (D.FrRepr.cmp a b) = Mont.cmp a b := FqRepr_cmp a b
theorem frrepr_partial_cmp (a b : List Nat) : D.FrRepr.partial_cmp a b = some (D.FrRepr.cmp a b) := FrRepr_partial_cmp a b
theorem frrepr_is_odd (a : List Nat) : D.FrRepr.is_odd a = Mont.isOdd a := FqRepr_is_odd a
theorem frrepr_is_even (a : List Nat) : D.FrRepr.is_even a = !Mont.isOdd a := FqRepr_is_even a
theorem frrepr_is_zero (a : List Nat) : D.FrRepr.is_zero a = Mont.isZero a := rfl
theorem frrepr_div2 (a : List Nat) : D.FrRepr.div2 a = Mont.div2 a := FqRepr_div2 a
theorem frrepr_mul2 (a : List Nat) : D.FrRepr.mul2 a = Mont.mul2 a := FqRepr_mul2 a
/-- `shr(n)`: the `while n >= 64` loop needs `n / 64 + 1` tests of its condition -/
theorem frrepr_shr (fuel n : Nat) (hl : a.length = 4) (hf : n / 64 < fuel) :
    D.FrRepr.shr fuel a n = some (Mont.shr a n) :=
  G.shift_eq (fun _ h => forMutRev_swap_shrLimb (fun _ _ => rfl) h) shrLimb_ne_nil
    (fun _ _ => forMutRev_shrBits (fun _ _ => rfl) _) fuel n hl hf
theorem frrepr_shl (fuel n : Nat) (hl : a.length = 4) (hf : n / 64 < fuel) :
    D.FrRepr.shl fuel a n = some (Mont.shl a n) :=
  G.shift_eq (fun _ h => forMut_swap_shlLimb (fun _ _ => rfl) h) shlLimb_ne_nil
    (fun _ _ => forMut_shlBits (fun _ _ => rfl) _) fuel n hl hf
theorem frrepr_num_bits (hl : a.length = 4) : D.FrRepr.num_bits a = Mont.numBits a := G.num_bits_eq hl
theorem frrepr_add_nocarry (ha : Limbs 4 a) (hb : Limbs 4 b) :
    D.FrRepr.add_nocarry a b = Mont.addNocarry a b 0 := FqRepr_add_nocarry ha.2 hb.2 (by rw [ha.1, hb.1])
theorem frrepr_sub_noborrow (hl : a.length = b.length) :
    D.FrRepr.sub_noborrow a b = Mont.subNoborrow a b 0 := FqRepr_sub_noborrow hl

/-! ### `Fr` (value level: `limbsToNat` of the argument, `limbsOf 4` of the model's result) -/

theorem fr_eq (a b : List Nat) : D.Fr.eq a b = (a == b) := Fr_eq a b
theorem fr_is_valid (ha : Limbs 4 a) : D.Fr.is_valid a = decide (limbsToNat a < frP.p) :=
  is_valid_rep ⟨ha, rfl⟩ frC.hM
theorem fr_reduce (ha : Limbs 4 a) : D.Fr.reduce a = limbsOf 4 (Mont.reduce frP (limbsToNat a)) :=
  (frC.reduce ⟨ha, rfl⟩).eq_limbsOf
/-- the unrolled multiplication (PP/Gen/MontProg.lean; proved in PP/Props/C08Limb.lean) -/
theorem fr_mul_assign (ha : Limbs 4 a) (hb : Limbs 4 b) :
    D.Fr.mul_assign a b = limbsOf 4 (Mont.mul frP (limbsToNat a) (limbsToNat b)) :=
  (frC.hmul ⟨ha, rfl⟩ ⟨hb, rfl⟩).eq_limbsOf
theorem fr_square (ha : Limbs 4 a) : D.Fr.square a = limbsOf 4 (Mont.square frP (limbsToNat a)) :=
  (frC.hsq ⟨ha, rfl⟩).eq_limbsOf
theorem fr_mont_reduce (s : List Nat) {rs : List Nat} (hrs : Limbs 8 rs) :
    D.Fr.mont_reduce s rs = limbsOf 4 (Mont.montReduce frP (limbsToNat rs)) :=
  Rep.eq_limbsOf ⟨runMontReduce_limbs frP _ hrs.2, fr_mont_reduce_limb_eq rs hrs⟩
theorem fr_zero : D.Fr.zero = limbsOf 4 0 := Fr_zero
theorem fr_one : D.Fr.one = limbsOf 4 frP.R := frC.hR.eq_limbsOf
theorem fr_is_zero (a : List Nat) : D.Fr.is_zero a = decide (limbsToNat a = 0) := is_zero_val a
theorem fr_add_assign (ha : Limbs 4 a) (hb : Limbs 4 b) :
    D.Fr.add_assign a b = limbsOf 4 (Mont.add frP (limbsToNat a) (limbsToNat b)) :=
  (frC.add_assign ⟨ha, rfl⟩ ⟨hb, rfl⟩).eq_limbsOf
theorem fr_double (ha : Limbs 4 a) : D.Fr.double a = limbsOf 4 (Mont.double frP (limbsToNat a)) :=
  (frC.double ⟨ha, rfl⟩).eq_limbsOf
theorem fr_sub_assign (ha : Limbs 4 a) (hb : Limbs 4 b) :
    D.Fr.sub_assign a b = limbsOf 4 (Mont.sub frP (limbsToNat a) (limbsToNat b)) :=
  (frC.sub_assign ⟨ha, rfl⟩ ⟨hb, rfl⟩).eq_limbsOf
theorem fr_negate (ha : Limbs 4 a) : D.Fr.negate a = limbsOf 4 (Mont.neg frP (limbsToNat a)) :=
  (frC.negate ⟨ha, rfl⟩).eq_limbsOf
/-- `from_repr`: `Err(..)` is `none` -/
theorem fr_from_repr (ha : Limbs 4 a) :
    D.Fr.from_repr a = (Mont.fromRepr frP (limbsToNat a)).map (limbsOf 4) := frC.from_repr ⟨ha, rfl⟩
theorem fr_into_repr (ha : Limbs 4 a) :
    D.Fr.into_repr a = limbsOf 4 (Mont.intoRepr frP (limbsToNat a)) :=
  (Fr_into_repr ⟨ha, rfl⟩).eq_limbsOf
theorem fr_char : D.Fr.char = limbsOf 4 frP.p := frC.hM.eq_limbsOf
theorem fr_multiplicative_generator : D.Fr.multiplicative_generator = limbsOf 4 Gen.fr_GENERATOR :=
  fr_consts.2.2.2.2.1
theorem fr_root_of_unity : D.Fr.root_of_unity = limbsOf 4 Gen.fr_ROOT_OF_UNITY :=
  fr_consts.2.2.2.2.2.1
/-- `Ord for Fr` compares `into_repr()` -/
theorem fr_cmp (ha : Limbs 4 a) (hb : Limbs 4 b) :
    D.Fr.cmp a b = compare (Mont.intoRepr frP (limbsToNat a)) (Mont.intoRepr frP (limbsToNat b)) :=
  cmp_rep (Fr_into_repr ⟨ha, rfl⟩) (Fr_into_repr ⟨hb, rfl⟩)
theorem fr_partial_cmp (a b : List Nat) : D.Fr.partial_cmp a b = some (D.Fr.cmp a b) := Fr_partial_cmp a b
theorem frrepr_from_fe (a : List Nat) : D.FrRepr.from_fe a = D.Fr.into_repr a := FrRepr_from_fe a
theorem fr_frobenius_map (a : List Nat) (k : Nat) : D.Fr.frobenius_map a k = a := Fr_frobenius_map a k
/-- `Field::pow` (ff crate), exponent = ANY list of limbs -/
theorem fr_pow (e : List Nat) (ha : Limbs 4 a) :
    D.Fr.pow a e = limbsOf 4 (Mont.pow frP (limbsToNat a) e) :=
  (frC.pow ⟨ha, rfl⟩ e).eq_limbsOf

/-- `inverse`, any outer fuel, inner loops with fuel `≥ 64·4`: the model's main loop with the same fuel
    (`none` = out of fuel), for ALL well-formed inputs (also unreduced ones) -/
theorem fr_inverse_fuel (fuel : Nat) (hf : 64 * 4 ≤ fuel) (ha : Limbs 4 a) :
    D.Fr.inverse fuel a =
      if limbsToNat a = 0 then some none
      else (Mont.invLoop frP fuel (limbsToNat a) frP.p frP.R2 0).map (fun x => some (limbsOf 4 x)) :=
  (Fr_inverse_unfold fuel a).trans (frC.inverse_invLoop fuel hf ⟨ha, rfl⟩)

/-- `inverse` with the model's fuel `2·64·4 + 2` IS the model's `inverse` (outer `none` = out of fuel;
    by `PP.Props.C08.inverse_ok` that does not happen for reduced inputs and a prime modulus) -/
theorem fr_inverse (ha : Limbs 4 a) :
    D.Fr.inverse (2 * 64 * 4 + 2) a =
      (Mont.inverse frP (limbsToNat a)).map (fun o => o.map (limbsOf 4)) :=
  (Fr_inverse_unfold _ a).trans (frC.inverse ⟨ha, rfl⟩)

/-- … hence, for a reduced input: never out of fuel, `None` exactly for zero, otherwise
    the Montgomery form of the modular inverse -/
theorem fr_inverse_total (ha : Limbs 4 a) (hlt : limbsToNat a < frP.p) :
    (limbsToNat a = 0 → D.Fr.inverse (2 * 64 * 4 + 2) a = some none) ∧
    (limbsToNat a ≠ 0 → ∃ x, D.Fr.inverse (2 * 64 * 4 + 2) a = some (some (limbsOf 4 x)) ∧ x < frP.p ∧
      dec frP (limbsToNat a) * dec frP x % frP.p = 1) := by
  rw [fr_inverse ha]
  refine ⟨fun h0 => ?_, fun h0 => ?_⟩
  · rw [(inverse_none_iff frP _).2 h0]; rfl
  · obtain ⟨x, hx, hxl, hxv⟩ := inverse_ok frP_wf hlt (frP_p ▸ Primes.r_prime) h0
    exact ⟨x, by rw [hx]; rfl, hxl, hxv⟩

/-- `legendre` against the canonical-level model (reduced input) -/
theorem fr_legendre (ha : Limbs 4 a) (hlt : limbsToNat a < Gen.r) :
    D.Fr.legendre a = PP.Fr.legendre (toFr (limbsToNat a)) :=
  Fr_legendre ⟨ha, frP_p ▸ hlt, rfl⟩

/-- every operation returns `4` limbs `< 2^64` -/
theorem fr_closed (ha : Limbs 4 a) (hb : Limbs 4 b) :
    Limbs 4 (D.FrRepr.add_nocarry a b) ∧ Limbs 4 (D.FrRepr.sub_noborrow a b) ∧ Limbs 4 (D.FrRepr.div2 a) ∧
    Limbs 4 (D.FrRepr.mul2 a) ∧ Limbs 4 (D.Fr.reduce a) ∧ Limbs 4 (D.Fr.add_assign a b) ∧
    Limbs 4 (D.Fr.sub_assign a b) ∧ Limbs 4 (D.Fr.double a) ∧ Limbs 4 (D.Fr.negate a) ∧
    Limbs 4 (D.Fr.mul_assign a b) ∧ Limbs 4 (D.Fr.square a) ∧ Limbs 4 (D.Fr.into_repr a) ∧
    (∀ e, Limbs 4 (D.Fr.pow a e)) :=
  have ra : Rep 4 a _ := ⟨ha, rfl⟩
  have rb : Rep 4 b _ := ⟨hb, rfl⟩
  ⟨(add_nocarry_rep ra rb).1, (sub_noborrow_rep ra rb).1, (div2_rep ra).1, (mul2_rep ra).1, (frC.reduce ra).1,
    (frC.add_assign ra rb).1, (frC.sub_assign ra rb).1, (frC.double ra).1, (frC.negate ra).1, (frC.hmul ra rb).1,
    (frC.hsq ra).1, (Fr_into_repr ra).1, fun e => (frC.pow ra e).1⟩

end fr

/-! ## 3. `sqrt` -/

/-- `Fq::sqrt` against the canonical-level model; the result is again reduced -/
theorem fq_sqrt {a : List Nat} (ha : Limbs 6 a) (hlt : limbsToNat a < Gen.q) :
    (D.Fq.sqrt a).map (fun x => toFq (limbsToNat x)) = PP.Fq.sqrt (toFq (limbsToNat a)) ∧
    (∀ x, D.Fq.sqrt a = some x → Limbs 6 x ∧ limbsToNat x < Gen.q) :=
  Enc.map_eq (Fq_sqrt ⟨ha, fqP_p ▸ hlt, rfl⟩)

/-- `Fr::sqrt` (Tonelli–Shanks) with the model's fuel `S + 1 = 33` for both loops against the
    canonical-level model `Fr.sqrtFuel` (which never returns `none`: `PP.Fr.sqrtFuel_ne_none`) -/
theorem fr_sqrt {a : List Nat} (ha : Limbs 4 a) (hlt : limbsToNat a < Gen.r) :
    (D.Fr.sqrt (Gen.fr_S + 1) a).map (fun o => o.map (fun x => toFr (limbsToNat x))) =
      PP.Fr.sqrtFuel (toFr (limbsToNat a)) ∧
    (∀ x, D.Fr.sqrt (Gen.fr_S + 1) a = some (some x) → Limbs 4 x ∧ limbsToNat x < Gen.r) :=
  Enc.map_eq₂ (Fr_sqrt (Gen.fr_S + 1) rfl ⟨ha, frP_p ▸ hlt, rfl⟩)

/-- … in particular `Fr::sqrt` terminates within that fuel on every reduced input -/
theorem fr_sqrt_terminates {a : List Nat} (ha : Limbs 4 a) (hlt : limbsToNat a < Gen.r) :
    D.Fr.sqrt (Gen.fr_S + 1) a ≠ none := by
  intro h
  have := (fr_sqrt ha hlt).1
  rw [h] at this
  exact PP.Fr.sqrtFuel_ne_none _ this.symm

/-! ## 3b. `Field::random` (rejection sampling from an RNG; `nextU64` = `RngCore::next_u64` as a function of the
RNG state, assumed only to return 64-bit words) -/

theorem fq_random {Rng : Type} {nextU64 : Rng → Rng × Nat} (h : ∀ s, (nextU64 s).2 < 2 ^ 64) (fuel : Nat) (rng : Rng) :
    D.Fq.random nextU64 fuel rng = randomSpec nextU64 6 61 fqP.p fuel rng :=
  random_eq (n := 6) (k := D.Fq.REPR_SHAVE_BITS) (rnd := D.Fq.random nextU64) fqC.hM (by decide) h (fun _ => rfl)
    (fun _ _ => rfl) fuel rng

theorem fr_random {Rng : Type} {nextU64 : Rng → Rng × Nat} (h : ∀ s, (nextU64 s).2 < 2 ^ 64) (fuel : Nat) (rng : Rng) :
    D.Fr.random nextU64 fuel rng = randomSpec nextU64 4 63 frP.p fuel rng :=
  random_eq (n := 4) (k := D.Fr.REPR_SHAVE_BITS) (rnd := D.Fr.random nextU64) frC.hM (by decide) h (fun _ => rfl)
    (fun _ _ => rfl) fuel rng

/-- for EVERY RNG, whatever `Fq::random` returns is a well-formed limb list with value `< q`: a valid element -/
theorem fq_random_valid {Rng : Type} {nextU64 : Rng → Rng × Nat} (h : ∀ s, (nextU64 s).2 < 2 ^ 64) (fuel : Nat)
    (rng rng' : Rng) (x : List Nat) (hx : D.Fq.random nextU64 fuel rng = some (rng', x)) :
    Limbs 6 x ∧ limbsToNat x < fqP.p ∧ D.Fq.is_valid x = true := by
  rw [fq_random h] at hx
  have := randomSpec_sound h 6 61 fqP.p fuel rng rng' x hx
  exact ⟨this.1, this.2, by rw [fq_is_valid this.1]; exact decide_eq_true this.2⟩

theorem fr_random_valid {Rng : Type} {nextU64 : Rng → Rng × Nat} (h : ∀ s, (nextU64 s).2 < 2 ^ 64) (fuel : Nat)
    (rng rng' : Rng) (x : List Nat) (hx : D.Fr.random nextU64 fuel rng = some (rng', x)) :
    Limbs 4 x ∧ limbsToNat x < frP.p ∧ D.Fr.is_valid x = true := by
  rw [fr_random h] at hx
  have := randomSpec_sound h 4 63 frP.p fuel rng rng' x hx
  exact ⟨this.1, this.2, by rw [fr_is_valid this.1]; exact decide_eq_true this.2⟩

/-- a counter RNG: the first attempt succeeds for `Fq`; an all-ones RNG never succeeds (every candidate is
    `2^381 - 1 > q`), so the fuel is really needed -/
example : D.Fq.random (fun s : Nat => (s + 1, s % 2 ^ 64)) 1 0 = some (6, [0, 1, 2, 3, 4, 5]) ∧
    D.Fq.random (fun s : Nat => (s + 1, 2 ^ 64 - 1)) 3 0 = none ∧
    D.Fr.random (fun s : Nat => (s + 1, if s < 4 then 2 ^ 64 - 1 else s)) 2 0 = some (8, [4, 5, 6, 7]) := by
  decide +kernel

/-! ## 4. concrete runs in the kernel (non-vacuity; the generated code is executable) -/

example : D.Fq.add_assign (limbsOf 6 (Gen.q - 1)) (limbsOf 6 5) = limbsOf 6 4 := by decide +kernel
example : D.Fq.negate (limbsOf 6 3) = limbsOf 6 (Gen.q - 3) ∧ D.Fq.negate (limbsOf 6 0) = limbsOf 6 0 := by
  decide +kernel
example : D.FqRepr.shr 7 (limbsOf 6 Gen.q) 129 = some (limbsOf 6 (Gen.q / 2 ^ 129)) ∧
    D.FrRepr.shl 7 (limbsOf 4 Gen.r) 70 = some (limbsOf 4 (Gen.r * 2 ^ 70 % 2 ^ 256)) ∧
    D.FqRepr.num_bits (limbsOf 6 Gen.q) = 381 ∧ D.FrRepr.num_bits (limbsOf 4 Gen.r) = 255 ∧
    D.FqRepr.cmp (limbsOf 6 Gen.q) (limbsOf 6 Gen.fq_R) = Ordering.gt := by decide +kernel
example : D.Fq.inverse (2 * 64 * 6 + 2) (limbsOf 6 1) = some (some (limbsOf 6 Gen.fq_R2)) ∧
    D.Fq.inverse (2 * 64 * 6 + 2) (limbsOf 6 0) = some none ∧
    D.Fr.inverse 3 (limbsOf 4 6) = none := by
  decide +kernel

end PP.GenDerive
