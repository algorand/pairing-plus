/-
PROPERTY C01.  "For all curve points, in any projective representation, addition, mixed
(projective+affine) addition, subtraction, doubling, negation, equality and affine/projective
conversion return exactly what the chord-and-tangent law of y^2=x^3+4 over Fq (G1) and
y^2=x^3+4(u+1) over Fq2 (G2) prescribes, including the identity, P+P, P+(-P), equal-y/different-x
operands and operands that denote the same point through different coordinates.  Batch normalization
changes representations only, never the points represented.  Consequently every sequence of these
operations ends in the point predicted by the abstract group."

Everything is stated for the executable model functions of `PP/Model/Curve.lean` over an arbitrary
field `F` whose model operations are lawful (`LawfulFieldOps F`), and an arbitrary `b` with
`ShortW b` (`2 ≠ 0`, `3 ≠ 0`, `b ≠ 0`).  The abstract group is Mathlib's
`WeierstrassCurve.Affine.Point` of `W b : y² = x³ + b` with its chord-and-tangent `AddCommGroup`.
`Jac.OnCurve b P` is `P.z = 0 ∨ P.y² = P.x³ + b P.z⁶`: NO normalisation of the representative is
assumed anywhere.  (Instantiation at `Fq`, `Fq2` is done elsewhere.)
-/
import PP.Proofs.Jacobian2


namespace PP.C01

open WeierstrassCurve.Affine

variable {F : Type} [Field F] [DecidableEq F] [FieldOps F] [LawfulFieldOps F]
variable {b : F} [ShortW b]

theorem double_onCurve {P : Jac F} (hP : Jac.OnCurve b P) : Jac.OnCurve b P.double :=
  (Jac.double_spec hP).1

/-- doubling, for every representative, including the identity and points of order two -/
theorem double_correct {P : Jac F} (hP : Jac.OnCurve b P) :
    Jac.abs b P.double = Jac.abs b P + Jac.abs b P :=
  (Jac.double_spec hP).2

theorem add_onCurve {P Q : Jac F} (hP : Jac.OnCurve b P) (hQ : Jac.OnCurve b Q) :
    Jac.OnCurve b (P.add Q) :=
  (Jac.add_spec hP hQ).1

/-- addition, for every pair of representatives: identity operands, `P + P` (also through two
    different representatives), `P + (-P)`, equal-`y`/different-`x`, generic -/
theorem add_correct {P Q : Jac F} (hP : Jac.OnCurve b P) (hQ : Jac.OnCurve b Q) :
    Jac.abs b (P.add Q) = Jac.abs b P + Jac.abs b Q :=
  (Jac.add_spec hP hQ).2

/-- the test `U1 = U2 ∧ S1 = S2` that sends `add` into its doubling branch holds exactly when the two
    (non-identity) operands denote the same point -/
theorem add_same_point_iff {P Q : Jac F} (hP : Jac.OnCurve b P) (hQ : Jac.OnCurve b Q)
    (hz₁ : P.z ≠ 0) (hz₂ : Q.z ≠ 0) :
    (P.x * Q.z ^ 2 = Q.x * P.z ^ 2 ∧ P.y * Q.z ^ 3 = Q.y * P.z ^ 3) ↔ Jac.abs b P = Jac.abs b Q := by
  rw [Jac.abs_eq_abs_iff hP hQ]
  simp [hz₁, hz₂]

theorem addMixed_onCurve {P : Jac F} {A : Aff F} (hP : Jac.OnCurve b P) (hA : Aff.OnCurve b A) :
    Jac.OnCurve b (P.addMixed A) :=
  (Jac.addMixed_spec hP hA).1

theorem addMixed_correct {P : Jac F} {A : Aff F} (hP : Jac.OnCurve b P) (hA : Aff.OnCurve b A) :
    Jac.abs b (P.addMixed A) = Jac.abs b P + Aff.abs b A :=
  (Jac.addMixed_spec hP hA).2

theorem neg_onCurve {P : Jac F} (hP : Jac.OnCurve b P) : Jac.OnCurve b P.neg :=
  (Jac.neg_spec hP).1

theorem neg_correct {P : Jac F} (hP : Jac.OnCurve b P) : Jac.abs b P.neg = -Jac.abs b P :=
  (Jac.neg_spec hP).2

theorem sub_onCurve {P Q : Jac F} (hP : Jac.OnCurve b P) (hQ : Jac.OnCurve b Q) :
    Jac.OnCurve b (P.sub Q) :=
  (Jac.sub_spec hP hQ).1

theorem sub_correct {P Q : Jac F} (hP : Jac.OnCurve b P) (hQ : Jac.OnCurve b Q) :
    Jac.abs b (P.sub Q) = Jac.abs b P - Jac.abs b Q :=
  (Jac.sub_spec hP hQ).2

theorem subMixed_onCurve {P : Jac F} {A : Aff F} (hP : Jac.OnCurve b P) (hA : Aff.OnCurve b A) :
    Jac.OnCurve b (P.subMixed A) :=
  (Jac.subMixed_spec hP hA).1

theorem subMixed_correct {P : Jac F} {A : Aff F} (hP : Jac.OnCurve b P) (hA : Aff.OnCurve b A) :
    Jac.abs b (P.subMixed A) = Jac.abs b P - Aff.abs b A :=
  (Jac.subMixed_spec hP hA).2

theorem affNeg_onCurve {A : Aff F} (hA : Aff.OnCurve b A) : Aff.OnCurve b A.neg :=
  (Aff.neg_spec hA).1

theorem affNeg_correct {A : Aff F} (hA : Aff.OnCurve b A) : Aff.abs b A.neg = -Aff.abs b A :=
  (Aff.neg_spec hA).2

/-- projective equality decides equality of the denoted points -/
theorem beq_iff {P Q : Jac F} (hP : Jac.OnCurve b P) (hQ : Jac.OnCurve b Q) :
    Jac.beq P Q = true ↔ Jac.abs b P = Jac.abs b Q :=
  Jac.beq_spec hP hQ

theorem isZero_iff {P : Jac F} (hP : Jac.OnCurve b P) : P.isZero = true ↔ Jac.abs b P = 0 := by
  rw [Jac.isZero_iff, Jac.abs_eq_zero_iff hP]

theorem zero_correct : Jac.OnCurve b (Jac.zero : Jac F) ∧ Jac.abs b (Jac.zero : Jac F) = 0 :=
  ⟨Jac.onCurve_zero b, Jac.abs_zero b⟩

omit [ShortW b] in
/-- the executable on-curve test is the specification's -/
theorem isOnCurve_iff (A : Aff F) : A.isOnCurve b = true ↔ Aff.OnCurve b A :=
  Aff.isOnCurve_iff b A

/-- projective → affine never panics on a curve point and keeps the point -/
theorem toAffine_correct {P : Jac F} (hP : Jac.OnCurve b P) :
    ∃ A, P.toAffine = some A ∧ Aff.OnCurve b A ∧ Aff.abs b A = Jac.abs b P :=
  Jac.toAffine_spec hP

theorem toJac_onCurve {A : Aff F} (hA : Aff.OnCurve b A) : Jac.OnCurve b A.toJac :=
  (Aff.toJac_spec hA).1

theorem toJac_correct {A : Aff F} (hA : Aff.OnCurve b A) : Jac.abs b A.toJac = Aff.abs b A :=
  (Aff.toJac_spec hA).2

/-- affine → projective → affine is the identity on finite points … -/
theorem toAffine_toJac {A : Aff F} (hi : A.infinity = false) : A.toJac.toAffine = some A :=
  Jac.toAffine_toJac_of_not_infinity hi

/-- … and canonicalises the point at infinity -/
theorem toAffine_toJac_infinity {A : Aff F} (hi : A.infinity = true) :
    A.toJac.toAffine = some Aff.zero :=
  Jac.toAffine_toJac_of_infinity hi

/-- Batch normalisation never panics, keeps the length, and position by position returns a
    normalised representative of the same point (an already normalised entry is returned as is). -/
theorem batchNormalize_correct (v : List (Jac F)) (hv : ∀ P ∈ v, Jac.OnCurve b P) :
    ∃ out, Jac.batchNormalize v = some out ∧ out.length = v.length ∧
      ∀ (i : Nat) (h₁ : i < out.length) (h₂ : i < v.length),
        Jac.OnCurve b out[i] ∧ Jac.abs b out[i] = Jac.abs b v[i] ∧
        out[i].isNormalized = true ∧ (v[i].isNormalized = true → out[i] = v[i]) :=
  Jac.batchNormalize_spec v hv

/-- The `unwrap` in `batch_normalization` cannot panic on any input, on or off the curve. -/
theorem batchNormalize_ne_none (v : List (Jac F)) : Jac.batchNormalize v ≠ none := by
  rw [Jac.batchNormalize_eq]; simp

/-- register-file instructions, as in the driver's `runProg` -/
inductive Instr
  | add (i j : Nat)
  | sub (i j : Nat)
  | dbl (i : Nat)
  | neg (i : Nat)
  /-- mixed addition of the affine form of register `j` -/
  | addm (i j : Nat)
  | subm (i j : Nat)
  /-- `reg i := toJac (toAffine (reg i))` -/
  | aff (i : Nat)
  /-- batch-normalise the whole register file -/
  | norm
  | cp (i j : Nat)

/-- one instruction on the MODEL (out-of-range reads give `Jac.zero`, out-of-range writes are dropped,
    as `getD`/`set!` in the driver); `none` is a Rust panic -/
def stepJ (regs : List (Jac F)) : Instr → Option (List (Jac F))
  | .add i j => some (regs.set i ((regs.getD i Jac.zero).add (regs.getD j Jac.zero)))
  | .sub i j => some (regs.set i ((regs.getD i Jac.zero).sub (regs.getD j Jac.zero)))
  | .dbl i => some (regs.set i (regs.getD i Jac.zero).double)
  | .neg i => some (regs.set i (regs.getD i Jac.zero).neg)
  | .addm i j =>
    match (regs.getD j Jac.zero).toAffine with
    | none => none
    | some a => some (regs.set i ((regs.getD i Jac.zero).addMixed a))
  | .subm i j =>
    match (regs.getD j Jac.zero).toAffine with
    | none => none
    | some a => some (regs.set i ((regs.getD i Jac.zero).subMixed a))
  | .aff i =>
    match (regs.getD i Jac.zero).toAffine with
    | none => none
    | some a => some (regs.set i a.toJac)
  | .norm => Jac.batchNormalize regs
  | .cp i j => some (regs.set i (regs.getD j Jac.zero))

def runJ : List Instr → List (Jac F) → Option (List (Jac F))
  | [], regs => some regs
  | ins :: rest, regs =>
    match stepJ regs ins with
    | none => none
    | some regs' => runJ rest regs'

/-- one instruction in the abstract group -/
def stepP (regs : List (W b).Point) : Instr → List (W b).Point
  | .add i j => regs.set i (regs.getD i 0 + regs.getD j 0)
  | .sub i j => regs.set i (regs.getD i 0 - regs.getD j 0)
  | .dbl i => regs.set i (regs.getD i 0 + regs.getD i 0)
  | .neg i => regs.set i (-regs.getD i 0)
  | .addm i j => regs.set i (regs.getD i 0 + regs.getD j 0)
  | .subm i j => regs.set i (regs.getD i 0 - regs.getD j 0)
  | .aff _ => regs
  | .norm => regs
  | .cp i j => regs.set i (regs.getD j 0)

def runP : List Instr → List (W b).Point → List (W b).Point
  | [], regs => regs
  | ins :: rest, regs => runP rest (stepP regs ins)

/-- all registers denote curve points -/
def RegsOnCurve (b : F) (regs : List (Jac F)) : Prop := ∀ P ∈ regs, Jac.OnCurve b P

omit [ShortW b] in
theorem getD_onCurve {regs : List (Jac F)} (h : RegsOnCurve b regs) (i : Nat) :
    Jac.OnCurve b (regs.getD i Jac.zero) := by
  by_cases hi : i < regs.length
  · rw [List.getD_eq_getElem _ _ hi]; exact h _ (List.getElem_mem hi)
  · rw [List.getD_eq_default _ _ (Nat.le_of_not_lt hi)]; exact Jac.onCurve_zero b

theorem abs_getD (regs : List (Jac F)) (i : Nat) :
    Jac.abs b (regs.getD i Jac.zero) = (regs.map (Jac.abs b)).getD i 0 := by
  rw [← Jac.abs_zero b (F := F), List.getD_map]

omit [DecidableEq F] [FieldOps F] [LawfulFieldOps F] [ShortW b] in
theorem set_onCurve {regs : List (Jac F)} (h : RegsOnCurve b regs) (i : Nat) {v : Jac F}
    (hv : Jac.OnCurve b v) : RegsOnCurve b (regs.set i v) := by
  intro P hP
  rcases List.mem_or_eq_of_mem_set hP with h' | h'
  · exact h P h'
  · exact h' ▸ hv

theorem set_getD_self {α : Type} (l : List α) (i : Nat) (d : α) : l.set i (l.getD i d) = l := by
  induction l generalizing i with
  | nil => rfl
  | cons x xs ih =>
    cases i with
    | zero => rfl
    | succ n => simp only [List.set_cons_succ, List.getD_cons_succ, ih]

/-- One instruction: never panics on curve points, stays on the curve, commutes with `abs`. -/
theorem stepJ_refines {regs : List (Jac F)} (h : RegsOnCurve b regs) (ins : Instr) :
    ∃ regs', stepJ regs ins = some regs' ∧ RegsOnCurve b regs' ∧
      regs'.map (Jac.abs b) = stepP (regs.map (Jac.abs b)) ins := by
  cases ins with
  | add i j =>
    have hs := Jac.add_spec (getD_onCurve h i) (getD_onCurve h j)
    exact ⟨_, rfl, set_onCurve h i hs.1, by
      simp only [stepP, List.map_set, hs.2, abs_getD]⟩
  | sub i j =>
    have hs := Jac.sub_spec (getD_onCurve h i) (getD_onCurve h j)
    exact ⟨_, rfl, set_onCurve h i hs.1, by
      simp only [stepP, List.map_set, hs.2, abs_getD]⟩
  | dbl i =>
    have hs := Jac.double_spec (getD_onCurve h i)
    exact ⟨_, rfl, set_onCurve h i hs.1, by
      simp only [stepP, List.map_set, hs.2, abs_getD]⟩
  | neg i =>
    have hs := Jac.neg_spec (getD_onCurve h i)
    exact ⟨_, rfl, set_onCurve h i hs.1, by
      simp only [stepP, List.map_set, hs.2, abs_getD]⟩
  | addm i j =>
    obtain ⟨a, ha, hoc, habs⟩ := Jac.toAffine_spec (getD_onCurve h j)
    have hs := Jac.addMixed_spec (getD_onCurve h i) hoc
    refine ⟨regs.set i ((regs.getD i Jac.zero).addMixed a), by simp only [stepJ, ha],
      set_onCurve h i hs.1, ?_⟩
    simp only [stepP, List.map_set, hs.2, habs, abs_getD]
  | subm i j =>
    obtain ⟨a, ha, hoc, habs⟩ := Jac.toAffine_spec (getD_onCurve h j)
    have hs := Jac.subMixed_spec (getD_onCurve h i) hoc
    refine ⟨regs.set i ((regs.getD i Jac.zero).subMixed a), by simp only [stepJ, ha],
      set_onCurve h i hs.1, ?_⟩
    simp only [stepP, List.map_set, hs.2, habs, abs_getD]
  | aff i =>
    obtain ⟨a, ha, hoc, habs⟩ := Jac.toAffine_spec (getD_onCurve h i)
    have hs := Aff.toJac_spec hoc
    refine ⟨regs.set i a.toJac, by simp only [stepJ, ha], set_onCurve h i hs.1, ?_⟩
    simp only [stepP, List.map_set, hs.2, habs, abs_getD, set_getD_self]
  | norm =>
    refine ⟨regs.map Jac.normalizeOne, Jac.batchNormalize_eq regs, ?_, ?_⟩
    · intro P hP
      obtain ⟨Q, hQ, rfl⟩ := List.mem_map.mp hP
      exact (Jac.normalizeOne_spec (h Q hQ)).1
    · simp only [stepP, List.map_map]
      exact List.map_congr_left fun Q hQ => (Jac.normalizeOne_spec (h Q hQ)).2
  | cp i j =>
    exact ⟨_, rfl, set_onCurve h i (getD_onCurve h j), by
      simp only [stepP, List.map_set, abs_getD]⟩

/-- **Refinement.**  Any program of model operations started on curve points runs to completion
    (no panic), ends on curve points, and these denote exactly the points the abstract group
    computes from the denotations of the inputs. -/
theorem runJ_refines (prog : List Instr) {regs : List (Jac F)} (h : RegsOnCurve b regs) :
    ∃ regs', runJ prog regs = some regs' ∧ RegsOnCurve b regs' ∧
      regs'.map (Jac.abs b) = runP prog (regs.map (Jac.abs b)) := by
  induction prog generalizing regs with
  | nil => exact ⟨regs, rfl, h, rfl⟩
  | cons ins rest ih =>
    obtain ⟨r₁, e₁, h₁, a₁⟩ := stepJ_refines h ins
    obtain ⟨r₂, e₂, h₂, a₂⟩ := ih h₁
    exact ⟨r₂, by simp only [runJ, e₁, e₂], h₂, by rw [a₂, a₁]; rfl⟩

set_option linter.unusedSectionVars false in
theorem runP_length (prog : List Instr) (regs : List (W b).Point) :
    (runP prog regs).length = regs.length := by
  induction prog generalizing regs with
  | nil => rfl
  | cons ins rest ih =>
    rw [runP, ih]
    cases ins <;> simp [stepP]

/-! ### the same over `Array`, written exactly as the driver's `runProg` (after parsing) -/

def stepA (regs : Array (Jac F)) : Instr → Option (Array (Jac F))
  | .add i j => pure (regs.set! i ((regs.getD i Jac.zero).add (regs.getD j Jac.zero)))
  | .sub i j => pure (regs.set! i ((regs.getD i Jac.zero).sub (regs.getD j Jac.zero)))
  | .dbl i => pure (regs.set! i (regs.getD i Jac.zero).double)
  | .neg i => pure (regs.set! i (regs.getD i Jac.zero).neg)
  | .addm i j => do
      let a ← (regs.getD j Jac.zero).toAffine
      pure (regs.set! i ((regs.getD i Jac.zero).addMixed a))
  | .subm i j => do
      let a ← (regs.getD j Jac.zero).toAffine
      pure (regs.set! i ((regs.getD i Jac.zero).subMixed a))
  | .aff i => do
      let a ← (regs.getD i Jac.zero).toAffine
      pure (regs.set! i a.toJac)
  | .norm => do
      let l ← Jac.batchNormalize regs.toList
      pure l.toArray
  | .cp i j => pure (regs.set! i (regs.getD j Jac.zero))

def runA : List Instr → Array (Jac F) → Option (Array (Jac F))
  | [], regs => some regs
  | ins :: rest, regs => do
    let regs ← stepA regs ins
    runA rest regs

omit [Field F] [DecidableEq F] [FieldOps F] [LawfulFieldOps F] in
theorem array_getD_toList (regs : Array (Jac F)) (i : Nat) (d : Jac F) :
    regs.getD i d = regs.toList.getD i d := by
  simp [Array.getD, List.getD]
  split <;> simp_all

omit [LawfulFieldOps F] in
theorem stepA_toList (regs : Array (Jac F)) (ins : Instr) :
    (stepA regs ins).map Array.toList = stepJ regs.toList ins := by
  cases ins <;> simp only [stepA, stepJ, array_getD_toList, pure, bind, Option.map_some]
  case add i j => simp
  case sub i j => simp
  case dbl i => simp
  case neg i => simp
  case cp i j => simp
  case addm i j => cases (regs.toList.getD j Jac.zero).toAffine <;> simp
  case subm i j => cases (regs.toList.getD j Jac.zero).toAffine <;> simp
  case aff i => cases (regs.toList.getD i Jac.zero).toAffine <;> simp
  case norm => cases Jac.batchNormalize regs.toList <;> simp

omit [LawfulFieldOps F] in
theorem runA_toList (prog : List Instr) (regs : Array (Jac F)) :
    (runA prog regs).map Array.toList = runJ prog regs.toList := by
  induction prog generalizing regs with
  | nil => rfl
  | cons ins rest ih =>
    have h := stepA_toList regs ins
    simp only [runA, runJ, bind]
    cases hs : stepA regs ins with
    | none => rw [hs] at h; simp [← h]
    | some r => rw [hs] at h; simp only [Option.map_some] at h; simp [← h, ih]

/-- **Refinement**, for the array register machine of the driver. -/
theorem runA_refines (prog : List Instr) {regs : Array (Jac F)} (h : RegsOnCurve b regs.toList) :
    ∃ regs', runA prog regs = some regs' ∧ RegsOnCurve b regs'.toList ∧
      regs'.toList.map (Jac.abs b) = runP prog (regs.toList.map (Jac.abs b)) := by
  obtain ⟨l, e, hl, ha⟩ := runJ_refines prog h
  have := runA_toList prog regs
  rw [e] at this
  cases hr : runA prog regs with
  | none => rw [hr] at this; simp at this
  | some r =>
    rw [hr] at this
    simp only [Option.map_some, Option.some.injEq] at this
    exact ⟨r, rfl, this ▸ hl, this ▸ ha⟩

/-! ## the special cases named in the property, spelled out -/

/-- `P + (-P)`: the code returns a triple with `z = 0` -/
theorem add_neg_self_isZero {P : Jac F} (hP : Jac.OnCurve b P) : (P.add P.neg).isZero = true := by
  rw [isZero_iff (add_onCurve hP (neg_onCurve hP)), add_correct hP (neg_onCurve hP),
    neg_correct hP, add_neg_cancel]

/-- `P - P'` for two representatives of the same point is the identity -/
theorem sub_same_point_isZero {P Q : Jac F} (hP : Jac.OnCurve b P) (hQ : Jac.OnCurve b Q)
    (h : Jac.beq P Q = true) : (P.sub Q).isZero = true := by
  rw [isZero_iff (sub_onCurve hP hQ), sub_correct hP hQ, (beq_iff hP hQ).mp h, sub_self]

/-- the same point through two representatives: `add` returns its double -/
theorem add_same_point {P Q : Jac F} (hP : Jac.OnCurve b P) (hQ : Jac.OnCurve b Q)
    (h : Jac.abs b P = Jac.abs b Q) : Jac.abs b (P.add Q) = Jac.abs b P.double := by
  rw [add_correct hP hQ, double_correct hP, h]

section nonvacuity

/-- the order-3 points `(0, ±√b)` in an arbitrary representative `(0, y₀ z³, z)` -/
example (y₀ z : F) (h : y₀ ^ 2 = b) : Jac.OnCurve b (⟨0, y₀ * z ^ 3, z⟩ : Jac F) := by
  right; simp only; rw [← h]; ring

/-- they do have order 3: `2P = -P` for the model's `double` -/
example (y₀ z : F) (h : y₀ ^ 2 = b) (hz : z ≠ 0) :
    Jac.abs b (⟨0, y₀ * z ^ 3, z⟩ : Jac F).double = -Jac.abs b (⟨0, y₀ * z ^ 3, z⟩ : Jac F) := by
  have hoc : Jac.OnCurve b (⟨0, y₀ * z ^ 3, z⟩ : Jac F) := by
    right; simp only; rw [← h]; ring
  have h2 : (2 : F) ≠ 0 := ShortW.two_ne (b := b)
  have hy : y₀ ≠ 0 := by
    rintro rfl
    exact ShortW.b_ne (b := b) (by rw [← h]; ring)
  rw [← neg_correct hoc, ← beq_iff (double_onCurve hoc) (neg_onCurve hoc), Jac.beq_eq_true_iff]
  right
  rw [Jac.double_of_z_ne_zero (by simpa using hz)]
  have e : (⟨0, y₀ * z ^ 3, z⟩ : Jac F).neg = ⟨0, -(y₀ * z ^ 3), z⟩ := by simp [Jac.neg, hz]
  rw [e]
  refine ⟨?_, hz, ?_, ?_⟩
  · simp only; exact mul_ne_zero h2 (mul_ne_zero (mul_ne_zero hy (pow_ne_zero _ hz)) hz)
  · simp only; ring
  · simp only; rw [← sub_eq_zero]
    ring

local instance : PosNat 13 := ⟨by decide⟩
local instance : Fact (Nat.Prime 13) := ⟨by decide⟩
local instance : ShortW (4 : Zp 13) := ⟨by decide, by decide, by decide⟩

/-- a concrete curve: `y² = x³ + 4` over `𝔽₁₃`, the order-3 point `(0, 2)` with `z = 2` -/
example : Jac.OnCurve (4 : Zp 13) ⟨0, 3, 2⟩ := by right; decide

/-- a point with `x ≠ 0`, `z ≠ 1`: affine `(2, 5)` scaled by `z = 3` -/
example : Jac.OnCurve (4 : Zp 13) ⟨5, 5, 3⟩ := by right; decide

/-- the two representatives `(0,3,2)` and `(0,2,1)` are recognised as the same point, and the point
    is not the identity -/
example : Jac.abs (4 : Zp 13) ⟨0, 3, 2⟩ = Jac.abs (4 : Zp 13) ⟨0, 2, 1⟩ ∧
    Jac.abs (4 : Zp 13) ⟨0, 3, 2⟩ ≠ 0 := by
  have h₁ : Jac.OnCurve (4 : Zp 13) ⟨0, 3, 2⟩ := by right; decide
  have h₂ : Jac.OnCurve (4 : Zp 13) ⟨0, 2, 1⟩ := by right; decide
  refine ⟨(beq_iff h₁ h₂).mp (by decide), ?_⟩
  rw [Ne, ← isZero_iff h₁]
  decide

end nonvacuity

end PP.C01
