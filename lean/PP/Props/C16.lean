/-
C16 — the isogenies E' → E (degree 11, G1) and E2' → E2 (degree 3, G2) of the hash-to-curve pipeline.

Model: `PP.evalIso`, `PP.iso11`, `PP.iso3` in PP/Model/Map.lean (mirror of `eval_iso`,
src/bls12_381/isogeny/mod.rs) with the coefficient tables extracted from isogeny/g1.rs, g2.rs.
Spec: the rational map `(x, y) ↦ (XN(x)/XD(x), y·YN(x)/YD(x))` given by these tables
(`IsoPoly.evalP` is polynomial evaluation, constant term first).  The text of RFC 9380 appendix E is
not available offline: the tables are tied to it by the structural theorems below (they define an
isogeny-shaped map from `E'` to `E` of the right degrees) and by the repository's own known-answer
vectors, which the model reproduces (`example`s at the end).

What is proved, for every input triple (every projective representation):
* `isoZpows_spec`, `isoMapval_spec`, `isoMapval_affine` — the table of powers of `z` and the four
  homogenised Horner evaluations;
* `iso11_affine` / `iso3_affine` — on a finite point that is not a pole, the output is finite and
  its affine coordinates are the image of the affine input under the rational map;
* `iso11_identity`, `iso11_kernel`, `iso11_isZero_iff` (and `iso3_…`) — the identity and the kernel
  points (the poles of the map) are sent to the identity, and nothing else is;
* `iso11_isZero_iff_ker` (and `iso3_…`) — the poles are the roots of the kernel polynomial `K`
  (`XD = K²`, `YD = K³`; degree 5 with five rational roots for G1, `K = x + 6 − 6u` for G2);
* `iso11_neg` (and `iso3_…`) — compatibility with the model's `negate`;
* `iso11_homogeneous` (and `iso3_…`) — representation independence: rescaling the input by `l`
  rescales the output by an explicit power of `l`;
* `iso11_onCurve` / `iso3_onCurve` — points of `E'` are sent to points of `E`, from the polynomial
  identity `(x³+A'x+B')·YN²·XD³ = (XN³+b·XD³)·YD²` checked by the kernel on the coefficient lists
  (`Iso.iso11_ident`, `Iso.iso3_ident`).

Carried by `PP.C16Hom.iso3_hom` (`PP/Props/C16Hom.lean`) and `PP.C16Hom11.iso11_hom`
(`PP/Props/C16Hom11.lean`), not in this file: the homomorphism law `iso (P + Q) = iso P + iso Q` (with `+` the group
law of `E'`, which has `a ≠ 0`).  The general fact (a non-constant morphism of elliptic curves
preserving the identity is a homomorphism) is not in Mathlib; both laws are proved by direct algebraic
certificates (degree-11 map: evaluation of the chord identity on a 56 x 56 grid in the kernel).

The `iso3_…` theorems are stated with the tower's `Field Fq2` (`PP/Proofs/Tower2.lean`), which is built on
the model's operations, so the generic theorems apply to `iso3` as it is defined; they are in the
namespace `C16Inst`.
-/
import PP.Proofs.Iso
import PP.Proofs.Tower2

namespace PP
namespace C16
open IsoPoly Iso

/-! ## the evaluation procedure, any field -/

section generic
variable {F : Type} [Field F] [FieldOps F] [LawfulFieldOps F]

/-- every entry of the `zpows` table that the code reads (`j ≤ n - 2`, `n = coeffs[2].len() ≤ 16`)
    is `z^(2(j+1))` -/
theorem isoZpows_spec (z : F) (n j : Nat) (hj : j < 15) (h : j + 2 ≤ n ∨ j ≤ 1) :
    (isoZpows z n).getD j 0 = z ^ (2 * (j + 1)) :=
  Iso.isoZpows_spec z n j hj h

/-- one map value: `Σ_{j ≤ d} cs[j]·xʲ·z^(2(d−j))`, `d = cs.length − 1` -/
theorem isoMapval_spec (z x : F) (n : Nat) (cs : List F) (hn : cs.length ≤ n) (h16 : cs.length ≤ 16) :
    isoMapval (isoZpows z n) x cs =
      ∑ j ∈ Finset.range cs.length, cs.getD j 0 * x ^ j * z ^ (2 * (cs.length - 1 - j)) := by
  rw [Iso.isoMapval_spec z x n cs hn h16, hEval_eq_sum]
  exact Finset.sum_congr rfl (fun j _ => by rw [pow_mul])

/-- for `z ≠ 0` it is `z^(2d)` times the value of the polynomial at the affine abscissa -/
theorem isoMapval_affine (z x : F) (hz : z ≠ 0) (n : Nat) (cs : List F) (hn : cs.length ≤ n)
    (h16 : cs.length ≤ 16) :
    isoMapval (isoZpows z n) x cs = z ^ (2 * (cs.length - 1)) * evalP cs (x / z ^ 2) := by
  rw [Iso.isoMapval_spec z x n cs hn h16, hEval_eq_evalP cs x (pow_ne_zero 2 hz), pow_mul]

end generic

/-! ## G1: `iso11`, from `E' : y² = x³ + A'x + B'` to `E : y² = x³ + 4` over `Fq` -/

/-- the target coefficient is 4 -/
theorem g1_b : g1Codec.b = 4 := by decide +kernel

/-- the rational map: a finite point that is not a pole goes to the finite point
    `(XN(x)/XD(x), y·YN(x)/YD(x))`, `(x, y) = (X/Z², Y/Z³)` -/
theorem iso11_affine (p : Jac Fq) (hz : p.z ≠ 0)
    (hxd : evalP iso11XDen (p.x / p.z ^ 2) ≠ 0) (hyd : evalP iso11YDen (p.x / p.z ^ 2) ≠ 0) :
    (iso11 p).z ≠ 0 ∧
    (iso11 p).x / (iso11 p).z ^ 2 =
      evalP iso11XNum (p.x / p.z ^ 2) / evalP iso11XDen (p.x / p.z ^ 2) ∧
    (iso11 p).y / (iso11 p).z ^ 3 =
      (p.y / p.z ^ 3) * evalP iso11YNum (p.x / p.z ^ 2) / evalP iso11YDen (p.x / p.z ^ 2) :=
  iso_affine iso11_shape p hz hxd hyd

/-- the identity goes to the identity -/
theorem iso11_identity (p : Jac Fq) (h : p.isZero = true) : (iso11 p).isZero = true := by
  rw [jac_isZero_iff] at h ⊢
  exact iso_identity p h

/-- kernel points (the poles of the rational map) go to the identity -/
theorem iso11_kernel (p : Jac Fq) (hz : p.isZero = false)
    (h : evalP iso11XDen (p.x / p.z ^ 2) = 0 ∨ evalP iso11YDen (p.x / p.z ^ 2) = 0) :
    (iso11 p).isZero = true := by
  rw [jac_isZero_iff]
  refine iso_kernel iso11_shape p ?_ h
  intro h0
  rw [(jac_isZero_iff p).mpr h0] at hz
  exact Bool.noConfusion hz

/-- … and nothing else does -/
theorem iso11_isZero_iff (p : Jac Fq) :
    (iso11 p).isZero = true ↔
      p.isZero = true ∨ evalP iso11XDen (p.x / p.z ^ 2) = 0 ∨ evalP iso11YDen (p.x / p.z ^ 2) = 0 := by
  rw [jac_isZero_iff, jac_isZero_iff]
  exact iso_z_eq_zero_iff iso11_shape p

/-- the poles are the roots of the kernel polynomial `K` (`XD = K²`, `YD = K³`) -/
theorem iso11_isZero_iff_ker (p : Jac Fq) :
    (iso11 p).isZero = true ↔ p.isZero = true ∨ evalP iso11Ker (p.x / p.z ^ 2) = 0 := by
  rw [iso11_isZero_iff, pole_iff iso11_xden_ker iso11_yden_ker]

/-- compatibility with negation (the model's `negate`, all cases) -/
theorem iso11_neg (p : Jac Fq) : iso11 p.neg = (iso11 p).neg :=
  iso_neg iso11_shape p

/-- representation independence: `(l²X, l³Y, lZ) ↦ (μ²X₃, μ³Y₃, μZ₃)` with `μ = l^55` -/
theorem iso11_homogeneous (p : Jac Fq) (l : Fq) :
    iso11 ⟨l ^ 2 * p.x, l ^ 3 * p.y, l * p.z⟩ =
      ⟨(l ^ 55) ^ 2 * (iso11 p).x, (l ^ 55) ^ 3 * (iso11 p).y, l ^ 55 * (iso11 p).z⟩ := by
  have e : 2 * iso11XDen.length + 2 * iso11YNum.length + 1 = 55 := by
    obtain ⟨_, h2, h3, _⟩ := iso11_lengths
    rw [h2, h3]
  have h := iso_homogeneous iso11_shape p l
  rw [e] at h
  exact h

/-- … hence the same point: same finiteness, same affine coordinates -/
theorem iso11_homogeneous_affine (p : Jac Fq) (l : Fq) (hl : l ≠ 0) :
    ((iso11 ⟨l ^ 2 * p.x, l ^ 3 * p.y, l * p.z⟩).z = 0 ↔ (iso11 p).z = 0) ∧
    (iso11 ⟨l ^ 2 * p.x, l ^ 3 * p.y, l * p.z⟩).x / (iso11 ⟨l ^ 2 * p.x, l ^ 3 * p.y, l * p.z⟩).z ^ 2 =
      (iso11 p).x / (iso11 p).z ^ 2 ∧
    (iso11 ⟨l ^ 2 * p.x, l ^ 3 * p.y, l * p.z⟩).y / (iso11 ⟨l ^ 2 * p.x, l ^ 3 * p.y, l * p.z⟩).z ^ 3 =
      (iso11 p).y / (iso11 p).z ^ 3 :=
  iso_homogeneous_affine iso11_shape p l hl

/-- points of `E'` (any representative; any `z = 0` triple is the identity) go to points of `E` -/
theorem iso11_onCurve (p : Jac Fq)
    (hp : p.z = 0 ∨ p.y ^ 2 = p.x ^ 3 + g1EllpA * p.x * p.z ^ 4 + g1EllpB * p.z ^ 6) :
    (iso11 p).y ^ 2 = (iso11 p).x ^ 3 + g1Codec.b * (iso11 p).z ^ 6 :=
  iso_onCurve iso11_shape _ _ _ iso11_ident.eval p hp

/-! ## G2: `iso3`, from `E2' : y² = x³ + 240u·x + 1012(1+u)` to `E2 : y² = x³ + 4(1+u)` over `Fq2` -/

/-- the curve constants: `A' = 240u`, `B' = 1012(1+u)`, `b = 4(1+u)` -/
theorem g2_consts : g2EllpA = ⟨0, Zp.ofNat 240⟩ ∧ g2EllpB = ⟨Zp.ofNat 1012, Zp.ofNat 1012⟩ ∧
    g2Codec.b = ⟨Zp.ofNat 4, Zp.ofNat 4⟩ := by decide +kernel

end C16

namespace C16Inst
open IsoPoly Iso

theorem iso3_affine (p : Jac Fq2) (hz : p.z ≠ 0)
    (hxd : evalP iso3XDen (p.x / p.z ^ 2) ≠ 0) (hyd : evalP iso3YDen (p.x / p.z ^ 2) ≠ 0) :
    (iso3 p).z ≠ 0 ∧
    (iso3 p).x / (iso3 p).z ^ 2 =
      evalP iso3XNum (p.x / p.z ^ 2) / evalP iso3XDen (p.x / p.z ^ 2) ∧
    (iso3 p).y / (iso3 p).z ^ 3 =
      (p.y / p.z ^ 3) * evalP iso3YNum (p.x / p.z ^ 2) / evalP iso3YDen (p.x / p.z ^ 2) :=
  iso_affine iso3_shape p hz hxd hyd

theorem iso3_identity (p : Jac Fq2) (h : p.isZero = true) : (iso3 p).isZero = true := by
  rw [jac_isZero_iff] at h ⊢
  exact iso_identity p h

theorem iso3_kernel (p : Jac Fq2) (hz : p.isZero = false)
    (h : evalP iso3XDen (p.x / p.z ^ 2) = 0 ∨ evalP iso3YDen (p.x / p.z ^ 2) = 0) :
    (iso3 p).isZero = true := by
  rw [jac_isZero_iff]
  refine iso_kernel iso3_shape p ?_ h
  intro h0
  rw [(jac_isZero_iff p).mpr h0] at hz
  exact Bool.noConfusion hz

theorem iso3_isZero_iff (p : Jac Fq2) :
    (iso3 p).isZero = true ↔
      p.isZero = true ∨ evalP iso3XDen (p.x / p.z ^ 2) = 0 ∨ evalP iso3YDen (p.x / p.z ^ 2) = 0 := by
  rw [jac_isZero_iff, jac_isZero_iff]
  exact iso_z_eq_zero_iff iso3_shape p

theorem iso3_isZero_iff_ker (p : Jac Fq2) :
    (iso3 p).isZero = true ↔ p.isZero = true ∨ evalP iso3Ker (p.x / p.z ^ 2) = 0 := by
  rw [iso3_isZero_iff, pole_iff iso3_xden_ker iso3_yden_ker]

theorem iso3_neg (p : Jac Fq2) : iso3 p.neg = (iso3 p).neg :=
  iso_neg iso3_shape p

/-- representation independence: `(l²X, l³Y, lZ) ↦ (μ²X₃, μ³Y₃, μZ₃)` with `μ = l^15` -/
theorem iso3_homogeneous (p : Jac Fq2) (l : Fq2) :
    iso3 ⟨l ^ 2 * p.x, l ^ 3 * p.y, l * p.z⟩ =
      ⟨(l ^ 15) ^ 2 * (iso3 p).x, (l ^ 15) ^ 3 * (iso3 p).y, l ^ 15 * (iso3 p).z⟩ := by
  have e : 2 * iso3XDen.length + 2 * iso3YNum.length + 1 = 15 := by
    obtain ⟨_, h2, h3, _⟩ := iso3_lengths
    rw [h2, h3]
  have h := iso_homogeneous iso3_shape p l
  rw [e] at h
  exact h

theorem iso3_homogeneous_affine (p : Jac Fq2) (l : Fq2) (hl : l ≠ 0) :
    ((iso3 ⟨l ^ 2 * p.x, l ^ 3 * p.y, l * p.z⟩).z = 0 ↔ (iso3 p).z = 0) ∧
    (iso3 ⟨l ^ 2 * p.x, l ^ 3 * p.y, l * p.z⟩).x / (iso3 ⟨l ^ 2 * p.x, l ^ 3 * p.y, l * p.z⟩).z ^ 2 =
      (iso3 p).x / (iso3 p).z ^ 2 ∧
    (iso3 ⟨l ^ 2 * p.x, l ^ 3 * p.y, l * p.z⟩).y / (iso3 ⟨l ^ 2 * p.x, l ^ 3 * p.y, l * p.z⟩).z ^ 3 =
      (iso3 p).y / (iso3 p).z ^ 3 :=
  iso_homogeneous_affine iso3_shape p l hl

theorem iso3_onCurve (p : Jac Fq2)
    (hp : p.z = 0 ∨ p.y ^ 2 = p.x ^ 3 + g2EllpA * p.x * p.z ^ 4 + g2EllpB * p.z ^ 6) :
    (iso3 p).y ^ 2 = (iso3 p).x ^ 3 + g2Codec.b * (iso3 p).z ^ 6 :=
  iso_onCurve iso3_shape _ _ _ iso3_ident.eval p hp


end C16Inst

namespace C16
open IsoPoly Iso

/-! ## non-vacuity and known answers (kernel computation on the executable model) -/

/-- an SSWU output is a finite point of `E'`; its image is a finite point of `E` -/
example : (osswuG1 0).z ≠ 0 ∧
    (osswuG1 0).y ^ 2 = (osswuG1 0).x ^ 3 + g1EllpA * (osswuG1 0).x * (osswuG1 0).z ^ 4
      + g1EllpB * (osswuG1 0).z ^ 6 := by decide +kernel
example : (iso11 (osswuG1 0)).z ≠ 0 ∧
    (iso11 (osswuG1 0)).y ^ 2 = (iso11 (osswuG1 0)).x ^ 3 + 4 * (iso11 (osswuG1 0)).z ^ 6 := by
  decide +kernel

/-- a rational kernel point of the 11-isogeny: on `E'`, finite, sent to the identity -/
example :
    let k : Jac Fq := ⟨Zp.ofNat 0x140d41735b10ce710727cd9356905701a2b866b803baa468948b7f423ddcc560c9a8f1cd5f8ed4297c37464fb8bfe4a7,
      Zp.ofNat 0xdf4b0aa4097bb74ca3d1ed53ee02a7f26cc3caeed5ea50b84886a1e987a6fd65359b2845b348d5f4fac4a7611e9d869, 1⟩
    k.y ^ 2 = k.x ^ 3 + g1EllpA * k.x * k.z ^ 4 + g1EllpB * k.z ^ 6 ∧ k.isZero = false ∧
      evalP iso11XDen (k.x / k.z ^ 2) = 0 ∧ (iso11 k).isZero = true := by decide +kernel

/-- same over `Fq2`, written with the model's `*` and `+` only -/
example : ∃ p, osswuG2 0 = some p ∧ p.isZero = false ∧
    p.y * p.y = p.x * p.x * p.x + g2EllpA * p.x * (p.z * p.z * (p.z * p.z))
      + g2EllpB * (p.z * p.z * p.z * (p.z * p.z * p.z)) ∧
    (iso3 p).isZero = false ∧
    (iso3 p).y * (iso3 p).y = (iso3 p).x * (iso3 p).x * (iso3 p).x
      + g2Codec.b * ((iso3 p).z * (iso3 p).z * (iso3 p).z * ((iso3 p).z * (iso3 p).z * (iso3 p).z)) :=
  ⟨(osswuG2 0).getD default, by decide +kernel⟩

/-! the six known-answer vectors of src/bls12_381/isogeny/tests.rs (`Fq::from_repr` limbs read as
    canonical integers), reproduced by the model -/

example : iso11 ⟨0, 0, 0⟩ = ⟨0, 0, 0⟩ := by decide +kernel
example : iso11 ⟨1, 1, 1⟩ =
    ⟨Zp.ofNat 0x10fc4a3ba5f48e079661fcf22bedfddb9e9c31f30a607c8bcaab8cc9ec4893f21c5429e2f4b8bc35b129fab9bef88edd,
     Zp.ofNat 0x11eab1145b95cb9f538ebef63fb145be43e2d5f172257d50c8890dd0987b134f1533c0f27b46c02faf52c5fbd490f370,
     Zp.ofNat 0x12514e630a486abb5f3cc0ed1bd3f0eec75152c6f387d070678c5bf3ad4090b4620b0af2483ad30f7441c43513e11f49⟩ := by decide +kernel
example : iso11
    ⟨Zp.ofNat 0x1789051238d025e347ff3364428c59b3c40dc338ca2852312365b1fb1c8a73bfa384a7ab165def35f6adc4118ae592ab,
     Zp.ofNat 0x88cb5712bf819248e76c82bd4a29d210459ed10f1f8abb106f6ff472fa7276e03f604e47bc51aa91a635634e9cced27,
     Zp.ofNat 0x64bb4b501466b2af9698f57510273fbbdc3405df9ff0a3b683295bcaed54202aced7fec7a63fe650416411fe2e97d06⟩ =
    ⟨Zp.ofNat 0xf34c6cea2fc01990db61b8544450f539ddcd540391389ad2d1aff4e4ae283791771cef34519b6f2a51741657e71601d,
     Zp.ofNat 0x19284e38020f60721d32499c9f462716f1c66e0e000b567372ef2afff097ad4fd3a592a3ffc2c77cd1d70b485ea22464,
     Zp.ofNat 0x16f4243bf7230576c27121d0eb3d5efcb6602e02d0d7ac4d47f7edb38429108ab7f34ad188fdc105583946b46d152c9f⟩ := by decide +kernel
example : iso3 ⟨0, 0, 0⟩ = ⟨0, 0, 0⟩ := by decide +kernel
example : iso3 ⟨1, 1, 1⟩ =
    ⟨⟨Zp.ofNat 0x1439b899baf1b35b8fc02d1bfb73bf5231b21e4af64b0e94de7b4e7d31a614c6c285c71b6d7a38e357c6555579807bca, Zp.ofNat 0xe725f493c63801cd464b281b39bd1ccfeecf110f9110a6a55c5ca596c9b3369665f8e3829a071c6f58daaab358a307b⟩,
     ⟨Zp.ofNat 0x4d0ca6dbecbd55ef176e62b3bde9b4454f9a5b05305ae2371ec98c879891123221fda12b88ad097a72f3db7cb8405a4, Zp.ofNat 0x124c9ad43b6cf79bfbf7043de3811ad0761b0f37a1e26286b0e977c69aa274524e79097a56dc4bd9e1b3626ab65e39a9⟩,
     ⟨Zp.ofNat 0x1a0111ea397fe69a4b1ba7b6434bacd764774b84f38512bf6730d2a0f6b0f6241eabfffeb153ffffb9fefffffffebb2a, Zp.ofNat 0x65b2⟩⟩ := by decide +kernel
example : iso3
    ⟨⟨Zp.ofNat 0x530990b2b3e9a8a3f3f7d07e4c40a9389b3941228dae354d52d2a45caca6edac4c8890b30d528eb0018c03388164247, Zp.ofNat 0x117d0dba9f17843987933ab312f66f88f974e31a71e5fe1f11c92e91687441add6a6501c1871b9066b90db064d0030e9⟩,
     ⟨Zp.ofNat 0x11b94175e3be4de8967de59661e37bb50c7d97874f6f026da9c3c810a96f8ca7ad55ed81ecc390ff6dee4915e87b601a, Zp.ofNat 0x35eea1ab1a2a087f8c75b4c8b66c965e8722180e02d081817cf622d5607fbca41b7f7263e23c28e53563b5cfa722ba8⟩,
     ⟨Zp.ofNat 0x189add484077dd45c41aa271acd3a3a14d197aa97c5317f553bf87ae6e302bd362d7bae1a74336dc71f8d78673dbfa39, Zp.ofNat 0xe613ba7c4916c20b36b52b4a869619396b99fa5eb4f47c8c15f3a4db5bc86a73a5d62187b0133109a214bfcea21674f⟩⟩ =
    ⟨⟨Zp.ofNat 0x181403b14aa1932755213880b7ed140d678934e396004f81db71788e6d1c651237932278669819e7f119e132b7ebd22c, Zp.ofNat 0x13f21dc8a4dfcc1a8b649eeb97f5676ef6b6f9af2f2fc2582e8422b082fc8c69bdaab7e27633f5d2daac25bd8310aef3⟩,
     ⟨Zp.ofNat 0x9cab53c88c263bd95d5421d9c9465de6a2ce7736962cd7c3b97d6bb83c22918d9ef23f135188a36be1f08d76520ec2a, Zp.ofNat 0x6299d091ec0ed1197df98a239aa957d669c0d885b42452ac53c7316655326ea0b182f682ab747433e6a004356660064⟩,
     ⟨Zp.ofNat 0x644ae14e9341fb121d7ae073e479fd2d6e07a3e0ca5733f88193c7dd6189374c00a671fa8fc185e518e02aaa358acd, Zp.ofNat 0x14474088f5b1d2e341def4997b2fc93f82d08553b1dacca2491857011bcac282de7d5d396f73c2369bed7fa96e783e15⟩⟩ := by decide +kernel

end C16
end PP
