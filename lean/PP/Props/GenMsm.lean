/-
OBLIGATIONS "GenMsm": the scalar-multiplication tables, the multi-scalar multiplications and the wNAF code of
the hand-written model ARE the Rust source.

`PP/Gen/Msm.lean` (namespace `PP.Gen.M`) is REGENERATED from /repo on every run of /verif/extract/extract.py
by /verif/extract/extract_msm.py: one Lean definition per Rust function, one `let` / `if` / `match` line per
Rust statement.  Each theorem below states that such a regenerated definition is equal to the hand-written
model definition (`PP/Model/Mul.lean`) that the properties C02 / C10 are proved about.  An edit of one of these
Rust functions changes the generated text, and the corresponding theorem no longer compiles (or the extractor
refuses the new shape), whether or not a test input exposes it.

Correspondence Rust -> generated -> model:
  ec/mod.rs (macro `curve_impl!`, `impl CurveAffine for $affine`)
      precomp_3 mul_precomp_3 precomp_256 mul_precomp_256      -> `Aff.precomp3` `Aff.mulPrecomp3` `Aff.precomp256` `Aff.mulPrecomp256`
      find_pippinger_window sum_of_products_pippinger sum_of_products sum_of_products_precomp_256
                                                               -> `findPippingerWindow` `sumOfProductsPippinger` `sumOfProducts` `sumOfProductsPrecomp256`
  ec/mod.rs (`impl CurveProjective for $projective`) recommended_wnaf_for_scalar / _for_num_scalars,
  ec/g1.rs, ec/g2.rs empirical_recommended_wnaf_for_scalar / _for_num_scalars
                                                               -> `recommendForScalar` / `recommendForNumScalars` on the extracted tables
  wnaf.rs  wnaf_table wnaf_form wnaf_exp                       -> `wnafTable` `wnafForm` `wnafExp`
           Wnaf::{new, base, scalar, shared, shared, base, scalar}
                                                               -> `WnafCtx.new`, `WnafCtx.baseThenScalar`, `WnafCtx.scalarThenBase`

Differences of representation that are visible in the statements:
  * buffers: `precomp_3` / `precomp_256` WRITE INTO the caller's slice (`M.setIdx` on the incoming list) where the
    model builds a fresh table; the statements say that for a buffer that is long enough every slot of the table
    is written and the rest of the buffer is unchanged (`t ++ pre.drop n`); a buffer shorter than 3 makes
    `precomp_3` panic (`Aff_precomp3_panics`);
  * `&[Self]` tables are `List`s in the generated code and `Array`s in the model (`pre.toArray`); scalars
    `&[u64; 4]` / `FrRepr` are limb lists in the generated code and the `Nat` they denote in the model
    (`limbsOf 4 k`, `ks.map (limbsOf 4)`);
  * `while` / `loop`: the generated definitions take `fuel`; the statements are at the model's constants (300
    iterations of `wnaf_form`, 257 windows of Pippenger) and, for `wnaf_form` and `precomp_256`, for every fuel
    (`wnafForm_fuel`; `8 ≤ fuel`);
  * usize underflow is a panic in the generated code (`M.usub`): `wnaf_table` with `window = 0` is `none` there
    (`wnafTable_zero`: in Rust `1 << (0 - 1)` panics with overflow checks and asks for 2^63 entries without) while
    the model returns a one-entry table -- the statements about `wnaf_table` and the `Wnaf` context carry
    `1 ≤ window` (true for every recommended window: the G1 / G2 corollaries have no hypothesis);
    `sum_of_products_pippinger` is stated for `window ≤ 64` (`64 - high_order_shift` underflows beyond; the
    property C10 is about `1 ≤ window ≤ 20`, and `find_pippinger_window` returns at most 16);
  * a returned `Wnaf` that borrows `&mut self.scalar` / `&mut self.base` holds the value at that moment; the
    statements `Wnaf_baseThenScalar` / `Wnaf_scalarThenBase` compose the two calls and write the borrowed
    component back (`⟨c1.base, v'.scalar⟩`), which is what the end of the borrow means.

Primitives that are not in /repo and are therefore the generated code of another section: the
`PrimeFieldRepr` operations of `FrRepr` (`is_zero is_odd div2 add_nocarry sub_noborrow from(u64) num_bits`,
Derive.lean, related to the integers by PP/Proofs/GenDerive.lean), the curve operations (Arith.lean).
-/
import PP.Proofs.GenMsm

namespace PP.GenMsm
open PP PP.Gen PP.GenMsmLemmas

/-! ## `wnaf_form` (src/wnaf.rs), window recommendations (ec/mod.rs, ec/g1.rs, ec/g2.rs) -/

theorem wnafForm_fuel (fuel : Nat) (old : List Int) (c w : Nat) :
    M.wnafForm fuel old (limbsOf 4 c) w
      = (wnafFormLoop w fuel (c % 2 ^ 256) []).map (fun l => old.take 0 ++ l) := by
  unfold M.wnafForm
  rw [← Limbs.limbsToNat_limbsOf 4 c]
  exact wnafForm_loop w old _ _ (fun _ => rfl) (fun _ => rfl) fuel _ _ []
    ⟨Limbs.limbsOf_length 4 c, Limbs.limbsOf_ok 4 c⟩ (by simp)

theorem wnafForm (old : List Int) (c w : Nat) : M.wnafForm 300 old (limbsOf 4 c) w = PP.wnafForm old c w :=
  wnafForm_fuel 300 old c w

theorem Jac_recommendedWnafForScalar (emp : List Nat → Nat) (s : List Nat) :
    M.Jac.recommendedWnafForScalar emp s = emp s := rfl
theorem Jac_recommendedWnafForNumScalars (emp : Nat → Nat) (n : Nat) :
    M.Jac.recommendedWnafForNumScalars emp n = emp n := rfl
theorem G1_empiricalRecommendedWnafForScalar (k : Nat) :
    M.G1.empiricalRecommendedWnafForScalar (limbsOf 4 k)
      = recommendForScalar G1_WNAF_SCALAR_LADDER G1_WNAF_SCALAR_DEFAULT (k % 2 ^ 256) :=
  recScalar_eq _ _ _ _ _ _ (fun _ => rfl) k
theorem G2_empiricalRecommendedWnafForScalar (k : Nat) :
    M.G2.empiricalRecommendedWnafForScalar (limbsOf 4 k)
      = recommendForScalar G2_WNAF_SCALAR_LADDER G2_WNAF_SCALAR_DEFAULT (k % 2 ^ 256) :=
  recScalar_eq _ _ _ _ _ _ (fun _ => rfl) k
theorem G1_empiricalRecommendedWnafForNumScalars (n : Nat) :
    M.G1.empiricalRecommendedWnafForNumScalars n
      = recommendForNumScalars G1_WNAF_RECOMMENDATIONS G1_WNAF_RECOMMEND_BASE n :=
  forBrkP_takeWhile n _ (fun _ _ => rfl) G1_WNAF_RECOMMENDATIONS G1_WNAF_RECOMMEND_BASE
theorem G2_empiricalRecommendedWnafForNumScalars (n : Nat) :
    M.G2.empiricalRecommendedWnafForNumScalars n
      = recommendForNumScalars G2_WNAF_RECOMMENDATIONS G2_WNAF_RECOMMEND_BASE n :=
  forBrkP_takeWhile n _ (fun _ _ => rfl) G2_WNAF_RECOMMENDATIONS G2_WNAF_RECOMMEND_BASE

section
set_option linter.unusedSectionVars false
variable {F : Type} [Add F] [Sub F] [Mul F] [Neg F] [Zero F] [One F] [FieldOps F] [DecidableEq F]

/-! ## tables (src/bls12_381/ec/mod.rs) -/

theorem Aff_precomp3 (a : Aff F) (pre : List (Aff F)) (h : 3 ≤ pre.length) :
    M.Aff.precomp3 a pre = (a.precomp3).map (fun t => t ++ pre.drop 3) := precomp3_eq a pre h
theorem Aff_precomp3_panics (a : Aff F) (pre : List (Aff F)) (h : pre.length < 3) :
    M.Aff.precomp3 a pre = none := precomp3_short a pre h
theorem Aff_mulPrecomp3 (a : Aff F) (k : Nat) (pre : List (Aff F)) :
    M.Aff.mulPrecomp3 a k pre = a.mulPrecomp3 k pre := mulPrecomp3_eq a k pre
theorem Aff_precomp256 (fuel : Nat) (hfuel : 8 ≤ fuel) (a : Aff F) (pre : List (Aff F)) (h : 256 ≤ pre.length) :
    M.Aff.precomp256 fuel a pre = (a.precomp256).map (fun t => t ++ pre.drop 256) := by
  obtain ⟨y, tail, rfl⟩ : ∃ y tail, pre = y :: tail := by
    cases pre with
    | nil => simp at h
    | cons y t => exact ⟨y, t, rfl⟩
  obtain ⟨extra, rfl⟩ : ∃ extra, fuel = 8 + extra := ⟨fuel - 8, by omega⟩
  unfold M.Aff.precomp256 Aff.precomp256
  simp only [GenArithLemmas.Aff_zero_eq, GenArithLemmas.Aff_toJac_eq, GenArithLemmas.Jac_double_eq,
    GenArithLemmas.Jac_toAffine_eq, GenArithLemmas.Jac_addMixed_eq, foldl_double]
  rw [setIdx_of_lt _ (Nat.zero_lt_succ _)]
  dsimp only
  exact p256_loop (y :: tail) h _ _ (fun st => rfl) (fun st => rfl) 8 0 extra [Aff.zero] a.toJac rfl rfl

theorem Aff_mulPrecomp256 (a : Aff F) (k : Nat) (pre : List (Aff F)) :
    M.Aff.mulPrecomp256 a k pre = a.mulPrecomp256 k pre.toArray := by
  unfold M.Aff.mulPrecomp256 Aff.mulPrecomp256
  simp only [GenArithLemmas.Aff_toJac_eq, GenArithLemmas.Jac_double_eq, GenArithLemmas.Jac_addMixed_eq]
  simp only [getD_limbsOf4 k 0 (by decide), getD_limbsOf4 k 1 (by decide), getD_limbsOf4 k 2 (by decide),
    getD_limbsOf4 k 3 (by decide), mod_and_small _ 64 (by decide), mod_and_small _ 16 (by decide),
    mod_and_small _ 4 (by decide), byteAt_def, byteTop_def, Option.bind_eq_bind, List.getElem?_toArray]
  cases pre[byteTop (limb k 0) (limb k 1) (limb k 2) (limb k 3)]? with
  | none => rfl
  | some e =>
    rw [Option.bind_some]
    dsimp only
    exact mulPrecomp256_loop pre _ _ _ _ _ (fun _ _ => rfl) 31 _ _

/-! ## multi-scalar multiplication (src/bls12_381/ec/mod.rs) -/

theorem findPippingerWindow (n : Nat) : M.findPippingerWindow n = some (PP.findPippingerWindow n) := by
  unfold M.findPippingerWindow
  -- the generated loop visits indices 1..15 of the 16 boundaries; `(1, 1)` is entry 0
  exact fpw_core Gen.PIPPINGER_BOUNDARIES n _ (fun i => rfl) 15 1 (1, 1) (by decide) rfl rfl

theorem Aff_sumOfProductsPippinger (points : List (Aff F)) (ks : List Nat) (window : Nat) (hw : window ≤ 64) :
    M.Aff.sumOfProductsPippinger 257 points (ks.map (limbsOf 4)) window
      = PP.sumOfProductsPippinger points ks window := sumOfProductsPippinger_eq points ks window hw
theorem Aff_sumOfProducts (points : List (Aff F)) (ks : List Nat) :
    M.Aff.sumOfProducts 257 points (ks.map (limbsOf 4)) = PP.sumOfProducts points ks := by
  unfold M.Aff.sumOfProducts PP.sumOfProducts
  simp only [List.length_map, ite_lt_eq_min, GenMsm.findPippingerWindow]
  rw [Aff_sumOfProductsPippinger _ _ _
    (by have := (PP.Pip.findPippingerWindow_range (min points.length ks.length)).2; omega)]
  cases PP.sumOfProductsPippinger points ks (PP.findPippingerWindow (min points.length ks.length)) <;> rfl

theorem Aff_sumOfProductsPrecomp256 (points : List (Aff F)) (ks : List Nat) (pre : List (Aff F)) :
    M.Aff.sumOfProductsPrecomp256 points (ks.map (limbsOf 4)) pre
      = PP.sumOfProductsPrecomp256 points ks pre.toArray := by
  unfold M.Aff.sumOfProductsPrecomp256 PP.sumOfProductsPrecomp256
  simp only [GenArithLemmas.Jac_zero_eq, GenArithLemmas.Jac_double_eq, GenArithLemmas.Jac_addMixed_eq,
    List.length_map, ite_lt_eq_min]
  refine sopOuter_loop pre _ _ (fun res i => ?_) 32 _
  refine sopInner_loop pre i ks _ (fun res j => ?_) _ 0 _ (by omega)
  rw [List.getElem?_map]
  cases ks[j]? with
  | none => rfl
  | some kj =>
    simp only [Option.map_some, getD_limbsOf4 kj 0 (by decide), getD_limbsOf4 kj 1 (by decide),
      getD_limbsOf4 kj 2 (by decide), getD_limbsOf4 kj 3 (by decide), mod_and_small _ 64 (by decide),
      mod_and_small _ 16 (by decide), mod_and_small _ 4 (by decide), byteAt_def]
    rfl

/-! ## wNAF (src/wnaf.rs) -/

theorem wnafTable (old : List (Jac F)) (base : Jac F) (window : Nat) (hw : 1 ≤ window) :
    M.wnafTable old base window = some (PP.wnafTable old base window) := by
  unfold M.wnafTable PP.wnafTable
  simp only [usub_of_le hw, GenArithLemmas.Jac_double_eq, GenArithLemmas.Jac_add_eq, Nat.one_shiftLeft]
  rw [← wnafTable_loop base.double (fun (x : List (Jac F) × Jac F) (_ : Nat) => (x.1 ++ [x.2], x.2.add base.double))
    (fun st i => rfl) (2 ^ (window - 1)) 0 (List.take 0 old) base [] rfl]
  rfl

theorem wnafTable_zero (old : List (Jac F)) (base : Jac F) : M.wnafTable old base 0 = none := rfl
theorem wnafExp (table : List (Jac F)) (wnaf : List Int) : M.wnafExp table wnaf = PP.wnafExp table wnaf :=
  wnafExp_eq table wnaf

/-! ## the `Wnaf` context (src/wnaf.rs) -/

theorem Wnaf_new : (M.Wnaf.new : M.Wnaf Unit (List (Jac F)) (List Int)) = ofCtx WnafCtx.new := rfl
theorem Wnaf_ctxBase (rn : Nat → Nat) (ctx : WnafCtx F) (b : Jac F) (n : Nat) (hw : 1 ≤ rn n) :
    M.Wnaf.ctxBase rn (ofCtx ctx) b n
      = some (ofCtx ⟨PP.wnafTable ctx.base b (rn n), ctx.scalar⟩, ⟨PP.wnafTable ctx.base b (rn n), ctx.scalar, rn n⟩) := by
  unfold M.Wnaf.ctxBase ofCtx
  simp only [wnafTable ctx.base b (rn n) hw]

theorem Wnaf_ctxScalar (rs : List Nat → Nat) (ctx : WnafCtx F) (k : Nat) :
    M.Wnaf.ctxScalar 300 rs (ofCtx ctx) (limbsOf 4 k)
      = (PP.wnafForm ctx.scalar k (rs (limbsOf 4 k))).map (fun sc =>
          (ofCtx ⟨ctx.base, sc⟩, (⟨ctx.base, sc, rs (limbsOf 4 k)⟩ : M.Wnaf Nat (List (Jac F)) (List Int)))) := by
  unfold M.Wnaf.ctxScalar ofCtx
  simp only [wnafForm]
  cases PP.wnafForm ctx.scalar k (rs (limbsOf 4 k)) <;> rfl

theorem Wnaf_baseShared (v : M.Wnaf Nat (List (Jac F)) (List Int)) :
    M.Wnaf.baseShared v = ⟨v.base, [], v.window_size⟩ := rfl
theorem Wnaf_scalarShared (v : M.Wnaf Nat (List (Jac F)) (List Int)) :
    M.Wnaf.scalarShared v = ⟨[], v.scalar, v.window_size⟩ := rfl
theorem Wnaf_expBase (v : M.Wnaf Nat (List (Jac F)) (List Int)) (b : Jac F) (hw : 1 ≤ v.window_size) :
    M.Wnaf.expBase v b
      = (PP.wnafExp (PP.wnafTable v.base b v.window_size) v.scalar).map (fun r =>
          ((⟨PP.wnafTable v.base b v.window_size, v.scalar, v.window_size⟩ : M.Wnaf Nat (List (Jac F)) (List Int)), r)) := by
  unfold M.Wnaf.expBase
  simp only [wnafTable v.base b v.window_size hw, wnafExp]
  cases PP.wnafExp (PP.wnafTable v.base b v.window_size) v.scalar <;> rfl

theorem Wnaf_expScalar (v : M.Wnaf Nat (List (Jac F)) (List Int)) (k : Nat) :
    M.Wnaf.expScalar 300 v (limbsOf 4 k)
      = (PP.wnafForm v.scalar k v.window_size).bind (fun sc => (PP.wnafExp v.base sc).map (fun r =>
          ((⟨v.base, sc, v.window_size⟩ : M.Wnaf Nat (List (Jac F)) (List Int)), r))) := by
  unfold M.Wnaf.expScalar
  simp only [wnafForm, wnafExp]
  cases PP.wnafForm v.scalar k v.window_size with
  | none => rfl
  | some sc =>
    simp only [Option.bind_some]
    cases PP.wnafExp v.base sc <;> rfl

/-- `wnaf.base(b, n).scalar(k)`: result and the context afterwards (the table stays in `ctx.base`, the
    digits are written through the `&mut` borrow of `ctx.scalar`), with any recommendation function that agrees
    with the model's table -/

theorem Wnaf_baseThenScalar (rc : WnafRec) (rn : Nat → Nat) (ctx : WnafCtx F) (b : Jac F) (n k : Nat)
    (hrn : rn n = recommendForNumScalars rc.tbl rc.base n)
    (hw : 1 ≤ recommendForNumScalars rc.tbl rc.base n) :
    (match M.Wnaf.ctxBase rn (ofCtx ctx) b n with
      | none => none
      | some (c1, v) =>
        match M.Wnaf.expScalar 300 v (limbsOf 4 k) with
        | none => none
        | some (v', r) => some (r, (⟨c1.base, v'.scalar⟩ : WnafCtx F)))
      = ctx.baseThenScalar rc b n k := by
  rw [Wnaf_ctxBase _ _ _ _ (hrn ▸ hw), hrn]
  dsimp only
  rw [Wnaf_expScalar]
  unfold WnafCtx.baseThenScalar ofCtx
  dsimp only
  cases PP.wnafForm ctx.scalar k (recommendForNumScalars rc.tbl rc.base n) with
  | none => rfl
  | some sc =>
    simp only [Option.bind_some, Option.bind_eq_bind, Option.pure_def]
    cases PP.wnafExp (PP.wnafTable ctx.base b (recommendForNumScalars rc.tbl rc.base n)) sc <;> rfl

/-- `wnaf.scalar(k).base(b)` with any recommendation function that agrees with the model's ladder -/
theorem Wnaf_scalarThenBase (rc : WnafRec) (rs : List Nat → Nat) (ctx : WnafCtx F) (k : Nat) (b : Jac F)
    (hrs : rs (limbsOf 4 k) = recommendForScalar rc.ladder rc.dflt (k % 2 ^ 256))
    (hw : 1 ≤ recommendForScalar rc.ladder rc.dflt (k % 2 ^ 256)) :
    (match M.Wnaf.ctxScalar 300 rs (ofCtx ctx) (limbsOf 4 k) with
      | none => none
      | some (c1, v) =>
        match M.Wnaf.expBase v b with
        | none => none
        | some (v', r) => some (r, (⟨v'.base, c1.scalar⟩ : WnafCtx F)))
      = ctx.scalarThenBase rc k b := by
  rw [Wnaf_ctxScalar, hrs]
  unfold WnafCtx.scalarThenBase
  dsimp only
  cases PP.wnafForm ctx.scalar k (recommendForScalar rc.ladder rc.dflt (k % 2 ^ 256)) with
  | none => rfl
  | some sc =>
    simp only [Option.map_some, Option.bind_some, Option.bind_eq_bind, Option.pure_def]
    rw [Wnaf_expBase _ _ hw]
    unfold ofCtx
    dsimp only
    cases PP.wnafExp (PP.wnafTable ctx.base b (recommendForScalar rc.ladder rc.dflt (k % 2 ^ 256))) sc <;> rfl

/-- G1: `G::recommended_wnaf_for_num_scalars` is the generated function of ec/mod.rs applied to the one of ec/g1.rs -/
theorem Wnaf_baseThenScalar_G1 (ctx : WnafCtx F) (b : Jac F) (n k : Nat) :
    (match M.Wnaf.ctxBase (M.Jac.recommendedWnafForNumScalars M.G1.empiricalRecommendedWnafForNumScalars)
        (ofCtx ctx) b n with
      | none => none
      | some (c1, v) =>
        match M.Wnaf.expScalar 300 v (limbsOf 4 k) with
        | none => none
        | some (v', r) => some (r, (⟨c1.base, v'.scalar⟩ : WnafCtx F)))
      = ctx.baseThenScalar g1Rec b n k :=
  Wnaf_baseThenScalar g1Rec _ ctx b n k (G1_empiricalRecommendedWnafForNumScalars n)
    (Nat.le_trans (by decide) (recommendForNumScalars_range g1Rec.tbl g1Rec.base n).1)
theorem Wnaf_baseThenScalar_G2 (ctx : WnafCtx F) (b : Jac F) (n k : Nat) :
    (match M.Wnaf.ctxBase (M.Jac.recommendedWnafForNumScalars M.G2.empiricalRecommendedWnafForNumScalars)
        (ofCtx ctx) b n with
      | none => none
      | some (c1, v) =>
        match M.Wnaf.expScalar 300 v (limbsOf 4 k) with
        | none => none
        | some (v', r) => some (r, (⟨c1.base, v'.scalar⟩ : WnafCtx F)))
      = ctx.baseThenScalar g2Rec b n k :=
  Wnaf_baseThenScalar g2Rec _ ctx b n k (G2_empiricalRecommendedWnafForNumScalars n)
    (Nat.le_trans (by decide) (recommendForNumScalars_range g2Rec.tbl g2Rec.base n).1)
theorem Wnaf_scalarThenBase_G1 (ctx : WnafCtx F) (k : Nat) (b : Jac F) :
    (match M.Wnaf.ctxScalar 300 (M.Jac.recommendedWnafForScalar M.G1.empiricalRecommendedWnafForScalar)
        (ofCtx ctx) (limbsOf 4 k) with
      | none => none
      | some (c1, v) =>
        match M.Wnaf.expBase v b with
        | none => none
        | some (v', r) => some (r, (⟨v'.base, c1.scalar⟩ : WnafCtx F)))
      = ctx.scalarThenBase g1Rec k b :=
  Wnaf_scalarThenBase g1Rec _ ctx k b (G1_empiricalRecommendedWnafForScalar k)
    (Nat.le_trans (by decide) (recommendForScalar_range (k % 2 ^ 256)).1.1)
theorem Wnaf_scalarThenBase_G2 (ctx : WnafCtx F) (k : Nat) (b : Jac F) :
    (match M.Wnaf.ctxScalar 300 (M.Jac.recommendedWnafForScalar M.G2.empiricalRecommendedWnafForScalar)
        (ofCtx ctx) (limbsOf 4 k) with
      | none => none
      | some (c1, v) =>
        match M.Wnaf.expBase v b with
        | none => none
        | some (v', r) => some (r, (⟨v'.base, c1.scalar⟩ : WnafCtx F)))
      = ctx.scalarThenBase g2Rec k b :=
  Wnaf_scalarThenBase g2Rec _ ctx k b (G2_empiricalRecommendedWnafForScalar k)
    (Nat.le_trans (by decide) (recommendForScalar_range (k % 2 ^ 256)).2.1)

end

end PP.GenMsm
