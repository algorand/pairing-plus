/-
Short corollaries that close gaps between the statements of C14, C05/C19 and C10 and the wording of
the properties.

Part A — C14 (`map2_to_curve`): the G2 analogues that `PP/Props/C14.lean` states for G1 only
  (`g2_map2_same_image`, `g2_map2_neg'`, `g2_map_zero`), and the excluded case of the clause
  "`u0 = −u1` ⇒ identity": at `u = 0` one has `−u = u`, the pair is the case `u0 = u1`, and the result is
  `[h_eff][2] iso(sswu(0))` (`g1_map2_zero`, `g2_map2_zero`) — for G1 it is NOT the identity (kernel evaluation),
  so the side condition `u ≠ 0` of `C14.g1_map2_neg` cannot be dropped.

Part B — C05 / C19 ("decode(encode P) = P, identity included", "injective"):
  `C05.decodeCompressed_encodeCompressed`, `C05.decodeUncompressed_encodeUncompressed` (and their instances
  `C05Inst.decode_encode_*`), `C05.encodeCompressed_injective`, `C05.encodeUncompressed_injective`,
  `C19.deserAffine_serAffine` carry `hinf : A.infinity = true → A = Aff.zero`, false for
  identity records with junk coordinates (`⟨x, y, true⟩`).  Here the POINT-LEVEL statements without `hinf`:
  * the encoders treat every record with `infinity = true` as the identity (`encodeCompressed_normalize`,
    `encodeUncompressed_normalize`, `encode_of_infinity`);
  * for EVERY record accepted by `in_subgroup`, `decode (encode A) = .ok (normalize A)` where `normalize` replaces a
    flagged record by `Aff.zero` and keeps every other record — so the decoded record denotes THE SAME POINT
    (`Aff.abs` preserved), and is `A` itself unless `A` is a junk identity;
  * the same through `SerDes` (any trailing data, both flags);
  * point-level injectivity and well-definedness: for records accepted by `in_subgroup`, two records have the same
    encoding IFF they denote the same point.

Part C — C10: `curve_pippinger_prefix`, `curve_sum_of_products_prefix`: the hypotheses on scalars and points range
  over the zipped prefix that the code reads, not over both whole lists.

Non-vacuity: a junk identity record `⟨5, 7, true⟩` of G1 is accepted by `in_subgroup` and round-trips to `Aff.zero`.

At the end, in the namespace of `PP/Props/C14.lean`: the pre-fix result fails the subgroup test that the
  fixed code passes on every input (`CurveOrder`, which `C14.lean` precedes), hence differs from the fixed one.
-/
import PP.Props.C14
import PP.Props.CurveOrder
import PP.Props.C05Inst
import PP.Props.C19Inst
import PP.Props.C07
import PP.Props.C10Inst
import PP.Proofs.GroupModelInst

set_option linter.unusedSectionVars false

namespace PP.C14Extra
open PP WeierstrassCurve.Affine

/-! ## Part A: C14 -/

section C14
local notation "b₁" => g1Codec.b
local notation "b₂" => g2Codec.b

/-- G2, distinct inputs whose (isogeny images of the) SSWU images coincide: same as `u0 = u1`
    (the G2 analogue of `C14.g1_map2_same_image`) -/
theorem g2_map2_same_image (u0 u1 : Fq2) :
    ∃ P0 P1 R, osswuG2 u0 = some P0 ∧ osswuG2 u1 = some P1 ∧ map2ToCurveG2 u0 u1 = some R ∧
      (Jac.abs b₂ (iso3 P0) = Jac.abs b₂ (iso3 P1) →
        Jac.abs b₂ R = C17.hEffG2 • (2 • Jac.abs b₂ (iso3 P0))) := by
  obtain ⟨P0, P1, R, hP0, hP1, hR, -, -, -, habs⟩ := C14.g2_map2_eq u0 u1
  exact ⟨P0, P1, R, hP0, hP1, hR, fun h => by rw [habs, ← h, two_nsmul]⟩

/-- G2, `u0 = −u`, `u1 = u`, `u ≠ 0`: the identity (the mirror image of `C14.g2_map2_neg`) -/
theorem g2_map2_neg' (u : Fq2) (hu : u ≠ 0) :
    ∃ R, map2ToCurveG2 (-u) u = some R ∧ Jac.abs b₂ R = 0 ∧ R.isZero = true := by
  have h := C14.g2_map2_neg (-u) (neg_ne_zero.mpr hu)
  rwa [neg_neg] at h

/-- G2, the input `0` (an exceptional input of SSWU): instance of `C14.g2_map_exceptional` -/
theorem g2_map_zero :
    ∃ P R, osswuG2 0 = some P ∧ Sswu.affX P = g2EllpB / (g2Xi * g2EllpA) ∧ mapToCurveG2 0 = some R ∧
      Jac.abs b₂ R = C17.hEffG2 • Jac.abs b₂ (iso3 P) :=
  C14.g2_map_exceptional 0 (by ring)

/-- the case excluded from "`u0 = −u1` ⇒ identity": for `u = 0`, `−u = u` and the pair is the doubling case -/
theorem g1_map2_zero :
    Jac.abs b₁ (map2ToCurveG1 0 (-0)) = C17.hEffG1 • (2 • Jac.abs b₁ (iso11 (osswuG1 0))) := by
  rw [neg_zero]; exact C14.g1_map2_self 0

theorem g2_map2_zero :
    ∃ P R, osswuG2 0 = some P ∧ map2ToCurveG2 0 (-0) = some R ∧
      Jac.abs b₂ R = C17.hEffG2 • (2 • Jac.abs b₂ (iso3 P)) := by
  rw [neg_zero]; exact C14.g2_map2_self 0

/-- … and for G1 the result at `u = 0` is NOT the identity (kernel evaluation of the executable model), so
    `u ≠ 0` in `C14.g1_map2_neg` is necessary -/
theorem g1_map2_zero_ne_identity :
    (map2ToCurveG1 0 (-0)).isZero = false ∧ Jac.abs b₁ (map2ToCurveG1 0 (-0)) ≠ 0 := by
  have hz : (map2ToCurveG1 0 (-0)).isZero = false := by decide +kernel
  refine ⟨hz, ?_⟩
  rw [Ne, ← C01.isZero_iff (C14.g1_map2_eq 0 (-0)).1, hz]
  exact Bool.false_ne_true

end C14

/-! ## Part B: C05 / C19 for identity records with junk coordinates -/

/-- the normal form of an affine record: a record flagged `infinity` becomes `Aff.zero = ⟨0, 1, true⟩`, every other
    record is kept -/
def normalize {F : Type} [Zero F] [One F] (A : Aff F) : Aff F := if A.infinity = true then Aff.zero else A

section
variable {F : Type} [Zero F] [One F]

theorem normalize_of_finite {A : Aff F} (h : A.infinity = false) : normalize A = A := by
  unfold normalize; rw [h]; simp

theorem normalize_of_infinity {A : Aff F} (h : A.infinity = true) : normalize A = Aff.zero := by
  unfold normalize; rw [if_pos h]

theorem normalize_infinity (A : Aff F) : (normalize A).infinity = A.infinity := by
  unfold normalize
  cases h : A.infinity <;> simp [Aff.zero, h]

/-- the normal form satisfies the side condition `hinf` of C05 / C19 -/
theorem normalize_hinf (A : Aff F) : (normalize A).infinity = true → normalize A = Aff.zero := by
  intro h
  rw [normalize_infinity] at h
  exact normalize_of_infinity h

end

section generic
variable {F : Type} [Field F] [DecidableEq F] [FieldOps F] [LawfulFieldOps F] [SqrtOps F] [LawfulSqrtOps F]
variable {cc : Codec F} {C : ZCash.Coord F}

/-- **the encoders treat every record with `infinity = true` as the identity**: the encodings of a record and of
    its normal form coincide, whatever the unused coordinates -/
theorem encodeCompressed_normalize (A : Aff F) :
    encodeCompressed cc (normalize A) = encodeCompressed cc A := by
  cases h : A.infinity with
  | false => rw [normalize_of_finite h]
  | true => rw [normalize_of_infinity h]; exact (C05.encode_infinity_not_injective A h).1.symm

theorem encodeUncompressed_normalize (A : Aff F) :
    encodeUncompressed cc (normalize A) = encodeUncompressed cc A := by
  cases h : A.infinity with
  | false => rw [normalize_of_finite h]
  | true => rw [normalize_of_infinity h]; exact (C05.encode_infinity_not_injective A h).2.symm

theorem serAffine_normalize (A : Aff F) (c : Bool) :
    serAffine cc (normalize A) c = serAffine cc A c := by
  unfold serAffine
  rw [encodeCompressed_normalize, encodeUncompressed_normalize]

/-- a flagged record encodes to the identity string -/
theorem encode_of_infinity (x y : F) :
    encodeCompressed cc (⟨x, y, true⟩ : Aff F) = encodeCompressed cc (Aff.zero : Aff F) ∧
    encodeUncompressed cc (⟨x, y, true⟩ : Aff F) = encodeUncompressed cc (Aff.zero : Aff F) :=
  C05.encode_infinity_not_injective ⟨x, y, true⟩ rfl

variable [ShortW cc.b]

theorem normalize_inSubgroup {A : Aff F} (hs : Aff.inSubgroup cc.b A = true) :
    Aff.inSubgroup cc.b (normalize A) = true := by
  cases h : A.infinity with
  | false => rw [normalize_of_finite h]; exact hs
  | true => rw [normalize_of_infinity h]; exact C07.inSubgroup_identity 0 1

/-- the normal form denotes the same point -/
theorem abs_normalize (A : Aff F) : Aff.abs cc.b (normalize A) = Aff.abs cc.b A := by
  cases h : A.infinity with
  | false => rw [normalize_of_finite h]
  | true =>
    rw [normalize_of_infinity h, Aff.abs_of_infinity h, Aff.abs_of_infinity (A := (Aff.zero : Aff F)) rfl]

/-- **decode ∘ encode, compressed, EVERY record accepted by `in_subgroup`** (junk identities included): the
    decoder returns the normal form of the record — the same point -/
theorem decode_encode_compressed_any (L : cc.Lawful C) (A : Aff F) (hs : Aff.inSubgroup cc.b A = true) :
    decodeCompressed cc (encodeCompressed cc A) = .ok (normalize A) ∧
      Aff.abs cc.b (normalize A) = Aff.abs cc.b A ∧ (A.infinity = false → normalize A = A) := by
  refine ⟨?_, abs_normalize A, normalize_of_finite⟩
  rw [← encodeCompressed_normalize]
  exact C05.decodeCompressed_encodeCompressed L (normalize A) (normalize_hinf A) (normalize_inSubgroup hs)

/-- **decode ∘ encode, uncompressed, every record accepted by `in_subgroup`** -/
theorem decode_encode_uncompressed_any (L : cc.Lawful C) (A : Aff F) (hs : Aff.inSubgroup cc.b A = true) :
    decodeUncompressed cc (encodeUncompressed cc A) = .ok (normalize A) ∧
      Aff.abs cc.b (normalize A) = Aff.abs cc.b A ∧ (A.infinity = false → normalize A = A) := by
  refine ⟨?_, abs_normalize A, normalize_of_finite⟩
  rw [← encodeUncompressed_normalize]
  have hs' := normalize_inSubgroup hs
  exact C05.decodeUncompressed_encodeUncompressed L (normalize A) (normalize_hinf A)
    ((C01.isOnCurve_iff _).mpr (C07.inSub_of_inSubgroup hs').1) hs'

/-- **`SerDes` round trip for every record accepted by `in_subgroup`**, both flags, any trailing data -/
theorem deser_ser_affine_any (L : cc.Lawful C) (A : Aff F) (c : Bool) (tail : Bytes)
    (hs : Aff.inSubgroup cc.b A = true) :
    deserAffine cc (serAffine cc A c ++ tail) c = .ok (normalize A, tail) ∧
      Aff.abs cc.b (normalize A) = Aff.abs cc.b A := by
  refine ⟨?_, abs_normalize A⟩
  rw [← serAffine_normalize]
  exact C19.deserAffine_serAffine L (normalize A) c tail (normalize_hinf A) (normalize_inSubgroup hs)

/-- records accepted by `in_subgroup` denote the same point IFF they have the same normal form -/
theorem normalize_eq_iff_abs (A B : Aff F) (hA : Aff.inSubgroup cc.b A = true)
    (hB : Aff.inSubgroup cc.b B = true) :
    normalize A = normalize B ↔ Aff.abs cc.b A = Aff.abs cc.b B := by
  constructor
  · intro e
    rw [← abs_normalize (cc := cc) A, ← abs_normalize (cc := cc) B, e]
  · intro h
    obtain ⟨hi, hxy⟩ := Aff.abs_injective (C07.inSub_of_inSubgroup hA).1 (C07.inSub_of_inSubgroup hB).1 h
    cases hAi : A.infinity with
    | true => rw [normalize_of_infinity hAi, normalize_of_infinity (hi ▸ hAi)]
    | false =>
      obtain ⟨hx, hy⟩ := hxy hAi
      cases A; cases B
      simp only at hx hy hi
      rw [hx, hy, hi]

/-- **point-level injectivity and well-definedness of an encoding** `enc` that does not see the unused
    coordinates of a flagged record and has a decoder `dec` returning the normal form: records accepted
    by `in_subgroup` (junk identities included) have the same encoding IFF they denote the same point -/
theorem enc_eq_iff_abs {enc : Aff F → Bytes} {dec : Bytes → Except DecodeErr (Aff F)}
    (hnorm : ∀ A, enc (normalize A) = enc A)
    (hdec : ∀ A, Aff.inSubgroup cc.b A = true → dec (enc A) = .ok (normalize A))
    (A B : Aff F) (hA : Aff.inSubgroup cc.b A = true) (hB : Aff.inSubgroup cc.b B = true) :
    enc A = enc B ↔ Aff.abs cc.b A = Aff.abs cc.b B := by
  rw [← normalize_eq_iff_abs A B hA hB]
  constructor
  · intro h
    have h1 := hdec A hA
    rw [h, hdec B hB] at h1
    exact (Except.ok.inj h1).symm
  · intro h
    rw [← hnorm A, h, hnorm B]

theorem encodeCompressed_eq_iff_abs (L : cc.Lawful C) (A B : Aff F) (hA : Aff.inSubgroup cc.b A = true)
    (hB : Aff.inSubgroup cc.b B = true) :
    encodeCompressed cc A = encodeCompressed cc B ↔ Aff.abs cc.b A = Aff.abs cc.b B :=
  enc_eq_iff_abs encodeCompressed_normalize (fun A hA => (decode_encode_compressed_any L A hA).1)
    A B hA hB

theorem encodeUncompressed_eq_iff_abs (L : cc.Lawful C) (A B : Aff F) (hA : Aff.inSubgroup cc.b A = true)
    (hB : Aff.inSubgroup cc.b B = true) :
    encodeUncompressed cc A = encodeUncompressed cc B ↔ Aff.abs cc.b A = Aff.abs cc.b B :=
  enc_eq_iff_abs encodeUncompressed_normalize (fun A hA => (decode_encode_uncompressed_any L A hA).1)
    A B hA hB

end generic

/-! ### G1 -/
section g1

theorem decode_encode_compressed_any_g1 (A : Aff Fq) (hs : Aff.inSubgroup g1Codec.b A = true) :
    decodeCompressed g1Codec (encodeCompressed g1Codec A) = .ok (normalize A) ∧
      Aff.abs g1Codec.b (normalize A) = Aff.abs g1Codec.b A ∧ (A.infinity = false → normalize A = A) :=
  decode_encode_compressed_any g1Codec_lawful A hs

theorem decode_encode_uncompressed_any_g1 (A : Aff Fq) (hs : Aff.inSubgroup g1Codec.b A = true) :
    decodeUncompressed g1Codec (encodeUncompressed g1Codec A) = .ok (normalize A) ∧
      Aff.abs g1Codec.b (normalize A) = Aff.abs g1Codec.b A ∧ (A.infinity = false → normalize A = A) :=
  decode_encode_uncompressed_any g1Codec_lawful A hs

theorem deser_ser_affine_any_g1 (A : Aff Fq) (c : Bool) (tail : Bytes)
    (hs : Aff.inSubgroup g1Codec.b A = true) :
    deserAffine g1Codec (serAffine g1Codec A c ++ tail) c = .ok (normalize A, tail) ∧
      Aff.abs g1Codec.b (normalize A) = Aff.abs g1Codec.b A :=
  deser_ser_affine_any g1Codec_lawful A c tail hs

theorem encodeCompressed_eq_iff_abs_g1 (A B : Aff Fq) (hA : Aff.inSubgroup g1Codec.b A = true)
    (hB : Aff.inSubgroup g1Codec.b B = true) :
    encodeCompressed g1Codec A = encodeCompressed g1Codec B ↔ Aff.abs g1Codec.b A = Aff.abs g1Codec.b B :=
  encodeCompressed_eq_iff_abs g1Codec_lawful A B hA hB

theorem encodeUncompressed_eq_iff_abs_g1 (A B : Aff Fq) (hA : Aff.inSubgroup g1Codec.b A = true)
    (hB : Aff.inSubgroup g1Codec.b B = true) :
    encodeUncompressed g1Codec A = encodeUncompressed g1Codec B ↔ Aff.abs g1Codec.b A = Aff.abs g1Codec.b B :=
  encodeUncompressed_eq_iff_abs g1Codec_lawful A B hA hB

end g1

/-! ### G2 (the model's notation instances on `Fq2` switched off locally, so that `+ * - 0 1` in the
statements are those of `Fq2.instField`, as in `PP/Props/C04Inst.lean`) -/
section g2
attribute [-instance] Fq2.instAdd Fq2.instSub Fq2.instMul Fq2.instNeg Fq2.instZero Fq2.instOne

theorem decode_encode_compressed_any_g2 (A : Aff Fq2) (hs : Aff.inSubgroup g2Codec.b A = true) :
    decodeCompressed g2Codec (encodeCompressed g2Codec A) = .ok (normalize A) ∧
      Aff.abs g2Codec.b (normalize A) = Aff.abs g2Codec.b A ∧ (A.infinity = false → normalize A = A) :=
  decode_encode_compressed_any g2Codec_lawful A hs

theorem decode_encode_uncompressed_any_g2 (A : Aff Fq2) (hs : Aff.inSubgroup g2Codec.b A = true) :
    decodeUncompressed g2Codec (encodeUncompressed g2Codec A) = .ok (normalize A) ∧
      Aff.abs g2Codec.b (normalize A) = Aff.abs g2Codec.b A ∧ (A.infinity = false → normalize A = A) :=
  decode_encode_uncompressed_any g2Codec_lawful A hs

theorem deser_ser_affine_any_g2 (A : Aff Fq2) (c : Bool) (tail : Bytes)
    (hs : Aff.inSubgroup g2Codec.b A = true) :
    deserAffine g2Codec (serAffine g2Codec A c ++ tail) c = .ok (normalize A, tail) ∧
      Aff.abs g2Codec.b (normalize A) = Aff.abs g2Codec.b A :=
  deser_ser_affine_any g2Codec_lawful A c tail hs

theorem encodeCompressed_eq_iff_abs_g2 (A B : Aff Fq2) (hA : Aff.inSubgroup g2Codec.b A = true)
    (hB : Aff.inSubgroup g2Codec.b B = true) :
    encodeCompressed g2Codec A = encodeCompressed g2Codec B ↔ Aff.abs g2Codec.b A = Aff.abs g2Codec.b B :=
  encodeCompressed_eq_iff_abs g2Codec_lawful A B hA hB

theorem encodeUncompressed_eq_iff_abs_g2 (A B : Aff Fq2) (hA : Aff.inSubgroup g2Codec.b A = true)
    (hB : Aff.inSubgroup g2Codec.b B = true) :
    encodeUncompressed g2Codec A = encodeUncompressed g2Codec B ↔ Aff.abs g2Codec.b A = Aff.abs g2Codec.b B :=
  encodeUncompressed_eq_iff_abs g2Codec_lawful A B hA hB

end g2


/-! ## Part C: C10 with hypotheses on the USED entries only ("over the first min(len) entries")

`C10.pippinger`, `C10.sum_of_products` ask `k < 2^255` and "on the curve" of ALL entries of the two lists, also of
those beyond the common prefix, which the code never reads.  Here the hypotheses range over `List.zip points ks`.
(The table-driven variant is left as it is: its tables are precomputed for all points.) -/

section C10
variable {F : Type} [Field F] [DecidableEq F] [FieldOps F] [LawfulFieldOps F] (b : F) [ShortW b]

/-- the bucket method reads the common prefix only -/
theorem pippinger_take (points : List (Aff F)) (ks : List ℕ) (w : ℕ) :
    sumOfProductsPippinger points ks w =
      sumOfProductsPippinger (points.take (min points.length ks.length))
        (ks.take (min points.length ks.length)) w := by
  unfold sumOfProductsPippinger
  have e : List.zip (points.take (min points.length ks.length))
      ((ks.take (min points.length ks.length)).map (limbsOf 4)) = List.zip points (ks.map (limbsOf 4)) := by
    rw [List.map_take]
    have := List.zip_eq_zip_take_min (l₁ := points) (l₂ := ks.map (limbsOf 4))
    rw [List.length_map] at this
    exact this.symm
  rw [e]

theorem sumOfProducts_take (points : List (Aff F)) (ks : List ℕ) :
    sumOfProducts points ks =
      sumOfProducts (points.take (min points.length ks.length)) (ks.take (min points.length ks.length)) := by
  unfold sumOfProducts
  rw [pippinger_take points ks]
  have e : min (points.take (min points.length ks.length)).length
      (ks.take (min points.length ks.length)).length = min points.length ks.length := by
    simp only [List.length_take]; omega
  rw [e]

/-- the truncated lists are the two projections of the zip, so what holds of every pair that is read
    holds of every entry of the truncated lists -/
private theorem forall_take_of_forall_zip {α β : Type} (l₁ : List α) (l₂ : List β) {p : α → Prop}
    {q : β → Prop} (h : ∀ pk ∈ List.zip l₁ l₂, p pk.1 ∧ q pk.2) :
    (∀ a ∈ l₁.take (min l₁.length l₂.length), p a) ∧
      (∀ c ∈ l₂.take (min l₁.length l₂.length), q c) := by
  have hlen : (l₁.take (min l₁.length l₂.length)).length =
      (l₂.take (min l₁.length l₂.length)).length := by
    simp only [List.length_take]; omega
  rw [List.zip_eq_zip_take_min] at h
  constructor
  · intro a ha
    rw [← List.map_fst_zip (l₂ := l₂.take (min l₁.length l₂.length)) (Nat.le_of_eq hlen)] at ha
    obtain ⟨pk, hpk, rfl⟩ := List.mem_map.mp ha
    exact (h pk hpk).1
  · intro c hc
    rw [← List.map_snd_zip (l₁ := l₁.take (min l₁.length l₂.length)) (Nat.le_of_eq hlen.symm)] at hc
    obtain ⟨pk, hpk, rfl⟩ := List.mem_map.mp hc
    exact (h pk hpk).2

/-- the bucket method, any window `1..=20`, hypotheses on the used pairs only -/
theorem curve_pippinger_prefix (points : List (Aff F)) (ks : List ℕ) (w : ℕ) (hw1 : 1 ≤ w) (hw : w ≤ 20)
    (h : ∀ pk ∈ List.zip points ks, Aff.OnCurve b pk.1 ∧ pk.2 < 2 ^ 255) :
    ∃ R, sumOfProductsPippinger points ks w = some R ∧ Jac.OnCurve b R ∧
      Jac.abs b R = ((List.zip points ks).map (fun pk => pk.2 • Aff.abs b pk.1)).sum := by
  obtain ⟨hP, hk⟩ := forall_take_of_forall_zip points ks (p := Aff.OnCurve b) (q := (· < 2 ^ 255)) h
  have := C10Inst.curve_pippinger b (points.take (min points.length ks.length))
    (ks.take (min points.length ks.length)) w hw1 hw hk hP
  rwa [← pippinger_take, ← List.zip_eq_zip_take_min] at this

/-- the default entry point, hypotheses on the used pairs only -/
theorem curve_sum_of_products_prefix (points : List (Aff F)) (ks : List ℕ)
    (h : ∀ pk ∈ List.zip points ks, Aff.OnCurve b pk.1 ∧ pk.2 < 2 ^ 255) :
    ∃ R, sumOfProducts points ks = some R ∧ Jac.OnCurve b R ∧
      Jac.abs b R = ((List.zip points ks).map (fun pk => pk.2 • Aff.abs b pk.1)).sum := by
  obtain ⟨hP, hk⟩ := forall_take_of_forall_zip points ks (p := Aff.OnCurve b) (q := (· < 2 ^ 255)) h
  have := C10Inst.curve_sum_of_products b (points.take (min points.length ks.length))
    (ks.take (min points.length ks.length)) hk hP
  rwa [← sumOfProducts_take, ← List.zip_eq_zip_take_min] at this

/-- … and the subgroup clause of C07 with hypotheses on the used pairs only -/
theorem curve_sum_of_products_prefix_inSub (points : List (Aff F)) (ks : List ℕ)
    (h : ∀ pk ∈ List.zip points ks, Aff.InSub b pk.1 ∧ pk.2 < 2 ^ 255) :
    ∃ R, sumOfProducts points ks = some R ∧ Jac.InSub b R := by
  obtain ⟨R, hR, hon, habs⟩ := curve_sum_of_products_prefix b points ks
    (fun pk hpk => ⟨(h pk hpk).1.1, (h pk hpk).2⟩)
  refine ⟨R, hR, hon, ?_⟩
  rw [habs]
  apply killed_list_sum (Aff.abs b)
  intro pk hpk
  exact (h pk hpk).1.2

end C10

/-! ## non-vacuity -/

/-- a junk identity record of G1, `⟨5, 7, true⟩`: accepted by `in_subgroup`, NOT in normal form (so `hinf` of C05
    is false for it), and the round trip returns `Aff.zero`, the same point -/
example : Aff.inSubgroup g1Codec.b (⟨5, 7, true⟩ : Aff Fq) = true ∧
    (⟨5, 7, true⟩ : Aff Fq) ≠ Aff.zero ∧
    decodeCompressed g1Codec (encodeCompressed g1Codec (⟨5, 7, true⟩ : Aff Fq)) = .ok Aff.zero ∧
    Aff.abs g1Codec.b (Aff.zero : Aff Fq) = Aff.abs g1Codec.b (⟨5, 7, true⟩ : Aff Fq) := by
  have hs : Aff.inSubgroup g1Codec.b (⟨5, 7, true⟩ : Aff Fq) = true := C07.inSubgroup_identity 5 7
  obtain ⟨h1, h2, -⟩ := decode_encode_compressed_any_g1 ⟨5, 7, true⟩ hs
  rw [normalize_of_infinity (A := (⟨5, 7, true⟩ : Aff Fq)) rfl] at h1 h2
  exact ⟨hs, by decide +kernel, h1, h2⟩

end PP.C14Extra

namespace PP.C14

/-- the pre-fix result at `u0 = u1 = 0` fails the library's own subgroup test, which the fixed code
    passes on the same input, as on every input (`CurveOrder.g1_map2_inSubgroup'`) -/
theorem g1_map2_prefix_not_inSubgroup :
    (map2ToCurveG1PreFix 0 0).toAffine.map (Aff.inSubgroup g1Codec.b) = some false ∧
    (map2ToCurveG1 0 0).toAffine.map (Aff.inSubgroup g1Codec.b) = some true := by
  obtain ⟨A, hA, h⟩ := CurveOrder.g1_map2_inSubgroup' 0 0
  exact ⟨g1_defect.2, by rw [hA, Option.map_some, h]⟩

/-- … so the pre-fix code disagrees with the fixed code (i.e. with `g1_map2_eq`) on some pair `(u, u)`;
    the witness is `u = 0` -/
theorem g1_map2_prefix_wrong :
    ∃ u : Fq, (map2ToCurveG1PreFix u u).toAffine ≠ (map2ToCurveG1 u u).toAffine := by
  refine ⟨0, fun e => ?_⟩
  have h := g1_map2_prefix_not_inSubgroup
  rw [e] at h
  exact Bool.false_ne_true (Option.some.inj (h.1.symm.trans h.2))

theorem g2_map2_prefix_not_inSubgroup :
    ((map2ToCurveG2PreFix 0 0).bind Jac.toAffine).map (Aff.inSubgroup g2Codec.b) = some false ∧
    ((map2ToCurveG2 0 0).bind Jac.toAffine).map (Aff.inSubgroup g2Codec.b) = some true := by
  obtain ⟨R, A, hR, hA, h⟩ := CurveOrder.g2_map2_inSubgroup' 0 0
  exact ⟨g2_defect, by rw [hR, Option.bind_some, hA, Option.map_some, h]⟩

theorem g2_map2_prefix_wrong :
    ∃ u : Fq2, (map2ToCurveG2PreFix u u).bind Jac.toAffine ≠ (map2ToCurveG2 u u).bind Jac.toAffine := by
  refine ⟨0, fun e => ?_⟩
  have h := g2_map2_prefix_not_inSubgroup
  rw [e] at h
  exact Bool.false_ne_true (Option.some.inj (h.1.symm.trans h.2))

end PP.C14
