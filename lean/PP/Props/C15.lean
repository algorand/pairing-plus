/-
C15 — "For every t in Fq (G1) or Fq2 (G2) the SWU map returns, without panicking, a point on the
curve y^2=x^3+A'x+B' that is 11-isogenous (G1) or 3-isogenous (G2) to the target curve, equal to
map_to_curve_simple_swu of RFC 9380 with Z=11 resp. Z=-(2+I), I^2=-1: x is the first of
x1=(-B'/A')(1+1/(Z^2t^4+Zt^2)), x2=Zt^2x1 whose curve right-hand side is a square, and y is the
root with sgn0(y)=sgn0(t). The exceptional inputs t=0 and Z^2t^4+Zt^2=0 give x=B'/(ZA')."

Model: `osswuG1 : Fq → Jac Fq`, `osswuG2 : Fq2 → Option (Jac Fq2)` (`none` = `panic!`) of
`PP.Model.Map`.  Spec: `PP.Spec.IsSswu` (`PP/Spec/Sswu.lean`, RFC 9380 §6.6.2 as a relation).
The output is a Jacobian triple `(X, Y, Z)`; its affine coordinates are `affX = X/Z²`, `affY = Y/Z³`.

Hypotheses that remain visible (they are theorems of other modules, to be supplied when assembling):
  * `hchain1 : ∀ a : Fq, chainPm3div4 a = a ^ ((q − 3)/4)`                  (addition chain, G1)
  * `hchain2 : ∀ a : Fq2, chainP2m9div16 a = a ^ ((q² − 9)/16)`             (addition chain, G2)
  * `hcard   : ∀ x : Fq2, x ≠ 0 → x ^ (q² − 1) = 1`                         (`|Fq2| = q²`)
Everything else (constants, roots of unity, etas, square-ness of `g(B'/(ZA'))`, absence of roots of
`x³ + A'x + B'` in `Fq` resp. `Fq2`) is proved from the extracted constants in `PP/Proofs/SswuG1.lean`,
`SswuG2Fq2.lean`, `SswuG2NoRoot.lean`.
(That `E'` is 11- resp. 3-isogenous to the target curve is the subject of C16.)
-/
import PP.Proofs.SswuG2Fq2
import PP.Proofs.SswuG2NoRoot

namespace PP.C15

open PP PP.Spec PP.Sswu

/-! ## The constants are the RFC's (§8.8.1, §8.8.2) -/

theorem g1_Z : g1Xi = Zp.ofNat 11 := by decide +kernel
theorem g1_A' : g1EllpA.v =
    0x144698a3b8e9433d693a02c96d4982b0ea985383ee66a8d8e8981aefd881ac98936f8da0e0f97f5cf428082d584c1d := by
  decide +kernel
theorem g1_B' : g1EllpB.v =
    0x12e2908d11688030018b12e8753eee3b2016c1f0f24f4070a0b9c14fcef35ef55a23215a316ceaa5d1cc48e98e172be0 := by
  decide +kernel
theorem g2_Z : g2Xi = -(⟨Zp.ofNat 2, Zp.ofNat 1⟩ : Fq2) := by decide +kernel
theorem g2_A' : g2EllpA = ⟨0, Zp.ofNat 240⟩ := by decide +kernel
theorem g2_B' : g2EllpB = ⟨Zp.ofNat 1012, Zp.ofNat 1012⟩ := by decide +kernel
theorem fq2_I_sq : (⟨0, 1⟩ : Fq2) * ⟨0, 1⟩ = -1 := Fq2.u_mul_u

/-! ## The model's `sgn0` is the RFC's (§4.1) -/

theorem sgn0_fq (a : Fq) :
    Zp.sgn0 a = if sgn0_m1 a.v = 1 then Sgn0.negative else Sgn0.nonNegative := rfl

theorem sgn0_fq2 (a : Fq2) :
    Fq2.sgn0 a = if sgn0_m2 a.c0.v a.c1.v = 1 then Sgn0.negative else Sgn0.nonNegative := by
  unfold Fq2.sgn0 sgn0_m2 Zp.sgn0 Zp.isZero
  by_cases h0 : a.c0.v = 0
  · by_cases h1 : a.c1.v % 2 = 1 <;> simp [h0, h1]
  · by_cases h1 : a.c0.v % 2 = 1 <;> simp [h0, h1]

/-! ## The spec's `x1` is the formula of C15 -/

section SpecFormulas
variable {F : Type} [Field F] [DecidableEq F]

theorem x1_formula (A B Z t : F) (h : Z ^ 2 * t ^ 4 + Z * t ^ 2 ≠ 0) :
    sswuX1 A B Z t = (-B / A) * (1 + 1 / (Z ^ 2 * t ^ 4 + Z * t ^ 2)) := by
  unfold sswuX1 sswuTv1
  rw [if_neg (inv_ne_zero h), one_div]

theorem x1_exceptional (A B Z t : F) (h : Z ^ 2 * t ^ 4 + Z * t ^ 2 = 0) :
    sswuX1 A B Z t = B / (Z * A) := sswuX1_exceptional A B Z t h

theorem x2_formula (A B Z t : F) : sswuX2 A B Z t = Z * t ^ 2 * sswuX1 A B Z t := rfl

end SpecFormulas

/-! ## G1 -/

section G1
variable (hchain1 : ∀ a : Fq, chainPm3div4 a = a ^ ((Gen.q - 3) / 4))
include hchain1

/-- the output is a finite point of `E₁' : y² = x³ + A'x + B'` -/
theorem osswuG1_onCurve (t : Fq) :
    (osswuG1 t).z ≠ 0 ∧
      (osswuG1 t).y ^ 2 = (osswuG1 t).x ^ 3 + g1EllpA * (osswuG1 t).x * (osswuG1 t).z ^ 4
        + g1EllpB * (osswuG1 t).z ^ 6 := by
  have h := osswuG1_sswuOut hchain1 t
  generalize osswuG1 t = P at h ⊢
  exact ⟨h.z_ne, h.onCurve⟩

/-- **C15, G1**: the output of `osswuG1 t` is `map_to_curve_simple_swu(t)` of RFC 9380 §6.6.2 for
`E₁'` with `Z = 11`. -/
theorem osswuG1_eq_rfc (t : Fq) :
    IsSswu Zp.sgn0 g1EllpA g1EllpB g1Xi t (affX (osswuG1 t)) (affY (osswuG1 t)) :=
  (osswuG1_sswuOut hchain1 t).isSswu g1_no_root

end G1

/-! ## G2 -/

section G2
variable (hcard : ∀ x : Fq2, x ≠ 0 → x ^ (Gen.q ^ 2 - 1) = 1)
variable (hchain2 : ∀ a : Fq2, chainP2m9div16 a = a ^ ((Gen.q ^ 2 - 9) / 16))
include hcard hchain2

/-- the terminal `panic!` of `OSSWUMap for G2` is unreachable -/
theorem osswuG2_total (t : Fq2) : osswuG2 t ≠ none := by
  obtain ⟨P, hP, _⟩ := osswuG2_sswuOut hcard hchain2 t
  rw [hP]; simp

/-- the output is a finite point of `E₂' : y² = x³ + A'x + B'` -/
theorem osswuG2_onCurve (t : Fq2) :
    ∃ P, osswuG2 t = some P ∧
      P.z ≠ 0 ∧ P.y ^ 2 = P.x ^ 3 + g2EllpA * P.x * P.z ^ 4 + g2EllpB * P.z ^ 6 := by
  obtain ⟨P, hP, h⟩ := osswuG2_sswuOut hcard hchain2 t
  exact ⟨P, hP, h.z_ne, h.onCurve⟩

/-- **C15, G2**: `osswuG2 t` returns, and its output is `map_to_curve_simple_swu(t)` of RFC 9380
§6.6.2 for `E₂'` with `Z = −(2 + I)`. -/
theorem osswuG2_eq_rfc (t : Fq2) :
    ∃ P, osswuG2 t = some P ∧
      IsSswu Fq2.sgn0 g2EllpA g2EllpB g2Xi t (affX P) (affY P) := by
  obtain ⟨P, hP, h⟩ := osswuG2_sswuOut hcard hchain2 t
  exact ⟨P, hP, h.isSswu g2_no_root⟩

end G2

/-! ## Non-vacuity: the model evaluated by the kernel -/

instance (A B : Fq) (P : Jac Fq) : Decidable (OnCurveJ A B P) := by
  unfold OnCurveJ; infer_instance
instance (A B : Fq2) (P : Jac Fq2) : Decidable (OnCurveJ A B P) := by
  unfold OnCurveJ; infer_instance

/-- exceptional input `t = 0` -/
example : (osswuG1 0).z ≠ 0 ∧ OnCurveJ g1EllpA g1EllpB (osswuG1 0) := by decide +kernel
/-- `t = 2`: first candidate (`X = x0_num·x0_den`) -/
example : (osswuG1 (Zp.ofNat 2)).z ≠ 0 ∧ OnCurveJ g1EllpA g1EllpB (osswuG1 (Zp.ofNat 2)) ∧
    (osswuG1 (Zp.ofNat 2)).x =
      (osswuHelp (Zp.ofNat 2) g1Xi g1EllpA g1EllpB).x0_num *
        (osswuHelp (Zp.ofNat 2) g1Xi g1EllpA g1EllpB).x0_den := by decide +kernel
/-- `t = 1`: second candidate (`X = x0_num·ξu²·x0_den`, different from the first candidate's) -/
example : (osswuG1 1).z ≠ 0 ∧ OnCurveJ g1EllpA g1EllpB (osswuG1 1) ∧
    (osswuG1 1).x =
      (osswuHelp 1 g1Xi g1EllpA g1EllpB).x0_num * (osswuHelp 1 g1Xi g1EllpA g1EllpB).xi_usq *
        (osswuHelp 1 g1Xi g1EllpA g1EllpB).x0_den ∧
    (osswuG1 1).x ≠
      (osswuHelp 1 g1Xi g1EllpA g1EllpB).x0_num * (osswuHelp 1 g1Xi g1EllpA g1EllpB).x0_den := by
  decide +kernel
/-- the hypothesis `hchain1` holds on a sample (`powMod` is the model's modular exponentiation) -/
example : (chainPm3div4 (Zp.ofNat 5)).v = powMod 5 ((Gen.q - 3) / 4) Gen.q := by decide +kernel
/-- G2, `t = 0` and `t = 1`: returns a point of `E₂'` -/
example : ∃ P, osswuG2 0 = some P ∧ P.z ≠ 0 ∧ OnCurveJ g2EllpA g2EllpB P := by decide +kernel
example : ∃ P, osswuG2 1 = some P ∧ P.z ≠ 0 ∧ OnCurveJ g2EllpA g2EllpB P := by decide +kernel

end PP.C15
