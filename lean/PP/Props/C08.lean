/-
PROPERTY C08.  "For all field elements, addition, subtraction, negation, doubling, multiplication,
squaring, inversion, exponentiation by any multi-limb exponent, comparison and zero test give the
results of integer arithmetic modulo q (381-bit base field) and r (255-bit scalar field); inversion
fails only for zero.  Conversion from an integer representation succeeds exactly for values below
the modulus, conversion back yields the unique reduced representative, and the fixed-width
representation type itself behaves as an unsigned 384/256-bit integer under its add and subtract
(within their no-carry / no-borrow preconditions), shift, halve, double, bit-length, parity and
big- / little-endian read/write operations."

Objects.  `PP.Mont` is the executable model of what `#[derive(PrimeField)]` generates: a field
element is a RAW integer `a < p` standing for `dec P a = a·W⁻¹ mod p` (`W = 2^(64·limbs)`), the
parameters `fqP`, `frP` carry the EXTRACTED constants `MODULUS`, `R`, `R2`, `INV`.  `toFq`/`toFr`
send a raw value to the canonical-level model `Fq = Zp q`, `Fr = Zp r` (integers modulo `q`, `r`
with `+ - *` DEFINED as integer arithmetic followed by `% p`).  Proved elsewhere
(PP/Props/C08Limb.lean, PP/Props/GenDerive.lean): the unrolled limb-level
`mul_assign`/`square`/`mont_reduce` of the proc-macro, extracted from the macro-expanded crate, equal
the integer-level word-by-word REDC `PP.Mont.redcRounds` used here.

Primality of the modulus is only needed for `inverse`: the generic `inverse_ok` takes it as a
hypothesis, `fq_inverse`, `fr_inverse` use `Primes.q_prime`, `Primes.r_prime`.
-/
import PP.Proofs.Mont3
import PP.Proofs.Mont4
import PP.Proofs.Limbs
import PP.Gen.Maps

-- the `rfl`s of `fq_params`, `fr_params` evaluate `2 ^ 384`, `2 ^ 256`
set_option exponentiation.threshold 2048

namespace PP.Props.C08
open PP PP.Mont PP.Gen

/-! ## 0. Parameters -/

/-- the extracted `Fq` constants are a consistent Montgomery parameter set for `q`, `W = 2^384` -/
theorem fq_params : fqP.WF ∧ fqP.p = q ∧ fqP.W = 2 ^ 384 ∧ fqP.limbs = 6 :=
  ⟨fqP_wf, fqP_p, rfl, rfl⟩

/-- the extracted `Fr` constants are a consistent Montgomery parameter set for `r`, `W = 2^256` -/
theorem fr_params : frP.WF ∧ frP.p = r ∧ frP.W = 2 ^ 256 ∧ frP.limbs = 4 :=
  ⟨frP_wf, frP_p, rfl, rfl⟩

/-- what `WF` says, spelled out for `Fq`: odd modulus with a spare bit, `INV = −q⁻¹ mod 2^64`,
    `R = 2^384 mod q`, `R2 = 2^768 mod q` -/
theorem fq_constants :
    q % 2 = 1 ∧ 2 ^ 380 < q ∧ q < 2 ^ 381 ∧ (fq_INV * q + 1) % 2 ^ 64 = 0 ∧
    fq_R = 2 ^ 384 % q ∧ fq_R2 = 2 ^ 768 % q :=
  ⟨by decide +kernel, q_bits.1, q_bits.2, fq_INV_eq.1, fq_R_eq, fq_R2_eq⟩

theorem fr_constants :
    r % 2 = 1 ∧ 2 ^ 254 < r ∧ r < 2 ^ 255 ∧ (fr_INV * r + 1) % 2 ^ 64 = 0 ∧
    fr_R = 2 ^ 256 % r ∧ fr_R2 = 2 ^ 512 % r :=
  ⟨by decide +kernel, r_bits.1, r_bits.2, fr_INV_eq.1, fr_R_eq, fr_R2_eq⟩

/-- decoding is characterised without inverses: `dec a = x ↔ a = x·W mod p` -/
theorem dec_iff {P : Params} (h : P.WF) {a x : ℕ} (ha : a < P.p) (hx : x < P.p) :
    dec P a = x ↔ a = x * P.W % P.p := dec_eq_iff h ha hx

/-- `dec` is a bijection of `[0, p)`: injective … -/
theorem dec_injective {P : Params} (h : P.WF) {a b : ℕ} (ha : a < P.p) (hb : b < P.p)
    (hab : dec P a = dec P b) : a = b := dec_inj h ha hb hab
/-- … and onto, with inverse `enc x = x·W mod p` -/
theorem dec_enc' {P : Params} (h : P.WF) {x : ℕ} (hx : x < P.p) :
    enc P x < P.p ∧ dec P (enc P x) = x :=
  ⟨enc_lt h x, by rw [dec_enc h, Nat.mod_eq_of_lt hx]⟩

/-! ## 1. Field operations on raw values, generic in the (well-formed) parameters.
Each result is again reduced, and decodes to the integer operation modulo `p`. -/

section generic
variable {P : Params} (h : P.WF) {a b : ℕ} (ha : a < P.p) (hb : b < P.p)
include h ha

theorem add_ok (hb : b < P.p) :
    add P a b < P.p ∧ add P a b = (a + b) % P.p ∧
      dec P (add P a b) = (dec P a + dec P b) % P.p :=
  ⟨(add_spec h ha hb).1, (add_spec h ha hb).2, dec_add h ha hb⟩

theorem sub_ok (hb : b < P.p) :
    sub P a b < P.p ∧ sub P a b = (a + P.p - b) % P.p ∧
      dec P (sub P a b) = (dec P a + P.p - dec P b) % P.p :=
  ⟨(sub_spec h ha hb).1, (sub_spec h ha hb).2, dec_sub h ha hb⟩

theorem neg_ok :
    neg P a < P.p ∧ neg P a = (P.p - a) % P.p ∧ dec P (neg P a) = (P.p - dec P a) % P.p :=
  ⟨(neg_spec h ha).1, (neg_spec h ha).2, dec_neg h ha⟩

theorem double_ok :
    double P a < P.p ∧ double P a = 2 * a % P.p ∧ dec P (double P a) = 2 * dec P a % P.p :=
  ⟨(double_spec h ha).1, (double_spec h ha).2, dec_double h ha⟩

omit ha in
/-- REDC -/
theorem montReduce_ok {T : ℕ} (hT : T < P.p * P.W) :
    montReduce P T < P.p ∧ montReduce P T * P.W % P.p = T % P.p := montReduce_spec h hT

theorem mul_ok (hb : b < P.p) :
    mul P a b < P.p ∧ mul P a b * P.W % P.p = a * b % P.p ∧
      dec P (mul P a b) = dec P a * dec P b % P.p :=
  ⟨(mul_spec h ha hb).1, (mul_spec h ha hb).2, dec_mul h ha hb⟩

theorem square_ok :
    square P a < P.p ∧ square P a * P.W % P.p = a * a % P.p ∧
      dec P (square P a) = dec P a * dec P a % P.p :=
  ⟨(square_spec h ha).1, (square_spec h ha).2, dec_square h ha⟩

/-- `pow` by an exponent given as a little-endian list of 64-bit limbs of ANY length
    (the empty list gives `1`) -/
theorem pow_ok (ls : List ℕ) (hok : ∀ l ∈ ls, l < 2 ^ 64) :
    pow P a ls < P.p ∧ dec P (pow P a ls) = dec P a ^ limbsToNat ls % P.p :=
  pow_spec h ha ls hok

/-- zero test -/
theorem isZero_ok : a = 0 ↔ dec P a = 0 := eq_zero_iff_dec_eq_zero h ha

/-- `into_repr` returns the decoded integer, the unique reduced representative -/
theorem intoRepr_ok :
    intoRepr P a < P.p ∧ intoRepr P a = dec P a ∧ intoRepr P a * P.W % P.p = a :=
  ⟨(intoRepr_spec h ha).1, (intoRepr_spec h ha).2.2, (intoRepr_spec h ha).2.1⟩

/-- `Eq`/`Ord` compare `into_repr()`; that map is injective, so they are equality / order of the
    decoded integers -/
theorem cmp_ok (hb : b < P.p) :
    (intoRepr P a = intoRepr P b ↔ a = b) ∧
    (intoRepr P a < intoRepr P b ↔ dec P a < dec P b) := by
  refine ⟨⟨intoRepr_inj h ha hb, fun e => by rw [e]⟩, ?_⟩
  rw [(intoRepr_spec h ha).2.2, (intoRepr_spec h hb).2.2]

theorem fromRepr_intoRepr_ok : fromRepr P (intoRepr P a) = some a := fromRepr_intoRepr h ha

/-- `inverse`: for a prime modulus and reduced `a ≠ 0` the model's fuel suffices and the result is
    the (raw form of the) modular inverse -/
theorem inverse_ok (hp : Nat.Prime P.p) (ha0 : a ≠ 0) :
    ∃ b, inverse P a = some (some b) ∧ b < P.p ∧ dec P a * dec P b % P.p = 1 :=
  inverse_spec h hp ha ha0

end generic

/-- `inverse` fails exactly for zero -/
theorem inverse_none_iff (P : Params) (a : ℕ) : inverse P a = some none ↔ a = 0 :=
  inverse_eq_some_none_iff P a

/-- `from_repr` succeeds exactly below the modulus … -/
theorem fromRepr_none_iff (P : Params) (x : ℕ) : fromRepr P x = none ↔ P.p ≤ x :=
  fromRepr_eq_none_iff P x

/-- … and then produces the reduced raw value that decodes to `x`; `into_repr` undoes it -/
theorem fromRepr_ok {P : Params} (h : P.WF) {x a : ℕ} (hx : fromRepr P x = some a) :
    x < P.p ∧ a < P.p ∧ a = x * P.W % P.p ∧ dec P a = x ∧ intoRepr P a = x :=
  ⟨(fromRepr_spec h hx).1, (fromRepr_spec h hx).2.1, (fromRepr_spec h hx).2.2.1,
    (fromRepr_spec h hx).2.2.2, intoRepr_fromRepr h hx⟩

/-! ## 2. The same for `Fq` and `Fr`, against the canonical-level model `Zp`
(whose `+ - * neg` are integer arithmetic modulo `q` / `r` by definition). -/

instance : PosNat fqP.p := ⟨by decide⟩
instance : PosNat frP.p := ⟨by decide⟩

/-- the element of `Fq` denoted by a raw 384-bit Montgomery value -/
def toFq (a : ℕ) : Fq := toZp fqP a
/-- the element of `Fr` denoted by a raw 256-bit Montgomery value -/
def toFr (a : ℕ) : Fr := toZp frP a

theorem toFq_v (a : ℕ) : (toFq a).v = a * Winv fqP % q := toZp_v fqP_wf a
theorem toFr_v (a : ℕ) : (toFr a).v = a * Winv frP % r := toZp_v frP_wf a

/-- `toFq` is a bijection between reduced raw values and `Fq` -/
theorem toFq_bij :
    (∀ a b, a < q → b < q → toFq a = toFq b → a = b) ∧ (∀ z : Fq, ∃ a, a < q ∧ toFq a = z) :=
  ⟨fun _ _ ha hb => toZp_inj fqP_wf ha hb, fun z => toZp_surj fqP_wf z⟩

theorem toFr_bij :
    (∀ a b, a < r → b < r → toFr a = toFr b → a = b) ∧ (∀ z : Fr, ∃ a, a < r ∧ toFr a = z) :=
  ⟨fun _ _ ha hb => toZp_inj frP_wf ha hb, fun z => toZp_surj frP_wf z⟩

section fq
variable {a b : ℕ} (ha : a < q) (hb : b < q)
include ha

omit ha in
theorem fq_zero_one : toFq 0 = 0 ∧ toFq fq_R = 1 := ⟨toZp_zero, toZp_R fqP_wf⟩
theorem fq_add (hb : b < q) : add fqP a b < q ∧ toFq (add fqP a b) = toFq a + toFq b :=
  ⟨(add_spec fqP_wf ha hb).1, toZp_add fqP_wf ha hb⟩
theorem fq_sub (hb : b < q) : sub fqP a b < q ∧ toFq (sub fqP a b) = toFq a - toFq b :=
  ⟨(sub_spec fqP_wf ha hb).1, toZp_sub fqP_wf ha hb⟩
theorem fq_neg : neg fqP a < q ∧ toFq (neg fqP a) = - toFq a :=
  ⟨(neg_spec fqP_wf ha).1, toZp_neg fqP_wf ha⟩
theorem fq_double : double fqP a < q ∧ toFq (double fqP a) = toFq a + toFq a :=
  ⟨(double_spec fqP_wf ha).1, toZp_double fqP_wf ha⟩
theorem fq_mul (hb : b < q) : mul fqP a b < q ∧ toFq (mul fqP a b) = toFq a * toFq b :=
  ⟨(mul_spec fqP_wf ha hb).1, toZp_mul fqP_wf ha hb⟩
theorem fq_square : square fqP a < q ∧ toFq (square fqP a) = toFq a * toFq a :=
  ⟨(square_spec fqP_wf ha).1, toZp_square fqP_wf ha⟩
theorem fq_pow (ls : List ℕ) (hok : ∀ l ∈ ls, l < 2 ^ 64) :
    pow fqP a ls < q ∧ toFq (pow fqP a ls) = toFq a ^ limbsToNat ls ∧
      (toFq (pow fqP a ls)).v = (toFq a).v ^ limbsToNat ls % q :=
  ⟨(pow_spec fqP_wf ha ls hok).1, toZp_pow fqP_wf ha ls hok, by
    rw [toFq_v, toFq_v]; exact (pow_spec fqP_wf ha ls hok).2⟩
theorem fq_isZero : Zp.isZero (toFq a) = decide (a = 0) := toZp_isZero fqP_wf ha
theorem fq_lt (hb : b < q) :
    Zp.lt (toFq a) (toFq b) = decide (intoRepr fqP a < intoRepr fqP b) := toZp_lt fqP_wf ha hb
theorem fq_intoRepr : intoRepr fqP a = (toFq a).v := intoRepr_eq_v fqP_wf ha
/-- inversion: never out of fuel, `none` exactly for zero, otherwise the field inverse -/
theorem fq_inverse :
    ∃ o, inverse fqP a = some o ∧ o.map toFq = Zp.inv (toFq a) ∧ (∀ b ∈ o, b < q) ∧
      (o = none ↔ a = 0) := by
  obtain ⟨o, h1, h2, h3⟩ := toZp_inverse fqP_wf (fqP_p ▸ Primes.q_prime) ha
  refine ⟨o, h1, h2, h3, ?_⟩
  rw [← inverse_eq_some_none_iff fqP a, h1]; simp
end fq

theorem fq_fromRepr (x : ℕ) :
    (fromRepr fqP x = none ↔ q ≤ x) ∧
    (∀ a, fromRepr fqP x = some a → a < q ∧ (toFq a).v = x ∧ intoRepr fqP a = x) :=
  ⟨fromRepr_eq_none_iff fqP x, fun _ hx =>
    ⟨(fromRepr_spec fqP_wf hx).2.1, (toZp_fromRepr fqP_wf hx).2, intoRepr_fromRepr fqP_wf hx⟩⟩

section fr
variable {a b : ℕ} (ha : a < r) (hb : b < r)
include ha

omit ha in
theorem fr_zero_one : toFr 0 = 0 ∧ toFr fr_R = 1 := ⟨toZp_zero, toZp_R frP_wf⟩
theorem fr_add (hb : b < r) : add frP a b < r ∧ toFr (add frP a b) = toFr a + toFr b :=
  ⟨(add_spec frP_wf ha hb).1, toZp_add frP_wf ha hb⟩
theorem fr_sub (hb : b < r) : sub frP a b < r ∧ toFr (sub frP a b) = toFr a - toFr b :=
  ⟨(sub_spec frP_wf ha hb).1, toZp_sub frP_wf ha hb⟩
theorem fr_neg : neg frP a < r ∧ toFr (neg frP a) = - toFr a :=
  ⟨(neg_spec frP_wf ha).1, toZp_neg frP_wf ha⟩
theorem fr_double : double frP a < r ∧ toFr (double frP a) = toFr a + toFr a :=
  ⟨(double_spec frP_wf ha).1, toZp_double frP_wf ha⟩
theorem fr_mul (hb : b < r) : mul frP a b < r ∧ toFr (mul frP a b) = toFr a * toFr b :=
  ⟨(mul_spec frP_wf ha hb).1, toZp_mul frP_wf ha hb⟩
theorem fr_square : square frP a < r ∧ toFr (square frP a) = toFr a * toFr a :=
  ⟨(square_spec frP_wf ha).1, toZp_square frP_wf ha⟩
theorem fr_pow (ls : List ℕ) (hok : ∀ l ∈ ls, l < 2 ^ 64) :
    pow frP a ls < r ∧ toFr (pow frP a ls) = toFr a ^ limbsToNat ls ∧
      (toFr (pow frP a ls)).v = (toFr a).v ^ limbsToNat ls % r :=
  ⟨(pow_spec frP_wf ha ls hok).1, toZp_pow frP_wf ha ls hok, by
    rw [toFr_v, toFr_v]; exact (pow_spec frP_wf ha ls hok).2⟩
theorem fr_isZero : Zp.isZero (toFr a) = decide (a = 0) := toZp_isZero frP_wf ha
theorem fr_lt (hb : b < r) :
    Zp.lt (toFr a) (toFr b) = decide (intoRepr frP a < intoRepr frP b) := toZp_lt frP_wf ha hb
theorem fr_intoRepr : intoRepr frP a = (toFr a).v := intoRepr_eq_v frP_wf ha
theorem fr_inverse :
    ∃ o, inverse frP a = some o ∧ o.map toFr = Zp.inv (toFr a) ∧ (∀ b ∈ o, b < r) ∧
      (o = none ↔ a = 0) := by
  obtain ⟨o, h1, h2, h3⟩ := toZp_inverse frP_wf (frP_p ▸ Primes.r_prime) ha
  refine ⟨o, h1, h2, h3, ?_⟩
  rw [← inverse_eq_some_none_iff frP a, h1]; simp
end fr

theorem fr_fromRepr (x : ℕ) :
    (fromRepr frP x = none ↔ r ≤ x) ∧
    (∀ a, fromRepr frP x = some a → a < r ∧ (toFr a).v = x ∧ intoRepr frP a = x) :=
  ⟨fromRepr_eq_none_iff frP x, fun _ hx =>
    ⟨(fromRepr_spec frP_wf hx).2.1, (toZp_fromRepr frP_wf hx).2, intoRepr_fromRepr frP_wf hx⟩⟩

/-! ### non-vacuity: the operations evaluated on concrete raw values -/

example : enc fqP 3 < q ∧ enc fqP 5 < q := by decide +kernel
example : add fqP (enc fqP (q - 3)) (enc fqP 5) = enc fqP 2 := by decide +kernel
example : sub fqP (enc fqP 3) (enc fqP 5) = enc fqP (q - 2) := by decide +kernel
example : neg fqP (enc fqP 3) = enc fqP (q - 3) ∧ neg fqP 0 = 0 := by decide +kernel
example : double fqP (enc fqP (q - 1)) = enc fqP (q - 2) := by decide +kernel
example : mul fqP (enc fqP 3) (enc fqP 5) = enc fqP 15 := by decide +kernel
example : square frP (enc frP (r - 2)) = enc frP 4 := by decide +kernel
example : pow fqP (enc fqP 2) [10] = enc fqP 1024 ∧ pow fqP (enc fqP 2) [] = fq_R ∧
    pow frP (enc frP 2) [0, 1] = enc frP (powMod 2 (2 ^ 64) r) := by decide +kernel
example : fromRepr fqP 7 = some (enc fqP 7) ∧ intoRepr fqP (enc fqP 7) = 7 ∧
    fromRepr fqP q = none ∧ fromRepr fqP (q - 1) = some NEGATIVE_ONE := by decide +kernel
example : inverse fqP (enc fqP 2) = some (some (enc fqP ((q + 1) / 2))) ∧
    inverse fqP 0 = some none := by decide +kernel
example : inverse frP (enc frP 7) = some (some (enc frP (powMod 7 (r - 2) r))) := by
  decide +kernel

/-! ## 3. Hard-coded constants (all extracted from the Rust source) -/

/-- every raw `Fq` literal is reduced -/
theorem fq_literals_reduced :
    fq_R < q ∧ fq_R2 < q ∧ fq_GENERATOR < q ∧ fq_ROOT_OF_UNITY < q ∧ fq_SQRT_CMP < q ∧
    B_COEFF < q ∧ G1_GENERATOR_X < q ∧ G1_GENERATOR_Y < q ∧
    G2_GENERATOR_X_C0 < q ∧ G2_GENERATOR_X_C1 < q ∧ G2_GENERATOR_Y_C0 < q ∧
    G2_GENERATOR_Y_C1 < q ∧ NEGATIVE_ONE < q ∧ F_2_256 < q := by decide +kernel

theorem fq_frobenius_literals_reduced :
    (∀ x ∈ FROBENIUS_COEFF_FQ2_C1, x < q) ∧
    (∀ x ∈ FROBENIUS_COEFF_FQ6_C1, x.1 < q ∧ x.2 < q) ∧
    (∀ x ∈ FROBENIUS_COEFF_FQ6_C2, x.1 < q ∧ x.2 < q) ∧
    (∀ x ∈ FROBENIUS_COEFF_FQ12_C1, x.1 < q ∧ x.2 < q) := by decide +kernel

theorem fr_literals_reduced :
    fr_R < r ∧ fr_R2 < r ∧ fr_GENERATOR < r ∧ fr_ROOT_OF_UNITY < r ∧ F_2_192 < r := by decide +kernel

/-- the raw literals of the hash-to-curve maps (SSWU / isogeny constants) are reduced as well -/
theorem map_literals_reduced :
    G1_ELLP_A < q ∧ G1_ELLP_B < q ∧ G1_XI < q ∧ G1_SQRT_M_XI_CUBED < q ∧
    (G2_ELLP_A.1 < q ∧ G2_ELLP_A.2 < q) ∧ (G2_ELLP_B.1 < q ∧ G2_ELLP_B.2 < q) ∧
    (G2_XI.1 < q ∧ G2_XI.2 < q) ∧
    (∀ x ∈ G2_ETAS, x.1 < q ∧ x.2 < q) ∧ (∀ x ∈ G2_ROOTS_OF_UNITY, x.1 < q ∧ x.2 < q) ∧
    (∀ x ∈ ISO11_XNUM, x < q) ∧ (∀ x ∈ ISO11_XDEN, x < q) ∧
    (∀ x ∈ ISO11_YNUM, x < q) ∧ (∀ x ∈ ISO11_YDEN, x < q) ∧
    (∀ x ∈ ISO3_XNUM, x.1 < q ∧ x.2 < q) ∧ (∀ x ∈ ISO3_XDEN, x.1 < q ∧ x.2 < q) ∧
    (∀ x ∈ ISO3_YNUM, x.1 < q ∧ x.2 < q) ∧ (∀ x ∈ ISO3_YDEN, x.1 < q ∧ x.2 < q) := by decide +kernel

/-- the named `Fq` literals as Montgomery encodings (inverse-free form `raw = x·2^384 mod q`) -/
theorem fq_literals :
    B_COEFF = 4 * 2 ^ 384 % q ∧ NEGATIVE_ONE = (q - 1) * 2 ^ 384 % q ∧
    F_2_256 = 2 ^ 256 * 2 ^ 384 % q ∧ fq_GENERATOR = fqGenerator * 2 ^ 384 % q ∧
    fqGenerator = 2 ∧ fq_ROOT_OF_UNITY = (q - 1) * 2 ^ 384 % q ∧ fq_ROOT_OF_UNITY = fq_SQRT_CMP :=
  ⟨B_COEFF_eq, NEGATIVE_ONE_eq, F_2_256_eq, fq_GENERATOR_eq, rfl, fq_ROOT_OF_UNITY_eq,
    fq_ROOT_OF_UNITY_eq_SQRT_CMP⟩

/-- … and decoded -/
theorem fq_literals_dec :
    dec fqP fq_R = 1 ∧ dec fqP B_COEFF = 4 ∧ dec fqP NEGATIVE_ONE = q - 1 ∧
    dec fqP F_2_256 = 2 ^ 256 ∧ dec fqP fq_GENERATOR = 2 ∧ dec fqP fq_ROOT_OF_UNITY = q - 1 :=
  ⟨dec_fq_R, dec_B_COEFF, dec_NEGATIVE_ONE, dec_F_2_256, dec_fq_GENERATOR, dec_fq_ROOT_OF_UNITY⟩

/-- `frOmega = 7^((r−1)/2^32) mod r` -/
theorem fr_literals :
    F_2_192 = 2 ^ 192 * 2 ^ 256 % r ∧ fr_GENERATOR = frGenerator * 2 ^ 256 % r ∧ frGenerator = 7 ∧
    fr_ROOT_OF_UNITY = frOmega * 2 ^ 256 % r ∧ frOmega = 7 ^ ((r - 1) / 2 ^ 32) % r :=
  ⟨F_2_192_eq, fr_GENERATOR_eq, rfl, fr_ROOT_OF_UNITY_eq, frOmega_eq⟩

theorem fr_literals_dec :
    dec frP fr_R = 1 ∧ dec frP F_2_192 = 2 ^ 192 ∧ dec frP fr_GENERATOR = 7 ∧
    dec frP fr_ROOT_OF_UNITY = frOmega :=
  ⟨dec_fr_R, dec_F_2_192, dec_fr_GENERATOR, dec_fr_ROOT_OF_UNITY⟩

/-- the decoded `Fr::ROOT_OF_UNITY` has multiplicative order exactly `2^32` -/
theorem fr_root_of_unity_order :
    let ω := dec frP fr_ROOT_OF_UNITY
    ω ^ 2 ^ 32 % r = 1 ∧ ω ^ 2 ^ 31 % r = r - 1 ∧ ω ^ 2 ^ 31 % r ≠ 1 := by
  intro ω
  have : ω = frOmega := dec_fr_ROOT_OF_UNITY
  rw [this]; exact frOmega_order

/-- the decoded `Fq::ROOT_OF_UNITY` is `−1 = 2^((q−1)/2)`, of order `2 = 2^S` -/
theorem fq_root_of_unity :
    dec fqP fq_ROOT_OF_UNITY = q - 1 ∧ 2 ^ ((q - 1) / 2) % q = q - 1 ∧ (q - 1) ^ 2 % q = 1 :=
  ⟨dec_fq_ROOT_OF_UNITY, fq_ROOT_OF_UNITY_pow, by decide +kernel⟩

/-- exponents used by `legendre` / `sqrt` -/
theorem exponents :
    q % 4 = 3 ∧ fq_LEGENDRE_EXP = (q - 1) / 2 ∧ fq_SQRT_EXP = (q - 3) / 4 ∧ fq_S = 1 ∧
    fr_LEGENDRE_EXP = (r - 1) / 2 ∧ fr_S = 32 ∧ (r - 1) % 2 ^ 32 = 0 ∧
    fr_SQRT_T_EXP = (r - 1) / 2 ^ 32 ∧ fr_SQRT_T_EXP % 2 = 1 ∧
    fr_SQRT_R_EXP = ((r - 1) / 2 ^ 32 + 1) / 2 :=
  ⟨Primes.q_mod_four, fq_LEGENDRE_EXP_eq, fq_SQRT_EXP_eq, rfl, fr_LEGENDRE_EXP_eq, rfl,
    fr_two_adicity.1, fr_SQRT_T_EXP_eq, by decide +kernel, fr_SQRT_R_EXP_eq⟩

/-- the canonical-level model reads raw literals with `Fq.ofMont`/`Fr.ofMont`; that is `dec` -/
theorem ofMont_eq (raw : ℕ) :
    (Fq.ofMont raw).v = dec fqP raw ∧ (Fr.ofMont raw).v = dec frP raw :=
  ⟨Fq_ofMont_v raw, Fr_ofMont_v raw⟩

/-! ## 4. The representation type `FqRepr([u64; 6])` / `FrRepr([u64; 4])`
A repr is a little-endian list of `n` limbs `< 2^64` (`Repr n a`); its value is `limbsToNat a`.
Every statement holds for any `n`; `n = 6` gives 384-bit, `n = 4` gives 256-bit integers. -/

open PP.Limbs

/-- a well-formed `n`-limb representation -/
def Repr (n : ℕ) (a : List ℕ) : Prop := LimbsOK a ∧ a.length = n

/-- reprs of `n` limbs are exactly the integers below `2^(64n)`:
    `limbsToNat` and `limbsOf n` are mutually inverse -/
theorem repr_bijection (n : ℕ) :
    (∀ a, Repr n a → limbsToNat a < 2 ^ (64 * n) ∧ limbsOf n (limbsToNat a) = a) ∧
    (∀ x, Repr n (limbsOf n x) ∧ limbsToNat (limbsOf n x) = x % 2 ^ (64 * n)) :=
  ⟨fun _ ⟨ha, hl⟩ => ⟨hl ▸ limbsToNat_lt ha, limbsOf_limbsToNat ha hl⟩,
   fun x => ⟨⟨limbsOf_ok n x, limbsOf_length n x⟩, limbsToNat_limbsOf n x⟩⟩

section repr
variable {n : ℕ} {a b : List ℕ} (ha : Repr n a) (hb : Repr n b)
include ha

/-- `add_nocarry`: addition modulo `2^(64n)`, exact under the no-carry precondition -/
theorem add_nocarry_ok (hb : Repr n b) :
    Repr n (addNocarry a b 0) ∧
    limbsToNat (addNocarry a b 0) = (limbsToNat a + limbsToNat b) % 2 ^ (64 * n) ∧
    (limbsToNat a + limbsToNat b < 2 ^ (64 * n) →
      limbsToNat (addNocarry a b 0) = limbsToNat a + limbsToNat b) := by
  obtain ⟨ha1, ha2⟩ := ha; obtain ⟨hb1, hb2⟩ := hb
  have hl : a.length = b.length := by omega
  subst ha2
  exact ⟨⟨addNocarry_ok a b 0, addNocarry_length 0 hl⟩, limbsToNat_addNocarry hl,
    limbsToNat_addNocarry_of_lt hl⟩

/-- `sub_noborrow`: subtraction modulo `2^(64n)`, exact under the no-borrow precondition -/
theorem sub_noborrow_ok (hb : Repr n b) :
    Repr n (subNoborrow a b 0) ∧
    limbsToNat (subNoborrow a b 0)
      = (limbsToNat a + 2 ^ (64 * n) - limbsToNat b) % 2 ^ (64 * n) ∧
    (limbsToNat b ≤ limbsToNat a →
      limbsToNat (subNoborrow a b 0) = limbsToNat a - limbsToNat b) := by
  obtain ⟨ha1, ha2⟩ := ha; obtain ⟨hb1, hb2⟩ := hb
  have hl : a.length = b.length := by omega
  subst ha2
  exact ⟨⟨subNoborrow_ok a b 0, subNoborrow_length 0 hl⟩, limbsToNat_subNoborrow ha1 hb1 hl,
    limbsToNat_subNoborrow_of_le ha1 hb1 hl⟩

/-- `div2` halves -/
theorem div2_ok : Repr n (div2 a) ∧ limbsToNat (div2 a) = limbsToNat a / 2 :=
  ⟨⟨Limbs.div2_ok ha.1, by rw [div2_length, ha.2]⟩, limbsToNat_div2 ha.1⟩

/-- `mul2` doubles modulo `2^(64n)` -/
theorem mul2_ok : Repr n (mul2 a) ∧ limbsToNat (mul2 a) = limbsToNat a * 2 % 2 ^ (64 * n) :=
  ⟨⟨Limbs.mul2_ok ha.1, by rw [mul2_length, ha.2]⟩, by rw [limbsToNat_mul2 ha.1, ha.2]⟩

/-- `shr(k)` for every `k` (`k ≥ 64n` gives zero) -/
theorem shr_ok (k : ℕ) : Repr n (shr a k) ∧ limbsToNat (shr a k) = limbsToNat a / 2 ^ k :=
  ⟨⟨Limbs.shr_ok ha.1 k, by rw [shr_length, ha.2]⟩, limbsToNat_shr ha.1 k⟩

/-- `shl(k)` for every `k`, modulo `2^(64n)` -/
theorem shl_ok (k : ℕ) :
    Repr n (shl a k) ∧ limbsToNat (shl a k) = limbsToNat a * 2 ^ k % 2 ^ (64 * n) :=
  ⟨⟨Limbs.shl_ok ha.1 k, by rw [shl_length, ha.2]⟩, by rw [limbsToNat_shl ha.1 k, ha.2]⟩

/-- `num_bits` is the bit length: `0` for `0`, else `⌊log₂ A⌋ + 1`; equivalently the least `k`
    with `A < 2^k` -/
theorem numBits_ok :
    numBits a = (if limbsToNat a = 0 then 0 else Nat.log2 (limbsToNat a) + 1) ∧
    limbsToNat a < 2 ^ numBits a ∧ (limbsToNat a ≠ 0 → 2 ^ (numBits a - 1) ≤ limbsToNat a) ∧
    numBits a ≤ 64 * n :=
  ⟨numBits_eq ha.1, lt_two_pow_numBits ha.1, two_pow_numBits_le ha.1, ha.2 ▸ numBits_le ha.1⟩

omit ha in
/-- parity and zero test (no well-formedness needed) -/
theorem isOdd_isZero_ok (a : List ℕ) :
    isOdd a = (limbsToNat a % 2 == 1) ∧ (isZero a = true ↔ limbsToNat a = 0) :=
  ⟨isOdd_eq a, isZero_iff a⟩

/-- `Ord for Repr` compares the integers -/
theorem cmp_repr_ok (hb : Repr n b) :
    Mont.cmp a b = if limbsToNat a < limbsToNat b then -1
      else if limbsToNat a > limbsToNat b then 1 else 0 :=
  cmp_eq ha.1 hb.1 (by rw [ha.2, hb.2])

end repr

/-- `read_be`/`write_be`, `read_le`/`write_le` (byte strings of any length `len`; `len = 8n` for an
    `n`-limb repr): mutually inverse conversions between `len` bytes and integers `< 256^len` -/
theorem bytes_ok (len : ℕ) :
    (∀ x, (beBytes len x).length = len ∧ beToNat (beBytes len x) = x % 256 ^ len) ∧
    (∀ bs : Bytes, bs.length = len → beToNat bs < 256 ^ len ∧ beBytes len (beToNat bs) = bs) ∧
    (∀ x, (leBytes len x).length = len ∧ leToNat (leBytes len x) = x % 256 ^ len) ∧
    (∀ bs : Bytes, bs.length = len → leToNat bs < 256 ^ len ∧ leBytes len (leToNat bs) = bs) :=
  ⟨fun x => ⟨beBytes_length len x, beToNat_beBytes len x⟩,
   fun bs hl => ⟨hl ▸ beToNat_lt bs, beBytes_beToNat hl⟩,
   fun x => ⟨leBytes_length len x, leToNat_leBytes len x⟩,
   fun bs hl => ⟨hl ▸ leToNat_lt bs, leBytes_leToNat hl⟩⟩

/-- the bit iterator used by `pow` reads the binary expansion of the limbs, most significant first -/
theorem bitsMSB_ok (ls : List ℕ) (hok : LimbsOK ls) :
    (bitsMSB ls).foldl (fun acc b => 2 * acc + b.toNat) 0 = limbsToNat ls :=
  ofBitsMSB_bitsMSB ls hok

/-- consistency of the two levels of the model: the integer-level `add` of `PP.Mont` is the
    limb-level `add_nocarry` followed by the conditional `sub_noborrow(MODULUS)` -/
theorem add_via_limbs {P : Params} (h : P.WF) {a b : ℕ} (ha : a < P.p) (hb : b < P.p) :
    add P a b =
      (let s := addNocarry (limbsOf P.limbs a) (limbsOf P.limbs b) 0
       if Mont.cmp s (limbsOf P.limbs P.p) = -1 then limbsToNat s
       else limbsToNat (subNoborrow s (limbsOf P.limbs P.p) 0)) := by
  have hpW := h.p_lt_W
  have hW : P.W = 2 ^ (64 * P.limbs) := rfl
  have hra := (repr_bijection P.limbs).2 a
  have hrb := (repr_bijection P.limbs).2 b
  have hrp := (repr_bijection P.limbs).2 P.p
  rw [← hW] at hra hrb hrp
  rw [Nat.mod_eq_of_lt (by omega)] at hra hrb hrp
  obtain ⟨s1, s2, _⟩ := add_nocarry_ok hra.1 hrb.1
  rw [hra.2, hrb.2, ← hW] at s2
  obtain ⟨_, t2, _⟩ := sub_noborrow_ok s1 hrp.1
  rw [hrp.2, ← hW] at t2
  have hc := cmp_repr_ok s1 hrp.1
  rw [hrp.2] at hc
  simp only
  rw [hc, t2, s2]
  unfold add reduce
  by_cases hlt : (a + b) % P.W < P.p
  · simp [hlt]
  · have : ¬ ((-1 : ℤ) = 1) := by decide
    by_cases hgt : (a + b) % P.W > P.p <;> simp [hlt, hgt]

/-! ### non-vacuity for the repr level -/

example : Repr 6 (limbsOf 6 q) ∧ limbsToNat (limbsOf 6 q) = q := by
  refine ⟨((repr_bijection 6).2 q).1, ?_⟩; decide +kernel
example : limbsToNat (addNocarry (limbsOf 6 q) (limbsOf 6 q) 0) = 2 * q ∧
    limbsToNat (subNoborrow (limbsOf 6 q) (limbsOf 6 5) 0) = q - 5 ∧
    limbsToNat (subNoborrow (limbsOf 4 5) (limbsOf 4 r) 0) = 2 ^ 256 + 5 - r ∧
    limbsToNat (div2 (limbsOf 6 q)) = q / 2 ∧ limbsToNat (mul2 (limbsOf 4 r)) = 2 * r ∧
    limbsToNat (shr (limbsOf 6 q) 129) = q / 2 ^ 129 ∧ limbsToNat (shr (limbsOf 6 q) 384) = 0 ∧
    limbsToNat (shl (limbsOf 6 q) 70) = q * 2 ^ 70 % 2 ^ 384 ∧
    numBits (limbsOf 6 q) = 381 ∧ numBits (limbsOf 4 r) = 255 ∧ numBits (limbsOf 4 0) = 0 ∧
    isOdd (limbsOf 6 q) = true ∧ isZero (limbsOf 6 q) = false ∧
    Mont.cmp (limbsOf 6 q) (limbsOf 6 fq_R) = 1 := by decide +kernel
example : beToNat (beBytes 48 q) = q ∧ leToNat (leBytes 32 r) = r ∧
    beBytes 2 0x1234 = [0x12, 0x34] ∧ leBytes 2 0x1234 = [0x34, 0x12] := by decide +kernel

end PP.Props.C08
