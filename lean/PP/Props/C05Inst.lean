/-
C05, INSTANTIATED.  The theorems of `PP/Props/C05.lean` at `g1Codec` (48 / 96 bytes) and `g2Codec`
(96 / 192 bytes) with the real instances (`LawfulSqrtOps Fq`; the tower's `Field Fq2`,
`LawfulFieldOps Fq2`, `PP.instLawfulSqrtOpsFq2`).  For G1 the compressed canonicity theorem has no side
condition on `y`: `x³ + 4` has no root in `Fq` (`g1_no_two_torsion`).

G2, compressed canonicity, three statements: `encode_decode_compressed_g2_full` is the one to use (no
side condition, as for G1); `encode_decode_compressed_g2` keeps the side condition `−y ≠ y` on the
decoded point; `encode_decode_compressed_g2_partial` is the step between them, with `(2 : Fq2) ≠ 0`
(`fq2_two_ne_zero`) and the absence of 2-torsion on the twist, `∀ x, x³ + 4(1+u) ≠ 0`
(`PP.g2_no_two_torsion`: `−4(1+u)` is not a cube in `Fq2`, by Fermat in `Fq2` and one kernel-evaluated
power) as hypotheses.
-/
import PP.Props.C05
import PP.Proofs.AssemblyFq2

namespace PP.C05Inst
open PP

/-! ## G1 (the `LawfulSqrtOps Fq` instance is `PP.Proofs.Sqrt`'s, C18) -/
section g1

theorem encodeCompressed_length_g1 (A : Aff Fq) : (encodeCompressed g1Codec A).length = 48 :=
  PP.C05.encodeCompressed_length g1Codec_lawful A

theorem encodeUncompressed_length_g1 (A : Aff Fq) : (encodeUncompressed g1Codec A).length = 96 :=
  PP.C05.encodeUncompressed_length g1Codec_lawful A

theorem encodeCompressed_eq_zcash_g1 (A : Aff Fq) :
    encodeCompressed g1Codec A = ZCash.encode (g1Codec.curve ZCash.fqCoord) .compressed A :=
  PP.C05.encodeCompressed_eq_zcash g1Codec_lawful A

theorem encodeUncompressed_eq_zcash_g1 (A : Aff Fq) :
    encodeUncompressed g1Codec A = ZCash.encode (g1Codec.curve ZCash.fqCoord) .uncompressed A :=
  PP.C05.encodeUncompressed_eq_zcash g1Codec_lawful A

theorem decode_encode_compressed_g1 (A : Aff Fq) (hinf : A.infinity = true → A = Aff.zero)
    (hs : Aff.inSubgroup g1Codec.b A = true) :
    decodeCompressed g1Codec (encodeCompressed g1Codec A) = .ok A :=
  PP.C05.decodeCompressed_encodeCompressed g1Codec_lawful A hinf hs

theorem decode_encode_uncompressed_g1 (A : Aff Fq) (hinf : A.infinity = true → A = Aff.zero)
    (hs : Aff.inSubgroup g1Codec.b A = true) :
    decodeUncompressed g1Codec (encodeUncompressed g1Codec A) = .ok A :=
  PP.C05.decodeUncompressed_encodeUncompressed g1Codec_lawful A hinf (Aff.isOnCurve_of_inSubgroup _ _ hs) hs

theorem encode_decode_compressed_g1 (bs : Bytes) (A : Aff Fq) (h : decodeCompressed g1Codec bs = .ok A) :
    encodeCompressed g1Codec A = bs :=
  PP.C05.encodeCompressed_of_decodeCompressed' g1Codec_lawful fq_two_ne_zero g1_no_two_torsion bs A
    ((decodeCompressed_ok_iff_unchecked bs A).mp h).1

theorem encode_decode_compressedUnchecked_g1 (bs : Bytes) (A : Aff Fq)
    (h : decodeCompressedUnchecked g1Codec bs = .ok A) : encodeCompressed g1Codec A = bs :=
  PP.C05.encodeCompressed_of_decodeCompressed' g1Codec_lawful fq_two_ne_zero g1_no_two_torsion bs A h

theorem encode_decode_uncompressed_g1 (bs : Bytes) (A : Aff Fq) (h : decodeUncompressed g1Codec bs = .ok A) :
    encodeUncompressed g1Codec A = bs :=
  PP.C05.encodeUncompressed_of_decodeUncompressed g1Codec_lawful bs A h

theorem encodeCompressed_injective_g1 (A B : Aff Fq)
    (hA : A.infinity = true → A = Aff.zero) (hB : B.infinity = true → B = Aff.zero)
    (hcA : Aff.isOnCurve g1Codec.b A = true) (hcB : Aff.isOnCurve g1Codec.b B = true)
    (h : encodeCompressed g1Codec A = encodeCompressed g1Codec B) : A = B :=
  PP.C05.encodeCompressed_injective g1Codec_lawful A B hA hB hcA hcB h

theorem encodeUncompressed_injective_g1 (A B : Aff Fq)
    (hA : A.infinity = true → A = Aff.zero) (hB : B.infinity = true → B = Aff.zero)
    (h : encodeUncompressed g1Codec A = encodeUncompressed g1Codec B) : A = B :=
  PP.C05.encodeUncompressed_injective g1Codec_lawful A B hA hB h

end g1

/-! ## G2, with the tower's `Field Fq2`, `LawfulFieldOps Fq2` and `instLawfulSqrtOpsFq2`

The model's own notation instances on `Fq2` are switched off locally, for the reason given in
`PP/Props/C04Inst.lean`. -/
section g2
attribute [-instance] Fq2.instAdd Fq2.instSub Fq2.instMul Fq2.instNeg Fq2.instZero Fq2.instOne

theorem encodeCompressed_length_g2 (A : Aff Fq2) : (encodeCompressed g2Codec A).length = 96 :=
  PP.C05.encodeCompressed_length g2Codec_lawful A

theorem encodeUncompressed_length_g2 (A : Aff Fq2) : (encodeUncompressed g2Codec A).length = 192 :=
  PP.C05.encodeUncompressed_length g2Codec_lawful A

theorem encodeCompressed_eq_zcash_g2 (A : Aff Fq2) :
    encodeCompressed g2Codec A = ZCash.encode (g2Codec.curve ZCash.fq2Coord) .compressed A :=
  PP.C05.encodeCompressed_eq_zcash g2Codec_lawful A

theorem encodeUncompressed_eq_zcash_g2 (A : Aff Fq2) :
    encodeUncompressed g2Codec A = ZCash.encode (g2Codec.curve ZCash.fq2Coord) .uncompressed A :=
  PP.C05.encodeUncompressed_eq_zcash g2Codec_lawful A

theorem decode_encode_compressed_g2 (A : Aff Fq2) (hinf : A.infinity = true → A = Aff.zero)
    (hs : Aff.inSubgroup g2Codec.b A = true) :
    decodeCompressed g2Codec (encodeCompressed g2Codec A) = .ok A :=
  PP.C05.decodeCompressed_encodeCompressed g2Codec_lawful A hinf hs

theorem decode_encode_uncompressed_g2 (A : Aff Fq2) (hinf : A.infinity = true → A = Aff.zero)
    (hs : Aff.inSubgroup g2Codec.b A = true) :
    decodeUncompressed g2Codec (encodeUncompressed g2Codec A) = .ok A :=
  PP.C05.decodeUncompressed_encodeUncompressed g2Codec_lawful A hinf (Aff.isOnCurve_of_inSubgroup _ _ hs) hs

/-- the absence of 2-torsion on the twist (`x³ + 4(1+u)` has no root in `Fq2`) and `2 ≠ 0` as hypotheses;
`encode_decode_compressed_g2_full` below supplies them -/
theorem encode_decode_compressed_g2_partial (h2 : (2 : Fq2) ≠ 0)
    (hno2 : ∀ x : Fq2, x * x * x + g2Codec.b ≠ 0) (bs : Bytes) (A : Aff Fq2)
    (h : decodeCompressed g2Codec bs = .ok A) : encodeCompressed g2Codec A = bs :=
  PP.C05.encodeCompressed_of_decodeCompressed' g2Codec_lawful h2 hno2 bs A ((decodeCompressed_ok_iff_unchecked bs A).mp h).1

/-- with the side condition on the decoded point itself -/
theorem encode_decode_compressed_g2 (bs : Bytes) (A : Aff Fq2)
    (h : decodeCompressed g2Codec bs = .ok A) (hy : A.infinity = false → -A.y ≠ A.y) :
    encodeCompressed g2Codec A = bs :=
  PP.C05.encodeCompressed_of_decodeCompressed g2Codec_lawful bs A h hy

theorem encode_decode_uncompressed_g2 (bs : Bytes) (A : Aff Fq2) (h : decodeUncompressed g2Codec bs = .ok A) :
    encodeUncompressed g2Codec A = bs :=
  PP.C05.encodeUncompressed_of_decodeUncompressed g2Codec_lawful bs A h

theorem encodeCompressed_injective_g2 (A B : Aff Fq2)
    (hA : A.infinity = true → A = Aff.zero) (hB : B.infinity = true → B = Aff.zero)
    (hcA : Aff.isOnCurve g2Codec.b A = true) (hcB : Aff.isOnCurve g2Codec.b B = true)
    (h : encodeCompressed g2Codec A = encodeCompressed g2Codec B) : A = B :=
  PP.C05.encodeCompressed_injective g2Codec_lawful A B hA hB hcA hcB h

theorem encodeUncompressed_injective_g2 (A B : Aff Fq2)
    (hA : A.infinity = true → A = Aff.zero) (hB : B.infinity = true → B = Aff.zero)
    (h : encodeUncompressed g2Codec A = encodeUncompressed g2Codec B) : A = B :=
  PP.C05.encodeUncompressed_injective g2Codec_lawful A B hA hB h

/-- compressed decoding followed by compressed encoding is the identity on accepted strings (no side
    condition: the twist has no point of order 2) -/
theorem encode_decode_compressed_g2_full (bs : Bytes) (A : Aff Fq2)
    (h : decodeCompressed g2Codec bs = .ok A) : encodeCompressed g2Codec A = bs :=
  encode_decode_compressed_g2_partial PP.fq2_two_ne_zero PP.g2_no_two_torsion bs A h

/-- the two hypotheses of the `_partial` theorem -/
theorem fq2_two_ne_zero : (2 : Fq2) ≠ 0 := PP.fq2_two_ne_zero
theorem g2_no_two_torsion (x : Fq2) : x * x * x + g2Codec.b ≠ 0 := PP.g2_no_two_torsion x

end g2

end PP.C05Inst
