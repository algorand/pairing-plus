/-
HashLen2.  "The truncated SHA-2 reference hashes return digests of the nominal length for every
input: SHA-224 returns 28 bytes, SHA-384 returns 48 bytes."

These are Merkle–Damgard hashes whose block size is not twice the digest size (64/28, 128/48).
With the two length facts the output-length hypothesis `hH` of the C13 theorems is discharged for
them; the corollaries below are those theorems instantiated at SHA-224 and SHA-384 (the `XmdHash`
records have the digest and block sizes `Driver.lean` gives them), with no hypothesis about the hash left.
Proofs: `PP/Proofs/HashLen2.lean`.
-/
import PP.Proofs.HashLen2
import PP.Props.C13

namespace PP
namespace HashLen2
open Expand

/-! ## the two length facts -/

theorem sha224_length (m : List UInt8) : (Hash.sha224 m).length = 28 := Hash.sha224_length m

theorem sha384_length (m : List UInt8) : (Hash.sha384 m).length = 48 := Hash.sha384_length m

/-- SHA-224 / SHA-384 with the digest and block sizes `Driver.lean` gives them -/
def sha224H : XmdHash := ⟨28, 64, Hash.sha224⟩
def sha384H : XmdHash := ⟨48, 128, Hash.sha384⟩

variable (msg dst : Bytes) (len count : Nat)

/-! ## expand_message_xmd -/

/-- for SHA-224 the only length condition is the RFC's `ell ≤ 255`, i.e. `len ≤ 7140`; beyond it
both sides abort, so there is no length hypothesis at all -/
theorem expandXmd_sha224_eq_rfc (hdst : dst.length ≤ 255) :
    expandMessageXmd sha224H msg dst len = Rfc.expand_message_xmd Hash.sha224 28 64 msg dst len :=
  C13.expandXmd_eq_rfc_of_digest sha224H msg dst len (by decide) (by decide) hdst

/-- for SHA-384: `ell ≤ 255` is `len ≤ 12240` -/
theorem expandXmd_sha384_eq_rfc (hdst : dst.length ≤ 255) :
    expandMessageXmd sha384H msg dst len = Rfc.expand_message_xmd Hash.sha384 48 128 msg dst len :=
  C13.expandXmd_eq_rfc_of_digest sha384H msg dst len (by decide) (by decide) hdst

/-- `expand_message_xmd` over SHA-224 returns exactly the requested number of bytes (no bound on
`len`: beyond 7140 it returns `none`) -/
theorem expandXmd_sha224_length (hdst : dst.length ≤ 255) (bytes : Bytes)
    (h : expandMessageXmd sha224H msg dst len = some bytes) : bytes.length = len :=
  C13.expandXmd_length sha224H msg dst len (by decide) sha224_length hdst
    (C13.le_of_expandXmd_eq_some sha224H msg dst len (by decide) (by decide) h) bytes h

theorem expandXmd_sha384_length (hdst : dst.length ≤ 255) (bytes : Bytes)
    (h : expandMessageXmd sha384H msg dst len = some bytes) : bytes.length = len :=
  C13.expandXmd_length sha384H msg dst len (by decide) sha384_length hdst
    (C13.le_of_expandXmd_eq_some sha384H msg dst len (by decide) (by decide) h) bytes h

/-! ## hash_to_field -/

theorem hashToField_sha224_fq_eq_rfc (hdst : dst.length ≤ 255) (hlen : count * 64 ≤ 65535) :
    (hashToField (expandMessageXmd sha224H) 64 Fq.fromOkm msg dst count).map
        (List.map Zp.coords)
      = Rfc.hash_to_field (Rfc.expand_message_xmd Hash.sha224 28 64) Gen.q 1 64 msg dst count :=
  C13.hashToField_xmd_fq_eq_rfc sha224H msg dst count (by decide) sha224_length hdst hlen

theorem hashToField_sha224_fr_eq_rfc (hdst : dst.length ≤ 255) (hlen : count * 48 ≤ 65535) :
    (hashToField (expandMessageXmd sha224H) 48 Fr.fromOkm msg dst count).map
        (List.map Zp.coords)
      = Rfc.hash_to_field (Rfc.expand_message_xmd Hash.sha224 28 64) Gen.r 1 48 msg dst count :=
  C13.hashToField_xmd_fr_eq_rfc sha224H msg dst count (by decide) sha224_length hdst hlen

theorem hashToField_sha224_fq2_eq_rfc (hdst : dst.length ≤ 255) (hlen : count * 128 ≤ 65535) :
    (hashToField (expandMessageXmd sha224H) 128 Fq2.fromRo msg dst count).map
        (List.map Fq2.coords)
      = Rfc.hash_to_field (Rfc.expand_message_xmd Hash.sha224 28 64) Gen.q 2 64 msg dst count :=
  C13.hashToField_xmd_fq2_eq_rfc sha224H msg dst count (by decide) sha224_length hdst hlen

theorem hashToField_sha384_fq_eq_rfc (hdst : dst.length ≤ 255) (hlen : count * 64 ≤ 65535) :
    (hashToField (expandMessageXmd sha384H) 64 Fq.fromOkm msg dst count).map
        (List.map Zp.coords)
      = Rfc.hash_to_field (Rfc.expand_message_xmd Hash.sha384 48 128) Gen.q 1 64 msg dst count :=
  C13.hashToField_xmd_fq_eq_rfc sha384H msg dst count (by decide) sha384_length hdst hlen

theorem hashToField_sha384_fr_eq_rfc (hdst : dst.length ≤ 255) (hlen : count * 48 ≤ 65535) :
    (hashToField (expandMessageXmd sha384H) 48 Fr.fromOkm msg dst count).map
        (List.map Zp.coords)
      = Rfc.hash_to_field (Rfc.expand_message_xmd Hash.sha384 48 128) Gen.r 1 48 msg dst count :=
  C13.hashToField_xmd_fr_eq_rfc sha384H msg dst count (by decide) sha384_length hdst hlen

theorem hashToField_sha384_fq2_eq_rfc (hdst : dst.length ≤ 255) (hlen : count * 128 ≤ 65535) :
    (hashToField (expandMessageXmd sha384H) 128 Fq2.fromRo msg dst count).map
        (List.map Fq2.coords)
      = Rfc.hash_to_field (Rfc.expand_message_xmd Hash.sha384 48 128) Gen.q 2 64 msg dst count :=
  C13.hashToField_xmd_fq2_eq_rfc sha384H msg dst count (by decide) sha384_length hdst hlen

end HashLen2
end PP
