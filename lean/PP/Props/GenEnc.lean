/-
OBLIGATIONS "GenEnc": the byte-level encoding layer of the hand-written model IS the Rust source.

`PP/Gen/Enc.lean` (namespace `PP.Gen.E`) is REGENERATED from /repo on every run of
/verif/extract/extract.py by /verif/extract/extract_enc.py: one Lean definition per Rust function, one
line per Rust statement; the flag manipulations (`copy[0] & (1 << 7) != 0`, `copy[0] &= 0x1f`,
`res.0[0] |= 1 << 5`, `(buf[0] & 0x80) == 0x80`), the order of the checks, the slice bounds of the
coordinate reads / writes and the error kinds are translated literally.  Each theorem below states that
such a regenerated definition is equal to the hand-written model function that the properties C04, C05
and C19 are proved about.  An edit of one of these Rust functions changes the generated text, and
the corresponding theorem no longer compiles (or the extractor refuses the new shape).

Correspondence Rust -> generated -> model (PP/Model/Enc.lean):
  ec/g1.rs, ec/g2.rs   impl EncodedPoint for G?Uncompressed / G?Compressed:
      into_affine_unchecked   -> `decodeUncompressedUnchecked` / `decodeCompressedUnchecked`
      into_affine             -> `decodeUncompressed` / `decodeCompressed`   (on-curve, subgroup checks)
      from_affine             -> `encodeUncompressed` / `encodeCompressed`
      size, empty             -> `cc.size` (`2 * cc.size`), the all-zero array
      G?Affine::get_coeff_b   -> `cc.b`                                       at `g1Codec` / `g2Codec`
  serdes.rs   impl SerDes for Fr, Fq12     -> `serFr deserFr serFq12 deserFq12`
              impl SerDes for G?Affine, G? -> `serAffine deserAffine`, `serJac deserJac`

Differences of representation that are visible in the statements:
  * a generated function that can PANIC (`unwrap`, callee) is `Option`-valued, `none` = panic: `= some (..)`
    also says that the Rust code does not panic; the hypothesis `bs.length = N` is the Rust type `[u8; N]`
    of `self` (for other lengths the model answers `badLength`, outside the Rust domain);
  * a sink `W: Write` is the list of bytes written so far: `serialize a w c = .ok (w ++ model)`; for the
    projective types the model's `none` (= `into_affine` panicked) is `.error SerErr.panic`;
  * a reader `R: Read` is the list of bytes still to be read; `deserialize` returns the value and the rest,
    exactly like the model;
  * the `_compressed` flag of `Fr` / `Fq12` is ignored by the Rust code: the model functions do not take it.

Primitives that are not in /repo (ff crate, derive macro, std::io) and are therefore NOT pinned down by
these theorems but taken from the model: `FqRepr::read_be / write_be` (big-endian, `beToNat` / `beBytes`),
`Fq::from_repr` (range check `< q`), `into_repr` (`.v`), `Read::read_exact` (`readExact`), the `Write`
impls of `Vec<u8>` and `&mut [u8]` (`E.vecWrite`, `E.SliceWriter`), `Ord for Fq` (`compare _.v _.v`),
`Fr::char()` (`Gen.r`); trivial wrappers (`as_ref`, `as_mut`, `into_projective`, `into_affine` of the
curve macro) are checked textually by the extractor.
-/
import PP.Proofs.GenEnc

namespace PP.GenEnc
open PP PP.Gen PP.GenEncLemmas

/-! ## ec/g1.rs -/
theorem G1Affine_getCoeffB : E.G1Affine.getCoeffB = g1Codec.b := G1Affine_getCoeffB_eq
theorem G1Uncompressed_size : E.G1Uncompressed.size = 2 * g1Codec.size := rfl
theorem G1Uncompressed_empty : E.G1Uncompressed.empty = List.replicate (2 * g1Codec.size) 0 := rfl
theorem G1Compressed_size : E.G1Compressed.size = g1Codec.size := rfl
theorem G1Compressed_empty : E.G1Compressed.empty = List.replicate g1Codec.size 0 := rfl
theorem G1Uncompressed_intoAffineUnchecked (bs : Bytes) (h : bs.length = 96) :
    E.G1Uncompressed.intoAffineUnchecked bs = some (decodeUncompressedUnchecked g1Codec bs) :=
  G1Uncompressed_intoAffineUnchecked_eq bs h
theorem G1Uncompressed_intoAffine (bs : Bytes) (h : bs.length = 96) :
    E.G1Uncompressed.intoAffine bs = some (decodeUncompressed g1Codec bs) := G1Uncompressed_intoAffine_eq bs h
theorem G1Uncompressed_fromAffine (a : Aff Fq) :
    E.G1Uncompressed.fromAffine a = some (encodeUncompressed g1Codec a) := G1Uncompressed_fromAffine_eq a
theorem G1Compressed_intoAffineUnchecked (bs : Bytes) (h : bs.length = 48) :
    E.G1Compressed.intoAffineUnchecked bs = some (decodeCompressedUnchecked g1Codec bs) :=
  G1Compressed_intoAffineUnchecked_eq bs h
theorem G1Compressed_intoAffine (bs : Bytes) (h : bs.length = 48) :
    E.G1Compressed.intoAffine bs = some (decodeCompressed g1Codec bs) := G1Compressed_intoAffine_eq bs h
theorem G1Compressed_fromAffine (a : Aff Fq) :
    E.G1Compressed.fromAffine a = some (encodeCompressed g1Codec a) := G1Compressed_fromAffine_eq a

/-! ## ec/g2.rs -/
theorem G2Affine_getCoeffB : E.G2Affine.getCoeffB = g2Codec.b := G2Affine_getCoeffB_eq
theorem G2Uncompressed_size : E.G2Uncompressed.size = 2 * g2Codec.size := rfl
theorem G2Uncompressed_empty : E.G2Uncompressed.empty = List.replicate (2 * g2Codec.size) 0 := rfl
theorem G2Compressed_size : E.G2Compressed.size = g2Codec.size := rfl
theorem G2Compressed_empty : E.G2Compressed.empty = List.replicate g2Codec.size 0 := rfl
theorem G2Uncompressed_intoAffineUnchecked (bs : Bytes) (h : bs.length = 192) :
    E.G2Uncompressed.intoAffineUnchecked bs = some (decodeUncompressedUnchecked g2Codec bs) :=
  G2Uncompressed_intoAffineUnchecked_eq bs h
theorem G2Uncompressed_intoAffine (bs : Bytes) (h : bs.length = 192) :
    E.G2Uncompressed.intoAffine bs = some (decodeUncompressed g2Codec bs) := G2Uncompressed_intoAffine_eq bs h
theorem G2Uncompressed_fromAffine (a : Aff Fq2) :
    E.G2Uncompressed.fromAffine a = some (encodeUncompressed g2Codec a) := G2Uncompressed_fromAffine_eq a
theorem G2Compressed_intoAffineUnchecked (bs : Bytes) (h : bs.length = 96) :
    E.G2Compressed.intoAffineUnchecked bs = some (decodeCompressedUnchecked g2Codec bs) :=
  G2Compressed_intoAffineUnchecked_eq bs h
theorem G2Compressed_intoAffine (bs : Bytes) (h : bs.length = 96) :
    E.G2Compressed.intoAffine bs = some (decodeCompressed g2Codec bs) := G2Compressed_intoAffine_eq bs h
theorem G2Compressed_fromAffine (a : Aff Fq2) :
    E.G2Compressed.fromAffine a = some (encodeCompressed g2Codec a) := G2Compressed_fromAffine_eq a

/-! ## serdes.rs -/
theorem Fr_serialize (a : Fr) (w : Bytes) (c : Bool) : E.Fr.serialize a w c = .ok (w ++ serFr a) := rfl
theorem Fr_deserialize (rd : Bytes) (c : Bool) : E.Fr.deserialize rd c = deserFr rd := by
  unfold E.Fr.deserialize deserFr E.reprReadBe
  cases readExact 32 rd with
  | error e => rfl
  | ok p =>
    obtain ⟨bs, rest⟩ := p
    simp only []
    rw [show E.Fr.fromRepr (beToNat bs) = Fr.fromBytes bs from rfl]
    cases Fr.fromBytes bs <;> rfl
theorem Fq12_serialize (a : Fq12) (w : Bytes) (c : Bool) : E.Fq12.serialize a w c = .ok (w ++ serFq12 a) := by
  unfold E.Fq12.serialize serFq12 Fq12.coeffs
  simp only [E.vecWrite, Fq.toBytes, List.map_cons, List.map_nil, List.flatten_cons, List.flatten_nil,
    List.append_assoc, List.nil_append, List.append_nil]
theorem Fq12_deserialize (rd : Bytes) (c : Bool) : E.Fq12.deserialize rd c = deserFq12 rd := by
  rw [show deserFq12 rd = fq12Arm (readFqs 12 rd) from rfl, ← consFqs_id (readFqs 12 rd)]
  unfold E.Fq12.deserialize
  refine readFqs_step fq12Arm (fun _ => rfl) _ _ _ _ (fun a r => ?_)
  refine readFqs_step fq12Arm (fun _ => rfl) _ _ _ _ (fun a r => ?_)
  refine readFqs_step fq12Arm (fun _ => rfl) _ _ _ _ (fun a r => ?_)
  refine readFqs_step fq12Arm (fun _ => rfl) _ _ _ _ (fun a r => ?_)
  refine readFqs_step fq12Arm (fun _ => rfl) _ _ _ _ (fun a r => ?_)
  refine readFqs_step fq12Arm (fun _ => rfl) _ _ _ _ (fun a r => ?_)
  refine readFqs_step fq12Arm (fun _ => rfl) _ _ _ _ (fun a r => ?_)
  refine readFqs_step fq12Arm (fun _ => rfl) _ _ _ _ (fun a r => ?_)
  refine readFqs_step fq12Arm (fun _ => rfl) _ _ _ _ (fun a r => ?_)
  refine readFqs_step fq12Arm (fun _ => rfl) _ _ _ _ (fun a r => ?_)
  refine readFqs_step fq12Arm (fun _ => rfl) _ _ _ _ (fun a r => ?_)
  refine readFqs_step fq12Arm (fun _ => rfl) _ _ _ _ (fun a r => ?_)
  rfl
theorem G1Affine_serialize (a : Aff Fq) (w : Bytes) (c : Bool) :
    E.G1Affine.serialize a w c = .ok (w ++ serAffine g1Codec a c) := by
  unfold E.G1Affine.serialize serAffine
  rw [G1Compressed_fromAffine_eq, G1Uncompressed_fromAffine_eq]
  cases c <;> rfl
theorem G1Affine_deserialize (rd : Bytes) (c : Bool) : E.G1Affine.deserialize rd c = deserAffine g1Codec rd c := by
  unfold E.G1Affine.deserialize
  refine (deserialize_skeleton g1Codec (fun p => p) E.G1Compressed.size E.G1Uncompressed.size
    E.G1Compressed.empty E.G1Uncompressed.empty _ _ rfl rfl (by decide) rfl rfl
    (fun buf rest hl => ?_) (fun buf buf2 rest hl => ?_) rd c).trans ?_
  · dsimp only; rw [G1Compressed_intoAffine_eq buf hl]; cases decodeCompressed g1Codec buf <;> rfl
  · dsimp only; rw [G1Uncompressed_intoAffine_eq _ hl]; cases decodeUncompressed g1Codec (buf ++ buf2) <;> rfl
  · cases deserAffine g1Codec rd c <;> rfl
theorem G2Affine_serialize (a : Aff Fq2) (w : Bytes) (c : Bool) :
    E.G2Affine.serialize a w c = .ok (w ++ serAffine g2Codec a c) := by
  unfold E.G2Affine.serialize serAffine
  rw [G2Compressed_fromAffine_eq, G2Uncompressed_fromAffine_eq]
  cases c <;> rfl
theorem G2Affine_deserialize (rd : Bytes) (c : Bool) : E.G2Affine.deserialize rd c = deserAffine g2Codec rd c := by
  unfold E.G2Affine.deserialize
  refine (deserialize_skeleton g2Codec (fun p => p) E.G2Compressed.size E.G2Uncompressed.size
    E.G2Compressed.empty E.G2Uncompressed.empty _ _ rfl rfl (by decide) rfl rfl
    (fun buf rest hl => ?_) (fun buf buf2 rest hl => ?_) rd c).trans ?_
  · dsimp only; rw [G2Compressed_intoAffine_eq buf hl]; cases decodeCompressed g2Codec buf <;> rfl
  · dsimp only; rw [G2Uncompressed_intoAffine_eq _ hl]; cases decodeUncompressed g2Codec (buf ++ buf2) <;> rfl
  · cases deserAffine g2Codec rd c <;> rfl
theorem G1_serialize (p : Jac Fq) (w : Bytes) (c : Bool) :
    E.G1.serialize p w c = match serJac g1Codec p c with
      | none => .error SerErr.panic
      | some bs => .ok (w ++ bs) := by
  unfold E.G1.serialize serJac serAffine
  rw [GenArithLemmas.Jac_toAffine_eq]
  cases PP.Jac.toAffine p with
  | none => rfl
  | some t =>
    simp only [Option.map_some]
    rw [G1Compressed_fromAffine_eq, G1Uncompressed_fromAffine_eq]
    cases c <;> rfl
theorem G1_deserialize (rd : Bytes) (c : Bool) : E.G1.deserialize rd c = deserJac g1Codec rd c := by
  unfold E.G1.deserialize
  refine (deserialize_skeleton g1Codec A.Aff.toJac E.G1Compressed.size E.G1Uncompressed.size
    E.G1Compressed.empty E.G1Uncompressed.empty _ _ rfl rfl (by decide) rfl rfl
    (fun buf rest hl => ?_) (fun buf buf2 rest hl => ?_) rd c).trans ?_
  · dsimp only; rw [G1Compressed_intoAffine_eq buf hl]; cases decodeCompressed g1Codec buf <;> rfl
  · dsimp only; rw [G1Uncompressed_intoAffine_eq _ hl]; cases decodeUncompressed g1Codec (buf ++ buf2) <;> rfl
  · rw [GenArithLemmas.Aff_toJac_eq]; rfl
theorem G2_serialize (p : Jac Fq2) (w : Bytes) (c : Bool) :
    E.G2.serialize p w c = match serJac g2Codec p c with
      | none => .error SerErr.panic
      | some bs => .ok (w ++ bs) := by
  unfold E.G2.serialize serJac serAffine
  lowerInst2
  rw [GenArithLemmas.Jac_toAffine_eq]
  cases PP.Jac.toAffine p with
  | none => rfl
  | some t =>
    simp only [Option.map_some]
    rw [G2Compressed_fromAffine_eq, G2Uncompressed_fromAffine_eq]
    cases c <;> rfl
theorem G2_deserialize (rd : Bytes) (c : Bool) : E.G2.deserialize rd c = deserJac g2Codec rd c := by
  unfold E.G2.deserialize
  refine (deserialize_skeleton g2Codec A.Aff.toJac E.G2Compressed.size E.G2Uncompressed.size
    E.G2Compressed.empty E.G2Uncompressed.empty _ _ rfl rfl (by decide) rfl rfl
    (fun buf rest hl => ?_) (fun buf buf2 rest hl => ?_) rd c).trans ?_
  · dsimp only; rw [G2Compressed_intoAffine_eq buf hl]; cases decodeCompressed g2Codec buf <;> rfl
  · dsimp only; rw [G2Uncompressed_intoAffine_eq _ hl]; cases decodeUncompressed g2Codec (buf ++ buf2) <;> rfl
  · rw [GenArithLemmas.Aff_toJac_eq]; rfl

end PP.GenEnc
