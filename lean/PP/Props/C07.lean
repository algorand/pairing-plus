/-
PROPERTY C07.  "Every point handed out by the safe public API - generators, random sampling, results
of arithmetic, scalar and multi-scalar multiplication on valid points, successfully decoded or
deserialized points, hash and map outputs - satisfies the curve equation and is annihilated by r.
The subgroup membership predicate returns true for a coordinate pair exactly when the pair is the
identity or lies on the curve and r times it is the identity; in particular it rejects points of
every order dividing the cofactor, points of twists and off-curve pairs."

Setting: the executable model of `PP/Model/Curve.lean` over an arbitrary field `F` with lawful model
operations and an arbitrary `b` with `ShortW b`; the abstract group is Mathlib's
`(W b).Point` (`W b : y² = x³ + b`) and `Jac.abs b`, `Aff.abs b` are the C01 abstraction maps.
`r = Gen.r` is the extracted scalar-field characteristic (`Fr::char()`), proved prime in
`PP.Proofs.Primes`.  The invariant of the property is

    `Jac.InSub b P  :=  Jac.OnCurve b P ∧ r • Jac.abs b P = 0`        (projective)
    `Aff.InSub b A  :=  Aff.OnCurve b A ∧ r • Aff.abs b A = 0`        (affine)

Part 1: the predicate `in_subgroup` decides `Aff.InSub` on EVERY coordinate record; rejections.
Part 2: the invariant is preserved by every operation of the curve API and by whole programs.
Part 3: cofactor multiplication / `random`, conditional on the group order (explicit hypothesis here;
        discharged by `CurveOrder.g1_scaleByCofactor_inSub'` … and `C07Closure.g1_random_inSub`, `g2_…`).
Part 4: the generators of G1 and G2 (kernel-evaluated) satisfy it, and have order exactly `r`.
Part 5: non-vacuity: concrete rejected points of `E(Fq)`.

Points produced by MSM, decoding and hashing are covered through the abstract closure lemmas
`linear_combination_killed`, `msm_result_inSub` (for C10), `inSub_of_inSubgroup` (for the decoders of
C04, which return a point only after `in_subgroup` answered `true`) and
`scaleByCofactor_inSub` (C06/C14/C17).
-/
import PP.Proofs.Subgroup
import PP.Proofs.Generators


namespace PP.C07

open WeierstrassCurve.Affine

section generic
variable {F : Type} [Field F] [DecidableEq F] [FieldOps F] [LawfulFieldOps F]
variable {b : F} [ShortW b]

/-! ## Part 1: the subgroup membership predicate -/

/-- **The predicate, exactly.**  For every coordinate record `(x, y, infinity)` over `F`, on or off
    the curve: `in_subgroup` answers `true` iff the record is the identity (flag set; `x`, `y` are
    then ignored) or `(x, y)` satisfies `y² = x³ + b` and `r` times the point is the identity. -/
theorem inSubgroup_iff (A : Aff F) :
    Aff.inSubgroup b A = true ↔
      A.infinity = true ∨ (A.y ^ 2 = A.x ^ 3 + b ∧ Gen.r • Aff.abs b A = 0) :=
  Aff.inSubgroup_iff A

/-- the same, with "identity or satisfies the equation" folded into `Aff.OnCurve` -/
theorem inSubgroup_iff_onCurve (A : Aff F) :
    Aff.inSubgroup b A = true ↔ Aff.OnCurve b A ∧ Gen.r • Aff.abs b A = 0 :=
  Aff.inSubgroup_iff_onCurve A

/-- the predicate decides the invariant of this property -/
theorem inSubgroup_iff_inSub (A : Aff F) : Aff.inSubgroup b A = true ↔ Aff.InSub b A :=
  Aff.inSubgroup_iff_inSub A

/-- whatever passed `in_subgroup` (e.g. a successfully decoded point) is on the curve and killed
    by `r` -/
theorem inSub_of_inSubgroup {A : Aff F} (h : Aff.inSubgroup b A = true) : Aff.InSub b A :=
  (Aff.inSubgroup_iff_inSub A).mp h

/-- the second half of the check alone, `is_in_correct_subgroup_assuming_on_curve`, on a curve
    point: `self.mul(r).is_zero()` is `r • P = 0` -/
theorem inSubgroupAssumingOnCurve_iff {A : Aff F} (hA : Aff.OnCurve b A) :
    A.inSubgroupAssumingOnCurve = true ↔ Gen.r • Aff.abs b A = 0 :=
  Aff.inSubgroupAssumingOnCurve_iff hA

/-- the identity is accepted whatever its unused coordinates -/
theorem inSubgroup_identity (x y : F) : Aff.inSubgroup b ⟨x, y, true⟩ = true :=
  (inSubgroup_iff _).mpr (Or.inl rfl)

/-- off-curve pairs are rejected -/
theorem inSubgroup_rejects_off_curve {A : Aff F} (hi : A.infinity = false)
    (he : A.y ^ 2 ≠ A.x ^ 3 + b) : Aff.inSubgroup b A = false :=
  Aff.inSubgroup_eq_false_of_not_onCurve hi he

/-- points of any other curve `y² = x³ + b'`, `b' ≠ b` (all twists are of this form) are rejected -/
theorem inSubgroup_rejects_twist {A : Aff F} {b' : F} (hi : A.infinity = false)
    (he : A.y ^ 2 = A.x ^ 3 + b') (hb : b' ≠ b) : Aff.inSubgroup b A = false :=
  Aff.inSubgroup_eq_false_of_twist hi he hb

/-- a non-identity curve point killed by some `n` coprime to `r` is rejected -/
theorem inSubgroup_rejects_coprime_order {A : Aff F} {n : ℕ} (hn : n • Aff.abs b A = 0)
    (hc : Nat.Coprime n Gen.r) (hne : Aff.abs b A ≠ 0) : Aff.inSubgroup b A = false :=
  Aff.inSubgroup_eq_false_of_coprime hn hc hne

/-- G1: every non-identity point whose order divides the cofactor `h₁` is rejected
    (`gcd(h₁, r) = 1` is checked by the kernel on the extracted numbers) -/
theorem inSubgroup_rejects_order_dvd_G1_cofactor {A : Aff F} {n : ℕ}
    (hn : n • Aff.abs b A = 0) (hd : n ∣ Gen.G1_COFACTOR) (hne : Aff.abs b A ≠ 0) :
    Aff.inSubgroup b A = false :=
  Aff.inSubgroup_eq_false_of_dvd_cofactor hn hd g1_cofactor_coprime hne

/-- G2: every non-identity point whose order divides the cofactor `h₂` is rejected -/
theorem inSubgroup_rejects_order_dvd_G2_cofactor {A : Aff F} {n : ℕ}
    (hn : n • Aff.abs b A = 0) (hd : n ∣ Gen.G2_COFACTOR) (hne : Aff.abs b A ≠ 0) :
    Aff.inSubgroup b A = false :=
  Aff.inSubgroup_eq_false_of_dvd_cofactor hn hd g2_cofactor_coprime hne

/-- every accepted non-identity point has order exactly `r` -/
theorem addOrderOf_of_inSubgroup {A : Aff F} (h : Aff.inSubgroup b A = true)
    (hi : A.infinity = false) : addOrderOf (Aff.abs b A) = Gen.r := by
  obtain ⟨hoc, hk⟩ := inSub_of_inSubgroup h
  refine addOrderOf_eq_of_prime Primes.r_prime hk ?_
  rw [Ne, Aff.abs_eq_zero_iff hoc, hi]
  exact Bool.false_ne_true

/-! ## Part 2: results of arithmetic stay on the curve and in the subgroup -/

theorem zero_inSub : Jac.InSub b (Jac.zero : Jac F) := Jac.InSub.zero

theorem affZero_inSub : Aff.InSub b (Aff.zero : Aff F) := Aff.InSub.zero

theorem double_inSub {P : Jac F} (h : Jac.InSub b P) : Jac.InSub b P.double := h.double

theorem add_inSub {P Q : Jac F} (hP : Jac.InSub b P) (hQ : Jac.InSub b Q) :
    Jac.InSub b (P.add Q) := hP.add hQ

theorem sub_inSub {P Q : Jac F} (hP : Jac.InSub b P) (hQ : Jac.InSub b Q) :
    Jac.InSub b (P.sub Q) := hP.sub hQ

theorem neg_inSub {P : Jac F} (h : Jac.InSub b P) : Jac.InSub b P.neg := h.neg

theorem addMixed_inSub {P : Jac F} {A : Aff F} (hP : Jac.InSub b P) (hA : Aff.InSub b A) :
    Jac.InSub b (P.addMixed A) := hP.addMixed hA

theorem subMixed_inSub {P : Jac F} {A : Aff F} (hP : Jac.InSub b P) (hA : Aff.InSub b A) :
    Jac.InSub b (P.subMixed A) := hP.subMixed hA

theorem affNeg_inSub {A : Aff F} (h : Aff.InSub b A) : Aff.InSub b A.neg := h.neg

theorem toJac_inSub {A : Aff F} (h : Aff.InSub b A) : Jac.InSub b A.toJac := h.toJac

/-- projective → affine: no panic, same point, still in the subgroup, and the result passes the
    executable membership test -/
theorem toAffine_inSub {P : Jac F} (h : Jac.InSub b P) :
    ∃ A, P.toAffine = some A ∧ Aff.InSub b A ∧ Aff.abs b A = Jac.abs b P ∧
      Aff.inSubgroup b A = true := by
  obtain ⟨A, hA, hs, habs⟩ := h.toAffine
  exact ⟨A, hA, hs, habs, (Aff.inSubgroup_iff_inSub A).mpr hs⟩

theorem batchNormalize_inSub (v : List (Jac F)) (hv : ∀ P ∈ v, Jac.InSub b P) :
    ∃ out, Jac.batchNormalize v = some out ∧ out.length = v.length ∧ ∀ Q ∈ out, Jac.InSub b Q :=
  Jac.InSub.batchNormalize v hv

/-- affine scalar multiplication (`mul_bits` with any bit string) -/
theorem mulBits_inSub {A : Aff F} (h : Aff.InSub b A) (bits : List Bool) :
    Jac.InSub b (A.mulBits bits) := h.mulBits bits

/-- affine scalar multiplication `CurveAffine::mul` -/
theorem affMul_inSub {A : Aff F} (h : Aff.InSub b A) (k : ℕ) : Jac.InSub b (A.mul k) := h.mul k

/-- projective scalar multiplication `CurveProjective::mul_assign` -/
theorem mulAssign_inSub {P : Jac F} (h : Jac.InSub b P) (k : ℕ) : Jac.InSub b (P.mulAssign k) :=
  h.mulAssign k

/-- the value computed by the affine multiplication, for every curve point (used by the predicate):
    `A.mul k` is `[k mod 2^256] A` -/
theorem affMul_correct {A : Aff F} (hA : Aff.OnCurve b A) (k : ℕ) :
    Jac.OnCurve b (A.mul k) ∧ Jac.abs b (A.mul k) = (k % 2 ^ 256) • Aff.abs b A :=
  Aff.mul_spec hA k

/-- **Every sequence of curve operations** (the register machine of C01: add, sub, double, negate,
    mixed add/sub, affine round trip, batch normalisation, copy) started on subgroup points runs
    without panic and ends on subgroup points. -/
theorem program_inSub (prog : List C01.Instr) {regs : List (Jac F)}
    (h : ∀ P ∈ regs, Jac.InSub b P) :
    ∃ regs', C01.runJ prog regs = some regs' ∧ ∀ P ∈ regs', Jac.InSub b P :=
  C01.runJ_inSub prog h

/-! ### abstract closure: linear combinations (for the scalar / multi-scalar theorems of C02, C10) -/

/-- `r • (Σ kᵢ • gᵢ) = 0` when every `r • gᵢ = 0`, in any abelian group -/
theorem linear_combination_killed {G : Type} [AddCommGroup G] {ι : Type} (s : Finset ι)
    (k : ι → ℕ) (g : ι → G) (h : ∀ i ∈ s, Gen.r • g i = 0) : Gen.r • (∑ i ∈ s, k i • g i) = 0 :=
  killed_finset_sum s k g h

omit [FieldOps F] [LawfulFieldOps F] [ShortW b] in
/-- any representative of `k • P` with `P` in the subgroup is in the subgroup -/
theorem smul_result_inSub {P R : Jac F} {k : ℕ} (hP : Jac.InSub b P) (hR : Jac.OnCurve b R)
    (habs : Jac.abs b R = k • Jac.abs b P) : Jac.InSub b R :=
  ⟨hR, by rw [habs]; exact killed_nsmul hP.2 k⟩

omit [FieldOps F] [LawfulFieldOps F] [ShortW b] in
/-- a valid result denoting `Σ kᵢ • Pᵢ` (the form in which the MSM theorems of C10 state their
    result) with all `Pᵢ` in the subgroup is in the subgroup -/
theorem msm_result_inSub {points : List (Aff F)} {ks : List ℕ} {R : Jac F}
    (hp : ∀ A ∈ points, Aff.InSub b A) (hR : Jac.OnCurve b R)
    (habs : Jac.abs b R = ((List.zip points ks).map (fun pk => pk.2 • Aff.abs b pk.1)).sum) :
    Jac.InSub b R := by
  refine ⟨hR, ?_⟩
  rw [habs]
  apply killed_list_sum (Aff.abs b)
  intro pk hpk
  exact (hp pk.1 (List.of_mem_zip hpk).1).2

/-! ## Part 3: cofactor multiplication and `random` (conditional on the group order) -/

/-- `scale_by_cofactor` (`mul_bits` over the `n` limbs of `cof`) computes `[cof] A` on every curve
    point … -/
theorem scaleByCofactor_correct {A : Aff F} (hA : Aff.OnCurve b A) {n cof : ℕ}
    (hcof : cof < 2 ^ (64 * n)) :
    Jac.OnCurve b (A.mulBits (bitsMSB (limbsOf n cof))) ∧
      Jac.abs b (A.mulBits (bitsMSB (limbsOf n cof))) = cof • Aff.abs b A :=
  Aff.scaleByCofactor_spec hA hcof

/-- … hence lands in the order-`r` subgroup, PROVIDED `cof * r` kills the group of the curve.
    The group order is an explicit hypothesis HERE; it is PROVED in PP.Props.CurveOrder, which also instantiates the hypothesis-free versions. -/
theorem scaleByCofactor_inSub {A : Aff F} (hA : Aff.OnCurve b A) {n cof : ℕ}
    (hcof : cof < 2 ^ (64 * n)) (hord : ∀ g : (W b).Point, (cof * Gen.r) • g = 0) :
    Jac.InSub b (A.mulBits (bitsMSB (limbsOf n cof))) :=
  Aff.scaleByCofactor_inSub hA hcof hord

/-- `G1Affine::scale_by_cofactor` with the extracted limbs -/
theorem g1_scaleByCofactor_inSub {A : Aff F} (hA : Aff.OnCurve b A)
    (hord : ∀ g : (W b).Point, (Gen.G1_COFACTOR * Gen.r) • g = 0) :
    Jac.InSub b (A.mulBits (bitsMSB (limbsOf Gen.G1_COFACTOR_LIMBS Gen.G1_COFACTOR))) :=
  Aff.scaleByCofactor_inSub hA g1_cofactor_lt hord

/-- `G2Affine::scale_by_cofactor` with the extracted limbs -/
theorem g2_scaleByCofactor_inSub {A : Aff F} (hA : Aff.OnCurve b A)
    (hord : ∀ g : (W b).Point, (Gen.G2_COFACTOR * Gen.r) • g = 0) :
    Jac.InSub b (A.mulBits (bitsMSB (limbsOf Gen.G2_COFACTOR_LIMBS Gen.G2_COFACTOR))) :=
  Aff.scaleByCofactor_inSub hA g2_cofactor_lt hord

/-- one round of `random`: whatever `get_point_from_x` returns is a curve point, and its
    cofactor multiple (the value `random` returns when it is not the identity) is in the subgroup,
    conditionally on the group order -/
theorem random_candidate_inSub [SqrtOps F] [LawfulSqrtOps F] {x : F} {greatest : Bool} {p : Aff F}
    (h : Aff.getPointFromX b x greatest = some p) {n cof : ℕ} (hcof : cof < 2 ^ (64 * n))
    (hord : ∀ g : (W b).Point, (cof * Gen.r) • g = 0) :
    Aff.OnCurve b p ∧ Jac.InSub b (p.mulBits (bitsMSB (limbsOf n cof))) :=
  ⟨(Aff.getPointFromX_spec h).1, Aff.scaleByCofactor_inSub (Aff.getPointFromX_spec h).1 hcof hord⟩

end generic

/-! ## Part 4: the generators -/

/-- `G1Affine::one()` / `get_generator()` -/
def g1Generator : Aff Fq := ⟨Fq.ofMont Gen.G1_GENERATOR_X, Fq.ofMont Gen.G1_GENERATOR_Y, false⟩

/-- `G2Affine::one()` / `get_generator()` -/
def g2Generator : Aff Fq2 :=
  ⟨⟨Fq.ofMont Gen.G2_GENERATOR_X_C0, Fq.ofMont Gen.G2_GENERATOR_X_C1⟩,
   ⟨Fq.ofMont Gen.G2_GENERATOR_Y_C0, Fq.ofMont Gen.G2_GENERATOR_Y_C1⟩, false⟩

/-- the model's `in_subgroup` evaluated by the Lean kernel on the extracted G1 generator
    (a 255-bit double-and-add over `Fq`) -/
theorem g1Generator_inSubgroup : Aff.inSubgroup g1Codec.b g1Generator = true :=
  generatorG1_inSubgroup

/-- the same with the coefficient written `4` -/
theorem g1Generator_inSubgroup4 : Aff.inSubgroup (4 : Fq) g1Generator = true :=
  g1Codec_b ▸ g1Generator_inSubgroup

/-- the model's `in_subgroup` evaluated by the Lean kernel on the extracted G2 generator, on the
    model's own `Fq2` operations -/
theorem g2Generator_inSubgroup : Aff.inSubgroup g2Codec.b g2Generator = true :=
  generatorG2_inSubgroup

/-- **the G1 generator** satisfies `y² = x³ + 4` and `r • g = 0` -/
theorem g1Generator_inSub : Aff.InSub g1Codec.b g1Generator :=
  inSub_of_inSubgroup g1Generator_inSubgroup

theorem g1Generator_equation : g1Generator.y ^ 2 = g1Generator.x ^ 3 + 4 := by
  have h := g1Generator_inSub.1
  rw [g1Codec_b] at h
  exact h.resolve_left (by decide)

theorem g1Generator_killed : Gen.r • Aff.abs g1Codec.b g1Generator = 0 := g1Generator_inSub.2

/-- it is not the identity, and its order is exactly `r` -/
theorem g1Generator_order : addOrderOf (Aff.abs g1Codec.b g1Generator) = Gen.r :=
  addOrderOf_of_inSubgroup g1Generator_inSubgroup rfl

/-- `G1::one()` (the projective generator `G1Affine::one().into()`) -/
theorem g1Generator_toJac_inSub : Jac.InSub g1Codec.b g1Generator.toJac := g1Generator_inSub.toJac

/-- **the G2 generator** satisfies `y² = x³ + 4(1 + u)` and `r • g = 0` -/
theorem g2Generator_inSub : Aff.InSub g2Codec.b g2Generator :=
  inSub_of_inSubgroup g2Generator_inSubgroup

theorem g2Generator_equation : g2Generator.y ^ 2 = g2Generator.x ^ 3 + g2Codec.b :=
  g2Generator_inSub.1.resolve_left (by decide)

theorem g2Generator_killed : Gen.r • Aff.abs g2Codec.b g2Generator = 0 := g2Generator_inSub.2

theorem g2Generator_order : addOrderOf (Aff.abs g2Codec.b g2Generator) = Gen.r :=
  addOrderOf_of_inSubgroup g2Generator_inSubgroup rfl

theorem g2Generator_toJac_inSub : Jac.InSub g2Codec.b g2Generator.toJac := g2Generator_inSub.toJac

/-- multiples of the generators, as `mul`/`mul_assign` compute them, are in the subgroup -/
theorem g1Generator_mul_inSub (k : ℕ) : Jac.InSub g1Codec.b (g1Generator.mul k) :=
  g1Generator_inSub.mul k

theorem g2Generator_mul_inSub (k : ℕ) : Jac.InSub g2Codec.b (g2Generator.mul k) :=
  g2Generator_inSub.mul k

/-! ## Part 5: non-vacuity — concrete points of `E(Fq) : y² = x³ + 4` that are rejected -/

section nonvacuity

/-- `(0, 2)` is on the curve (`2² = 0 + 4`) … -/
example : Aff.isOnCurve (4 : Fq) ⟨0, 2, false⟩ = true := by decide +kernel

/-- … it is a non-identity point of order `3`, and `3` divides the G1 cofactor (`[3]P` is computed
    by the model's `mul_bits` on the bits `11`) … -/
theorem order_three_point :
    Aff.OnCurve (4 : Fq) ⟨0, 2, false⟩ ∧ 3 • Aff.abs (4 : Fq) ⟨0, 2, false⟩ = 0 ∧
      Aff.abs (4 : Fq) ⟨0, 2, false⟩ ≠ 0 ∧ 3 ∣ Gen.G1_COFACTOR := by
  have hoc : Aff.OnCurve (4 : Fq) ⟨0, 2, false⟩ := Or.inr (by decide +kernel)
  refine ⟨hoc, ?_, ?_, by decide +kernel⟩
  · have h := Aff.mulBits_spec hoc [true, true]
    have hz : (Aff.mulBits (⟨0, 2, false⟩ : Aff Fq) [true, true]).isZero = true := by decide +kernel
    rw [C01.isZero_iff h.1, h.2] at hz
    exact hz
  · rw [Ne, Aff.abs_eq_zero_iff hoc]
    exact Bool.false_ne_true

/-- … so the executable test rejects it, for the reason the property names: the general rejection
    theorem applies, non-vacuously … -/
example : Aff.inSubgroup (4 : Fq) ⟨0, 2, false⟩ = false :=
  inSubgroup_rejects_order_dvd_G1_cofactor order_three_point.2.1 order_three_point.2.2.2
    order_three_point.2.2.1

/-- … as does the one for orders coprime to `r` -/
example : Aff.inSubgroup (4 : Fq) ⟨0, 2, false⟩ = false :=
  inSubgroup_rejects_coprime_order order_three_point.2.1 (by decide +kernel)
    order_three_point.2.2.1

/-- an off-curve pair: `(1, 1)`, `1 ≠ 1 + 4` -/
example : Aff.inSubgroup (4 : Fq) ⟨1, 1, false⟩ = false :=
  inSubgroup_rejects_off_curve rfl (by decide +kernel)

example : Aff.inSubgroup (4 : Fq) ⟨1, 1, false⟩ = false := by decide +kernel

/-- a point of another curve of the family: `(0, 1)` on `y² = x³ + 1` -/
example : Aff.inSubgroup (4 : Fq) ⟨0, 1, false⟩ = false :=
  inSubgroup_rejects_twist (b' := 1) rfl (by decide +kernel) (by decide +kernel)

/-- the identity with junk coordinates is accepted -/
example : Aff.inSubgroup (4 : Fq) ⟨5, 7, true⟩ = true := inSubgroup_identity 5 7

example : Aff.inSubgroup (4 : Fq) ⟨5, 7, true⟩ = true := inSubgroup_identity 5 7

/-- the invariant is inhabited by a non-identity point: the generator -/
example : Aff.InSub g1Codec.b g1Generator ∧ Aff.abs g1Codec.b g1Generator ≠ 0 :=
  ⟨g1Generator_inSub, by
    rw [Ne, Aff.abs_eq_zero_iff g1Generator_inSub.1]; exact Bool.false_ne_true⟩

end nonvacuity

end PP.C07
