/-
The theorems of `PP/Props/C15.lean`, and the clauses of the RFC relation one by one (`x`, `y²`, sign,
exceptional inputs, uniqueness), with the three hypotheses discharged: `hchain1` by
`Chains.chainPm3div4_eq`, `hchain2` by `chainP2m9div16_eq` (`PP/Proofs/Assembly.lean`), `hcard` by
`Fq2.pow_card_sub_one'`.  Nothing is left as a hypothesis.
-/
import PP.Proofs.Assembly

namespace PP.C15Inst

open PP PP.Spec PP.Sswu

/-! ## G1 -/

/-- the output is a finite point of `E₁' : y² = x³ + A'x + B'` -/
theorem osswuG1_onCurve (t : Fq) :
    (osswuG1 t).z ≠ 0 ∧
      (osswuG1 t).y ^ 2 = (osswuG1 t).x ^ 3 + g1EllpA * (osswuG1 t).x * (osswuG1 t).z ^ 4
        + g1EllpB * (osswuG1 t).z ^ 6 := C15.osswuG1_onCurve Chains.chainPm3div4_eq t

/-- `x` is the first of `x1`, `x2` whose `g` is a square -/
theorem osswuG1_x (t : Fq) :
    (IsSquare (sswuG g1EllpA g1EllpB (sswuX1 g1EllpA g1EllpB g1Xi t)) →
      affX (osswuG1 t) = sswuX1 g1EllpA g1EllpB g1Xi t) ∧
    (¬ IsSquare (sswuG g1EllpA g1EllpB (sswuX1 g1EllpA g1EllpB g1Xi t)) →
      affX (osswuG1 t) = sswuX2 g1EllpA g1EllpB g1Xi t) :=
  ⟨(osswuG1_sswuOut Chains.chainPm3div4_eq t).x_of_sq, (osswuG1_sswuOut Chains.chainPm3div4_eq t).x_of_nsq⟩

theorem osswuG1_y_sq (t : Fq) :
    affY (osswuG1 t) ^ 2 = sswuG g1EllpA g1EllpB (affX (osswuG1 t)) :=
  (osswuG1_sswuOut Chains.chainPm3div4_eq t).y_sq

/-- `y ≠ 0`: `E₁'` has no `Fq`-rational point of order 2 -/
theorem osswuG1_y_ne_zero (t : Fq) : affY (osswuG1 t) ≠ 0 := y_ne_zero g1_no_root (osswuG1_y_sq t)

/-- `sgn0(y) = sgn0(t)` -/
theorem osswuG1_sign (t : Fq) : Zp.sgn0 (affY (osswuG1 t)) = Zp.sgn0 t :=
  (osswuG1_sswuOut Chains.chainPm3div4_eq t).sign (osswuG1_y_ne_zero t)

/-- exceptional inputs: `x = B'/(ZA')` -/
theorem osswuG1_exceptional (t : Fq) (h : g1Xi ^ 2 * t ^ 4 + g1Xi * t ^ 2 = 0) :
    affX (osswuG1 t) = g1EllpB / (g1Xi * g1EllpA) :=
  (osswuG1_sswuOut Chains.chainPm3div4_eq t).x_exceptional g1Exc_isSquare h

theorem osswuG1_zero : affX (osswuG1 0) = g1EllpB / (g1Xi * g1EllpA) :=
  osswuG1_exceptional 0 (by ring)

/-- **C15, G1**: `osswuG1 t` is `map_to_curve_simple_swu(t)` of RFC 9380 §6.6.2 (`Z = 11`) -/
theorem osswuG1_eq_rfc (t : Fq) :
    IsSswu Zp.sgn0 g1EllpA g1EllpB g1Xi t (affX (osswuG1 t)) (affY (osswuG1 t)) :=
  C15.osswuG1_eq_rfc Chains.chainPm3div4_eq t

/-- the RFC relation determines the point: the model's output is THE RFC output -/
theorem osswuG1_unique (t x y : Fq) (h : IsSswu Zp.sgn0 g1EllpA g1EllpB g1Xi t x y) :
    x = affX (osswuG1 t) ∧ y = affY (osswuG1 t) :=
  sswu_unique Zp.sgn0 Sswu.Fq.sgn0_neg Sswu.g1_no_root h (osswuG1_eq_rfc t)

/-- `sswu(−t) = −sswu(t)` for `t ≠ 0` -/
theorem osswuG1_neg (t : Fq) (ht : t ≠ 0) :
    affX (osswuG1 (-t)) = affX (osswuG1 t) ∧ affY (osswuG1 (-t)) = -affY (osswuG1 t) :=
  sswuG1_neg_affine t ht

/-! ## G2 -/

/-- the terminal `panic!` of `OSSWUMap for G2` is unreachable -/
theorem osswuG2_total (t : Fq2) : osswuG2 t ≠ none := C15.osswuG2_total Fq2.pow_card_sub_one' chainP2m9div16_eq t

theorem osswuG2_onCurve (t : Fq2) :
    ∃ P, osswuG2 t = some P ∧
      P.z ≠ 0 ∧ P.y ^ 2 = P.x ^ 3 + g2EllpA * P.x * P.z ^ 4 + g2EllpB * P.z ^ 6 :=
  C15.osswuG2_onCurve Fq2.pow_card_sub_one' chainP2m9div16_eq t

/-- `x` is the first of `x1`, `x2` whose `g` is a square -/
theorem osswuG2_x (t : Fq2) :
    ∃ P, osswuG2 t = some P ∧
      (IsSquare (sswuG g2EllpA g2EllpB (sswuX1 g2EllpA g2EllpB g2Xi t)) →
        affX P = sswuX1 g2EllpA g2EllpB g2Xi t) ∧
      (¬ IsSquare (sswuG g2EllpA g2EllpB (sswuX1 g2EllpA g2EllpB g2Xi t)) →
        affX P = sswuX2 g2EllpA g2EllpB g2Xi t) := by
  obtain ⟨P, hP, h⟩ := osswuG2_sswuOut Fq2.pow_card_sub_one' chainP2m9div16_eq t
  exact ⟨P, hP, h.x_of_sq, h.x_of_nsq⟩

/-- `y ≠ 0` (`E₂'` has no `Fq2`-rational point of order 2) and `sgn0(y) = sgn0(t)` -/
theorem osswuG2_sign (t : Fq2) :
    ∃ P, osswuG2 t = some P ∧ affY P ≠ 0 ∧ Fq2.sgn0 (affY P) = Fq2.sgn0 t := by
  obtain ⟨P, hP, h⟩ := osswuG2_sswuOut Fq2.pow_card_sub_one' chainP2m9div16_eq t
  have hy := y_ne_zero Sswu.g2_no_root h.y_sq
  exact ⟨P, hP, hy, h.sign hy⟩

/-- exceptional inputs (`t = 0` is one of them): `x = B'/(ZA')` -/
theorem osswuG2_exceptional (t : Fq2) (h : g2Xi ^ 2 * t ^ 4 + g2Xi * t ^ 2 = 0) :
    ∃ P, osswuG2 t = some P ∧ affX P = g2EllpB / (g2Xi * g2EllpA) := by
  obtain ⟨P, hP, hout⟩ := osswuG2_sswuOut Fq2.pow_card_sub_one' chainP2m9div16_eq t
  exact ⟨P, hP, hout.x_exceptional g2Exc_isSquare h⟩

theorem osswuG2_zero : ∃ P, osswuG2 0 = some P ∧ affX P = g2EllpB / (g2Xi * g2EllpA) :=
  osswuG2_exceptional 0 (by ring)

/-- **C15, G2**: `osswuG2 t` returns `map_to_curve_simple_swu(t)` of RFC 9380 §6.6.2
    (`Z = −(2 + I)`) -/
theorem osswuG2_eq_rfc (t : Fq2) :
    ∃ P, osswuG2 t = some P ∧ IsSswu Fq2.sgn0 g2EllpA g2EllpB g2Xi t (affX P) (affY P) :=
  C15.osswuG2_eq_rfc Fq2.pow_card_sub_one' chainP2m9div16_eq t

theorem osswuG2_unique (t x y : Fq2) (h : IsSswu Fq2.sgn0 g2EllpA g2EllpB g2Xi t x y) :
    ∃ P, osswuG2 t = some P ∧ x = affX P ∧ y = affY P := by
  obtain ⟨P, hP, hs⟩ := osswuG2_eq_rfc t
  exact ⟨P, hP, sswu_unique Fq2.sgn0 Sswu.Fq2.sgn0_neg Sswu.g2_no_root h hs⟩

/-- `E₂'` has no point of order 2 over `Fq2` -/
theorem g2_no_root (x : Fq2) : sswuG g2EllpA g2EllpB x ≠ 0 := Sswu.g2_no_root x

end PP.C15Inst
