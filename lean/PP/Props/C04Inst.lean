/-
C04, INSTANTIATED.  The theorems of `PP/Props/C04.lean` at `g1Codec` / `g2Codec`, with their instance
arguments supplied by the real instances: `LawfulSqrtOps Fq` (C18), and for G2 the tower's `Field Fq2`,
`LawfulFieldOps Fq2` (C09) and `LawfulSqrtOps Fq2` (C18 + C09, `PP.instLawfulSqrtOpsFq2`).  The other
generic theorems of C04 (`…_error_iff`, the precedence lemmas `step1 … step5`) apply to both codecs in the
same way, through `g1Codec_lawful` / `g2Codec_lawful` and these instances.  Nothing is left as a hypothesis.
-/
import PP.Props.C04
import PP.Proofs.AssemblyFq2

namespace PP.C04Inst
open PP

/-! ## G1 (the `LawfulSqrtOps Fq` instance is `PP.Proofs.Sqrt`'s, C18) -/
section g1

theorem decodeUncompressed_g1 (bs : Bytes) (hl : bs.length = 96) :
    decodeUncompressed g1Codec bs = ZCash.validate (g1Codec.curve ZCash.fqCoord) .uncompressed true bs :=
  PP.C04.decodeUncompressed_eq_validate g1Codec_lawful bs hl

theorem decodeCompressed_g1 (bs : Bytes) (hl : bs.length = 48) :
    decodeCompressed g1Codec bs = ZCash.validate (g1Codec.curve ZCash.fqCoord) .compressed true bs :=
  PP.C04.decodeCompressed_eq_validate g1Codec_lawful bs hl

theorem decodeUncompressedUnchecked_g1 (bs : Bytes) (hl : bs.length = 96) :
    decodeUncompressedUnchecked g1Codec bs = ZCash.validate (g1Codec.curve ZCash.fqCoord) .uncompressed false bs :=
  PP.C04.decodeUncompressedUnchecked_eq_validate g1Codec_lawful bs hl

theorem decodeCompressedUnchecked_g1 (bs : Bytes) (hl : bs.length = 48) :
    decodeCompressedUnchecked g1Codec bs = ZCash.validate (g1Codec.curve ZCash.fqCoord) .compressed false bs :=
  PP.C04.decodeCompressedUnchecked_eq_validate g1Codec_lawful bs hl

theorem decodeCompressed_ok_iff_g1 (bs : Bytes) (hl : bs.length = 48) (A : Aff Fq) :
    decodeCompressed g1Codec bs = .ok A ↔
      ZCash.Accepts (g1Codec.curve ZCash.fqCoord) .compressed true bs A :=
  PP.C04.decodeCompressed_ok_iff g1Codec_lawful bs hl A

theorem decodeUncompressed_ok_iff_g1 (bs : Bytes) (hl : bs.length = 96) (A : Aff Fq) :
    decodeUncompressed g1Codec bs = .ok A ↔
      ZCash.Accepts (g1Codec.curve ZCash.fqCoord) .uncompressed true bs A :=
  PP.C04.decodeUncompressed_ok_iff g1Codec_lawful bs hl A

end g1

/-! ## G2, with the tower's `Field Fq2`, `LawfulFieldOps Fq2` and `instLawfulSqrtOpsFq2`

The model's own notation instances on `Fq2` are switched off locally, so that `+ * - 0 1` in the
statements are those of `Fq2.instField` — which are the model's operations (`Fq2.add_eq`, `Fq2.mul_eq`,
… hold by `rfl`). -/
section g2
attribute [-instance] Fq2.instAdd Fq2.instSub Fq2.instMul Fq2.instNeg Fq2.instZero Fq2.instOne

theorem decodeUncompressed_g2 (bs : Bytes) (hl : bs.length = 192) :
    decodeUncompressed g2Codec bs = ZCash.validate (g2Codec.curve ZCash.fq2Coord) .uncompressed true bs :=
  PP.C04.decodeUncompressed_eq_validate g2Codec_lawful bs hl

theorem decodeCompressed_g2 (bs : Bytes) (hl : bs.length = 96) :
    decodeCompressed g2Codec bs = ZCash.validate (g2Codec.curve ZCash.fq2Coord) .compressed true bs :=
  PP.C04.decodeCompressed_eq_validate g2Codec_lawful bs hl

theorem decodeUncompressedUnchecked_g2 (bs : Bytes) (hl : bs.length = 192) :
    decodeUncompressedUnchecked g2Codec bs = ZCash.validate (g2Codec.curve ZCash.fq2Coord) .uncompressed false bs :=
  PP.C04.decodeUncompressedUnchecked_eq_validate g2Codec_lawful bs hl

theorem decodeCompressedUnchecked_g2 (bs : Bytes) (hl : bs.length = 96) :
    decodeCompressedUnchecked g2Codec bs = ZCash.validate (g2Codec.curve ZCash.fq2Coord) .compressed false bs :=
  PP.C04.decodeCompressedUnchecked_eq_validate g2Codec_lawful bs hl

theorem decodeCompressed_ok_iff_g2 (bs : Bytes) (hl : bs.length = 96) (A : Aff Fq2) :
    decodeCompressed g2Codec bs = .ok A ↔
      ZCash.Accepts (g2Codec.curve ZCash.fq2Coord) .compressed true bs A :=
  PP.C04.decodeCompressed_ok_iff g2Codec_lawful bs hl A

theorem decodeUncompressed_ok_iff_g2 (bs : Bytes) (hl : bs.length = 192) (A : Aff Fq2) :
    decodeUncompressed g2Codec bs = .ok A ↔
      ZCash.Accepts (g2Codec.curve ZCash.fq2Coord) .uncompressed true bs A :=
  PP.C04.decodeUncompressed_ok_iff g2Codec_lawful bs hl A

end g2

end PP.C04Inst
