/-
PROPERTY C09.  "For all elements, arithmetic in Fq2=Fq[u]/(u^2+1), Fq6=Fq2[v]/(v^3-(u+1)) and
Fq12=Fq6[w]/(w^2-v) (add, subtract, negate, double, multiply, square, invert, multiply by the
non-residue, norm, conjugation) equals arithmetic in those quotient rings, with inversion failing
only for zero.  The Frobenius map with any power k equals x -> x^(q^k), and the sparse
multiplications used by the pairing equal the dense product with the corresponding sparse operand."

How the statement is rendered.
* `Fq2`, `Fq6`, `Fq12` (model types, `PP/Model/Tower.lean`) carry `CommRing` instances whose
  `0 1 + - * neg` ARE the model functions (`ringOps_*`, all by `rfl`), and, for prime `q`, `Field`
  instances whose `⁻¹` is `(inverse ·).getD 0`.
* These rings are the quotient rings of the property: explicit ring isomorphisms
  `AdjoinRoot (X²+1) ≃+* Fq2`, `AdjoinRoot (X³-ξ) ≃+* Fq6`, `AdjoinRoot (X²-v) ≃+* Fq12` sending the
  adjoined root to `u`/`v`/`w` and constants to constants (`quotient_*`), and, independently of
  primality, the schoolbook description of the product modulo `u²=-1`, `v³=ξ`, `w²=v` (`mul_*`).
* every other model operation is expressed by ring operations (`derived_*`, `inverse_*`,
  `sparse_*`, `frobenius_*`).

The only hypothesis anywhere is `[Fact (Nat.Prime Gen.q)]` (proved in `PP.Proofs.Primes`, which is
not imported here); it is needed exactly for: inversion, the quotient isomorphisms, Frobenius.
-/
import PP.Proofs.Tower

namespace PP.C09
open PP Polynomial

/-- "the `CommRing` structure on `R` has exactly these functions as its operations".  Inside this
    declaration only the `CommRing` instance is in scope, so `+ - * 0 1` below are unambiguously its. -/
structure RingOpsAre (R : Type) [CommRing R] (zero one : R) (add sub mul : R → R → R)
    (neg : R → R) : Prop where
  zero_eq : (0 : R) = zero
  one_eq : (1 : R) = one
  add_eq : ∀ a b : R, a + b = add a b
  sub_eq : ∀ a b : R, a - b = sub a b
  mul_eq : ∀ a b : R, a * b = mul a b
  neg_eq : ∀ a : R, -a = neg a

/-- "the `Field` structure on `F` has this function as its inverse" -/
def FieldInvIs (F : Type) [Field F] (inv : F → F) : Prop := ∀ a : F, a⁻¹ = inv a

/-! ## 1. ring structure on the model's own operations -/

theorem ringOps_Fq2 : RingOpsAre Fq2 ⟨0, 0⟩ ⟨1, 0⟩ Fq2.add Fq2.sub Fq2.mul Fq2.neg :=
  ⟨rfl, rfl, fun _ _ => rfl, fun _ _ => rfl, fun _ _ => rfl, fun _ => rfl⟩

theorem ringOps_Fq6 : RingOpsAre Fq6 ⟨0, 0, 0⟩ ⟨1, 0, 0⟩ Fq6.add Fq6.sub Fq6.mul Fq6.neg :=
  ⟨rfl, rfl, fun _ _ => rfl, fun _ _ => rfl, fun _ _ => rfl, fun _ => rfl⟩

theorem ringOps_Fq12 : RingOpsAre Fq12 ⟨0, 0⟩ ⟨1, 0⟩ Fq12.add Fq12.sub Fq12.mul Fq12.neg :=
  ⟨rfl, rfl, fun _ _ => rfl, fun _ _ => rfl, fun _ _ => rfl, fun _ => rfl⟩

/-! ## 2. these rings are the quotient rings: schoolbook products and generator relations -/

/-- `Fq2 = Fq[u]/(u²+1)`: product of `a0 + a1 u` and `b0 + b1 u` reduced by `u² = -1` -/
theorem mul_Fq2 (a b : Fq2) :
    Fq2.mul a b = ⟨a.c0 * b.c0 - a.c1 * b.c1, a.c0 * b.c1 + a.c1 * b.c0⟩ :=
  Fq2.ext (Fq2.mul_c0 a b) (Fq2.mul_c1 a b)

/-- `Fq6 = Fq2[v]/(v³-ξ)`, `ξ = 1 + u`: schoolbook product reduced by `v³ = ξ` -/
theorem mul_Fq6 (a b : Fq6) :
    Fq6.mul a b = ⟨a.c0 * b.c0 + Fq2.xi * (a.c1 * b.c2 + a.c2 * b.c1),
                   a.c0 * b.c1 + a.c1 * b.c0 + Fq2.xi * (a.c2 * b.c2),
                   a.c0 * b.c2 + a.c1 * b.c1 + a.c2 * b.c0⟩ :=
  Fq6.ext (Fq6.mul_c0 a b) (Fq6.mul_c1 a b) (Fq6.mul_c2 a b)

/-- `Fq12 = Fq6[w]/(w²-v)`: schoolbook product reduced by `w² = v` -/
theorem mul_Fq12 (a b : Fq12) :
    Fq12.mul a b = ⟨a.c0 * b.c0 + Fq6.v * (a.c1 * b.c1), a.c0 * b.c1 + a.c1 * b.c0⟩ :=
  Fq12.ext (Fq12.mul_c0 a b) (Fq12.mul_c1 a b)

/-- generators: `u = (0,1)`, `ξ = (1,1) = 1 + u`, `v = (0,1,0)`, `w = (0,1)`, with
    `u² = -1`, `v³ = ξ`, `w² = v`, and every element is the polynomial in the generator with its
    components as coefficients (coefficients embedded by the injective ring maps `ofFq…`) -/
theorem generators :
    Fq2.u * Fq2.u = -1 ∧ Fq2.xi = 1 + Fq2.u ∧
    Fq6.v ^ 3 = Fq6.ofFq2 Fq2.xi ∧ Fq12.w ^ 2 = Fq12.ofFq6 Fq6.v ∧
    (∀ a : Fq2, a = Fq2.ofFq a.c0 + Fq2.ofFq a.c1 * Fq2.u) ∧
    (∀ a : Fq6, a = Fq6.ofFq2 a.c0 + Fq6.ofFq2 a.c1 * Fq6.v + Fq6.ofFq2 a.c2 * Fq6.v ^ 2) ∧
    (∀ a : Fq12, a = Fq12.ofFq6 a.c0 + Fq12.ofFq6 a.c1 * Fq12.w) ∧
    Function.Injective Fq2.ofFq ∧ Function.Injective Fq6.ofFq2 ∧ Function.Injective Fq12.ofFq6 :=
  ⟨Fq2.u_mul_u, Fq2.xi_eq, Fq6.v_pow_three, Fq12.w_pow_two, Fq2.eq_add_mul_u,
   fun a => by rw [pow_two]; exact Fq6.eq_add_mul_v a, Fq12.eq_add_mul_w,
   Fq2.ofFq_injective, Fq6.ofFq2_injective, Fq12.ofFq6_injective⟩

section Prime
variable [Fact (Nat.Prime Gen.q)]

/-- `Fq2` with the model's operations is Mathlib's quotient ring `Fq[X]/(X²+1)`, `X ↦ u` -/
theorem quotient_Fq2 :
    ∃ e : AdjoinRoot (X ^ 2 + 1 : Fq[X]) ≃+* Fq2,
      e (AdjoinRoot.root _) = Fq2.u ∧ ∀ c, e (AdjoinRoot.of _ c) = Fq2.ofFq c :=
  ⟨Fq2.quotEquiv, Fq2.quotEquiv_root, Fq2.quotEquiv_of⟩

/-- `Fq6` with the model's operations is Mathlib's quotient ring `Fq2[X]/(X³-ξ)`, `X ↦ v` -/
theorem quotient_Fq6 :
    ∃ e : AdjoinRoot (X ^ 3 - C Fq2.xi : Fq2[X]) ≃+* Fq6,
      e (AdjoinRoot.root _) = Fq6.v ∧ ∀ c, e (AdjoinRoot.of _ c) = Fq6.ofFq2 c :=
  ⟨Fq6.quotEquiv, Fq6.quotEquiv_root, Fq6.quotEquiv_of⟩

/-- `Fq12` with the model's operations is Mathlib's quotient ring `Fq6[X]/(X²-v)`, `X ↦ w` -/
theorem quotient_Fq12 :
    ∃ e : AdjoinRoot (X ^ 2 - C Fq6.v : Fq6[X]) ≃+* Fq12,
      e (AdjoinRoot.root _) = Fq12.w ∧ ∀ c, e (AdjoinRoot.of _ c) = Fq12.ofFq6 c :=
  ⟨Fq12.quotEquiv, Fq12.quotEquiv_root, Fq12.quotEquiv_of⟩

end Prime

/-! ## 3. double, square, multiplication by the non-residue, norm, conjugation -/

theorem derived_Fq2 (a b : Fq2) :
    Fq2.double a = a + a ∧ Fq2.square a = a * a ∧
    Fq2.mulByNonresidue a = a * Fq2.xi ∧
    Fq2.norm a = a.c0 ^ 2 + a.c1 ^ 2 ∧
    Fq2.ofFq (Fq2.norm a) = a * Fq2.conj a ∧
    Fq2.norm (a * b) = Fq2.norm a * Fq2.norm b ∧
    (sq a = a * a ∧ dbl a = a + a) :=
  ⟨Fq2.double_eq a, Fq2.square_eq a, Fq2.mulByNonresidue_eq a,
   by rw [Fq2.norm_eq]; ring, (Fq2.mul_conj a).symm, Fq2.norm_mul a b, Fq2.sq_eq a, Fq2.dbl_eq a⟩

theorem derived_Fq6 (a : Fq6) :
    Fq6.double a = a + a ∧ Fq6.square a = a * a ∧
    Fq6.mulByNonresidue a = a * Fq6.v ∧
    (sq a = a * a ∧ dbl a = a + a) :=
  ⟨Fq6.double_eq a, Fq6.square_eq a, Fq6.mulByNonresidue_eq a, Fq6.sq_eq a, Fq6.dbl_eq a⟩

theorem derived_Fq12 (a : Fq12) :
    Fq12.double a = a + a ∧ Fq12.square a = a * a ∧ (sq a = a * a ∧ dbl a = a + a) :=
  ⟨Fq12.double_eq a, Fq12.square_eq a, Fq12.sq_eq a, Fq12.dbl_eq a⟩

/-- `conjugate` is the ring automorphism of `Fq12` fixing `Fq6` with `w ↦ -w`,
    i.e. `c0 + c1 w ↦ c0 - c1 w` -/
theorem conjugation_Fq12 :
    (∀ a : Fq12, Fq12.conjugate a = Fq12.ofFq6 a.c0 - Fq12.ofFq6 a.c1 * Fq12.w) ∧
    (∀ a b, Fq12.conjugate (a * b) = Fq12.conjugate a * Fq12.conjugate b) ∧
    (∀ a b, Fq12.conjugate (a + b) = Fq12.conjugate a + Fq12.conjugate b) ∧
    Fq12.conjugate 1 = 1 ∧
    (∀ c, Fq12.conjugate (Fq12.ofFq6 c) = Fq12.ofFq6 c) ∧
    Fq12.conjugate Fq12.w = -Fq12.w ∧
    (∀ a, Fq12.conjugate (Fq12.conjugate a) = a) :=
  ⟨fun a => by
      ext1 <;> simp [Fq12.conjugate_c0, Fq12.conjugate_c1, Fq12.mul_c0, Fq12.mul_c1, Fq12.w],
   Fq12.conjugate_mul, Fq12.conjugate_add, Fq12.conjugate_one, Fq12.conjugate_ofFq6,
   Fq12.conjugate_w, Fq12.conjugate_conjugate⟩

/-! ## 4. inversion: fails exactly for zero, otherwise returns the inverse; field structure -/

section Prime
variable [Fact (Nat.Prime Gen.q)]

theorem inverse_Fq2 (a : Fq2) :
    (Fq2.inverse a = none ↔ a = 0) ∧ (∀ b, Fq2.inverse a = some b → a * b = 1) :=
  ⟨Fq2.isInverse.eq_none_iff a, fun _ h => Fq2.isInverse.some_mul h⟩

theorem inverse_Fq6 (a : Fq6) :
    (Fq6.inverse a = none ↔ a = 0) ∧ (∀ b, Fq6.inverse a = some b → a * b = 1) :=
  ⟨Fq6.isInverse.eq_none_iff a, fun _ h => Fq6.isInverse.some_mul h⟩

theorem inverse_Fq12 (a : Fq12) :
    (Fq12.inverse a = none ↔ a = 0) ∧ (∀ b, Fq12.inverse a = some b → a * b = 1) :=
  ⟨Fq12.isInverse.eq_none_iff a, fun _ h => Fq12.isInverse.some_mul h⟩

/-- the `Field` instances invert with the model's `inverse` -/
theorem fieldInv :
    FieldInvIs Fq2 (fun a => (Fq2.inverse a).getD 0) ∧
    FieldInvIs Fq6 (fun a => (Fq6.inverse a).getD 0) ∧
    FieldInvIs Fq12 (fun a => (Fq12.inverse a).getD 0) :=
  ⟨fun _ => rfl, fun _ => rfl, fun _ => rfl⟩

/-- the interface used by the generic curve theorems -/
example : LawfulFieldOps Fq2 := inferInstance
example : LawfulFieldOps Fq6 := inferInstance
example : LawfulFieldOps Fq12 := inferInstance

/-! ## 5. Frobenius: `frobenius_map(k)` is `x ↦ x^(q^k)` for every `k` -/

theorem frobenius_Fq2 (k : ℕ) (x : Fq2) : Fq2.frobeniusMap x k = x ^ Gen.q ^ k :=
  Fq2.frobenius_spec k x

theorem frobenius_Fq6 (k : ℕ) (x : Fq6) : Fq6.frobeniusMap x k = x ^ Gen.q ^ k :=
  Fq6.frobenius_spec k x

theorem frobenius_Fq12 (k : ℕ) (x : Fq12) : Fq12.frobeniusMap x k = x ^ Gen.q ^ k :=
  Fq12.frobenius_spec k x

/-- the same through the `FieldOps` interface used by the generic code (`Fq` included) -/
theorem frobenius_fieldOps (k : ℕ) :
    (∀ x : Fq, FieldOps.frob x k = x ^ Gen.q ^ k) ∧ (∀ x : Fq2, FieldOps.frob x k = x ^ Gen.q ^ k) ∧
    (∀ x : Fq6, FieldOps.frob x k = x ^ Gen.q ^ k) ∧ (∀ x : Fq12, FieldOps.frob x k = x ^ Gen.q ^ k) :=
  ⟨Fq.frobenius_spec k, Fq2.frobenius_spec k, Fq6.frobenius_spec k, Fq12.frobenius_spec k⟩

/-- the `Fq12` conjugation (the "easy part" of the final exponentiation) is `x ↦ x^(q^6)` -/
theorem conjugate_eq_pow (x : Fq12) : Fq12.conjugate x = x ^ Gen.q ^ 6 :=
  Fq12.conjugate_eq_pow x

end Prime

/-! ## 6. sparse multiplications = dense product with the sparse operand -/

theorem sparse_mulBy1 (a : Fq6) (c1 : Fq2) : Fq6.mulBy1 a c1 = a * ⟨0, c1, 0⟩ :=
  Fq6.mulBy1_eq a c1

theorem sparse_mulBy01 (a : Fq6) (c0 c1 : Fq2) : Fq6.mulBy01 a c0 c1 = a * ⟨c0, c1, 0⟩ :=
  Fq6.mulBy01_eq a c0 c1

theorem sparse_mulBy014 (a : Fq12) (c0 c1 c4 : Fq2) :
    Fq12.mulBy014 a c0 c1 c4 = a * ⟨⟨c0, c1, 0⟩, ⟨0, c4, 0⟩⟩ :=
  Fq12.mulBy014_eq a c0 c1 c4

/-! ## non-vacuity: concrete instances, evaluated by the kernel on the model itself -/

-- zero, generators, elements with zero components, subfield elements
example : Fq2.inverse 0 = none := by decide +kernel
example : Fq6.inverse 0 = none := by decide +kernel
example : Fq12.inverse 0 = none := by decide +kernel
example : Fq2.inverse Fq2.u = some (-Fq2.u) := by decide +kernel
example : Fq2.mul Fq2.u (-Fq2.u) = 1 := by decide +kernel
example : (Fq6.inverse Fq6.v).map (Fq6.mul Fq6.v) = some 1 := by decide +kernel
example : (Fq12.inverse Fq12.w).map (Fq12.mul Fq12.w) = some 1 := by decide +kernel
example : (Fq12.inverse ⟨⟨⟨2, 0⟩, 0, 0⟩, 0⟩).map (Fq12.mul ⟨⟨⟨2, 0⟩, 0, 0⟩, 0⟩) = some 1 := by
  decide +kernel
example : (Fq12.inverse ⟨0, ⟨0, 0, ⟨0, 5⟩⟩⟩).map (Fq12.mul ⟨0, ⟨0, 0, ⟨0, 5⟩⟩⟩) = some 1 := by
  decide +kernel
example : Fq2.mulByNonresidue Fq2.u = ⟨-1, 1⟩ := by decide +kernel
example : Fq6.mulByNonresidue ⟨0, 0, 1⟩ = Fq6.ofFq2 Fq2.xi := by decide +kernel
example : Fq12.mul Fq12.w Fq12.w = Fq12.ofFq6 Fq6.v := by decide +kernel
example : Fq2.norm Fq2.xi = 2 := by decide +kernel
-- Frobenius on the generators: order 2 / 6 / 12, `k` beyond the table length, `conjugate = frob 6`
example : Fq2.frobeniusMap Fq2.u 1 = -Fq2.u := by decide +kernel
example : Fq2.frobeniusMap Fq2.u 7 = -Fq2.u := by decide +kernel
example : Fq6.frobeniusMap Fq6.v 1 ≠ Fq6.v := by decide +kernel
example : Fq6.frobeniusMap Fq6.v 2 ≠ Fq6.v := by decide +kernel
example : Fq6.frobeniusMap Fq6.v 3 ≠ Fq6.v := by decide +kernel
example : Fq6.frobeniusMap Fq6.v 6 = Fq6.v := by decide +kernel
example : Fq12.frobeniusMap Fq12.w 4 ≠ Fq12.w := by decide +kernel
example : Fq12.frobeniusMap Fq12.w 6 = -Fq12.w := by decide +kernel
example : Fq12.frobeniusMap Fq12.w 12 = Fq12.w := by decide +kernel
example : Fq12.frobeniusMap Fq12.w 25 = Fq12.frobeniusMap Fq12.w 1 := by decide +kernel
example : Fq12.frobeniusMap (Fq12.ofFq6 (Fq6.ofFq2 (Fq2.ofFq 3))) 5
    = Fq12.ofFq6 (Fq6.ofFq2 (Fq2.ofFq 3)) := by decide +kernel
-- sparse products on concrete operands (including a zero operand)
example : Fq6.mulBy1 ⟨Fq2.u, 1, Fq2.xi⟩ Fq2.xi = Fq6.mul ⟨Fq2.u, 1, Fq2.xi⟩ ⟨0, Fq2.xi, 0⟩ := by
  decide +kernel
example : Fq12.mulBy014 Fq12.w 0 0 0 = 0 := by decide +kernel
example : Fq12.mulBy014 ⟨Fq6.v, ⟨Fq2.u, 1, Fq2.xi⟩⟩ Fq2.u 1 Fq2.xi
    = Fq12.mul ⟨Fq6.v, ⟨Fq2.u, 1, Fq2.xi⟩⟩ ⟨⟨Fq2.u, 1, 0⟩, ⟨0, Fq2.xi, 0⟩⟩ := by decide +kernel

-- the general theorems instantiated at the generators
section Prime
variable [Fact (Nat.Prime Gen.q)]
example : Fq12.frobeniusMap Fq12.w 1 = Fq12.w ^ Gen.q := by
  simpa using frobenius_Fq12 1 Fq12.w
example : Fq6.frobeniusMap Fq6.v 0 = Fq6.v := by simpa using frobenius_Fq6 0 Fq6.v
example (c : Fq) (hc : c ≠ 0) : Fq2.inverse (Fq2.ofFq c) ≠ none := fun h =>
  hc (Fq2.ofFq_injective (by rw [(inverse_Fq2 _).1.mp h, map_zero]))
end Prime

end PP.C09
