/-
C19, INSTANTIATED.  The theorems of `PP/Props/C19.lean` about the SerDes of curve points at `g1Codec`
(48 / 96 bytes) and `g2Codec` (96 / 192 bytes), with the real instances (`LawfulSqrtOps Fq`; the tower's
`Field Fq2`, `LawfulFieldOps Fq2`, `PP.instLawfulSqrtOpsFq2`).  The `Fr` and `Fq12` parts of C19 have no
hypotheses.  Nothing is left as a hypothesis.
-/
import PP.Props.C19
import PP.Proofs.AssemblyFq2

namespace PP.C19Inst
open PP

/-! ## G1 (the `LawfulSqrtOps Fq` instance is `PP.Proofs.Sqrt`'s, C18) -/
section g1

theorem serAffine_length_g1 (A : Aff Fq) (c : Bool) : (serAffine g1Codec A c).length = if c then 48 else 96 :=
  PP.C19.serAffine_length g1Codec_lawful A c

theorem deserAffine_serAffine_g1 (A : Aff Fq) (c : Bool) (tail : Bytes)
    (hinf : A.infinity = true → A = Aff.zero) (hs : Aff.inSubgroup g1Codec.b A = true) :
    deserAffine g1Codec (serAffine g1Codec A c ++ tail) c = .ok (A, tail) :=
  PP.C19.deserAffine_serAffine g1Codec_lawful A c tail hinf hs

theorem deserJac_serJac_g1 (P : Jac Fq) (A : Aff Fq) (c : Bool) (tail : Bytes)
    (hA : P.toAffine = some A) (hs : Aff.inSubgroup g1Codec.b A = true) :
    serJac g1Codec P c = some (serAffine g1Codec A c) ∧
      deserJac g1Codec (serAffine g1Codec A c ++ tail) c = .ok (A.toJac, tail) :=
  PP.C19.deserJac_serJac g1Codec_lawful P A c tail hA hs

theorem deserAffine_ne_panic_g1 (rd : Bytes) (c : Bool) : deserAffine g1Codec rd c ≠ .error .panic :=
  PP.C19.deserAffine_ne_panic g1Codec_lawful rd c

theorem deserJac_ne_panic_g1 (rd : Bytes) (c : Bool) : deserJac g1Codec rd c ≠ .error .panic :=
  PP.C19.deserJac_ne_panic g1Codec_lawful rd c

end g1

/-! ## G2, with the tower's `Field Fq2`, `LawfulFieldOps Fq2` and `instLawfulSqrtOpsFq2`

The model's own notation instances on `Fq2` are switched off locally, for the reason given in
`PP/Props/C04Inst.lean`. -/
section g2
attribute [-instance] Fq2.instAdd Fq2.instSub Fq2.instMul Fq2.instNeg Fq2.instZero Fq2.instOne

theorem serAffine_length_g2 (A : Aff Fq2) (c : Bool) : (serAffine g2Codec A c).length = if c then 96 else 192 :=
  PP.C19.serAffine_length g2Codec_lawful A c

theorem deserAffine_serAffine_g2 (A : Aff Fq2) (c : Bool) (tail : Bytes)
    (hinf : A.infinity = true → A = Aff.zero) (hs : Aff.inSubgroup g2Codec.b A = true) :
    deserAffine g2Codec (serAffine g2Codec A c ++ tail) c = .ok (A, tail) :=
  PP.C19.deserAffine_serAffine g2Codec_lawful A c tail hinf hs

theorem deserJac_serJac_g2 (P : Jac Fq2) (A : Aff Fq2) (c : Bool) (tail : Bytes)
    (hA : P.toAffine = some A) (hs : Aff.inSubgroup g2Codec.b A = true) :
    serJac g2Codec P c = some (serAffine g2Codec A c) ∧
      deserJac g2Codec (serAffine g2Codec A c ++ tail) c = .ok (A.toJac, tail) :=
  PP.C19.deserJac_serJac g2Codec_lawful P A c tail hA hs

theorem deserAffine_ne_panic_g2 (rd : Bytes) (c : Bool) : deserAffine g2Codec rd c ≠ .error .panic :=
  PP.C19.deserAffine_ne_panic g2Codec_lawful rd c

theorem deserJac_ne_panic_g2 (rd : Bytes) (c : Bool) : deserJac g2Codec rd c ≠ .error .panic :=
  PP.C19.deserJac_ne_panic g2Codec_lawful rd c

end g2

end PP.C19Inst
