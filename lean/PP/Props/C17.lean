/-
C17.  "For every point P of the full curve group - not only of the order-r subgroup - cofactor
clearing returns [h_eff]P with h_eff = 0xd201000000010001 for G1 and the 636-bit RFC 9380 constant
3(x^2-1)h2 for G2, and the result lies in the order-r subgroup.  It is therefore additive and maps
the identity to the identity."

Everything is relative to a `GroupModel` (the C01 theorems: the Jacobian formulas of the model,
including the doubling / cancellation / identity branches met on low-order points, implement the
group law on every valid point).  The exponents are obtained by running the model's own chain
interpreter on the EXTRACTED programs over ℤ inside the kernel (`PP.Proofs.Chains`).

What is a hypothesis, visibly, in the subgroup clauses: the group order / exponent of the curve
(`#E'(Fq2) = h2 · r`, resp. `exp E(Fq) ∣ (1 − x) · r`), which is a hypothesis HERE and is PROVED in PP.Props.CurveOrder (`g1_exponent`, `g2_order`).
-/
import PP.Proofs.Chains

namespace PP
namespace C17

open Chains

/-- G1 effective cofactor `1 − x`. -/
abbrev hEffG1 : ℕ := 0xd201000000010001

/-- G2 effective cofactor (RFC 9380 §8.8.2), 636 bits. -/
abbrev hEffG2 : ℕ :=
  0xbc69f08f2ee75b3584c6a0ea91b352888e2a8e9145ad7689986ff031508ffe1329c2f178731db956d82bf015d1212b02ec0ec69d7477c1ae954cbc06689f6a359894c0adebbf6b4e8020005aaa95551

/-- the G2 constant is `3 (x² − 1) h₂` with `x`, `h₂` the constants extracted from the Rust source -/
theorem hEffG2_eq : hEffG2 = 3 * (Gen.BLS_X ^ 2 - 1) * Gen.G2_COFACTOR := by decide +kernel

theorem hEffG2_bits : 2 ^ 635 ≤ hEffG2 ∧ hEffG2 < 2 ^ 636 := by decide +kernel

/-- the G1 constant is `|x| + 1 = 1 − x` -/
theorem hEffG1_eq : hEffG1 = Gen.BLS_X + 1 := by decide

section generic
variable {F : Type} [Field F] [DecidableEq F] [FieldOps F] {G : Type} [AddCommGroup G]

/-- a map that multiplies every valid point by a fixed `n` sends every valid representation of the
identity to the identity -/
theorem smulMap_isZero (M : GroupModel F G) {f : Jac F → Jac F} {n : ℕ}
    (hf : ∀ P, M.ValidJ P → M.ValidJ (f P) ∧ M.absJ (f P) = n • M.absJ P) (P : Jac F)
    (hP : M.ValidJ P) (h : P.isZero = true) : (f P).isZero = true :=
  (M.isZero_iff _ (hf P hP).1).2 (by rw [(hf P hP).2, (M.isZero_iff P hP).1 h, smul_zero])

/-- G1-style clearing `chain_z(P) + P`, over any group model: multiplication by `1 − x` on EVERY
valid point. -/
theorem clearH_G1_generic (M : GroupModel F G) (P : Jac F) (hP : M.ValidJ P) :
    M.ValidJ ((chainZ P).add P) ∧ M.absJ ((chainZ P).add P) = hEffG1 • M.absJ P := by
  obtain ⟨hv, ha⟩ := chainZ_smul M P hP
  refine ⟨M.add_valid _ _ hv hP, ?_⟩
  rw [M.add_abs _ _ hv hP, ha, ← succ_nsmul]

/-- G2-style clearing `chain_h2_eff(P)`, over any group model (`clearHG2` is this function at
`F := Fq2`): multiplication by `h_eff` on EVERY valid point. -/
theorem clearH_G2 (M : GroupModel F G) (P : Jac F) (hP : M.ValidJ P) :
    M.ValidJ (chainH2Eff P) ∧ M.absJ (chainH2Eff P) = hEffG2 • M.absJ P := by
  have h := pointChain_smul M Gen.CHAIN_Z Gen.CHAIN_H2_EFF P hP
  refine ⟨h.1, ?_⟩
  rw [show chainH2Eff P = chainFn pointChainOps Gen.CHAIN_Z Gen.CHAIN_H2_EFF P from rfl, h.2,
    intExp_h2eff_lit, ← natCast_zsmul]
  rfl

/-- additivity of G2 clearing -/
theorem clearH_G2_add (M : GroupModel F G) (P Q : Jac F) (hP : M.ValidJ P) (hQ : M.ValidJ Q) :
    M.absJ (chainH2Eff (P.add Q)) = M.absJ (chainH2Eff P) + M.absJ (chainH2Eff Q) := by
  rw [(clearH_G2 M _ (M.add_valid P Q hP hQ)).2, (clearH_G2 M P hP).2, (clearH_G2 M Q hQ).2,
    M.add_abs P Q hP hQ, smul_add]

/-- G2 clearing maps the identity to the identity -/
theorem clearH_G2_zero (M : GroupModel F G) :
    M.ValidJ (chainH2Eff (Jac.zero : Jac F)) ∧ M.absJ (chainH2Eff (Jac.zero : Jac F)) = 0 ∧
      (chainH2Eff (Jac.zero : Jac F)).isZero = true := by
  obtain ⟨hv, ha⟩ := clearH_G2 M Jac.zero M.zero_valid
  have h0 : M.absJ (chainH2Eff (Jac.zero : Jac F)) = 0 := by rw [ha, M.zero_abs, smul_zero]
  exact ⟨hv, h0, (M.isZero_iff _ hv).2 h0⟩

/-- `h₂ ∣ h_eff` -/
theorem h2_dvd_heff : Gen.G2_COFACTOR ∣ hEffG2 :=
  ⟨3 * (Gen.BLS_X ^ 2 - 1), by decide +kernel⟩

/-- Subgroup clause for G2, from the curve order `#E'(Fq2) = h₂ · r` (HYPOTHESIS `hord`): the
cleared point is killed by `r`. -/
theorem clearH_G2_in_subgroup (M : GroupModel F G)
    (hord : ∀ g : G, (Gen.G2_COFACTOR * Gen.r) • g = 0) (P : Jac F) (hP : M.ValidJ P) :
    Gen.r • M.absJ (chainH2Eff P) = 0 := by
  obtain ⟨k, hk⟩ := h2_dvd_heff
  rw [(clearH_G2 M P hP).2, hk, mul_smul, ← mul_smul, mul_comm Gen.r]
  exact hord _

end generic

/-! ### G1, at the type where `clearHG1` lives -/

section g1
variable {G : Type} [AddCommGroup G]

/-- **C17 for G1**: `clear_h` is `P ↦ [0xd201000000010001] P` on every valid point of the curve. -/
theorem clearH_G1 (M : GroupModel Fq G) (P : Jac Fq) (hP : M.ValidJ P) :
    M.ValidJ (clearHG1 P) ∧ M.absJ (clearHG1 P) = (0xd201000000010001 : ℕ) • M.absJ P :=
  clearH_G1_generic M P hP

/-- additivity of G1 clearing -/
theorem clearH_G1_add (M : GroupModel Fq G) (P Q : Jac Fq) (hP : M.ValidJ P) (hQ : M.ValidJ Q) :
    M.absJ (clearHG1 (P.add Q)) = M.absJ (clearHG1 P) + M.absJ (clearHG1 Q) := by
  rw [(clearH_G1 M _ (M.add_valid P Q hP hQ)).2, (clearH_G1 M P hP).2, (clearH_G1 M Q hQ).2,
    M.add_abs P Q hP hQ, smul_add]

/-- G1 clearing maps the identity to the identity -/
theorem clearH_G1_zero (M : GroupModel Fq G) :
    M.ValidJ (clearHG1 Jac.zero) ∧ M.absJ (clearHG1 Jac.zero) = 0 ∧
      (clearHG1 Jac.zero).isZero = true := by
  obtain ⟨hv, ha⟩ := clearH_G1 M Jac.zero M.zero_valid
  have h0 : M.absJ (clearHG1 Jac.zero) = 0 := by rw [ha, M.zero_abs, smul_zero]
  exact ⟨hv, h0, (M.isZero_iff _ hv).2 h0⟩

/-- `1 − x` is NOT a multiple of the G1 cofactor `h₁ = (x − 1)² / 3`: the G1 subgroup clause does
not follow from the group order `h₁ · r` alone; it needs the exponent of the (non-cyclic) cofactor
part, i.e. `exp E(Fq) ∣ (1 − x) · r`. -/
theorem h1_not_dvd_heff : ¬ Gen.G1_COFACTOR ∣ hEffG1 := by
  intro h
  have hle := Nat.le_of_dvd (by decide) h
  exact absurd hle (by decide +kernel)

/-- Subgroup clause for G1, from the HYPOTHESIS `hexp` that the exponent of the curve group divides
`(1 − x) · r`. -/
theorem clearH_G1_in_subgroup_of (M : GroupModel Fq G)
    (hexp : ∀ g : G, (0xd201000000010001 * Gen.r) • g = 0) (P : Jac Fq) (hP : M.ValidJ P) :
    Gen.r • M.absJ (clearHG1 P) = 0 := by
  rw [(clearH_G1 M P hP).2, ← mul_smul, mul_comm]
  exact hexp _

end g1

/-! ### C15 support: the two field chains compute the stated powers -/

theorem chain_pm3div4 (a : Fq) : chainPm3div4 a = a ^ ((Gen.q - 3) / 4) := chainPm3div4_eq a

theorem chain_p2m9div16 {F : Type} [Field F] [FieldOps F] [LawfulFieldOps F] [Inhabited F] (a : F) :
    chainFn0 fieldChainOps Gen.CHAIN_P2M9DIV16 a = a ^ ((Gen.q ^ 2 - 9) / 16) :=
  chainP2m9div16_generic a

/-! ### non-vacuity: the exponent functions evaluate on the extracted chains -/

example : natExp [(0, 1, 0), (1, 1, 3), (2, 1, 0)] = 9 := by decide
example : intExp0 Gen.CHAIN_Z = 0xd201000000010000 := intExp0_z
example : intExp Gen.CHAIN_Z Gen.CHAIN_H2_EFF = (hEffG2 : ℤ) := intExp_h2eff_lit
example : natExpO Gen.CHAIN_PM3DIV4 = some ((Gen.q - 3) / 4) := natExpO_pm3div4

end C17
end PP
