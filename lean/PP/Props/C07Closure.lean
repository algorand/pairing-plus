/-
PROPERTY C07, CLOSURE OF THE SAFE API — the compositions of the closure lemmas of `PP/Props/C07.lean`
(`inSub_of_inSubgroup`, `smul_result_inSub`, `msm_result_inSub`) with C02 / C10 / C04 / C19, stated and
proved per source of points:

  "Every point handed out by the safe public API - generators, random sampling, results of arithmetic,
   scalar and multi-scalar multiplication on valid points, successfully decoded or deserialized points,
   hash and map outputs - satisfies the curve equation and is annihilated by r."

The invariant is `Jac.InSub b P := Jac.OnCurve b P ∧ r • Jac.abs b P = 0` (projective) and
`Aff.InSub b A := Aff.OnCurve b A ∧ r • Aff.abs b A = 0` (affine), as in C07.

Part 1 (RANDOM SAMPLING).  `CurveProjective::random` is translated to `R.Jac.random`, proved equal
  (`GenRest.Jac_random`) to `Jac.randomSpec` of `PP/Model/Curve.lean` (a loop over attempts; `fuel` bounds
  their number, the RNG is an arbitrary function).  WHENEVER the loop returns a point — any fuel, any RNG — the point is the cofactor
  multiple of a candidate of `get_point_from_x`, is NOT the identity, is on the curve and is killed by `r`.
  A candidate whose cofactor multiple is the identity (and an `x` without a point) is skipped: the loop
  continues with the next RNG state.  The result does not depend on the bound `fuel` once it is reached.
Part 2 (SCALAR MULTIPLICATION).  `mul_bits`, `mul`, `mul_assign`, `mul_precomp_3`, `mul_precomp_256` with the
  library's tables (every 256-bit `k`), wNAF with any window `2..=22` and both staging orders (`k < 2^255`).
Part 3 (MULTI-SCALAR MULTIPLICATION).  `sum_of_products`, `sum_of_products_pippinger` with an explicit
  window `1..=20`, `sum_of_products_precomp_256` with the library's tables.
Part 4 (BATCH NORMALISATION, CONVERSIONS).
Part 5 (DECODED / DESERIALIZED POINTS).  The CHECKED decoders `into_affine` (compressed and uncompressed)
  and `SerDes::deserialize` (affine and projective, both flags).  The UNCHECKED decoders
  `into_affine_unchecked` are outside the invariant by design (they are how off-subgroup points enter); what
  holds for them is stated: the compressed one returns curve points, and each checked decoder is the
  unchecked one followed by the tests.
Part 6 (HASH / MAP OUTPUTS, GENERATORS): the theorems of `PP.Props.CurveOrder` and `PP.Props.C07`.

Generic statements are over any field `F` with lawful model operations and any `b` with `ShortW b`; the
sections G1 / G2 instantiate them at `g1Codec.b = 4` over `Fq` and `g2Codec.b = 4(1+u)` over `Fq2`, with
the curve orders of `PP.Props.CurveOrder` (no hypothesis about the group order is left).
-/
import PP.Props.CurveOrder
import PP.Props.C02Inst
import PP.Props.C10Inst
import PP.Props.C19Inst
import PP.Props.GenRest


namespace PP.C07Closure

open PP PP.Gen PP.GenRestLemmas WeierstrassCurve.Affine

/-! ## Part 1: random sampling -/

section random_generic
variable {F : Type} [Field F] [DecidableEq F] [FieldOps F] [LawfulFieldOps F] [SqrtOps F]
variable {b : F} [ShortW b] {Rng : Type}
variable (baseRandom : Rng → Rng × F) (nextU32 : Rng → Rng × Nat) (cof : Aff F → Jac F)

omit [DecidableEq F] [LawfulFieldOps F] [ShortW b] in
/-- one attempt that finds no point (`get_point_from_x` returned `None`): the loop goes on with the RNG
    state left by the two draws -/
theorem randomSpec_retry_none (fuel : ℕ) (rng : Rng)
    (h : Aff.getPointFromX b (baseRandom rng).2 ((nextU32 (baseRandom rng).1).2 % 2 != 0) = none) :
    randomSpec baseRandom nextU32 b cof (fuel + 1) rng
      = randomSpec baseRandom nextU32 b cof fuel (nextU32 (baseRandom rng).1).1 := by
  rw [randomSpec]; simp only [h]

omit [DecidableEq F] [LawfulFieldOps F] [ShortW b] in
/-- **the identity is never returned**: one attempt whose candidate has the identity as its cofactor
    multiple (`if !p.is_zero() { return p; }` fails): the loop goes on -/
theorem randomSpec_retry_identity (fuel : ℕ) (rng : Rng) {p : Aff F}
    (h : Aff.getPointFromX b (baseRandom rng).2 ((nextU32 (baseRandom rng).1).2 % 2 != 0) = some p)
    (hz : (cof p).isZero = true) :
    randomSpec baseRandom nextU32 b cof (fuel + 1) rng
      = randomSpec baseRandom nextU32 b cof fuel (nextU32 (baseRandom rng).1).1 := by
  rw [randomSpec]; simp only [h, hz, if_true]

omit [DecidableEq F] [LawfulFieldOps F] [ShortW b] in
/-- one attempt whose candidate has a non-identity cofactor multiple: that multiple is returned, with the
    RNG state left by the two draws -/
theorem randomSpec_accept (fuel : ℕ) (rng : Rng) {p : Aff F}
    (h : Aff.getPointFromX b (baseRandom rng).2 ((nextU32 (baseRandom rng).1).2 % 2 != 0) = some p)
    (hz : (cof p).isZero = false) :
    randomSpec baseRandom nextU32 b cof (fuel + 1) rng = some ((nextU32 (baseRandom rng).1).1, cof p) := by
  rw [randomSpec]; simp only [h, hz]; rfl

omit [DecidableEq F] [LawfulFieldOps F] [ShortW b] in
/-- whatever the loop returns is `cof p` for a candidate `p` of `get_point_from_x`, and is not the
    identity record (`is_zero()` is false) -/
theorem randomSpec_some_candidate :
    ∀ (fuel : ℕ) (rng rng' : Rng) (P : Jac F),
      randomSpec baseRandom nextU32 b cof fuel rng = some (rng', P) →
        ∃ x greatest p, Aff.getPointFromX b x greatest = some p ∧ P = cof p ∧ P.isZero = false := by
  intro fuel
  induction fuel with
  | zero => intro rng rng' P h; simp [randomSpec] at h
  | succ n ih =>
    intro rng rng' P h
    cases hgp : Aff.getPointFromX b (baseRandom rng).2 ((nextU32 (baseRandom rng).1).2 % 2 != 0) with
    | none => rw [randomSpec_retry_none _ _ _ _ _ hgp] at h; exact ih _ _ _ h
    | some p =>
      cases hz : (cof p).isZero with
      | true => rw [randomSpec_retry_identity _ _ _ _ _ hgp hz] at h; exact ih _ _ _ h
      | false =>
        rw [randomSpec_accept _ _ _ _ _ hgp hz] at h
        obtain ⟨-, rfl⟩ := Prod.mk.inj (Option.some.inj h)
        exact ⟨_, _, p, hgp, rfl, hz⟩

set_option linter.unusedSectionVars false in
/-- the bound on the number of attempts does not influence the result: once a point is returned with
    `fuel` attempts allowed, the same point and RNG state are returned with any larger bound (the Rust
    loop is unbounded) -/
theorem randomSpec_fuel_mono :
    ∀ (fuel : ℕ) (rng : Rng) (res : Rng × Jac F),
      randomSpec baseRandom nextU32 b cof fuel rng = some res →
        ∀ n, randomSpec baseRandom nextU32 b cof (fuel + n) rng = some res := by
  intro fuel
  induction fuel with
  | zero => intro rng res h; simp [randomSpec] at h
  | succ m ih =>
    intro rng res h n
    have e : m + 1 + n = (m + n) + 1 := by omega
    rw [e]
    cases hgp : Aff.getPointFromX b (baseRandom rng).2 ((nextU32 (baseRandom rng).1).2 % 2 != 0) with
    | none =>
      rw [randomSpec_retry_none _ _ _ _ _ hgp] at h ⊢; exact ih _ _ h n
    | some p =>
      cases hz : (cof p).isZero with
      | true => rw [randomSpec_retry_identity _ _ _ _ _ hgp hz] at h ⊢; exact ih _ _ h n
      | false => rw [randomSpec_accept _ _ _ _ _ hgp hz] at h ⊢; exact h

/-- **random sampling, any curve**: if the cofactor scaling sends every candidate into the subgroup, then
    whatever the loop returns — any bound, any RNG — is on the curve, killed by `r`, and is not the
    identity (neither as a record, `z ≠ 0`, nor as a group element) -/
theorem randomSpec_inSub
    (hcof : ∀ x greatest p, Aff.getPointFromX b x greatest = some p → Jac.InSub b (cof p))
    {fuel : ℕ} {rng rng' : Rng} {P : Jac F}
    (h : randomSpec baseRandom nextU32 b cof fuel rng = some (rng', P)) :
    Jac.InSub b P ∧ P.isZero = false ∧ Jac.abs b P ≠ 0 := by
  obtain ⟨x, g, p, hp, rfl, hz⟩ := randomSpec_some_candidate baseRandom nextU32 cof fuel rng rng' P h
  have hs := hcof x g p hp
  refine ⟨hs, hz, ?_⟩
  rw [Ne, ← C01.isZero_iff hs.1, hz]
  exact Bool.false_ne_true

end random_generic

/-- the non-identity points of the subgroup have order exactly `r` -/
theorem addOrderOf_of_inSub {F : Type} [Field F] [DecidableEq F] [FieldOps F] [LawfulFieldOps F]
    {b : F} [ShortW b] {P : Jac F} (h : Jac.InSub b P) (hne : Jac.abs b P ≠ 0) :
    addOrderOf (Jac.abs b P) = Gen.r :=
  addOrderOf_eq_of_prime Primes.r_prime h.2 hne

/-! ## Parts 2, 3, 4 on any curve `y² = x³ + b` -/

section generic
variable {F : Type} [Field F] [DecidableEq F] [FieldOps F] [LawfulFieldOps F] {b : F} [ShortW b]

omit [FieldOps F] [LawfulFieldOps F] [ShortW b] in
/-- affine analogue of `C07.smul_result_inSub` -/
theorem aff_smul_result_inSub {A E : Aff F} {k : ℕ} (hA : Aff.InSub b A) (hE : Aff.OnCurve b E)
    (habs : Aff.abs b E = k • Aff.abs b A) : Aff.InSub b E :=
  ⟨hE, by rw [habs]; exact killed_nsmul hA.2 k⟩

/-! ### Part 2: scalar multiplication

The first three, and the conversions of Part 4, are the C07 theorems of the same name, restated so that
every source of points has its statement in this namespace. -/

theorem mulBits_inSub {A : Aff F} (h : Aff.InSub b A) (bits : List Bool) : Jac.InSub b (A.mulBits bits) :=
  C07.mulBits_inSub h bits

theorem affMul_inSub {A : Aff F} (h : Aff.InSub b A) (k : ℕ) : Jac.InSub b (A.mul k) := C07.affMul_inSub h k

theorem mulAssign_inSub {P : Jac F} (h : Jac.InSub b P) (k : ℕ) : Jac.InSub b (P.mulAssign k) :=
  C07.mulAssign_inSub h k

/-- the three table entries of `precomp_3` of a subgroup point are subgroup points -/
theorem precomp3_table_inSub {A : Aff F} (hA : Aff.InSub b A) :
    ∃ a1 a2 a3, A.precomp3 = some [a1, a2, a3] ∧ Aff.InSub b a1 ∧ Aff.InSub b a2 ∧ Aff.InSub b a3 := by
  obtain ⟨a1, a2, a3, hp, ⟨h1, e1⟩, ⟨h2, e2⟩, ⟨h3, e3⟩⟩ := C02Inst.curve_precomp3_table b A hA.1
  exact ⟨a1, a2, a3, hp, aff_smul_result_inSub hA h1 e1, aff_smul_result_inSub hA h2 e2,
    aff_smul_result_inSub hA h3 e3⟩

/-- `mul_precomp_3` with the table of `precomp_3`, every 256-bit `k`: no panic, result in the subgroup -/
theorem precomp3_mul_inSub {A : Aff F} (hA : Aff.InSub b A) (k : ℕ) (hk : k < 2 ^ 256) :
    ∃ pre, A.precomp3 = some pre ∧ ∃ R, A.mulPrecomp3 k pre = some R ∧ Jac.InSub b R := by
  obtain ⟨pre, hp, R, hR, hon, habs⟩ := C02Inst.curve_precomp3_mul b A hA.1 k hk
  exact ⟨pre, hp, R, hR, ⟨hon, by rw [habs]; exact killed_nsmul hA.2 k⟩⟩

/-- the 256 table entries of `precomp_256` of a subgroup point are subgroup points -/
theorem precomp256_table_inSub {A : Aff F} (hA : Aff.InSub b A) :
    ∃ pre, A.precomp256 = some pre ∧ pre.length = 256 ∧ ∀ e ∈ pre, Aff.InSub b e := by
  obtain ⟨pre, hp, hl, hent⟩ := C02Inst.curve_precomp256_table b A hA.1
  refine ⟨pre, hp, hl, fun e he => ?_⟩
  obtain ⟨i, hi, rfl⟩ := List.getElem_of_mem he
  obtain ⟨e', he', hon, habs⟩ := hent i (hl ▸ hi)
  rw [List.getElem?_eq_getElem hi] at he'
  obtain rfl := Option.some.inj he'
  exact aff_smul_result_inSub hA hon habs

/-- `mul_precomp_256` with the table of `precomp_256`, every 256-bit `k` -/
theorem precomp256_mul_inSub {A : Aff F} (hA : Aff.InSub b A) (k : ℕ) (hk : k < 2 ^ 256) :
    ∃ pre, A.precomp256 = some pre ∧ ∃ R, A.mulPrecomp256 k pre.toArray = some R ∧ Jac.InSub b R := by
  obtain ⟨pre, hp, R, hR, hon, habs⟩ := C02Inst.curve_precomp256_mul b A hA.1 k hk
  exact ⟨pre, hp, R, hR, ⟨hon, by rw [habs]; exact killed_nsmul hA.2 k⟩⟩

/-- windowed NAF (`wnaf_table`, `wnaf_form`, `wnaf_exp`), any window `2..=22`, `k < 2^255` -/
theorem wnaf_mul_inSub {P : Jac F} (hP : Jac.InSub b P) (k w : ℕ) (hw2 : 2 ≤ w) (hw : w ≤ 22)
    (hk : k < 2 ^ 255) :
    ∃ R, (do let f ← wnafForm [] k w; wnafExp (wnafTable [] P w) f) = some R ∧ Jac.InSub b R := by
  obtain ⟨R, hR, hon, habs⟩ := C02Inst.curve_wnaf_mul b P hP.1 k w hw2 hw hk
  exact ⟨R, hR, C07.smul_result_inSub hP hon habs⟩

/-- the staged API, order `base(P, n).scalar(k)`, on any (used) context -/
theorem wnaf_base_then_scalar_inSub (rc : WnafRec) (hrc : rc = g1Rec ∨ rc = g2Rec) (ctx : WnafCtx F)
    {P : Jac F} (hP : Jac.InSub b P) (n k : ℕ) (hk : k < 2 ^ 255) :
    ∃ R ctx', WnafCtx.baseThenScalar rc ctx P n k = some (R, ctx') ∧ Jac.InSub b R := by
  obtain ⟨R, ctx', hR, hon, habs⟩ := C02Inst.curve_wnaf_base_then_scalar b rc hrc ctx P hP.1 n k hk
  exact ⟨R, ctx', hR, C07.smul_result_inSub hP hon habs⟩

/-- the staged API, order `scalar(k).base(P)`, on any (used) context -/
theorem wnaf_scalar_then_base_inSub (rc : WnafRec) (hrc : rc = g1Rec ∨ rc = g2Rec) (ctx : WnafCtx F)
    {P : Jac F} (hP : Jac.InSub b P) (k : ℕ) (hk : k < 2 ^ 255) :
    ∃ R ctx', WnafCtx.scalarThenBase rc ctx k P = some (R, ctx') ∧ Jac.InSub b R := by
  obtain ⟨R, ctx', hR, hon, habs⟩ := C02Inst.curve_wnaf_scalar_then_base b rc hrc ctx P hP.1 k hk
  exact ⟨R, ctx', hR, C07.smul_result_inSub hP hon habs⟩

/-! ### Part 3: multi-scalar multiplication -/

theorem sum_of_products_inSub (points : List (Aff F)) (ks : List ℕ) (hk : ∀ k ∈ ks, k < 2 ^ 255)
    (hP : ∀ P ∈ points, Aff.InSub b P) : ∃ R, sumOfProducts points ks = some R ∧ Jac.InSub b R :=
  C10Inst.curve_sum_of_products_inSub b points ks hk hP

/-- `sum_of_products_pippinger` with an explicit window `1..=20` -/
theorem pippinger_inSub (points : List (Aff F)) (ks : List ℕ) (w : ℕ) (hw1 : 1 ≤ w) (hw : w ≤ 20)
    (hk : ∀ k ∈ ks, k < 2 ^ 255) (hP : ∀ P ∈ points, Aff.InSub b P) :
    ∃ R, sumOfProductsPippinger points ks w = some R ∧ Jac.InSub b R := by
  obtain ⟨R, hR, hon, habs⟩ := C10Inst.curve_pippinger b points ks w hw1 hw hk (fun P hm => (hP P hm).1)
  exact ⟨R, hR, C07.msm_result_inSub hP hon habs⟩

/-- `sum_of_products_precomp_256` with the tables of `precomp_256`, every 256-bit scalar -/
theorem sum_of_products_precomp256_inSub (points : List (Aff F)) (ks : List ℕ)
    (hk : ∀ k ∈ ks, k < 2 ^ 256) (hP : ∀ P ∈ points, Aff.InSub b P) :
    ∃ tables, points.mapM Aff.precomp256 = some tables ∧
      ∃ R, sumOfProductsPrecomp256 points ks tables.flatten.toArray = some R ∧ Jac.InSub b R := by
  obtain ⟨tables, ht, R, hR, hon, habs⟩ :=
    C10Inst.curve_sum_of_products_precomp256 b points ks hk (fun P hm => (hP P hm).1)
  exact ⟨tables, ht, R, hR, C07.msm_result_inSub hP hon habs⟩

/-! ### Part 4: batch normalisation and conversions -/

/-- `batch_normalization` never panics on subgroup points and returns subgroup points -/
theorem batchNormalize_inSub (v : List (Jac F)) (hv : ∀ P ∈ v, Jac.InSub b P) :
    ∃ out, Jac.batchNormalize v = some out ∧ out.length = v.length ∧ ∀ Q ∈ out, Jac.InSub b Q :=
  C07.batchNormalize_inSub v hv

/-- the translated `batch_normalization` of `ec/mod.rs` -/
theorem batchNormalization_inSub (v : List (Jac F)) (hv : ∀ P ∈ v, Jac.InSub b P) :
    ∃ out, R.Jac.batchNormalization v = some out ∧ out.length = v.length ∧ ∀ Q ∈ out, Jac.InSub b Q := by
  rw [GenRest.Jac_batchNormalization]; exact C07.batchNormalize_inSub v hv

theorem toAffine_inSub {P : Jac F} (h : Jac.InSub b P) :
    ∃ A, P.toAffine = some A ∧ Aff.InSub b A ∧ Aff.abs b A = Jac.abs b P ∧ Aff.inSubgroup b A = true :=
  C07.toAffine_inSub h

theorem toJac_inSub {A : Aff F} (h : Aff.InSub b A) : Jac.InSub b A.toJac := C07.toJac_inSub h

end generic

/-! ## Part 5: decoded and deserialized points, any codec -/

section decode
variable {F : Type} [Field F] [DecidableEq F] [FieldOps F] [LawfulFieldOps F] [SqrtOps F]
variable {cc : Codec F}

omit [LawfulFieldOps F] in
/-- `$compressed::into_affine` returns a point only after `in_subgroup` answered `true` -/
theorem decodeCompressed_inSubgroup {bs : Bytes} {A : Aff F} (h : decodeCompressed cc bs = .ok A) :
    Aff.inSubgroup cc.b A = true := by
  unfold decodeCompressed at h
  cases hu : decodeCompressedUnchecked cc bs with
  | error e => rw [hu] at h; cases h
  | ok a =>
    rw [hu] at h
    cases hs : a.inSubgroup cc.b with
    | false => simp [hs] at h
    | true => simp [hs] at h; cases h; exact hs

omit [LawfulFieldOps F] [SqrtOps F] in
/-- `$uncompressed::into_affine` returns a point only after `is_on_curve` and `in_subgroup` answered
    `true` -/
theorem decodeUncompressed_inSubgroup {bs : Bytes} {A : Aff F} (h : decodeUncompressed cc bs = .ok A) :
    Aff.inSubgroup cc.b A = true := by
  unfold decodeUncompressed at h
  cases hu : decodeUncompressedUnchecked cc bs with
  | error e => rw [hu] at h; cases h
  | ok a =>
    rw [hu] at h
    cases ho : a.isOnCurve cc.b with
    | false => simp [ho] at h
    | true =>
      cases hs : a.inSubgroup cc.b with
      | false => simp [ho, hs] at h
      | true => simp [ho, hs] at h; cases h; exact hs

omit [LawfulFieldOps F] in
/-- `SerDes::deserialize` of the affine types returns only what a checked decoder returned -/
theorem deserAffine_inSubgroup {rd rest : Bytes} {c : Bool} {A : Aff F}
    (h : deserAffine cc rd c = .ok (A, rest)) : Aff.inSubgroup cc.b A = true := by
  unfold deserAffine at h
  split at h
  · cases h
  · split at h
    · cases h
    · split at h
      · split at h
        · cases h
        · rename_i a hd
          cases h
          exact decodeCompressed_inSubgroup hd
      · split at h
        · cases h
        · split at h
          · cases h
          · rename_i a hd
            cases h
            exact decodeUncompressed_inSubgroup hd

variable [ShortW cc.b]

/-- **a successfully decoded compressed point** is on the curve and killed by `r` (any input bytes) -/
theorem decodeCompressed_inSub {bs : Bytes} {A : Aff F} (h : decodeCompressed cc bs = .ok A) :
    Aff.InSub cc.b A :=
  C07.inSub_of_inSubgroup (decodeCompressed_inSubgroup h)

omit [SqrtOps F] in
/-- **a successfully decoded uncompressed point** is on the curve and killed by `r` -/
theorem decodeUncompressed_inSub {bs : Bytes} {A : Aff F} (h : decodeUncompressed cc bs = .ok A) :
    Aff.InSub cc.b A :=
  C07.inSub_of_inSubgroup (decodeUncompressed_inSubgroup h)

/-- **a successfully deserialized affine point** (either flag, any trailing data) -/
theorem deserAffine_inSub {rd rest : Bytes} {c : Bool} {A : Aff F}
    (h : deserAffine cc rd c = .ok (A, rest)) : Aff.InSub cc.b A :=
  C07.inSub_of_inSubgroup (deserAffine_inSubgroup h)

/-- **a successfully deserialized projective point** -/
theorem deserJac_inSub {rd rest : Bytes} {c : Bool} {P : Jac F}
    (h : deserJac cc rd c = .ok (P, rest)) : Jac.InSub cc.b P := by
  unfold deserJac at h
  cases hd : deserAffine cc rd c with
  | error e => rw [hd] at h; cases h
  | ok ar =>
    obtain ⟨A, rest'⟩ := ar
    rw [hd] at h
    cases h
    exact (deserAffine_inSub hd).toJac

set_option linter.unusedSectionVars false in
/-- the UNCHECKED compressed decoder (`into_affine_unchecked`, not part of the invariant): what it returns
    is a curve point, with no statement about the subgroup -/
theorem decodeCompressedUnchecked_onCurve [LawfulSqrtOps F] {bs : Bytes} {A : Aff F}
    (h : decodeCompressedUnchecked cc bs = .ok A) : Aff.OnCurve cc.b A :=
  (C01.isOnCurve_iff A).mp (PP.decodeCompressedUnchecked_onCurve bs A h)

end decode

local notation "b₁" => g1Codec.b
local notation "b₂" => g2Codec.b
local notation "cofG1" =>
  (fun p : Aff Fq => PP.Aff.mulBits p (bitsMSB (limbsOf Gen.G1_COFACTOR_LIMBS Gen.G1_COFACTOR)))
local notation "cofG2" =>
  (fun p : Aff Fq2 => PP.Aff.mulBits p (bitsMSB (limbsOf Gen.G2_COFACTOR_LIMBS Gen.G2_COFACTOR)))

/-- **`G1::random`** (the translated Rust loop `R.Jac.random` at the associated items of G1, any bound on
    the attempts, any RNG `fqRandom`, `nextU32`): a returned point satisfies `y² = x³ + 4` (projectively),
    is killed by `r`, is not the identity, and has order exactly `r` -/
theorem g1_random_inSub {Rng : Type} (fuel : ℕ) (fqRandom : Rng → Rng × Fq) (nextU32 : Rng → Rng × Nat)
    (rng rng' : Rng) (P : Jac Fq)
    (h : R.Jac.random fuel fqRandom nextU32 E.G1Affine.getCoeffB R.G1Affine.scaleByCofactor rng
          = some (rng', P)) :
    Jac.InSub b₁ P ∧ P.isZero = false ∧ Jac.abs b₁ P ≠ 0 ∧ addOrderOf (Jac.abs b₁ P) = Gen.r := by
  rw [GenRest.G1_random] at h
  obtain ⟨hs, hz, hne⟩ := randomSpec_inSub fqRandom nextU32 cofG1
    (fun x g p hp => (CurveOrder.g1_random_candidate_inSub' hp).2) h
  exact ⟨hs, hz, hne, addOrderOf_of_inSub hs hne⟩

/-- **`G2::random`** (`$basefield::random` is the translated `Fq2::random`) -/
theorem g2_random_inSub {Rng : Type} (fuel : ℕ) (fqRandom : Rng → Rng × Fq) (nextU32 : Rng → Rng × Nat)
    (rng rng' : Rng) (P : Jac Fq2)
    (h : R.Jac.random fuel (R.Fq2.random fqRandom) nextU32 E.G2Affine.getCoeffB R.G2Affine.scaleByCofactor rng
          = some (rng', P)) :
    Jac.InSub b₂ P ∧ P.isZero = false ∧ Jac.abs b₂ P ≠ 0 ∧ addOrderOf (Jac.abs b₂ P) = Gen.r := by
  rw [GenRest.G2_random] at h
  obtain ⟨hs, hz, hne⟩ := randomSpec_inSub (R.Fq2.random fqRandom) nextU32 cofG2
    (fun x g p hp => (CurveOrder.g2_random_candidate_inSub' hp).2) h
  exact ⟨hs, hz, hne, addOrderOf_of_inSub hs hne⟩

/-- `G1::random` retries on the identity: an attempt whose candidate is killed by the cofactor does not
    return (the loop continues with the next RNG state) -/
theorem g1_random_retry_identity {Rng : Type} (fuel : ℕ) (fqRandom : Rng → Rng × Fq)
    (nextU32 : Rng → Rng × Nat) (rng : Rng) {p : Aff Fq}
    (h : Aff.getPointFromX b₁ (fqRandom rng).2 ((nextU32 (fqRandom rng).1).2 % 2 != 0) = some p)
    (hz : (cofG1 p).isZero = true) :
    R.Jac.random (fuel + 1) fqRandom nextU32 E.G1Affine.getCoeffB R.G1Affine.scaleByCofactor rng
      = R.Jac.random fuel fqRandom nextU32 E.G1Affine.getCoeffB R.G1Affine.scaleByCofactor
          (nextU32 (fqRandom rng).1).1 := by
  rw [GenRest.G1_random, GenRest.G1_random]
  exact randomSpec_retry_identity fqRandom nextU32 cofG1 fuel rng h hz

theorem g2_random_retry_identity {Rng : Type} (fuel : ℕ) (fqRandom : Rng → Rng × Fq)
    (nextU32 : Rng → Rng × Nat) (rng : Rng) {p : Aff Fq2}
    (h : Aff.getPointFromX b₂ (R.Fq2.random fqRandom rng).2
          ((nextU32 (R.Fq2.random fqRandom rng).1).2 % 2 != 0) = some p)
    (hz : (cofG2 p).isZero = true) :
    R.Jac.random (fuel + 1) (R.Fq2.random fqRandom) nextU32 E.G2Affine.getCoeffB R.G2Affine.scaleByCofactor rng
      = R.Jac.random fuel (R.Fq2.random fqRandom) nextU32 E.G2Affine.getCoeffB R.G2Affine.scaleByCofactor
          (nextU32 (R.Fq2.random fqRandom rng).1).1 := by
  rw [GenRest.G2_random, GenRest.G2_random]
  exact randomSpec_retry_identity (R.Fq2.random fqRandom) nextU32 cofG2 fuel rng h hz

/-! ## G1: Parts 2 – 5 instantiated at `g1Codec.b = 4` over `Fq` -/

section g1

theorem g1_mulBits_inSub {A : Aff Fq} (h : Aff.InSub b₁ A) (bits : List Bool) :
    Jac.InSub b₁ (A.mulBits bits) := mulBits_inSub h bits

theorem g1_affMul_inSub {A : Aff Fq} (h : Aff.InSub b₁ A) (k : ℕ) : Jac.InSub b₁ (A.mul k) :=
  affMul_inSub h k

theorem g1_mulAssign_inSub {P : Jac Fq} (h : Jac.InSub b₁ P) (k : ℕ) : Jac.InSub b₁ (P.mulAssign k) :=
  mulAssign_inSub h k

theorem g1_precomp3_mul_inSub {A : Aff Fq} (hA : Aff.InSub b₁ A) (k : ℕ) (hk : k < 2 ^ 256) :
    ∃ pre, A.precomp3 = some pre ∧ ∃ R, A.mulPrecomp3 k pre = some R ∧ Jac.InSub b₁ R :=
  precomp3_mul_inSub hA k hk

theorem g1_precomp256_mul_inSub {A : Aff Fq} (hA : Aff.InSub b₁ A) (k : ℕ) (hk : k < 2 ^ 256) :
    ∃ pre, A.precomp256 = some pre ∧ ∃ R, A.mulPrecomp256 k pre.toArray = some R ∧ Jac.InSub b₁ R :=
  precomp256_mul_inSub hA k hk

theorem g1_wnaf_mul_inSub {P : Jac Fq} (hP : Jac.InSub b₁ P) (k w : ℕ) (hw2 : 2 ≤ w) (hw : w ≤ 22)
    (hk : k < 2 ^ 255) :
    ∃ R, (do let f ← wnafForm [] k w; wnafExp (wnafTable [] P w) f) = some R ∧ Jac.InSub b₁ R :=
  wnaf_mul_inSub hP k w hw2 hw hk

/-- `Wnaf::new().base(P, n).scalar(k)` with the window tables of G1 (`g1Rec`), on any used context -/
theorem g1_wnaf_base_then_scalar_inSub (ctx : WnafCtx Fq) {P : Jac Fq} (hP : Jac.InSub b₁ P) (n k : ℕ)
    (hk : k < 2 ^ 255) :
    ∃ R ctx', WnafCtx.baseThenScalar g1Rec ctx P n k = some (R, ctx') ∧ Jac.InSub b₁ R :=
  wnaf_base_then_scalar_inSub g1Rec (Or.inl rfl) ctx hP n k hk

/-- `Wnaf::new().scalar(k).base(P)` with the window tables of G1, on any used context -/
theorem g1_wnaf_scalar_then_base_inSub (ctx : WnafCtx Fq) {P : Jac Fq} (hP : Jac.InSub b₁ P) (k : ℕ)
    (hk : k < 2 ^ 255) :
    ∃ R ctx', WnafCtx.scalarThenBase g1Rec ctx k P = some (R, ctx') ∧ Jac.InSub b₁ R :=
  wnaf_scalar_then_base_inSub g1Rec (Or.inl rfl) ctx hP k hk

theorem g1_sum_of_products_inSub (points : List (Aff Fq)) (ks : List ℕ) (hk : ∀ k ∈ ks, k < 2 ^ 255)
    (hP : ∀ P ∈ points, Aff.InSub b₁ P) : ∃ R, sumOfProducts points ks = some R ∧ Jac.InSub b₁ R :=
  C10Inst.g1_sum_of_products_inSub points ks hk hP

theorem g1_pippinger_inSub (points : List (Aff Fq)) (ks : List ℕ) (w : ℕ) (hw1 : 1 ≤ w) (hw : w ≤ 20)
    (hk : ∀ k ∈ ks, k < 2 ^ 255) (hP : ∀ P ∈ points, Aff.InSub b₁ P) :
    ∃ R, sumOfProductsPippinger points ks w = some R ∧ Jac.InSub b₁ R :=
  pippinger_inSub points ks w hw1 hw hk hP

theorem g1_sum_of_products_precomp256_inSub (points : List (Aff Fq)) (ks : List ℕ)
    (hk : ∀ k ∈ ks, k < 2 ^ 256) (hP : ∀ P ∈ points, Aff.InSub b₁ P) :
    ∃ tables, points.mapM Aff.precomp256 = some tables ∧
      ∃ R, sumOfProductsPrecomp256 points ks tables.flatten.toArray = some R ∧ Jac.InSub b₁ R :=
  sum_of_products_precomp256_inSub points ks hk hP

theorem g1_batchNormalize_inSub (v : List (Jac Fq)) (hv : ∀ P ∈ v, Jac.InSub b₁ P) :
    ∃ out, Jac.batchNormalize v = some out ∧ out.length = v.length ∧ ∀ Q ∈ out, Jac.InSub b₁ Q :=
  batchNormalize_inSub v hv

/-- `G1Compressed::into_affine`: any input bytes; if a point is returned it is in G1 -/
theorem g1_decodeCompressed_inSub {bs : Bytes} {A : Aff Fq} (h : decodeCompressed g1Codec bs = .ok A) :
    Aff.InSub b₁ A := decodeCompressed_inSub h

/-- `G1Uncompressed::into_affine` -/
theorem g1_decodeUncompressed_inSub {bs : Bytes} {A : Aff Fq} (h : decodeUncompressed g1Codec bs = .ok A) :
    Aff.InSub b₁ A := decodeUncompressed_inSub h

/-- `G1Affine::deserialize`, either compression flag, any reader contents -/
theorem g1_deserAffine_inSub {rd rest : Bytes} {c : Bool} {A : Aff Fq}
    (h : deserAffine g1Codec rd c = .ok (A, rest)) : Aff.InSub b₁ A := deserAffine_inSub h

/-- `G1::deserialize` -/
theorem g1_deserJac_inSub {rd rest : Bytes} {c : Bool} {P : Jac Fq}
    (h : deserJac g1Codec rd c = .ok (P, rest)) : Jac.InSub b₁ P := deserJac_inSub h

end g1

/-! ## G2: Parts 2 – 5 instantiated at `g2Codec.b = 4(1+u)` over `Fq2` -/

section g2

theorem g2_mulBits_inSub {A : Aff Fq2} (h : Aff.InSub b₂ A) (bits : List Bool) :
    Jac.InSub b₂ (A.mulBits bits) := mulBits_inSub h bits

theorem g2_affMul_inSub {A : Aff Fq2} (h : Aff.InSub b₂ A) (k : ℕ) : Jac.InSub b₂ (A.mul k) :=
  affMul_inSub h k

theorem g2_mulAssign_inSub {P : Jac Fq2} (h : Jac.InSub b₂ P) (k : ℕ) : Jac.InSub b₂ (P.mulAssign k) :=
  mulAssign_inSub h k

theorem g2_precomp3_mul_inSub {A : Aff Fq2} (hA : Aff.InSub b₂ A) (k : ℕ) (hk : k < 2 ^ 256) :
    ∃ pre, A.precomp3 = some pre ∧ ∃ R, A.mulPrecomp3 k pre = some R ∧ Jac.InSub b₂ R :=
  precomp3_mul_inSub hA k hk

theorem g2_precomp256_mul_inSub {A : Aff Fq2} (hA : Aff.InSub b₂ A) (k : ℕ) (hk : k < 2 ^ 256) :
    ∃ pre, A.precomp256 = some pre ∧ ∃ R, A.mulPrecomp256 k pre.toArray = some R ∧ Jac.InSub b₂ R :=
  precomp256_mul_inSub hA k hk

theorem g2_wnaf_mul_inSub {P : Jac Fq2} (hP : Jac.InSub b₂ P) (k w : ℕ) (hw2 : 2 ≤ w) (hw : w ≤ 22)
    (hk : k < 2 ^ 255) :
    ∃ R, (do let f ← wnafForm [] k w; wnafExp (wnafTable [] P w) f) = some R ∧ Jac.InSub b₂ R :=
  wnaf_mul_inSub hP k w hw2 hw hk

/-- `Wnaf::new().base(P, n).scalar(k)` with the window tables of G2 (`g2Rec`), on any used context -/
theorem g2_wnaf_base_then_scalar_inSub (ctx : WnafCtx Fq2) {P : Jac Fq2} (hP : Jac.InSub b₂ P) (n k : ℕ)
    (hk : k < 2 ^ 255) :
    ∃ R ctx', WnafCtx.baseThenScalar g2Rec ctx P n k = some (R, ctx') ∧ Jac.InSub b₂ R :=
  wnaf_base_then_scalar_inSub g2Rec (Or.inr rfl) ctx hP n k hk

/-- `Wnaf::new().scalar(k).base(P)` with the window tables of G2, on any used context -/
theorem g2_wnaf_scalar_then_base_inSub (ctx : WnafCtx Fq2) {P : Jac Fq2} (hP : Jac.InSub b₂ P) (k : ℕ)
    (hk : k < 2 ^ 255) :
    ∃ R ctx', WnafCtx.scalarThenBase g2Rec ctx k P = some (R, ctx') ∧ Jac.InSub b₂ R :=
  wnaf_scalar_then_base_inSub g2Rec (Or.inr rfl) ctx hP k hk

theorem g2_sum_of_products_inSub (points : List (Aff Fq2)) (ks : List ℕ) (hk : ∀ k ∈ ks, k < 2 ^ 255)
    (hP : ∀ P ∈ points, Aff.InSub b₂ P) : ∃ R, sumOfProducts points ks = some R ∧ Jac.InSub b₂ R :=
  C10Inst.g2_sum_of_products_inSub points ks hk hP

theorem g2_pippinger_inSub (points : List (Aff Fq2)) (ks : List ℕ) (w : ℕ) (hw1 : 1 ≤ w) (hw : w ≤ 20)
    (hk : ∀ k ∈ ks, k < 2 ^ 255) (hP : ∀ P ∈ points, Aff.InSub b₂ P) :
    ∃ R, sumOfProductsPippinger points ks w = some R ∧ Jac.InSub b₂ R :=
  pippinger_inSub points ks w hw1 hw hk hP

theorem g2_sum_of_products_precomp256_inSub (points : List (Aff Fq2)) (ks : List ℕ)
    (hk : ∀ k ∈ ks, k < 2 ^ 256) (hP : ∀ P ∈ points, Aff.InSub b₂ P) :
    ∃ tables, points.mapM Aff.precomp256 = some tables ∧
      ∃ R, sumOfProductsPrecomp256 points ks tables.flatten.toArray = some R ∧ Jac.InSub b₂ R :=
  sum_of_products_precomp256_inSub points ks hk hP

theorem g2_batchNormalize_inSub (v : List (Jac Fq2)) (hv : ∀ P ∈ v, Jac.InSub b₂ P) :
    ∃ out, Jac.batchNormalize v = some out ∧ out.length = v.length ∧ ∀ Q ∈ out, Jac.InSub b₂ Q :=
  batchNormalize_inSub v hv

/-- `G2Compressed::into_affine`: any input bytes; if a point is returned it is in G2 -/
theorem g2_decodeCompressed_inSub {bs : Bytes} {A : Aff Fq2} (h : decodeCompressed g2Codec bs = .ok A) :
    Aff.InSub b₂ A := decodeCompressed_inSub h

/-- `G2Uncompressed::into_affine` -/
theorem g2_decodeUncompressed_inSub {bs : Bytes} {A : Aff Fq2} (h : decodeUncompressed g2Codec bs = .ok A) :
    Aff.InSub b₂ A := decodeUncompressed_inSub h

/-- `G2Affine::deserialize`, either compression flag, any reader contents -/
theorem g2_deserAffine_inSub {rd rest : Bytes} {c : Bool} {A : Aff Fq2}
    (h : deserAffine g2Codec rd c = .ok (A, rest)) : Aff.InSub b₂ A := deserAffine_inSub h

/-- `G2::deserialize` -/
theorem g2_deserJac_inSub {rd rest : Bytes} {c : Bool} {P : Jac Fq2}
    (h : deserJac g2Codec rd c = .ok (P, rest)) : Jac.InSub b₂ P := deserJac_inSub h

end g2

/-! ## Part 6: hash / map outputs and generators -/

section outputs
variable (expand : Bytes → Bytes → Nat → Option Bytes) (msg dst : Bytes)

theorem hashToCurveG1_inSub {P : Jac Fq} (h : hashToCurveG1 expand msg dst = some P) : Jac.InSub b₁ P :=
  CurveOrder.hashToCurveG1_inSub' expand msg dst h

theorem encodeToCurveG1_inSub {P : Jac Fq} (h : encodeToCurveG1 expand msg dst = some P) : Jac.InSub b₁ P :=
  CurveOrder.encodeToCurveG1_inSub' expand msg dst h

theorem hashToCurveG2_inSub {P : Jac Fq2} (h : hashToCurveG2 expand msg dst = some P) : Jac.InSub b₂ P :=
  CurveOrder.hashToCurveG2_inSub' expand msg dst h

theorem encodeToCurveG2_inSub {P : Jac Fq2} (h : encodeToCurveG2 expand msg dst = some P) : Jac.InSub b₂ P :=
  CurveOrder.encodeToCurveG2_inSub' expand msg dst h

theorem mapToCurveG1_inSub (u : Fq) : Jac.InSub b₁ (mapToCurveG1 u) := CurveOrder.g1_map_inSub' u

theorem map2ToCurveG1_inSub (u0 u1 : Fq) : Jac.InSub b₁ (map2ToCurveG1 u0 u1) :=
  CurveOrder.g1_map2_inSub' u0 u1

theorem mapToCurveG2_inSub (u : Fq2) : ∃ R, mapToCurveG2 u = some R ∧ Jac.InSub b₂ R :=
  CurveOrder.g2_map_inSub' u

theorem map2ToCurveG2_inSub (u0 u1 : Fq2) : ∃ R, map2ToCurveG2 u0 u1 = some R ∧ Jac.InSub b₂ R :=
  CurveOrder.g2_map2_inSub' u0 u1

theorem clearHG1_inSub (P : Jac Fq) (hP : Jac.OnCurve b₁ P) : Jac.InSub b₁ (clearHG1 P) :=
  CurveOrder.g1_clearH_inSub' P hP

theorem clearHG2_inSub (P : Jac Fq2) (hP : Jac.OnCurve b₂ P) : Jac.InSub b₂ (clearHG2 P) :=
  CurveOrder.g2_clearH_inSub' P hP

theorem g1Generator_inSub : Aff.InSub b₁ C07.g1Generator := C07.g1Generator_inSub

theorem g2Generator_inSub : Aff.InSub b₂ C07.g2Generator := C07.g2Generator_inSub

/-- the translated `G1Affine::get_generator()` / `G1::one()` -/
theorem G1Affine_getGenerator_inSub : Aff.InSub b₁ R.G1Affine.getGenerator := by
  rw [GenRest.G1Affine_getGenerator]; exact C07.g1Generator_inSub

theorem G2Affine_getGenerator_inSub : Aff.InSub b₂ R.G2Affine.getGenerator := by
  rw [GenRest.G2Affine_getGenerator]; exact C07.g2Generator_inSub

theorem G1_one_inSub : Jac.InSub b₁ (R.Jac.one R.G1Affine.getGenerator) := by
  rw [GenRest.Jac_one]; exact G1Affine_getGenerator_inSub.toJac

theorem G2_one_inSub : Jac.InSub b₂ (R.Jac.one R.G2Affine.getGenerator) := by
  rw [GenRest.Jac_one]; exact G2Affine_getGenerator_inSub.toJac

end outputs

/-- the deserialization theorem applies to a real, non-identity point: the serialized G1 generator is
    read back, and the theorem says that what was read is in the subgroup -/
example : ∃ A rest, deserAffine g1Codec (serAffine g1Codec C07.g1Generator true ++ [7]) true = .ok (A, rest) ∧
    A.infinity = false ∧ Aff.InSub b₁ A :=
  have h := C19Inst.deserAffine_serAffine_g1 C07.g1Generator true [7] (fun hi => by cases hi)
    C07.g1Generator_inSubgroup
  ⟨_, _, h, rfl, g1_deserAffine_inSub h⟩

/-- the sampling loop does return points: with the constant stream `x = 5`, sign bit `0`, the first
    attempt of `randomSpec` at the G1 parameters succeeds (kernel evaluation of the square root and of the
    cofactor multiplication), and `randomSpec_inSub` applies to it -/
example : ∃ P, randomSpec (fun n : ℕ => (n + 1, (5 : Fq))) (fun n => (n, 0)) b₁ cofG1 1 0 = some (1, P) ∧
    Jac.InSub b₁ P ∧ Jac.abs b₁ P ≠ 0 := by
  have hs : (randomSpec (fun n : ℕ => (n + 1, (5 : Fq))) (fun n => (n, 0)) b₁ cofG1 1 0).map Prod.fst
      = some 1 := by
    decide +kernel
  obtain ⟨⟨n, P⟩, hP, hn⟩ := Option.map_eq_some_iff.mp hs
  have hn : n = 1 := hn
  subst hn
  obtain ⟨h1, -, h3⟩ := randomSpec_inSub _ _ cofG1
    (fun x g p hp => (CurveOrder.g1_random_candidate_inSub' hp).2) hP
  exact ⟨P, hP, h1, h3⟩

end PP.C07Closure
