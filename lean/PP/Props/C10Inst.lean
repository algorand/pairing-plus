/-
C10, INSTANTIATED.  The theorems of `PP/Props/C10.lean` with the `GroupModel` interface discharged by
the C01 instance (`curveModel b`, `g1Model`, `g2Model`): "valid" is `Aff.OnCurve b` / `Jac.OnCurve b`,
the expected result `Σ [k_i]P_i` is `((zip points ks).map fun pk => pk.2 • Aff.abs b pk.1).sum` in
Mathlib's group `(W b).Point`.  Stated three times (any curve, G1, G2); every proof is the
corresponding C10 theorem at the concrete model.  The special inputs of C10 (`empty_points`,
`repeated_point`, `inverse_points`, `identity_point`, `zero_scalar`) are instances of
`…sum_of_products`; the pure-`Nat` facts (`window_range`, `digit_spec`, …) do not mention the model.
-/
import PP.Props.C10
import PP.Props.C07
import PP.Proofs.GroupModelInst

namespace PP.C10Inst

open PP

/-! ## any curve `y² = x³ + b` over any field with lawful model operations -/

section generic
variable {F : Type} [Field F] [DecidableEq F] [FieldOps F] [LawfulFieldOps F] (b : F) [ShortW b]

/-- the bucket method, any window `1..=20`, lists of any (also different) lengths -/
theorem curve_pippinger (points : List (Aff F)) (ks : List ℕ) (w : ℕ) (hw1 : 1 ≤ w) (hw : w ≤ 20)
    (hk : ∀ k ∈ ks, k < 2 ^ 255) (hP : ∀ P ∈ points, Aff.OnCurve b P) :
    ∃ R, sumOfProductsPippinger points ks w = some R ∧ Jac.OnCurve b R ∧
      Jac.abs b R = ((List.zip points ks).map (fun pk => pk.2 • Aff.abs b pk.1)).sum :=
  C10.pippinger (curveModel b) points ks w hw1 hw hk hP

/-- the default entry point (window chosen by the size heuristic) -/
theorem curve_sum_of_products (points : List (Aff F)) (ks : List ℕ)
    (hk : ∀ k ∈ ks, k < 2 ^ 255) (hP : ∀ P ∈ points, Aff.OnCurve b P) :
    ∃ R, sumOfProducts points ks = some R ∧ Jac.OnCurve b R ∧
      Jac.abs b R = ((List.zip points ks).map (fun pk => pk.2 • Aff.abs b pk.1)).sum :=
  C10.sum_of_products (curveModel b) points ks hk hP

/-- the table-driven variant with the tables of `precomp_256`; every `k < 2^256` -/
theorem curve_sum_of_products_precomp256 (points : List (Aff F)) (ks : List ℕ)
    (hk : ∀ k ∈ ks, k < 2 ^ 256) (hP : ∀ P ∈ points, Aff.OnCurve b P) :
    ∃ tables, points.mapM Aff.precomp256 = some tables ∧
      ∃ R, sumOfProductsPrecomp256 points ks tables.flatten.toArray = some R ∧ Jac.OnCurve b R ∧
        Jac.abs b R = ((List.zip points ks).map (fun pk => pk.2 • Aff.abs b pk.1)).sum :=
  C10.sum_of_products_precomp256 (curveModel b) points ks hk hP

/-- all three agree -/
theorem curve_all_agree (points : List (Aff F)) (ks : List ℕ) (w : ℕ) (hw1 : 1 ≤ w) (hw : w ≤ 20)
    (hk : ∀ k ∈ ks, k < 2 ^ 255) (hP : ∀ P ∈ points, Aff.OnCurve b P) :
    ∃ R1 R2 R3 tables,
      sumOfProducts points ks = some R1 ∧ sumOfProductsPippinger points ks w = some R2 ∧
      points.mapM Aff.precomp256 = some tables ∧
      sumOfProductsPrecomp256 points ks tables.flatten.toArray = some R3 ∧
      Jac.abs b R1 = ((List.zip points ks).map (fun pk => pk.2 • Aff.abs b pk.1)).sum ∧
      Jac.abs b R2 = ((List.zip points ks).map (fun pk => pk.2 • Aff.abs b pk.1)).sum ∧
      Jac.abs b R3 = ((List.zip points ks).map (fun pk => pk.2 • Aff.abs b pk.1)).sum :=
  C10.all_agree (curveModel b) points ks w hw1 hw hk hP

/-- exactly the scalars with bit 255 set make the bucket method panic -/
theorem curve_pippinger_panics_iff (points : List (Aff F)) (ks : List ℕ) (w : ℕ) (hw1 : 1 ≤ w)
    (hw : w ≤ 20) (hk : ∀ k ∈ ks, k < 2 ^ 256) (hP : ∀ P ∈ points, Aff.OnCurve b P) :
    sumOfProductsPippinger points ks w = none ↔ ∃ pk ∈ List.zip points ks, 2 ^ 255 ≤ pk.2 :=
  C10.pippinger_panics_iff (curveModel b) points ks w hw1 hw hk hP

theorem curve_sum_of_products_panics_iff (points : List (Aff F)) (ks : List ℕ)
    (hk : ∀ k ∈ ks, k < 2 ^ 256) (hP : ∀ P ∈ points, Aff.OnCurve b P) :
    sumOfProducts points ks = none ↔ ∃ pk ∈ List.zip points ks, 2 ^ 255 ≤ pk.2 :=
  C10.sum_of_products_panics_iff (curveModel b) points ks hk hP

/-- the result of an MSM over subgroup points lies in the subgroup (with C07) -/
theorem curve_sum_of_products_inSub (points : List (Aff F)) (ks : List ℕ)
    (hk : ∀ k ∈ ks, k < 2 ^ 255) (hP : ∀ P ∈ points, Aff.InSub b P) :
    ∃ R, sumOfProducts points ks = some R ∧ Jac.InSub b R := by
  obtain ⟨R, hR, hon, habs⟩ := curve_sum_of_products b points ks hk (fun P hPm => (hP P hPm).1)
  exact ⟨R, hR, C07.msm_result_inSub hP hon habs⟩

end generic

/-! ## G1: `E(Fq)`, `y² = x³ + 4` (`g1Codec.b = 4`, `PP.g1Codec_b`) -/

theorem g1_pippinger (points : List (Aff Fq)) (ks : List ℕ) (w : ℕ) (hw1 : 1 ≤ w) (hw : w ≤ 20)
    (hk : ∀ k ∈ ks, k < 2 ^ 255) (hP : ∀ P ∈ points, Aff.OnCurve g1Codec.b P) :
    ∃ R, sumOfProductsPippinger points ks w = some R ∧ Jac.OnCurve g1Codec.b R ∧
      Jac.abs g1Codec.b R = ((List.zip points ks).map (fun pk => pk.2 • Aff.abs g1Codec.b pk.1)).sum :=
  C10.pippinger g1Model points ks w hw1 hw hk hP

theorem g1_sum_of_products (points : List (Aff Fq)) (ks : List ℕ)
    (hk : ∀ k ∈ ks, k < 2 ^ 255) (hP : ∀ P ∈ points, Aff.OnCurve g1Codec.b P) :
    ∃ R, sumOfProducts points ks = some R ∧ Jac.OnCurve g1Codec.b R ∧
      Jac.abs g1Codec.b R = ((List.zip points ks).map (fun pk => pk.2 • Aff.abs g1Codec.b pk.1)).sum :=
  C10.sum_of_products g1Model points ks hk hP

theorem g1_sum_of_products_precomp256 (points : List (Aff Fq)) (ks : List ℕ)
    (hk : ∀ k ∈ ks, k < 2 ^ 256) (hP : ∀ P ∈ points, Aff.OnCurve g1Codec.b P) :
    ∃ tables, points.mapM Aff.precomp256 = some tables ∧
      ∃ R, sumOfProductsPrecomp256 points ks tables.flatten.toArray = some R ∧ Jac.OnCurve g1Codec.b R ∧
        Jac.abs g1Codec.b R = ((List.zip points ks).map (fun pk => pk.2 • Aff.abs g1Codec.b pk.1)).sum :=
  C10.sum_of_products_precomp256 g1Model points ks hk hP

theorem g1_all_agree (points : List (Aff Fq)) (ks : List ℕ) (w : ℕ) (hw1 : 1 ≤ w) (hw : w ≤ 20)
    (hk : ∀ k ∈ ks, k < 2 ^ 255) (hP : ∀ P ∈ points, Aff.OnCurve g1Codec.b P) :
    ∃ R1 R2 R3 tables,
      sumOfProducts points ks = some R1 ∧ sumOfProductsPippinger points ks w = some R2 ∧
      points.mapM Aff.precomp256 = some tables ∧
      sumOfProductsPrecomp256 points ks tables.flatten.toArray = some R3 ∧
      Jac.abs g1Codec.b R1 = ((List.zip points ks).map (fun pk => pk.2 • Aff.abs g1Codec.b pk.1)).sum ∧
      Jac.abs g1Codec.b R2 = ((List.zip points ks).map (fun pk => pk.2 • Aff.abs g1Codec.b pk.1)).sum ∧
      Jac.abs g1Codec.b R3 = ((List.zip points ks).map (fun pk => pk.2 • Aff.abs g1Codec.b pk.1)).sum :=
  C10.all_agree g1Model points ks w hw1 hw hk hP

theorem g1_pippinger_panics_iff (points : List (Aff Fq)) (ks : List ℕ) (w : ℕ) (hw1 : 1 ≤ w)
    (hw : w ≤ 20) (hk : ∀ k ∈ ks, k < 2 ^ 256) (hP : ∀ P ∈ points, Aff.OnCurve g1Codec.b P) :
    sumOfProductsPippinger points ks w = none ↔ ∃ pk ∈ List.zip points ks, 2 ^ 255 ≤ pk.2 :=
  C10.pippinger_panics_iff g1Model points ks w hw1 hw hk hP

theorem g1_sum_of_products_panics_iff (points : List (Aff Fq)) (ks : List ℕ)
    (hk : ∀ k ∈ ks, k < 2 ^ 256) (hP : ∀ P ∈ points, Aff.OnCurve g1Codec.b P) :
    sumOfProducts points ks = none ↔ ∃ pk ∈ List.zip points ks, 2 ^ 255 ≤ pk.2 :=
  C10.sum_of_products_panics_iff g1Model points ks hk hP

theorem g1_sum_of_products_inSub (points : List (Aff Fq)) (ks : List ℕ)
    (hk : ∀ k ∈ ks, k < 2 ^ 255) (hP : ∀ P ∈ points, Aff.InSub g1Codec.b P) :
    ∃ R, sumOfProducts points ks = some R ∧ Jac.InSub g1Codec.b R :=
  curve_sum_of_products_inSub g1Codec.b points ks hk hP

/-! ## G2: `E'(Fq2)`, `y² = x³ + 4(1+u)` (`g2Codec.b`, `PP.g2Codec_b`) -/

theorem g2_pippinger (points : List (Aff Fq2)) (ks : List ℕ) (w : ℕ) (hw1 : 1 ≤ w) (hw : w ≤ 20)
    (hk : ∀ k ∈ ks, k < 2 ^ 255) (hP : ∀ P ∈ points, Aff.OnCurve g2Codec.b P) :
    ∃ R, sumOfProductsPippinger points ks w = some R ∧ Jac.OnCurve g2Codec.b R ∧
      Jac.abs g2Codec.b R = ((List.zip points ks).map (fun pk => pk.2 • Aff.abs g2Codec.b pk.1)).sum :=
  C10.pippinger g2Model points ks w hw1 hw hk hP

theorem g2_sum_of_products (points : List (Aff Fq2)) (ks : List ℕ)
    (hk : ∀ k ∈ ks, k < 2 ^ 255) (hP : ∀ P ∈ points, Aff.OnCurve g2Codec.b P) :
    ∃ R, sumOfProducts points ks = some R ∧ Jac.OnCurve g2Codec.b R ∧
      Jac.abs g2Codec.b R = ((List.zip points ks).map (fun pk => pk.2 • Aff.abs g2Codec.b pk.1)).sum :=
  C10.sum_of_products g2Model points ks hk hP

theorem g2_sum_of_products_precomp256 (points : List (Aff Fq2)) (ks : List ℕ)
    (hk : ∀ k ∈ ks, k < 2 ^ 256) (hP : ∀ P ∈ points, Aff.OnCurve g2Codec.b P) :
    ∃ tables, points.mapM Aff.precomp256 = some tables ∧
      ∃ R, sumOfProductsPrecomp256 points ks tables.flatten.toArray = some R ∧ Jac.OnCurve g2Codec.b R ∧
        Jac.abs g2Codec.b R = ((List.zip points ks).map (fun pk => pk.2 • Aff.abs g2Codec.b pk.1)).sum :=
  C10.sum_of_products_precomp256 g2Model points ks hk hP

theorem g2_all_agree (points : List (Aff Fq2)) (ks : List ℕ) (w : ℕ) (hw1 : 1 ≤ w) (hw : w ≤ 20)
    (hk : ∀ k ∈ ks, k < 2 ^ 255) (hP : ∀ P ∈ points, Aff.OnCurve g2Codec.b P) :
    ∃ R1 R2 R3 tables,
      sumOfProducts points ks = some R1 ∧ sumOfProductsPippinger points ks w = some R2 ∧
      points.mapM Aff.precomp256 = some tables ∧
      sumOfProductsPrecomp256 points ks tables.flatten.toArray = some R3 ∧
      Jac.abs g2Codec.b R1 = ((List.zip points ks).map (fun pk => pk.2 • Aff.abs g2Codec.b pk.1)).sum ∧
      Jac.abs g2Codec.b R2 = ((List.zip points ks).map (fun pk => pk.2 • Aff.abs g2Codec.b pk.1)).sum ∧
      Jac.abs g2Codec.b R3 = ((List.zip points ks).map (fun pk => pk.2 • Aff.abs g2Codec.b pk.1)).sum :=
  C10.all_agree g2Model points ks w hw1 hw hk hP

theorem g2_pippinger_panics_iff (points : List (Aff Fq2)) (ks : List ℕ) (w : ℕ) (hw1 : 1 ≤ w)
    (hw : w ≤ 20) (hk : ∀ k ∈ ks, k < 2 ^ 256) (hP : ∀ P ∈ points, Aff.OnCurve g2Codec.b P) :
    sumOfProductsPippinger points ks w = none ↔ ∃ pk ∈ List.zip points ks, 2 ^ 255 ≤ pk.2 :=
  C10.pippinger_panics_iff g2Model points ks w hw1 hw hk hP

theorem g2_sum_of_products_panics_iff (points : List (Aff Fq2)) (ks : List ℕ)
    (hk : ∀ k ∈ ks, k < 2 ^ 256) (hP : ∀ P ∈ points, Aff.OnCurve g2Codec.b P) :
    sumOfProducts points ks = none ↔ ∃ pk ∈ List.zip points ks, 2 ^ 255 ≤ pk.2 :=
  C10.sum_of_products_panics_iff g2Model points ks hk hP

theorem g2_sum_of_products_inSub (points : List (Aff Fq2)) (ks : List ℕ)
    (hk : ∀ k ∈ ks, k < 2 ^ 255) (hP : ∀ P ∈ points, Aff.InSub g2Codec.b P) :
    ∃ R, sumOfProducts points ks = some R ∧ Jac.InSub g2Codec.b R :=
  curve_sum_of_products_inSub g2Codec.b points ks hk hP

end PP.C10Inst
