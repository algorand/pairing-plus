/-
PROPERTY C14.  "For every field element u, mapping to the curve returns clear_cofactor(iso(sswu(u))),
and for every pair (u0,u1) the two-element map returns clear_cofactor(iso(sswu(u0)) + iso(sswu(u1)))
with + the group law, in G1 (inputs in Fq) and G2 (inputs in Fq2). This includes u0 = u1, u0 = -u1
(result: identity), distinct inputs whose SSWU images coincide, zero and the SSWU-exceptional inputs;
the result always lies in the order-r subgroup and the call never panics."

Model: `mapToCurveG1/G2`, `map2ToCurveG1/G2` of `PP/Model/Map.lean` (the code in /repo: the
isogeny is applied to each SSWU image and the two images are added on the TARGET curve, where the
`a = 0` Jacobian formulas of `add_assign` are the group law by C01).  The pre-fix code
(`map2ToCurveG1PreFix`, `map2ToCurveG2PreFix`: add on the isogenous curve with the target curve's
formulas, then apply the isogeny) is evaluated at the end of the file (`g1_defect`, `g2_defect`) and
refuted in `PP/Props/C14Extra.lean`.

Notation: `b₁ = g1Codec.b = 4`, `b₂ = g2Codec.b = 4(1+u)`; `Jac.abs b P` is the point of Mathlib's
group `(W b).Point` of `y² = x³ + b` denoted by the Jacobian triple `P` (C01); `•` is scalar
multiplication and `+` the group law there; `hEffG1 = 0xd201000000010001`, `hEffG2` the 636-bit RFC
constant (C17).

What is proved, for ALL inputs (no side condition on `u`, `u0`, `u1`):
* `g1_sswu_iso_onCurve`, `g1_sswu_iso_eq_rfc`: `iso11 (osswuG1 u)` is a point of `E₁`; the SSWU
  image is RFC 9380's `map_to_curve_simple_swu(u)` on `E₁'` and the point denoted by its isogeny
  image is the RFC's `iso_map` of it (`isoMapPoint`, rational map, identity on poles);
* `g1_map_eq`, `g1_map2_eq`: the two maps return `[h_eff]·iso(sswu u)` resp.
  `[h_eff]·(iso(sswu u0) + iso(sswu u1))`;  `g1_map2_self`, `g1_map2_same_image`, `g1_map2_neg`,
  `g1_map_zero`: the special cases named in the property;
* the G1 functions are total functions of the model (no `Option`): they never panic; for G2 the
  model returns `Option` (`none` = the `panic!` at the end of `OSSWUMap for G2`) and
  `g2_map_ne_none`, `g2_map2_ne_none` show that `none` is never returned;
* `g1_map_inSub`, `g1_map2_inSub`, `g2_…`: the subgroup clause, UNDER THE EXPLICIT HYPOTHESES of C17
  on the curve groups — `hexp : ∀ g, (hEffG1 * r) • g = 0` for `E₁(Fq)` and
  `hord : ∀ g, (h₂ * r) • g = 0` for `E₂(Fq2)` — which are hypotheses HERE and are PROVED in PP.Props.CurveOrder (hypothesis-free versions `g1_map_inSub'` ... are instantiated there);
* `g1_map2_prefix_offcurve`, `g1_map2_prefix_not_inSubgroup`, `g1_map2_prefix_wrong` and
  `g2_map2_prefix_not_inSubgroup`, `g2_map2_prefix_wrong`: the pre-fix code returned, for
  `u0 = u1 = 0`, a result that fails the library's subgroup test (for G1 it is not even on the
  curve); the fixed code passes that test on every input, and so returns something else
  (`…_not_inSubgroup`, `…_wrong` stand at the end of `PP/Props/C14Extra.lean`, where the subgroup
  clause is available without hypothesis).
-/
import PP.Proofs.Assembly
import PP.Proofs.Subgroup

namespace PP
namespace C14

open C17 (hEffG1 hEffG2)
open PP.Spec (IsSswu)
open Sswu (affX affY)

/-! ## G1 -/

section G1

local notation "b₁" => g1Codec.b

/-- the isogeny image of every SSWU output is a point of the target curve (C15 + C16) -/
theorem g1_sswu_iso_onCurve (u : Fq) : Jac.OnCurve b₁ (iso11 (osswuG1 u)) := isoSswuG1_onCurve u

/-- link with RFC 9380: the SSWU output is `map_to_curve_simple_swu(u)` on `E₁'` (§6.6.2, `Z = 11`),
    and the point denoted by `iso11` of it is the RFC's `iso_map` of these affine coordinates -/
theorem g1_sswu_iso_eq_rfc (u : Fq) :
    IsSswu Zp.sgn0 g1EllpA g1EllpB g1Xi u (affX (osswuG1 u)) (affY (osswuG1 u)) ∧
    Jac.abs b₁ (iso11 (osswuG1 u)) =
      isoMapPoint b₁ Iso.iso11XNum Iso.iso11XDen Iso.iso11YNum Iso.iso11YDen
        (affX (osswuG1 u)) (affY (osswuG1 u)) :=
  ⟨C15.osswuG1_eq_rfc Chains.chainPm3div4_eq u, abs_iso11_eq _ (sswuG1_onE' u).1 (sswuG1_onE' u).2⟩

/-- **C14, G1, one element**: `map_to_curve(u) = [h_eff] iso(sswu(u))`, for every `u` -/
theorem g1_map_eq (u : Fq) :
    Jac.OnCurve b₁ (mapToCurveG1 u) ∧
      Jac.abs b₁ (mapToCurveG1 u) = hEffG1 • Jac.abs b₁ (iso11 (osswuG1 u)) := by
  rw [mapToCurveG1_eq]
  exact g1_clearH _ (isoSswuG1_onCurve u)

/-- **C14, G1, two elements**: `map2_to_curve(u0, u1) = [h_eff] (iso(sswu(u0)) + iso(sswu(u1)))`
    with `+` the group law of `E₁(Fq)`, for EVERY pair `(u0, u1)` -/
theorem g1_map2_eq (u0 u1 : Fq) :
    Jac.OnCurve b₁ (map2ToCurveG1 u0 u1) ∧
      Jac.abs b₁ (map2ToCurveG1 u0 u1) =
        hEffG1 • (Jac.abs b₁ (iso11 (osswuG1 u0)) + Jac.abs b₁ (iso11 (osswuG1 u1))) := by
  have h0 := isoSswuG1_onCurve u0
  have h1 := isoSswuG1_onCurve u1
  have h := g1_clearH _ (C01.add_onCurve h0 h1)
  rw [map2ToCurveG1_eq]
  exact ⟨h.1, by rw [h.2, C01.add_correct h0 h1]⟩

/-- `u0 = u1`: the doubling case of `add_assign`, on the target curve -/
theorem g1_map2_self (u : Fq) :
    Jac.abs b₁ (map2ToCurveG1 u u) = hEffG1 • (2 • Jac.abs b₁ (iso11 (osswuG1 u))) := by
  rw [(g1_map2_eq u u).2, two_nsmul]

/-- distinct inputs whose (isogeny images of the) SSWU images coincide: same as `u0 = u1` -/
theorem g1_map2_same_image (u0 u1 : Fq)
    (h : Jac.abs b₁ (iso11 (osswuG1 u0)) = Jac.abs b₁ (iso11 (osswuG1 u1))) :
    Jac.abs b₁ (map2ToCurveG1 u0 u1) = hEffG1 • (2 • Jac.abs b₁ (iso11 (osswuG1 u0))) := by
  rw [(g1_map2_eq u0 u1).2, ← h, two_nsmul]

/-- `sswu(−u) = −sswu(u)` on `E₁'` for `u ≠ 0`, hence the same for the isogeny images on `E₁` -/
theorem g1_sswu_iso_neg (u : Fq) (hu : u ≠ 0) :
    Jac.abs b₁ (iso11 (osswuG1 (-u))) = -Jac.abs b₁ (iso11 (osswuG1 u)) := isoSswuG1_neg u hu

/-- `u0 = −u1`: the result is the identity (`u ≠ 0`; for `u = 0`, `−u = u` is the case `u0 = u1`) -/
theorem g1_map2_neg (u : Fq) (hu : u ≠ 0) :
    Jac.abs b₁ (map2ToCurveG1 u (-u)) = 0 ∧ (map2ToCurveG1 u (-u)).isZero = true := by
  have h0 : Jac.abs b₁ (map2ToCurveG1 u (-u)) = 0 := by
    rw [(g1_map2_eq u (-u)).2, g1_sswu_iso_neg u hu, add_neg_cancel, smul_zero]
  exact ⟨h0, (C01.isZero_iff (g1_map2_eq u (-u)).1).mpr h0⟩

theorem g1_map2_neg' (u : Fq) (hu : u ≠ 0) :
    Jac.abs b₁ (map2ToCurveG1 (-u) u) = 0 ∧ (map2ToCurveG1 (-u) u).isZero = true := by
  have h := g1_map2_neg (-u) (neg_ne_zero.mpr hu)
  rwa [neg_neg] at h

/-- zero and the SSWU-exceptional inputs are instances of `g1_map_eq` / `g1_map2_eq`; their SSWU
    image has `x = B'/(Z·A')` (C15) -/
theorem g1_map_exceptional (u : Fq) (h : g1Xi ^ 2 * u ^ 4 + g1Xi * u ^ 2 = 0) :
    affX (osswuG1 u) = g1EllpB / (g1Xi * g1EllpA) ∧
    Jac.abs b₁ (mapToCurveG1 u) = hEffG1 • Jac.abs b₁ (iso11 (osswuG1 u)) :=
  ⟨(Sswu.osswuG1_sswuOut Chains.chainPm3div4_eq u).x_exceptional Sswu.g1Exc_isSquare h,
    (g1_map_eq u).2⟩

theorem g1_map_zero :
    affX (osswuG1 0) = g1EllpB / (g1Xi * g1EllpA) ∧
    Jac.abs b₁ (mapToCurveG1 0) = hEffG1 • Jac.abs b₁ (iso11 (osswuG1 0)) :=
  g1_map_exceptional 0 (by ring)

/-! ### subgroup clause (hypothesis `hexp` of C17: the exponent of `E₁(Fq)` divides `(1 − x)·r`) -/

section sub
variable (hexp : ∀ g : (W b₁).Point, (0xd201000000010001 * Gen.r) • g = 0)
include hexp

theorem g1_map_inSub (u : Fq) : Jac.InSub b₁ (mapToCurveG1 u) :=
  ⟨(g1_map_eq u).1, by
    rw [mapToCurveG1_eq]; exact g1_clearH_killed hexp _ (isoSswuG1_onCurve u)⟩

theorem g1_map2_inSub (u0 u1 : Fq) : Jac.InSub b₁ (map2ToCurveG1 u0 u1) :=
  ⟨(g1_map2_eq u0 u1).1, by
    rw [map2ToCurveG1_eq]
    exact g1_clearH_killed hexp _
      (C01.add_onCurve (isoSswuG1_onCurve u0) (isoSswuG1_onCurve u1))⟩

/-- … and the affine form of the result passes the executable subgroup test of the library -/
theorem g1_map2_inSubgroup (u0 u1 : Fq) :
    ∃ A, (map2ToCurveG1 u0 u1).toAffine = some A ∧ Aff.inSubgroup b₁ A = true :=
  (g1_map2_inSub hexp u0 u1).toAffine_inSubgroup

theorem g1_map_inSubgroup (u : Fq) :
    ∃ A, (mapToCurveG1 u).toAffine = some A ∧ Aff.inSubgroup b₁ A = true :=
  (g1_map_inSub hexp u).toAffine_inSubgroup

end sub

end G1

/-! ## G2 -/

section G2

local notation "b₂" => g2Codec.b

/-- the SSWU map for G2 never reaches its terminal `panic!` (C15) -/
theorem g2_sswu_ne_none (u : Fq2) : osswuG2 u ≠ none :=
  C15.osswuG2_total Fq2.pow_card_sub_one' chainP2m9div16_eq u

/-- never panics, one element -/
theorem g2_map_ne_none (u : Fq2) : mapToCurveG2 u ≠ none := by
  obtain ⟨P, hP, -⟩ := sswuG2_ex u
  rw [mapToCurveG2_eq hP]; exact Option.some_ne_none _

/-- never panics, two elements -/
theorem g2_map2_ne_none (u0 u1 : Fq2) : map2ToCurveG2 u0 u1 ≠ none := by
  obtain ⟨P0, hP0, -⟩ := sswuG2_ex u0
  obtain ⟨P1, hP1, -⟩ := sswuG2_ex u1
  rw [map2ToCurveG2_eq hP0 hP1]; exact Option.some_ne_none _

/-- link with RFC 9380: the SSWU output `P` is `map_to_curve_simple_swu(u)` on `E₂'`
    (`Z = −(2 + I)`), `iso3 P` is a point of `E₂`, namely the RFC's `iso_map` of `P` -/
theorem g2_sswu_iso_eq_rfc (u : Fq2) :
    ∃ P, osswuG2 u = some P ∧
      IsSswu Fq2.sgn0 g2EllpA g2EllpB g2Xi u (affX P) (affY P) ∧
      Jac.OnCurve b₂ (iso3 P) ∧
      Jac.abs b₂ (iso3 P) =
        isoMapPoint b₂ Iso.iso3XNum Iso.iso3XDen Iso.iso3YNum Iso.iso3YDen (affX P) (affY P) := by
  obtain ⟨P, hP, hz, hc⟩ := sswuG2_ex u
  obtain ⟨R, hR, hrfc⟩ := C15.osswuG2_eq_rfc Fq2.pow_card_sub_one' chainP2m9div16_eq u
  obtain rfl : R = P := Option.some.inj (hR.symm.trans hP)
  exact ⟨R, hP, hrfc, iso3_onCurve' R (Or.inr hc), abs_iso3_eq R hz hc⟩

/-- **C14, G2, one element**: `map_to_curve(u) = [h_eff] iso(sswu(u))`, for every `u` -/
theorem g2_map_eq (u : Fq2) :
    ∃ P R, osswuG2 u = some P ∧ mapToCurveG2 u = some R ∧ Jac.OnCurve b₂ (iso3 P) ∧
      Jac.OnCurve b₂ R ∧ Jac.abs b₂ R = hEffG2 • Jac.abs b₂ (iso3 P) := by
  obtain ⟨P, hP, hz, hc⟩ := sswuG2_ex u
  have hon := iso3_onCurve' P (Or.inr hc)
  have h := g2_clearH _ hon
  exact ⟨P, clearHG2 (iso3 P), hP, mapToCurveG2_eq hP, hon, h.1, h.2⟩

/-- **C14, G2, two elements**: `map2_to_curve(u0, u1) = [h_eff] (iso(sswu(u0)) + iso(sswu(u1)))`
    with `+` the group law of `E₂(Fq2)`, for EVERY pair -/
theorem g2_map2_eq (u0 u1 : Fq2) :
    ∃ P0 P1 R, osswuG2 u0 = some P0 ∧ osswuG2 u1 = some P1 ∧ map2ToCurveG2 u0 u1 = some R ∧
      Jac.OnCurve b₂ (iso3 P0) ∧ Jac.OnCurve b₂ (iso3 P1) ∧
      Jac.OnCurve b₂ R ∧
      Jac.abs b₂ R = hEffG2 • (Jac.abs b₂ (iso3 P0) + Jac.abs b₂ (iso3 P1)) := by
  obtain ⟨P0, hP0, hz0, hc0⟩ := sswuG2_ex u0
  obtain ⟨P1, hP1, hz1, hc1⟩ := sswuG2_ex u1
  have h0 := iso3_onCurve' P0 (Or.inr hc0)
  have h1 := iso3_onCurve' P1 (Or.inr hc1)
  have h := g2_clearH _ (C01.add_onCurve h0 h1)
  refine ⟨P0, P1, clearHG2 ((iso3 P0).add (iso3 P1)), hP0, hP1, map2ToCurveG2_eq hP0 hP1,
    h0, h1, h.1, ?_⟩
  rw [h.2, C01.add_correct h0 h1]

/-- `u0 = u1` -/
theorem g2_map2_self (u : Fq2) :
    ∃ P R, osswuG2 u = some P ∧ map2ToCurveG2 u u = some R ∧
      Jac.abs b₂ R = hEffG2 • (2 • Jac.abs b₂ (iso3 P)) := by
  obtain ⟨P0, P1, R, hP0, hP1, hR, -, -, -, habs⟩ := g2_map2_eq u u
  obtain rfl : P0 = P1 := Option.some.inj (hP0.symm.trans hP1)
  exact ⟨P0, R, hP0, hR, by rw [habs, two_nsmul]⟩

/-- `u0 = −u1 ≠ 0`: the result is the identity -/
theorem g2_map2_neg (u : Fq2) (hu : u ≠ 0) :
    ∃ R, map2ToCurveG2 u (-u) = some R ∧ Jac.abs b₂ R = 0 ∧ R.isZero = true := by
  obtain ⟨P0, P1, R, hP0, hP1, hR, -, -, hon, habs⟩ := g2_map2_eq u (-u)
  have h0 : Jac.abs b₂ R = 0 := by
    rw [habs, isoSswuG2_neg u hu hP0 hP1, add_neg_cancel, smul_zero]
  exact ⟨R, hR, h0, (C01.isZero_iff hon).mpr h0⟩

/-- zero and the exceptional inputs: instances of `g2_map_eq`, with `x = B'/(Z·A')` (C15) -/
theorem g2_map_exceptional (u : Fq2) (h : g2Xi ^ 2 * u ^ 4 + g2Xi * u ^ 2 = 0) :
    ∃ P R, osswuG2 u = some P ∧ affX P = g2EllpB / (g2Xi * g2EllpA) ∧ mapToCurveG2 u = some R ∧
      Jac.abs b₂ R = hEffG2 • Jac.abs b₂ (iso3 P) := by
  obtain ⟨P, R, hP, hR, -, -, habs⟩ := g2_map_eq u
  obtain ⟨Q, hQ, hout⟩ := Sswu.osswuG2_sswuOut Fq2.pow_card_sub_one' chainP2m9div16_eq u
  obtain rfl : Q = P := Option.some.inj (hQ.symm.trans hP)
  exact ⟨Q, R, hP, hout.x_exceptional Sswu.g2Exc_isSquare h, hR, habs⟩

/-! ### subgroup clause (hypothesis `hord` of C17: `#E₂(Fq2) = h₂·r`) -/

section sub
variable (hord : ∀ g : (W b₂).Point, (Gen.G2_COFACTOR * Gen.r) • g = 0)
include hord

theorem g2_map_inSub (u : Fq2) : ∃ R, mapToCurveG2 u = some R ∧ Jac.InSub b₂ R := by
  obtain ⟨P, hP, -, hc⟩ := sswuG2_ex u
  have hon := iso3_onCurve' P (Or.inr hc)
  exact ⟨_, mapToCurveG2_eq hP, (g2_clearH _ hon).1, g2_clearH_killed hord _ hon⟩

theorem g2_map2_inSub (u0 u1 : Fq2) : ∃ R, map2ToCurveG2 u0 u1 = some R ∧ Jac.InSub b₂ R := by
  obtain ⟨P0, hP0, -, hc0⟩ := sswuG2_ex u0
  obtain ⟨P1, hP1, -, hc1⟩ := sswuG2_ex u1
  have hon := C01.add_onCurve (iso3_onCurve' P0 (Or.inr hc0)) (iso3_onCurve' P1 (Or.inr hc1))
  exact ⟨_, map2ToCurveG2_eq hP0 hP1, (g2_clearH _ hon).1, g2_clearH_killed hord _ hon⟩

theorem g2_map2_inSubgroup (u0 u1 : Fq2) :
    ∃ R A, map2ToCurveG2 u0 u1 = some R ∧ R.toAffine = some A ∧ Aff.inSubgroup b₂ A = true := by
  obtain ⟨R, hR, hs⟩ := g2_map2_inSub hord u0 u1
  obtain ⟨A, hA, h⟩ := hs.toAffine_inSubgroup
  exact ⟨R, A, hR, hA, h⟩

end sub

end G2

/-! ## the defect of the pre-fix code (kernel evaluation of the executable model)

Before the fix the two SSWU images, points of the isogenous curve `E'` (`a ≠ 0`), were added with the
target curve's `add_assign`; for `u0 = u1` (more generally, equal SSWU images) this takes the
`a = 0` doubling branch, which is not the doubling of `E'`. -/

section defect

/-- What the kernel evaluates is the pre-fix result at `u0 = u1 = 0` only, once per curve: for G1 it
    is not even a point of the curve, and it fails the library's own subgroup test. -/
theorem g1_defect :
    (map2ToCurveG1PreFix 0 0).toAffine.map (Aff.isOnCurve g1Codec.b) = some false ∧
    (map2ToCurveG1PreFix 0 0).toAffine.map (Aff.inSubgroup g1Codec.b) = some false := by
  decide +kernel

theorem g1_map2_prefix_offcurve :
    (map2ToCurveG1PreFix 0 0).toAffine.map (Aff.isOnCurve g1Codec.b) = some false :=
  g1_defect.1

-- the kernel's evaluation of the whole G2 map (SSWU with its addition chain, isogeny, cofactor
-- clearing over `Fq2`) nests deeper than the default recursion limit; the G1 map does not
set_option maxRecDepth 100000 in
theorem g2_defect :
    ((map2ToCurveG2PreFix 0 0).bind Jac.toAffine).map (Aff.inSubgroup g2Codec.b) = some false := by
  decide +kernel

end defect

end C14
end PP
