/-
PROPERTY C06.  "For every message and every domain-separation tag of at most 255 bytes, hashing to G1
or G2 in random-oracle or non-uniform mode, with the SHA-2 based or XOF based message expansion,
returns exactly the point defined by RFC 9380 for the suites BLS12381G1/G2_XMD:SHA-256_SSWU_RO_/NU_
and their XOF analogues: hash_to_field, simplified SWU on the isogenous curve, isogeny, point
addition, cofactor clearing with h_eff. The result is always a point of the order-r subgroup and
depends only on (message, tag)."

Model: `hashToCurveG1/G2` (random-oracle mode, two field elements), `encodeToCurveG1/G2`
(non-uniform mode, one element) of `PP/Model/Map.lean`, parametrised by the expander
(`expandMessageXmd H` for a Merkle–Damgård hash `H`, `Expand.xofExpand xof` for an XOF).

Specification (RFC 9380 §3, §6.6.2, §6.6.3, §8.8, appendix E), assembled here from the pieces of the
earlier properties:
* `Rfc.hash_to_field` (§5.2, `PP/Spec/Rfc9380.lean`) with `p = q`, `L = 64`, `m = 1` (G1) or `2` (G2);
* `Spec.IsSswu` (§6.6.2, `PP/Spec/Sswu.lean`) on `E' : y² = x³ + A'x + B'` with `Z = 11` resp.
  `Z = −(2+I)`, and `isoMapPoint` (appendix E: the rational map, identity on its poles):
  `IsMapToCurveG1 u Q`, `IsMapToCurveG2 u Q` — these relations are FUNCTIONAL (`isMapToCurveG1_unique`);
* `hash_to_curve`: `P = h_eff • (Q0 + Q1)`, `encode_to_curve`: `P = h_eff • Q`, in Mathlib's group of
  points of `E : y² = x³ + b` (`IsHashToCurveG1`, `IsEncodeToCurveG1`, … below).

Theorems, for ANY expander `expand` whose successful outputs are at least as long as requested
(`hl`), any message and tag:
* `hashToCurveG1_eq_rfc`, `encodeToCurveG1_eq_rfc`, `hashToCurveG2_eq_rfc`, `encodeToCurveG2_eq_rfc`:
  whenever the RFC's `hash_to_field` over `expand` returns `us`, the model returns `some P`, `P` is on
  the curve, and the point it denotes is the RFC's for the field elements `us` (so in particular the
  model does not abort on its own);  `…_eq`: the same with the point written out;  `…_none_iff`: it
  aborts exactly when the expander does;
* `…_total`: the model's expander on the model side and RFC 9380's on the specification side, no
  abort on either side; its hypothesis is `C13.expandXmd_eq_rfc_some` for `expand_message_xmd` (hash
  with `outSize`-byte digests, tag ≤ 255 bytes, `ell ≤ 255`: always true for SHA-256/512) and
  `C13.expandXof_eq_rfc_some` for `expand_message_xof`;
* `…_inSub`: the subgroup clause under the curve-order hypotheses of C17 (`hexp`, `hord`), visible;
  `PP.CurveOrder.hashToCurveG1_inSub'` … and `PP.C07Closure.hashToCurveG1_inSub` … are the same
  theorems with the hypotheses discharged;
* "depends only on (message, tag)": the model's `hashToCurveG1 expand msg dst` is a Lean function of
  `(expand, msg, dst)` — a mathematical function, no hidden state — so this clause holds by
  construction of the model (that the model's functions are the Rust functions is
  `PP/Props/GenHash.lean`, and the differential tests); on the spec side the relation is functional
  (`isHashToCurveG1_unique`), so the RFC point is determined by `(msg, dst)` too.

NOT proved here (proved in PP.Props.C16Hom and PP.Props.C16Hom11): that `isoMapPoint` is a group homomorphism `E' → E`; the RFC does not need
it to DEFINE the output, and neither do the statements below.  The hash's output length enters through
`hl` and through `h` of `…_total`; `PP/Props/HashLen.lean` discharges both for SHA-256/512 and SHAKE128/256
(`hashToCurveG1_sha256` …).
-/
import PP.Props.C14
import PP.Props.C13
import PP.Proofs.HashToField

namespace PP
namespace C06

open C17 (hEffG1 hEffG2)
open PP.Spec (IsSswu)
open Expand

local notation "b₁" => g1Codec.b
local notation "b₂" => g2Codec.b

/-! ## the RFC's `map_to_curve`, `hash_to_curve`, `encode_to_curve` for the two suites -/

/-- §6.6.3 for G1: `Q = iso_map(map_to_curve_simple_swu(u))` -/
def IsMapToCurveG1 (u : Fq) (Q : (W b₁).Point) : Prop :=
  ∃ x y, IsSswu Zp.sgn0 g1EllpA g1EllpB g1Xi u x y ∧
    Q = isoMapPoint b₁ Iso.iso11XNum Iso.iso11XDen Iso.iso11YNum Iso.iso11YDen x y

/-- §6.6.3 for G2 -/
def IsMapToCurveG2 (u : Fq2) (Q : (W b₂).Point) : Prop :=
  ∃ x y, IsSswu Fq2.sgn0 g2EllpA g2EllpB g2Xi u x y ∧
    Q = isoMapPoint b₂ Iso.iso3XNum Iso.iso3XDen Iso.iso3YNum Iso.iso3YDen x y

/-- §3 `hash_to_curve`, steps 2–6, for `u = (u0, u1)` -/
def IsHashToCurveG1 (u0 u1 : Fq) (P : (W b₁).Point) : Prop :=
  ∃ Q0 Q1, IsMapToCurveG1 u0 Q0 ∧ IsMapToCurveG1 u1 Q1 ∧ P = hEffG1 • (Q0 + Q1)

/-- §3 `encode_to_curve`, steps 2–4 -/
def IsEncodeToCurveG1 (u : Fq) (P : (W b₁).Point) : Prop :=
  ∃ Q, IsMapToCurveG1 u Q ∧ P = hEffG1 • Q

def IsHashToCurveG2 (u0 u1 : Fq2) (P : (W b₂).Point) : Prop :=
  ∃ Q0 Q1, IsMapToCurveG2 u0 Q0 ∧ IsMapToCurveG2 u1 Q1 ∧ P = hEffG2 • (Q0 + Q1)

def IsEncodeToCurveG2 (u : Fq2) (P : (W b₂).Point) : Prop :=
  ∃ Q, IsMapToCurveG2 u Q ∧ P = hEffG2 • Q

/-! ### the relations are functional -/

theorem isMapToCurveG1_unique {u : Fq} {Q Q' : (W b₁).Point} (h : IsMapToCurveG1 u Q)
    (h' : IsMapToCurveG1 u Q') : Q = Q' := by
  obtain ⟨x, y, hs, hQ⟩ := h
  obtain ⟨x', y', hs', hQ'⟩ := h'
  obtain ⟨hx, hy⟩ := sswu_unique Zp.sgn0 Sswu.Fq.sgn0_neg Sswu.g1_no_root hs hs'
  rw [hQ, hQ', hx, hy]

theorem isMapToCurveG2_unique {u : Fq2} {Q Q' : (W b₂).Point} (h : IsMapToCurveG2 u Q)
    (h' : IsMapToCurveG2 u Q') : Q = Q' := by
  obtain ⟨x, y, hs, hQ⟩ := h
  obtain ⟨x', y', hs', hQ'⟩ := h'
  obtain ⟨hx, hy⟩ := sswu_unique Fq2.sgn0 Sswu.Fq2.sgn0_neg Sswu.g2_no_root hs hs'
  rw [hQ, hQ', hx, hy]

theorem isHashToCurveG1_unique {u0 u1 : Fq} {P P' : (W b₁).Point} (h : IsHashToCurveG1 u0 u1 P)
    (h' : IsHashToCurveG1 u0 u1 P') : P = P' := by
  obtain ⟨Q0, Q1, h0, h1, hP⟩ := h
  obtain ⟨Q0', Q1', h0', h1', hP'⟩ := h'
  rw [hP, hP', isMapToCurveG1_unique h0 h0', isMapToCurveG1_unique h1 h1']

theorem isHashToCurveG2_unique {u0 u1 : Fq2} {P P' : (W b₂).Point} (h : IsHashToCurveG2 u0 u1 P)
    (h' : IsHashToCurveG2 u0 u1 P') : P = P' := by
  obtain ⟨Q0, Q1, h0, h1, hP⟩ := h
  obtain ⟨Q0', Q1', h0', h1', hP'⟩ := h'
  rw [hP, hP', isMapToCurveG2_unique h0 h0', isMapToCurveG2_unique h1 h1']

/-! ## C14 in terms of the RFC relations -/

theorem g1_isMapToCurve (u : Fq) : IsMapToCurveG1 u (Jac.abs b₁ (iso11 (osswuG1 u))) :=
  ⟨_, _, (C14.g1_sswu_iso_eq_rfc u).1, (C14.g1_sswu_iso_eq_rfc u).2⟩

theorem g2_isMapToCurve {u : Fq2} {P : Jac Fq2} (hP : osswuG2 u = some P) :
    IsMapToCurveG2 u (Jac.abs b₂ (iso3 P)) := by
  obtain ⟨P', hP', hs, -, habs⟩ := C14.g2_sswu_iso_eq_rfc u
  obtain rfl : P' = P := Option.some.inj (hP'.symm.trans hP)
  exact ⟨_, _, hs, habs⟩

/-! ## plumbing: from `hash_to_field` to the curve functions -/

theorem rfc_hash_to_field_none_iff (e : Bytes → Bytes → Nat → Option Bytes) (p m L : Nat)
    (msg dst : Bytes) (count : Nat) :
    Rfc.hash_to_field e p m L msg dst count = none ↔ e msg dst (count * m * L) = none := by
  unfold Rfc.hash_to_field
  simp only
  split <;> simp [*]

/-- `h`: the model's `hash_to_field` agrees with the RFC's (C13); then it aborts exactly when the expander does -/
theorem hashToField_none_iff {T : Type} {c : T → List Nat} {f : Bytes → Option T}
    {e : Bytes → Bytes → Nat → Option Bytes} {p m L L' : Nat} {msg dst : Bytes} {count : Nat}
    (h : (hashToField e L' f msg dst count).map (List.map c) = Rfc.hash_to_field e p m L msg dst count) :
    hashToField e L' f msg dst count = none ↔ e msg dst (count * m * L) = none := by
  rw [← rfc_hash_to_field_none_iff, ← h, Option.map_eq_none_iff]

section generic
variable (expand : Bytes → Bytes → Nat → Option Bytes) (msg dst : Bytes)

/-! ## C06 for an arbitrary expander

`…_eq`, `…_none_iff` and `…_inSub` start from `hashToCurveG1_cases` … `encodeToCurveG2_cases`
(`PP/Proofs/HashToField.lean`): the function aborts with `hashToField`, or is the map of C14 on the elements
`hashToField` returns.  `…_eq_rfc` and `…_total` follow from `…_eq`. -/

/-- **hash_to_curve, G1 (random-oracle mode)**, explicit form: if RFC 9380's `hash_to_field(msg, 2)`
    (over `expand`) is `us`, then `us = [(u0), (u1)]`, the model returns a point `P` of the curve, and
    `P` denotes `[h_eff](iso(sswu u0) + iso(sswu u1))` -/
theorem hashToCurveG1_eq
    (hl : ∀ bytes, expand msg dst (2 * 64) = some bytes → 2 * 64 ≤ bytes.length)
    {us : List (List Nat)} (hus : Rfc.hash_to_field expand Gen.q 1 64 msg dst 2 = some us) :
    ∃ u0 u1 P, us = [Zp.coords u0, Zp.coords u1] ∧ hashToCurveG1 expand msg dst = some P ∧
      Jac.OnCurve b₁ P ∧
      Jac.abs b₁ P = hEffG1 • (Jac.abs b₁ (iso11 (osswuG1 u0)) + Jac.abs b₁ (iso11 (osswuG1 u1))) := by
  have h := C13.hashToField_fq_eq_rfc msg dst 2 expand hl
  rw [hus] at h
  rcases hashToCurveG1_cases expand msg dst with ⟨hf, -⟩ | ⟨u0, u1, hf, hc⟩
  · rw [hf] at h; cases h
  · rw [hf] at h
    cases h
    exact ⟨u0, u1, _, rfl, hc, C14.g1_map2_eq u0 u1⟩

/-- … that is, `P` is `clear_cofactor(map_to_curve(u0) + map_to_curve(u1))` in the RFC's words -/
theorem hashToCurveG1_eq_rfc
    (hl : ∀ bytes, expand msg dst (2 * 64) = some bytes → 2 * 64 ≤ bytes.length)
    {us : List (List Nat)} (hus : Rfc.hash_to_field expand Gen.q 1 64 msg dst 2 = some us) :
    ∃ u0 u1 P, us = [Zp.coords u0, Zp.coords u1] ∧ hashToCurveG1 expand msg dst = some P ∧
      Jac.OnCurve b₁ P ∧ IsHashToCurveG1 u0 u1 (Jac.abs b₁ P) := by
  obtain ⟨u0, u1, P, hu, hP, hon, habs⟩ := hashToCurveG1_eq expand msg dst hl hus
  exact ⟨u0, u1, P, hu, hP, hon, _, _, g1_isMapToCurve u0, g1_isMapToCurve u1, habs⟩

/-- the model aborts exactly when the expander does -/
theorem hashToCurveG1_none_iff
    (hl : ∀ bytes, expand msg dst (2 * 64) = some bytes → 2 * 64 ≤ bytes.length) :
    hashToCurveG1 expand msg dst = none ↔ expand msg dst (2 * 64) = none := by
  refine Iff.trans ?_ (hashToField_none_iff (C13.hashToField_fq_eq_rfc msg dst 2 expand hl))
  rcases hashToCurveG1_cases expand msg dst with ⟨hf, hc⟩ | ⟨u0, u1, hf, hc⟩
  · simp [hf, hc]
  · simp [hf, hc]

/-- **encode_to_curve, G1 (non-uniform mode)** -/
theorem encodeToCurveG1_eq
    (hl : ∀ bytes, expand msg dst (1 * 64) = some bytes → 1 * 64 ≤ bytes.length)
    {us : List (List Nat)} (hus : Rfc.hash_to_field expand Gen.q 1 64 msg dst 1 = some us) :
    ∃ u P, us = [Zp.coords u] ∧ encodeToCurveG1 expand msg dst = some P ∧
      Jac.OnCurve b₁ P ∧ Jac.abs b₁ P = hEffG1 • Jac.abs b₁ (iso11 (osswuG1 u)) := by
  have h := C13.hashToField_fq_eq_rfc msg dst 1 expand hl
  rw [hus] at h
  rcases encodeToCurveG1_cases expand msg dst with ⟨hf, -⟩ | ⟨u, hf, hc⟩
  · rw [hf] at h; cases h
  · rw [hf] at h
    cases h
    exact ⟨u, _, rfl, hc, C14.g1_map_eq u⟩

theorem encodeToCurveG1_eq_rfc
    (hl : ∀ bytes, expand msg dst (1 * 64) = some bytes → 1 * 64 ≤ bytes.length)
    {us : List (List Nat)} (hus : Rfc.hash_to_field expand Gen.q 1 64 msg dst 1 = some us) :
    ∃ u P, us = [Zp.coords u] ∧ encodeToCurveG1 expand msg dst = some P ∧
      Jac.OnCurve b₁ P ∧ IsEncodeToCurveG1 u (Jac.abs b₁ P) := by
  obtain ⟨u, P, hu, hP, hon, habs⟩ := encodeToCurveG1_eq expand msg dst hl hus
  exact ⟨u, P, hu, hP, hon, _, g1_isMapToCurve u, habs⟩

theorem encodeToCurveG1_none_iff
    (hl : ∀ bytes, expand msg dst (1 * 64) = some bytes → 1 * 64 ≤ bytes.length) :
    encodeToCurveG1 expand msg dst = none ↔ expand msg dst (1 * 64) = none := by
  refine Iff.trans ?_ (hashToField_none_iff (C13.hashToField_fq_eq_rfc msg dst 1 expand hl))
  rcases encodeToCurveG1_cases expand msg dst with ⟨hf, hc⟩ | ⟨u, hf, hc⟩
  · simp [hf, hc]
  · simp [hf, hc]

/-- **hash_to_curve, G2 (random-oracle mode)**: elements of `Fq2` from two 64-byte blocks each,
    real part first (`Fq2.coords u = [u.c0.v, u.c1.v]`) -/
theorem hashToCurveG2_eq
    (hl : ∀ bytes, expand msg dst (2 * 128) = some bytes → 2 * 128 ≤ bytes.length)
    {us : List (List Nat)} (hus : Rfc.hash_to_field expand Gen.q 2 64 msg dst 2 = some us) :
    ∃ u0 u1 P0 P1 P, us = [Fq2.coords u0, Fq2.coords u1] ∧
      osswuG2 u0 = some P0 ∧ osswuG2 u1 = some P1 ∧ hashToCurveG2 expand msg dst = some P ∧
      Jac.OnCurve b₂ P ∧
      Jac.abs b₂ P = hEffG2 • (Jac.abs b₂ (iso3 P0) + Jac.abs b₂ (iso3 P1)) := by
  have h := C13.hashToField_fq2_eq_rfc msg dst 2 expand hl
  rw [hus] at h
  rcases hashToCurveG2_cases expand msg dst with ⟨hf, -⟩ | ⟨u0, u1, hf, hc⟩
  · rw [hf] at h; cases h
  · rw [hf] at h
    cases h
    obtain ⟨P0, P1, R, hP0, hP1, hR, -, -, hon, habs⟩ := C14.g2_map2_eq u0 u1
    exact ⟨u0, u1, P0, P1, R, rfl, hP0, hP1, hc.trans hR, hon, habs⟩

theorem hashToCurveG2_eq_rfc
    (hl : ∀ bytes, expand msg dst (2 * 128) = some bytes → 2 * 128 ≤ bytes.length)
    {us : List (List Nat)} (hus : Rfc.hash_to_field expand Gen.q 2 64 msg dst 2 = some us) :
    ∃ u0 u1 P, us = [Fq2.coords u0, Fq2.coords u1] ∧ hashToCurveG2 expand msg dst = some P ∧
      Jac.OnCurve b₂ P ∧ IsHashToCurveG2 u0 u1 (Jac.abs b₂ P) := by
  obtain ⟨u0, u1, P0, P1, P, hu, h0, h1, hP, hon, habs⟩ := hashToCurveG2_eq expand msg dst hl hus
  exact ⟨u0, u1, P, hu, hP, hon, _, _, g2_isMapToCurve h0, g2_isMapToCurve h1, habs⟩

theorem hashToCurveG2_none_iff
    (hl : ∀ bytes, expand msg dst (2 * 128) = some bytes → 2 * 128 ≤ bytes.length) :
    hashToCurveG2 expand msg dst = none ↔ expand msg dst (2 * 128) = none := by
  refine Iff.trans ?_ (hashToField_none_iff (C13.hashToField_fq2_eq_rfc msg dst 2 expand hl))
  rcases hashToCurveG2_cases expand msg dst with ⟨hf, hc⟩ | ⟨u0, u1, hf, hc⟩
  · simp [hf, hc]
  · simp [hf, hc, C14.g2_map2_ne_none]

/-- **encode_to_curve, G2 (non-uniform mode)** -/
theorem encodeToCurveG2_eq
    (hl : ∀ bytes, expand msg dst (1 * 128) = some bytes → 1 * 128 ≤ bytes.length)
    {us : List (List Nat)} (hus : Rfc.hash_to_field expand Gen.q 2 64 msg dst 1 = some us) :
    ∃ u P0 P, us = [Fq2.coords u] ∧ osswuG2 u = some P0 ∧
      encodeToCurveG2 expand msg dst = some P ∧ Jac.OnCurve b₂ P ∧
      Jac.abs b₂ P = hEffG2 • Jac.abs b₂ (iso3 P0) := by
  have h := C13.hashToField_fq2_eq_rfc msg dst 1 expand hl
  rw [hus] at h
  rcases encodeToCurveG2_cases expand msg dst with ⟨hf, -⟩ | ⟨u, hf, hc⟩
  · rw [hf] at h; cases h
  · rw [hf] at h
    cases h
    obtain ⟨P0, R, hP0, hR, -, hon, habs⟩ := C14.g2_map_eq u
    exact ⟨u, P0, R, rfl, hP0, hc.trans hR, hon, habs⟩

theorem encodeToCurveG2_eq_rfc
    (hl : ∀ bytes, expand msg dst (1 * 128) = some bytes → 1 * 128 ≤ bytes.length)
    {us : List (List Nat)} (hus : Rfc.hash_to_field expand Gen.q 2 64 msg dst 1 = some us) :
    ∃ u P, us = [Fq2.coords u] ∧ encodeToCurveG2 expand msg dst = some P ∧
      Jac.OnCurve b₂ P ∧ IsEncodeToCurveG2 u (Jac.abs b₂ P) := by
  obtain ⟨u, P0, P, hu, h0, hP, hon, habs⟩ := encodeToCurveG2_eq expand msg dst hl hus
  exact ⟨u, P, hu, hP, hon, _, g2_isMapToCurve h0, habs⟩

theorem encodeToCurveG2_none_iff
    (hl : ∀ bytes, expand msg dst (1 * 128) = some bytes → 1 * 128 ≤ bytes.length) :
    encodeToCurveG2 expand msg dst = none ↔ expand msg dst (1 * 128) = none := by
  refine Iff.trans ?_ (hashToField_none_iff (C13.hashToField_fq2_eq_rfc msg dst 1 expand hl))
  rcases encodeToCurveG2_cases expand msg dst with ⟨hf, hc⟩ | ⟨u, hf, hc⟩
  · simp [hf, hc]
  · simp [hf, hc, C14.g2_map_ne_none]

/-! ### subgroup clause, under the curve-order hypotheses of C17 -/

theorem hashToCurveG1_inSub
    (hexp : ∀ g : (W b₁).Point, (0xd201000000010001 * Gen.r) • g = 0)
    {P : Jac Fq} (h : hashToCurveG1 expand msg dst = some P) : Jac.InSub b₁ P := by
  rcases hashToCurveG1_cases expand msg dst with ⟨-, hc⟩ | ⟨u0, u1, -, hc⟩
  · rw [hc] at h; cases h
  · rw [hc] at h
    exact Option.some.inj h ▸ C14.g1_map2_inSub hexp u0 u1

theorem encodeToCurveG1_inSub
    (hexp : ∀ g : (W b₁).Point, (0xd201000000010001 * Gen.r) • g = 0)
    {P : Jac Fq} (h : encodeToCurveG1 expand msg dst = some P) : Jac.InSub b₁ P := by
  rcases encodeToCurveG1_cases expand msg dst with ⟨-, hc⟩ | ⟨u, -, hc⟩
  · rw [hc] at h; cases h
  · rw [hc] at h
    exact Option.some.inj h ▸ C14.g1_map_inSub hexp u

theorem hashToCurveG2_inSub
    (hord : ∀ g : (W b₂).Point, (Gen.G2_COFACTOR * Gen.r) • g = 0)
    {P : Jac Fq2} (h : hashToCurveG2 expand msg dst = some P) : Jac.InSub b₂ P := by
  rcases hashToCurveG2_cases expand msg dst with ⟨-, hc⟩ | ⟨u0, u1, -, hc⟩
  · rw [hc] at h; cases h
  · obtain ⟨R, hR, hs⟩ := C14.g2_map2_inSub hord u0 u1
    rw [hc, hR] at h; cases h
    exact hs

theorem encodeToCurveG2_inSub
    (hord : ∀ g : (W b₂).Point, (Gen.G2_COFACTOR * Gen.r) • g = 0)
    {P : Jac Fq2} (h : encodeToCurveG2 expand msg dst = some P) : Jac.InSub b₂ P := by
  rcases encodeToCurveG2_cases expand msg dst with ⟨-, hc⟩ | ⟨u, -, hc⟩
  · rw [hc] at h; cases h
  · obtain ⟨R, hR, hs⟩ := C14.g2_map_inSub hord u
    rw [hc, hR] at h; cases h
    exact hs

/-! ## the suites: the model's expander against the RFC's

`expand` is the model's expander, `e'` the RFC's.  Hypothesis `h`: on the one length that
`hash_to_field` requests, both return the same bytes, as many as requested.  For
`expandMessageXmd H` against `Rfc.expand_message_xmd` this is `C13.expandXmd_eq_rfc_some` (hash with
`outSize`-byte digests, tag ≤ 255 bytes, `ell ≤ 255`; `BLS12381G1_XMD:SHA-256_SSWU_RO_` is
`H = C13.sha256H`); for `xofExpand xof` against `Rfc.expand_message_xof` it is
`C13.expandXof_eq_rfc_some`.  Then neither side aborts, and the model's point is the RFC's. -/

variable (e' : Bytes → Bytes → Nat → Option Bytes)

/-- under `h` the RFC's `hash_to_field` over `e'` is the one over `expand`, and returns elements -/
theorem rfc_h2f_of_agree (p m L count : Nat)
    (h : ∃ bytes, e' msg dst (count * m * L) = some bytes ∧
      expand msg dst (count * m * L) = some bytes ∧ bytes.length = count * m * L) :
    ∃ us, Rfc.hash_to_field expand p m L msg dst count = some us ∧
      Rfc.hash_to_field e' p m L msg dst count = some us ∧
      ∀ bytes, expand msg dst (count * m * L) = some bytes → count * m * L ≤ bytes.length := by
  obtain ⟨bytes, he', he, hlen⟩ := h
  have hus : ∃ us, Rfc.hash_to_field expand p m L msg dst count = some us :=
    Option.ne_none_iff_exists'.mp fun hn => by
      rw [rfc_hash_to_field_none_iff, he] at hn; cases hn
  obtain ⟨us, hus⟩ := hus
  refine ⟨us, hus, ?_, fun b hb => ?_⟩
  · rw [← hus]; exact rfc_hash_to_field_congr _ _ _ _ _ _ _ _ (he'.trans he.symm)
  · rw [he] at hb; cases hb; exact le_of_eq hlen.symm

theorem hashToCurveG1_total
    (h : ∃ bytes, e' msg dst (2 * 1 * 64) = some bytes ∧
      expand msg dst (2 * 1 * 64) = some bytes ∧ bytes.length = 2 * 1 * 64) :
    ∃ u0 u1 P,
      Rfc.hash_to_field e' Gen.q 1 64 msg dst 2 = some [Zp.coords u0, Zp.coords u1] ∧
      hashToCurveG1 expand msg dst = some P ∧
      Jac.OnCurve b₁ P ∧ IsHashToCurveG1 u0 u1 (Jac.abs b₁ P) := by
  obtain ⟨us, hus, hus', hl⟩ := rfc_h2f_of_agree expand msg dst e' Gen.q 1 64 2 h
  obtain ⟨u0, u1, P, rfl, hP⟩ := hashToCurveG1_eq_rfc expand msg dst hl hus
  exact ⟨u0, u1, P, hus', hP⟩

theorem encodeToCurveG1_total
    (h : ∃ bytes, e' msg dst (1 * 1 * 64) = some bytes ∧
      expand msg dst (1 * 1 * 64) = some bytes ∧ bytes.length = 1 * 1 * 64) :
    ∃ u P,
      Rfc.hash_to_field e' Gen.q 1 64 msg dst 1 = some [Zp.coords u] ∧
      encodeToCurveG1 expand msg dst = some P ∧
      Jac.OnCurve b₁ P ∧ IsEncodeToCurveG1 u (Jac.abs b₁ P) := by
  obtain ⟨us, hus, hus', hl⟩ := rfc_h2f_of_agree expand msg dst e' Gen.q 1 64 1 h
  obtain ⟨u, P, rfl, hP⟩ := encodeToCurveG1_eq_rfc expand msg dst hl hus
  exact ⟨u, P, hus', hP⟩

theorem hashToCurveG2_total
    (h : ∃ bytes, e' msg dst (2 * 2 * 64) = some bytes ∧
      expand msg dst (2 * 2 * 64) = some bytes ∧ bytes.length = 2 * 2 * 64) :
    ∃ u0 u1 P,
      Rfc.hash_to_field e' Gen.q 2 64 msg dst 2 = some [Fq2.coords u0, Fq2.coords u1] ∧
      hashToCurveG2 expand msg dst = some P ∧
      Jac.OnCurve b₂ P ∧ IsHashToCurveG2 u0 u1 (Jac.abs b₂ P) := by
  obtain ⟨us, hus, hus', hl⟩ := rfc_h2f_of_agree expand msg dst e' Gen.q 2 64 2 h
  obtain ⟨u0, u1, P, rfl, hP⟩ := hashToCurveG2_eq_rfc expand msg dst hl hus
  exact ⟨u0, u1, P, hus', hP⟩

theorem encodeToCurveG2_total
    (h : ∃ bytes, e' msg dst (1 * 2 * 64) = some bytes ∧
      expand msg dst (1 * 2 * 64) = some bytes ∧ bytes.length = 1 * 2 * 64) :
    ∃ u P,
      Rfc.hash_to_field e' Gen.q 2 64 msg dst 1 = some [Fq2.coords u] ∧
      encodeToCurveG2 expand msg dst = some P ∧
      Jac.OnCurve b₂ P ∧ IsEncodeToCurveG2 u (Jac.abs b₂ P) := by
  obtain ⟨us, hus, hus', hl⟩ := rfc_h2f_of_agree expand msg dst e' Gen.q 2 64 1 h
  obtain ⟨u, P, rfl, hP⟩ := encodeToCurveG2_eq_rfc expand msg dst hl hus
  exact ⟨u, P, hus', hP⟩

end generic

end C06
end PP
