/-
C08, inversion.  The clause of the property

    "inversion fails only for zero (and otherwise returns the field inverse)"

in theorems whose only hypothesis is the type invariant "the raw Montgomery value is reduced";
`q` and `r` are prime by `PP.Proofs.Primes` (Pratt certificates checked by the kernel).

* `fq_inverse_nonzero`, `fr_inverse_nonzero` : for reduced `a ≠ 0`: `Some(b)`, `b` reduced, `toFq b = (toFq a)⁻¹` in the
                                              FIELD `Fq` (Mathlib's inverse on `Zp q`), `toFq a * toFq b = 1`
* `fq_inverse_zero_iff`, `fr_inverse_zero_iff` : never out of fuel, and `None` exactly for `0`
* `fq_inverse_ok'`, `fr_inverse_ok'`       : the generic `inverse_ok` at the two parameter sets
* `fq_inverse_total'`, `fr_inverse_total'` : the TRANSLATED Rust functions `D.Fq.inverse`, `D.Fr.inverse` on limbs
-/
import PP.Props.C08
import PP.Props.GenDerive
import PP.Proofs.Primes

namespace PP.C08Prime
open PP PP.Mont PP.Gen PP.Limbs PP.C08Limb PP.Props.C08

/-! ## the model of the derive-generated code (`PP.Mont`) against `Zp` -/

/-- an answer `o` that maps to `Zp.inv` and is `none` only for `0` is, for `a ≠ 0`, the field inverse -/
theorem inverse_nonzero_of {p : ℕ} [PosNat p] [Fact p.Prime] {t : ℕ → Zp p} {o : Option ℕ} {a : ℕ}
    (h2 : o.map t = Zp.inv (t a)) (h4 : o = none ↔ a = 0) (ha0 : a ≠ 0) :
    ∃ b, o = some b ∧ t b = (t a)⁻¹ ∧ t a * t b = 1 := by
  cases o with
  | none => exact absurd (h4.mp rfl) ha0
  | some b =>
    have hne : t a ≠ 0 := by
      intro h0
      rw [h0, (Zp.inv_eq_none_iff 0).mpr rfl] at h2
      cases h2
    rw [Zp.inv_eq_some _ hne] at h2
    have hb : t b = (t a)⁻¹ := Option.some.inj h2
    exact ⟨b, rfl, hb, by rw [hb, mul_inv_cancel₀ hne]⟩

/-- inversion of a non-zero element of `Fq` returns THE inverse in the field `Fq` -/
theorem fq_inverse_nonzero {a : ℕ} (ha : a < q) (ha0 : a ≠ 0) :
    ∃ b, inverse fqP a = some (some b) ∧ b < q ∧ toFq b = (toFq a)⁻¹ ∧ toFq a * toFq b = 1 := by
  obtain ⟨o, h1, h2, h3, h4⟩ := fq_inverse ha
  obtain ⟨b, rfl, hb, hm⟩ := inverse_nonzero_of h2 h4 ha0
  exact ⟨b, h1, h3 b rfl, hb, hm⟩

/-- inversion of a non-zero element of `Fr` returns THE inverse in the field `Fr` -/
theorem fr_inverse_nonzero {a : ℕ} (ha : a < r) (ha0 : a ≠ 0) :
    ∃ b, inverse frP a = some (some b) ∧ b < r ∧ toFr b = (toFr a)⁻¹ ∧ toFr a * toFr b = 1 := by
  obtain ⟨o, h1, h2, h3, h4⟩ := fr_inverse ha
  obtain ⟨b, rfl, hb, hm⟩ := inverse_nonzero_of h2 h4 ha0
  exact ⟨b, h1, h3 b rfl, hb, hm⟩

/-- **inversion fails only for zero** (`Fq`): on reduced values the loop never runs out of fuel (outer `none`) and
    the answer is `None` exactly for `0` -/
theorem fq_inverse_zero_iff {a : ℕ} (ha : a < q) :
    inverse fqP a ≠ none ∧ (inverse fqP a = some none ↔ a = 0) := by
  obtain ⟨o, h1, -, -, -⟩ := fq_inverse ha
  exact ⟨by rw [h1]; exact Option.some_ne_none _, inverse_none_iff fqP a⟩

/-- **inversion fails only for zero** (`Fr`) -/
theorem fr_inverse_zero_iff {a : ℕ} (ha : a < r) :
    inverse frP a ≠ none ∧ (inverse frP a = some none ↔ a = 0) := by
  obtain ⟨o, h1, -, -, -⟩ := fr_inverse ha
  exact ⟨by rw [h1]; exact Option.some_ne_none _, inverse_none_iff frP a⟩

theorem fq_inverse_ok' {a : ℕ} (ha : a < fqP.p) (ha0 : a ≠ 0) :
    ∃ b, inverse fqP a = some (some b) ∧ b < fqP.p ∧ dec fqP a * dec fqP b % fqP.p = 1 :=
  inverse_ok fqP_wf ha (fqP_p ▸ Primes.q_prime) ha0

theorem fr_inverse_ok' {a : ℕ} (ha : a < frP.p) (ha0 : a ≠ 0) :
    ∃ b, inverse frP a = some (some b) ∧ b < frP.p ∧ dec frP a * dec frP b % frP.p = 1 :=
  inverse_ok frP_wf ha (frP_p ▸ Primes.r_prime) ha0

/-! ## the translated Rust functions on limbs (`PP/Gen/Derive.lean`) -/

/-- `Fq::inverse` as generated by `#[derive(PrimeField)]`, on a reduced 6-limb value: never out of fuel, `None`
    exactly for zero, otherwise the Montgomery form of the modular inverse -/
theorem fq_inverse_total' {a : List ℕ} (ha : Limbs 6 a) (hlt : limbsToNat a < fqP.p) :
    (limbsToNat a = 0 → D.Fq.inverse (2 * 64 * 6 + 2) a = some none) ∧
    (limbsToNat a ≠ 0 → ∃ x, D.Fq.inverse (2 * 64 * 6 + 2) a = some (some (limbsOf 6 x)) ∧ x < fqP.p ∧
      dec fqP (limbsToNat a) * dec fqP x % fqP.p = 1) :=
  GenDerive.fq_inverse_total ha hlt

/-- `Fr::inverse` as generated, on a reduced 4-limb value -/
theorem fr_inverse_total' {a : List ℕ} (ha : Limbs 4 a) (hlt : limbsToNat a < frP.p) :
    (limbsToNat a = 0 → D.Fr.inverse (2 * 64 * 4 + 2) a = some none) ∧
    (limbsToNat a ≠ 0 → ∃ x, D.Fr.inverse (2 * 64 * 4 + 2) a = some (some (limbsOf 4 x)) ∧ x < frP.p ∧
      dec frP (limbsToNat a) * dec frP x % frP.p = 1) :=
  GenDerive.fr_inverse_total ha hlt

/-! ## non-vacuity -/

/-- the raw value of `1` (`R mod q`) is reduced and non-zero, and its inverse is the inverse of `1` -/
example : ∃ b, inverse fqP fq_R = some (some b) ∧ toFq b = 1 := by
  obtain ⟨b, h1, -, h3, -⟩ := fq_inverse_nonzero (a := fq_R) (by decide +kernel) (by decide +kernel)
  exact ⟨b, h1, by rw [h3, fq_zero_one.2, inv_one]⟩

end PP.C08Prime
