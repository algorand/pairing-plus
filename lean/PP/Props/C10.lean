/-
C10.  "For every list of affine points and every list of 256-bit-limbed scalars below 2^255, the
default multi-scalar multiplication, the bucket method with any window size from 1 to 20, and the
table-driven variant (with tables built by the library's 256-entry precomputation) all return the
sum of [k_i]P_i over the first min(#points,#scalars) entries.  This holds for empty input, repeated
points, mutually inverse points, identity points and zero scalars, and whatever window the default
entry point's size heuristic selects (always within 1..=16)."

All statements are about the executable model `PP.Model.Mul` and are relative to a `GroupModel M`
(provided by C01).  "The sum of [k_i]P_i over the first min(#points,#scalars) entries" is
`((List.zip points ks).map (fun pk => pk.2 • M.absA pk.1)).sum` (`zip` truncates to the shorter
list); "returns" is `= some R` (no assert failure, no index out of range).
-/
import PP.Proofs.ScalarMul
import PP.Proofs.Pippenger

namespace PP.C10

variable {F : Type} [Field F] [DecidableEq F] [FieldOps F] {G : Type} [AddCommGroup G]
  (M : GroupModel F G)

/-- the expected result -/
def msum (points : List (Aff F)) (ks : List ℕ) : G :=
  ((List.zip points ks).map (fun pk => pk.2 • M.absA pk.1)).sum

/-- the bucket method, any window `1..=20`, lists of any (also different) lengths -/
theorem pippinger (points : List (Aff F)) (ks : List ℕ) (w : ℕ) (hw1 : 1 ≤ w) (hw : w ≤ 20)
    (hk : ∀ k ∈ ks, k < 2 ^ 255) (hP : ∀ P ∈ points, M.ValidA P) :
    ∃ R, sumOfProductsPippinger points ks w = some R ∧ M.ValidJ R ∧
      M.absJ R = msum M points ks :=
  Pip.pippinger_correct M hw1 hw points ks hk hP

/-- the size heuristic always selects a window in `1..=16` -/
theorem window_range (n : ℕ) : 1 ≤ findPippingerWindow n ∧ findPippingerWindow n ≤ 16 :=
  Pip.findPippingerWindow_range n

/-- the default entry point -/
theorem sum_of_products (points : List (Aff F)) (ks : List ℕ)
    (hk : ∀ k ∈ ks, k < 2 ^ 255) (hP : ∀ P ∈ points, M.ValidA P) :
    ∃ R, sumOfProducts points ks = some R ∧ M.ValidJ R ∧ M.absJ R = msum M points ks :=
  Pip.sumOfProducts_correct M points ks hk hP

/-- the table-driven variant, with `pre` the concatenation of the tables that `precomp_256`
    returns for each point (it never panics on a valid point); here even every `k < 2^256` works -/
theorem sum_of_products_precomp256 (points : List (Aff F)) (ks : List ℕ)
    (hk : ∀ k ∈ ks, k < 2 ^ 256) (hP : ∀ P ∈ points, M.ValidA P) :
    ∃ tables, points.mapM Aff.precomp256 = some tables ∧
      ∃ R, sumOfProductsPrecomp256 points ks tables.flatten.toArray = some R ∧ M.ValidJ R ∧
        M.absJ R = msum M points ks :=
  sumOfProductsPrecomp256_precomp M points ks hP hk

/-- the same for any `pre` that meets the documented layout
    `pre[256 j + i] = (Σ_{b ∈ bits of i} 2^(32 b)) · P_j` -/
theorem sum_of_products_precomp256_of_spec (points : List (Aff F)) (ks : List ℕ)
    (pre : Array (Aff F)) (hk : ∀ k ∈ ks, k < 2 ^ 256)
    (hpre : ∀ j (hj : j < (List.zip points ks).length), ∀ i < 256, ∃ e,
      pre[256 * (0 + j) + i]? = some e ∧ M.ValidA e ∧
        M.absA e = spread 32 8 i • M.absA ((List.zip points ks)[j]).1) :
    ∃ R, sumOfProductsPrecomp256 points ks pre = some R ∧ M.ValidJ R ∧
      M.absJ R = msum M points ks :=
  sumOfProductsPrecomp256_correct_lt M points ks pre hpre hk

/-- all three agree -/
theorem all_agree (points : List (Aff F)) (ks : List ℕ) (w : ℕ) (hw1 : 1 ≤ w) (hw : w ≤ 20)
    (hk : ∀ k ∈ ks, k < 2 ^ 255) (hP : ∀ P ∈ points, M.ValidA P) :
    ∃ R1 R2 R3 tables,
      sumOfProducts points ks = some R1 ∧ sumOfProductsPippinger points ks w = some R2 ∧
      points.mapM Aff.precomp256 = some tables ∧
      sumOfProductsPrecomp256 points ks tables.flatten.toArray = some R3 ∧
      M.absJ R1 = msum M points ks ∧ M.absJ R2 = msum M points ks ∧
      M.absJ R3 = msum M points ks := by
  obtain ⟨R1, h1, -, a1⟩ := sum_of_products M points ks hk hP
  obtain ⟨R2, h2, -, a2⟩ := pippinger M points ks w hw1 hw hk hP
  obtain ⟨tables, ht, R3, h3, -, a3⟩ := sum_of_products_precomp256 M points ks
    (fun k hkm => Nat.lt_trans (hk k hkm) (by decide)) hP
  exact ⟨R1, R2, R3, tables, h1, h2, ht, h3, a1, a2, a3⟩

/-! ### the assert: exactly the scalars with bit 255 set make the bucket method panic -/

theorem pippinger_panics_iff (points : List (Aff F)) (ks : List ℕ) (w : ℕ) (hw1 : 1 ≤ w)
    (hw : w ≤ 20) (hk : ∀ k ∈ ks, k < 2 ^ 256) (hP : ∀ P ∈ points, M.ValidA P) :
    sumOfProductsPippinger points ks w = none ↔ ∃ pk ∈ List.zip points ks, 2 ^ 255 ≤ pk.2 :=
  Pip.pippinger_panics_iff M hw1 hw points ks hk hP

theorem sum_of_products_panics_iff (points : List (Aff F)) (ks : List ℕ)
    (hk : ∀ k ∈ ks, k < 2 ^ 256) (hP : ∀ P ∈ points, M.ValidA P) :
    sumOfProducts points ks = none ↔ ∃ pk ∈ List.zip points ks, 2 ^ 255 ≤ pk.2 :=
  Pip.sumOfProducts_panics_iff M points ks hk hP

/-! ### the special inputs named in the property (all instances of the general theorems) -/

private theorem forall_mem_pair {α : Type} {p : α → Prop} {a b : α} (ha : p a) (hb : p b) :
    ∀ x ∈ [a, b], p x := by
  intro x hx
  simp only [List.mem_cons, List.not_mem_nil, or_false] at hx
  rcases hx with rfl | rfl <;> assumption

/-- empty input (either list empty): the identity -/
theorem empty_points (ks : List ℕ) (hk : ∀ k ∈ ks, k < 2 ^ 255) :
    ∃ R, sumOfProducts ([] : List (Aff F)) ks = some R ∧ M.absJ R = 0 := by
  obtain ⟨R, h, -, a⟩ := sum_of_products M [] ks hk (by simp)
  exact ⟨R, h, by simpa [msum] using a⟩

theorem empty_scalars (points : List (Aff F)) (hP : ∀ P ∈ points, M.ValidA P) :
    ∃ R, sumOfProducts points [] = some R ∧ M.absJ R = 0 := by
  obtain ⟨R, h, -, a⟩ := sum_of_products M points [] (by simp) hP
  exact ⟨R, h, by simpa [msum] using a⟩

/-- a repeated point: `[k₁]A + [k₂]A = [k₁ + k₂]A` -/
theorem repeated_point (A : Aff F) (hA : M.ValidA A) (k1 k2 : ℕ) (h1 : k1 < 2 ^ 255)
    (h2 : k2 < 2 ^ 255) :
    ∃ R, sumOfProducts [A, A] [k1, k2] = some R ∧ M.absJ R = (k1 + k2) • M.absA A := by
  obtain ⟨R, h, -, a⟩ := sum_of_products M [A, A] [k1, k2] (forall_mem_pair h1 h2) (forall_mem_pair hA hA)
  exact ⟨R, h, by rw [a]; simp [msum, add_nsmul]⟩

/-- mutually inverse points with the same scalar cancel -/
theorem inverse_points (A : Aff F) (hA : M.ValidA A) (k : ℕ) (hk : k < 2 ^ 255) :
    ∃ R, sumOfProducts [A, A.neg] [k, k] = some R ∧ M.absJ R = 0 := by
  obtain ⟨R, h, -, a⟩ := sum_of_products M [A, A.neg] [k, k] (forall_mem_pair hk hk)
    (forall_mem_pair hA (M.affNeg_valid A hA))
  exact ⟨R, h, by rw [a]; simp [msum, M.affNeg_abs A hA]⟩

/-- identity points contribute nothing -/
theorem identity_point (A : Aff F) (hA : M.ValidA A) (k1 k2 : ℕ) (h1 : k1 < 2 ^ 255)
    (h2 : k2 < 2 ^ 255) :
    ∃ R, sumOfProducts [Aff.zero, A] [k1, k2] = some R ∧ M.absJ R = k2 • M.absA A := by
  obtain ⟨R, h, -, a⟩ := sum_of_products M [Aff.zero, A] [k1, k2] (forall_mem_pair h1 h2)
    (forall_mem_pair M.affZero_valid hA)
  exact ⟨R, h, by rw [a]; simp [msum, M.affZero_abs]⟩

/-- zero scalars contribute nothing -/
theorem zero_scalar (A B : Aff F) (hA : M.ValidA A) (hB : M.ValidA B) (k : ℕ) (hk : k < 2 ^ 255) :
    ∃ R, sumOfProducts [A, B] [0, k] = some R ∧ M.absJ R = k • M.absA B := by
  obtain ⟨R, h, -, a⟩ := sum_of_products M [A, B] [0, k] (forall_mem_pair (Nat.two_pow_pos 255) hk) (forall_mem_pair hA hB)
  exact ⟨R, h, by rw [a]; simp [msum]⟩

/-! ### the bit slicing of the bucket method (pure `Nat` facts) -/

/-- the bucket index in the window with top bit `bsi` is the `w`-bit (or shorter, at the bottom)
    slice of the scalar; all three branches of the Rust code -/
theorem digit_spec (k bsi w : ℕ) (hw1 : 1 ≤ w) (hw : w ≤ 20) (hb : bsi < 256) :
    pipDigit (limbsOf 4 k) bsi w = (k >>> (bsi + 1 - w)) % 2 ^ (bsi + 1 - (bsi + 1 - w)) :=
  Pip.pipDigit_spec hw1 (by omega) hb

/-- so bucket indexing never fails -/
theorem digit_lt (k bsi w : ℕ) (hw1 : 1 ≤ w) (hw : w ≤ 20) (hb : bsi < 256) :
    pipDigit (limbsOf 4 k) bsi w < 2 ^ w :=
  Pip.pipDigit_lt hw1 (by omega) hb

/-- the windows visited by the loop (`255, 255 - w, …`) tile the scalar -/
theorem digits_cover (k w : ℕ) (hw1 : 1 ≤ w) (hk : k < 2 ^ 256) : Pip.windowsVal k w 257 255 = k :=
  Pip.digits_cover hw1 hk

/-- the `assert!` fires exactly in the first window for scalars with bit 255 set -/
theorem assert_iff (k bsi w : ℕ) (hw1 : 1 ≤ w) (hw : w ≤ 20) (hk : k < 2 ^ 256) :
    pipAssertFails (limbsOf 4 k) bsi w = true ↔ bsi = 255 ∧ 2 ^ 255 ≤ k :=
  Pip.pipAssertFails_iff hw1 (by omega) hk

example : pipDigit (limbsOf 4 (2 ^ 254 + 2 ^ 64 + 5)) 255 4 = 4 := by decide +kernel
example : pipDigit (limbsOf 4 (2 ^ 254 + 2 ^ 64 + 5)) 65 5 = 8 := by decide +kernel   -- straddles words 1/0
example : pipDigit (limbsOf 4 (2 ^ 254 + 2 ^ 64 + 5)) 2 5 = 5 := by decide +kernel    -- bottom of word 0
example : pipAssertFails (limbsOf 4 (2 ^ 255)) 255 7 = true := by decide +kernel
example : pipAssertFails (limbsOf 4 (2 ^ 255 - 1)) 255 7 = false := by decide +kernel
example : findPippingerWindow 0 = 1 ∧ findPippingerWindow 1000 = 7 ∧
    findPippingerWindow (10 ^ 9) = 16 := by decide +kernel
example : Pip.windowsVal 0xdeadbeef0123456789 7 257 255 = 0xdeadbeef0123456789 := by decide +kernel

end PP.C10
