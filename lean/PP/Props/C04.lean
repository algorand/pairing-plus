/-
C04 — "For every byte string of the right length, checked decoding of a compressed or uncompressed G1/G2
encoding returns without panicking; it succeeds if and only if the flag bits are consistent with the
form, every coordinate is a reduced field element, the point satisfies the curve equation (or,
compressed, a square root exists and the sort flag selects it) and the point lies in the order-r
subgroup, and it then returns exactly that point. Each rejection reports the first failed validation in
the order form flag, infinity/sort flags, coordinate range, curve membership, subgroup membership. The
unchecked variant applies the same flag and range validation (and, for compressed input, the same
square-root step) but omits the curve-equation and subgroup tests."

Model: `decodeCompressed`, `decodeUncompressed`, `decode…Unchecked` (PP.Model.Enc).  Spec:
`ZCash.validate` / `firstFailure` / `Accepts` (PP.Spec.ZCash) for the curve description
`cc.curve C = ⟨C, cc.b, SqrtOps.lt, Aff.inSubgroup cc.b⟩`: the subgroup test is the MODEL's own predicate
(its meaning `r • P = 0` is C07's), the curve equation is `y·y = x·x·x + b`, the square root is specified
by existence (`ZCash.root?`, characterised below).

Totality ("without panicking"): the model functions are total Lean functions into `Except DecodeErr _`;
their only extra outcome `badLength` occurs exactly for inputs of the wrong length (`…_badLength`).

The theorems are for any field `F` with lawful ops and any codec `cc` implementing a lawful coordinate
format `C` (`Codec.Lawful`); `g1Codec_lawful` and `g2Codec_lawful` are proved outright, and
`PP.Props.C04Inst` states the instances for `g1Codec` / `g2Codec` with the field structure of `Fq2` and
the lawful `sqrt`/`lt` (Tower2 / C18) supplied.
-/
import PP.Proofs.Encoding
import PP.Proofs.Generators

-- the theorems are stated for a lawful field and codec throughout, also where a proof uses less
set_option linter.unusedSectionVars false

namespace PP.C04
open ZCash (Coord Form Flags Selected root? validate firstFailure Accepts)

section generic
variable {F : Type} [Field F] [DecidableEq F] [FieldOps F] [LawfulFieldOps F] [SqrtOps F] [LawfulSqrtOps F]
variable {cc : Codec F} {C : Coord F}

/-! ### the decoders are the ordered validation -/

theorem decodeUncompressed_eq_validate (L : cc.Lawful C) (bs : Bytes) (hl : bs.length = 2 * cc.size) :
    decodeUncompressed cc bs = validate (cc.curve C) .uncompressed true bs :=
  decodeUncompressed_eq L bs hl

theorem decodeCompressed_eq_validate (L : cc.Lawful C) (bs : Bytes) (hl : bs.length = cc.size) :
    decodeCompressed cc bs = validate (cc.curve C) .compressed true bs :=
  decodeCompressed_eq L bs hl

theorem decodeUncompressedUnchecked_eq_validate (L : cc.Lawful C) (bs : Bytes) (hl : bs.length = 2 * cc.size) :
    decodeUncompressedUnchecked cc bs = validate (cc.curve C) .uncompressed false bs :=
  decodeUncompressedUnchecked_eq L bs hl

theorem decodeCompressedUnchecked_eq_validate (L : cc.Lawful C) (bs : Bytes) (hl : bs.length = cc.size) :
    decodeCompressedUnchecked cc bs = validate (cc.curve C) .compressed false bs :=
  decodeCompressedUnchecked_eq L bs hl

/-! ### success iff accepted, and then exactly that point; failure = first failed validation -/

theorem decodeUncompressed_ok_iff (L : cc.Lawful C) (bs : Bytes) (hl : bs.length = 2 * cc.size) (A : Aff F) :
    decodeUncompressed cc bs = .ok A ↔ Accepts (cc.curve C) .uncompressed true bs A := by
  rw [decodeUncompressed_eq L bs hl]; rfl

theorem decodeCompressed_ok_iff (L : cc.Lawful C) (bs : Bytes) (hl : bs.length = cc.size) (A : Aff F) :
    decodeCompressed cc bs = .ok A ↔ Accepts (cc.curve C) .compressed true bs A := by
  rw [decodeCompressed_eq L bs hl]; rfl

theorem decodeUncompressedUnchecked_ok_iff (L : cc.Lawful C) (bs : Bytes) (hl : bs.length = 2 * cc.size)
    (A : Aff F) :
    decodeUncompressedUnchecked cc bs = .ok A ↔ Accepts (cc.curve C) .uncompressed false bs A := by
  rw [decodeUncompressedUnchecked_eq L bs hl]; rfl

theorem decodeCompressedUnchecked_ok_iff (L : cc.Lawful C) (bs : Bytes) (hl : bs.length = cc.size) (A : Aff F) :
    decodeCompressedUnchecked cc bs = .ok A ↔ Accepts (cc.curve C) .compressed false bs A := by
  rw [decodeCompressedUnchecked_eq L bs hl]; rfl

theorem firstFailure_eq_some_iff (K : ZCash.Curve F) (form : Form) (checked : Bool) (bs : Bytes) (e : DecodeErr) :
    firstFailure K form checked bs = some e ↔ validate K form checked bs = .error e := by
  unfold firstFailure
  cases validate K form checked bs with
  | error e' => simp
  | ok a => simp

theorem firstFailure_eq_none_iff (K : ZCash.Curve F) (form : Form) (checked : Bool) (bs : Bytes) :
    firstFailure K form checked bs = none ↔ ∃ A, Accepts K form checked bs A := by
  unfold firstFailure Accepts
  cases validate K form checked bs with
  | error e' => simp
  | ok a => simp

theorem decodeUncompressed_error_iff (L : cc.Lawful C) (bs : Bytes) (hl : bs.length = 2 * cc.size)
    (e : DecodeErr) :
    decodeUncompressed cc bs = .error e ↔ firstFailure (cc.curve C) .uncompressed true bs = some e := by
  rw [decodeUncompressed_eq L bs hl, firstFailure_eq_some_iff]

theorem decodeCompressed_error_iff (L : cc.Lawful C) (bs : Bytes) (hl : bs.length = cc.size) (e : DecodeErr) :
    decodeCompressed cc bs = .error e ↔ firstFailure (cc.curve C) .compressed true bs = some e := by
  rw [decodeCompressed_eq L bs hl, firstFailure_eq_some_iff]

theorem decodeUncompressedUnchecked_error_iff (L : cc.Lawful C) (bs : Bytes) (hl : bs.length = 2 * cc.size)
    (e : DecodeErr) :
    decodeUncompressedUnchecked cc bs = .error e ↔
      firstFailure (cc.curve C) .uncompressed false bs = some e := by
  rw [decodeUncompressedUnchecked_eq L bs hl, firstFailure_eq_some_iff]

theorem decodeCompressedUnchecked_error_iff (L : cc.Lawful C) (bs : Bytes) (hl : bs.length = cc.size)
    (e : DecodeErr) :
    decodeCompressedUnchecked cc bs = .error e ↔ firstFailure (cc.curve C) .compressed false bs = some e := by
  rw [decodeCompressedUnchecked_eq L bs hl, firstFailure_eq_some_iff]

/-! ### acceptance spelled out -/

/-- uncompressed: `c = 0`; either `i = 1` and the string is the identity encoding (result `⟨0,1,∞⟩`), or
`i = s = 0`, both coordinates are reduced, `y² = x³ + b`, the point is in the subgroup (result `(x, y)`) -/
theorem decodeUncompressed_ok_iff_explicit (L : cc.Lawful C) (bs : Bytes) (hl : bs.length = 2 * cc.size)
    (A : Aff F) :
    decodeUncompressed cc bs = .ok A ↔
      (ZCash.flags bs).c = false ∧
      (((ZCash.flags bs).i = true ∧ bs = ZCash.identityBytes C .uncompressed ∧ A = ⟨0, 1, true⟩) ∨
       ((ZCash.flags bs).i = false ∧ (ZCash.flags bs).s = false ∧
         C.rangeFailure "x" ((ZCash.clearFlags bs).take C.size) = none ∧
         C.rangeFailure "y" ((ZCash.clearFlags bs).drop C.size) = none ∧
         A = ⟨C.value ((ZCash.clearFlags bs).take C.size), C.value ((ZCash.clearFlags bs).drop C.size), false⟩ ∧
         A.y * A.y = A.x * A.x * A.x + cc.b ∧ Aff.inSubgroup cc.b A = true)) := by
  rw [decodeUncompressed_eq L bs hl, validate_uncompressed_ok_iff]
  simp only [forall_const]

/-- compressed: `c = 1`; either `i = 1` and the string is the identity encoding, or `i = 0`, `x` is reduced,
`x³ + b` has a square root `y`, `y` is the one selected by the sort flag, the point is in the subgroup -/
theorem decodeCompressed_ok_iff_explicit (L : cc.Lawful C) (bs : Bytes) (hl : bs.length = cc.size) (A : Aff F) :
    decodeCompressed cc bs = .ok A ↔
      (ZCash.flags bs).c = true ∧
      (((ZCash.flags bs).i = true ∧ bs = ZCash.identityBytes C .compressed ∧ A = ⟨0, 1, true⟩) ∨
       ((ZCash.flags bs).i = false ∧
         C.rangeFailure "x" ((ZCash.clearFlags bs).take C.size) = none ∧
         ∃ y : F, y * y = A.x * A.x * A.x + cc.b ∧
           Selected (SqrtOps.lt : F → F → Bool) (ZCash.flags bs).s y ∧
           A = ⟨C.value ((ZCash.clearFlags bs).take C.size), y, false⟩ ∧
           Aff.inSubgroup cc.b A = true)) := by
  rw [decodeCompressed_eq L bs hl, validate_compressed_ok_iff]
  simp only [forall_const]

/-! ### the unchecked variants -/

/-- spec level: checked = unchecked, then (finite points only) the curve equation in uncompressed form,
then the subgroup test -/
theorem validate_checked_of_unchecked (K : ZCash.Curve F) (form : Form) (bs : Bytes) :
    validate K form true bs =
      match validate K form false bs with
      | .error e => .error e
      | .ok A =>
        if A.infinity = true then .ok A
        else if form = .uncompressed ∧ A.y * A.y ≠ A.x * A.x * A.x + K.b then .error .notOnCurve
        else if K.inSubgroup A = false then .error .notInSubgroup
        else .ok A :=
  validate_checked_eq K form bs

/-- model level (by definition of the model, mirroring `into_affine` = `into_affine_unchecked` + tests) -/
theorem decodeUncompressed_of_unchecked (bs : Bytes) :
    decodeUncompressed cc bs =
      match decodeUncompressedUnchecked cc bs with
      | .error e => .error e
      | .ok a =>
        if !a.isOnCurve cc.b then .error .notOnCurve
        else if !a.inSubgroup cc.b then .error .notInSubgroup
        else .ok a := rfl

theorem decodeCompressed_of_unchecked (bs : Bytes) :
    decodeCompressed cc bs =
      match decodeCompressedUnchecked cc bs with
      | .error e => .error e
      | .ok a => if !a.inSubgroup cc.b then .error .notInSubgroup else .ok a := rfl

/-- the unchecked uncompressed decoder never reports a curve or subgroup failure -/
theorem decodeUncompressedUnchecked_error_class (bs : Bytes) (e : DecodeErr)
    (h : decodeUncompressedUnchecked cc bs = .error e) : e ≠ .notOnCurve ∧ e ≠ .notInSubgroup := by
  rcases decodeUncompressedUnchecked_outcome bs _ h with ⟨_, rfl⟩ | ⟨_, rfl | rfl | ⟨s, rfl⟩⟩ <;>
    exact ⟨nofun, nofun⟩

/-- what the unchecked compressed decoder returns satisfies the curve equation (the square-root step stays) -/
theorem decodeCompressedUnchecked_isOnCurve (bs : Bytes) (A : Aff F)
    (h : decodeCompressedUnchecked cc bs = .ok A) : Aff.isOnCurve cc.b A = true :=
  decodeCompressedUnchecked_onCurve bs A h

/-! ### totality: `badLength` is the wrong-length outcome and nothing else -/

theorem decodeUncompressedUnchecked_badLength_iff (bs : Bytes) :
    decodeUncompressedUnchecked cc bs = .error .badLength ↔ bs.length ≠ 2 * cc.size := by
  constructor
  · intro h
    rcases decodeUncompressedUnchecked_outcome bs _ h with ⟨hl, _⟩ | ⟨_, h' | h' | ⟨s, h'⟩⟩
    · exact hl
    all_goals cases h'
  · intro hl
    unfold decodeUncompressedUnchecked
    rw [if_pos hl]

theorem decodeCompressedUnchecked_badLength_iff (bs : Bytes) :
    decodeCompressedUnchecked cc bs = .error .badLength ↔ bs.length ≠ cc.size := by
  constructor
  · intro h
    rcases decodeCompressedUnchecked_outcome bs _ h with ⟨hl, _⟩ | ⟨_, h' | h' | ⟨s, h'⟩ | h'⟩
    · exact hl
    all_goals cases h'
  · intro hl
    unfold decodeCompressedUnchecked
    rw [if_pos hl]

theorem decodeUncompressed_badLength_iff (bs : Bytes) :
    decodeUncompressed cc bs = .error .badLength ↔ bs.length ≠ 2 * cc.size := by
  rw [← decodeUncompressedUnchecked_badLength_iff (cc := cc)]
  unfold decodeUncompressed
  cases decodeUncompressedUnchecked cc bs with
  | error e => exact Iff.rfl
  | ok a =>
    dsimp only
    cases Aff.isOnCurve cc.b a
    · exact ⟨nofun, nofun⟩
    cases Aff.inSubgroup cc.b a <;> exact ⟨nofun, nofun⟩

theorem decodeCompressed_badLength_iff (bs : Bytes) :
    decodeCompressed cc bs = .error .badLength ↔ bs.length ≠ cc.size := by
  rw [← decodeCompressedUnchecked_badLength_iff (cc := cc)]
  unfold decodeCompressed
  cases decodeCompressedUnchecked cc bs with
  | error e => exact Iff.rfl
  | ok a =>
    dsimp only
    cases Aff.inSubgroup cc.b a <;> exact ⟨nofun, nofun⟩

/-! ### the curve-level ingredients -/

theorem isOnCurve_iff (b : F) (A : Aff F) :
    Aff.isOnCurve b A = true ↔ A.infinity = true ∨ A.y * A.y = A.x * A.x * A.x + b := Aff.isOnCurve_iff_eq b A

/-- `get_point_from_x`: returns `(x, y)` for the root `y` of `x³ + b` selected by `greatest`
(`Selected g y`: `g → ¬ y < −y`, `¬g → ¬ −y < y`; for `y = 0 = −y` both hold and `(x, 0)` is returned
whatever `greatest` is) -/
theorem getPointFromX_eq_some_iff (b x : F) (g : Bool) (A : Aff F) :
    Aff.getPointFromX b x g = some A ↔
      ∃ y, y * y = x * x * x + b ∧ A = ⟨x, y, false⟩ ∧ Selected (SqrtOps.lt : F → F → Bool) g y :=
  Aff.getPointFromX_eq_some_iff b x g A

theorem getPointFromX_eq_none_iff (b x : F) (g : Bool) :
    Aff.getPointFromX b x g = none ↔ ¬ IsSquare (x * x * x + b) := Aff.getPointFromX_eq_none_iff b x g

/-- `Selected` in terms of the strict order: for `y ≠ −y`, the flag says whether `y` is the larger root -/
theorem selected_iff_of_ne (g : Bool) (y : F) (hy : -y ≠ y) :
    Selected (SqrtOps.lt : F → F → Bool) g y ↔ (SqrtOps.lt (-y) y = g) := PP.selected_iff_of_ne g y hy

/-- the spec's square-root step is well defined: `root?` returns THE selected root … -/
theorem root?_eq_some_iff (a : F) (s : Bool) (y : F) :
    root? (SqrtOps.lt : F → F → Bool) a s = some y ↔ y * y = a ∧ Selected (SqrtOps.lt : F → F → Bool) s y :=
  PP.root?_eq_some_iff a s y

/-- … and fails exactly on non-squares -/
theorem root?_eq_none_iff (a : F) (s : Bool) :
    root? (SqrtOps.lt : F → F → Bool) a s = none ↔ ¬ IsSquare a := PP.root?_eq_none_iff a s

/-- the identity record passes the model's curve and subgroup tests (so step (2) may accept it outright) -/
theorem identity_valid (b : F) :
    Aff.isOnCurve b (Aff.zero : Aff F) = true ∧ Aff.inSubgroup b (Aff.zero : Aff F) = true :=
  ⟨Aff.isOnCurve_zero b, Aff.inSubgroup_zero b⟩

end generic

/-! ### precedence, step by step (direct readings of `validate`) -/
section precedence
variable {F : Type} [Add F] [Mul F] [Neg F] [Zero F] [One F] [DecidableEq F]
variable (K : ZCash.Curve F) (form : Form) (checked : Bool) (bs : Bytes)

/-- (1) a wrong form flag is reported whatever else is wrong -/
theorem step1 (h : (ZCash.flags bs).c ≠ form.isCompressed) :
    firstFailure K form checked bs = some .compressionMode := by
  unfold firstFailure validate; simp [h]

/-- (2) `i` set but other bits set: reported before range, curve, subgroup -/
theorem step2_infinity (h1 : (ZCash.flags bs).c = form.isCompressed) (hi : (ZCash.flags bs).i = true)
    (h : bs ≠ ZCash.identityBytes K.coord form) :
    firstFailure K form checked bs = some .unexpectedInfo := by
  unfold firstFailure validate; simp [h1, hi, h]

/-- (2) sort flag on an uncompressed string -/
theorem step2_sort (h1 : (ZCash.flags bs).c = false) (hi : (ZCash.flags bs).i = false)
    (hs : (ZCash.flags bs).s = true) :
    firstFailure K .uncompressed checked bs = some .unexpectedInfo := by
  unfold firstFailure validate; simp [h1, hi, hs, Form.isCompressed]

/-- (3) a non-reduced `x` is reported before `y`, curve, subgroup -/
theorem step3_x (h1 : (ZCash.flags bs).c = form.isCompressed) (hi : (ZCash.flags bs).i = false)
    (hs : form = .uncompressed → (ZCash.flags bs).s = false) (e : String)
    (hx : K.coord.rangeFailure "x" ((ZCash.clearFlags bs).take K.coord.size) = some e) :
    firstFailure K form checked bs = some (.coord e) := by
  unfold firstFailure validate
  cases form
  · simp [h1, hi, hx]
  · simp [h1, hi, hs rfl, hx]

/-- (3) a non-reduced `y` (uncompressed) is reported before curve, subgroup -/
theorem step3_y (h1 : (ZCash.flags bs).c = false) (hi : (ZCash.flags bs).i = false)
    (hs : (ZCash.flags bs).s = false)
    (hx : K.coord.rangeFailure "x" ((ZCash.clearFlags bs).take K.coord.size) = none) (e : String)
    (hy : K.coord.rangeFailure "y" ((ZCash.clearFlags bs).drop K.coord.size) = some e) :
    firstFailure K .uncompressed checked bs = some (.coord e) := by
  unfold firstFailure validate
  simp [h1, hi, hs, hx, hy, Form.isCompressed]

/-- (4) uncompressed, checked: the curve equation is tested before the subgroup -/
theorem step4_uncompressed (h1 : (ZCash.flags bs).c = false) (hi : (ZCash.flags bs).i = false)
    (hs : (ZCash.flags bs).s = false)
    (hx : K.coord.rangeFailure "x" ((ZCash.clearFlags bs).take K.coord.size) = none)
    (hy : K.coord.rangeFailure "y" ((ZCash.clearFlags bs).drop K.coord.size) = none)
    (hc : K.coord.value ((ZCash.clearFlags bs).drop K.coord.size) *
            K.coord.value ((ZCash.clearFlags bs).drop K.coord.size) ≠
          K.coord.value ((ZCash.clearFlags bs).take K.coord.size) *
            K.coord.value ((ZCash.clearFlags bs).take K.coord.size) *
            K.coord.value ((ZCash.clearFlags bs).take K.coord.size) + K.b) :
    firstFailure K .uncompressed true bs = some .notOnCurve := by
  unfold firstFailure validate
  simp [h1, hi, hs, hx, hy, hc, Form.isCompressed]

/-- (4) compressed (checked or not): no selected square root -/
theorem step4_compressed (h1 : (ZCash.flags bs).c = true) (hi : (ZCash.flags bs).i = false)
    (hx : K.coord.rangeFailure "x" ((ZCash.clearFlags bs).take K.coord.size) = none)
    (hr : root? K.lt (K.coord.value ((ZCash.clearFlags bs).take K.coord.size) *
            K.coord.value ((ZCash.clearFlags bs).take K.coord.size) *
            K.coord.value ((ZCash.clearFlags bs).take K.coord.size) + K.b) (ZCash.flags bs).s = none) :
    firstFailure K .compressed checked bs = some .notOnCurve := by
  unfold firstFailure validate
  simp [h1, hi, hx, hr, Form.isCompressed]

/-- (5) `notInSubgroup` is reported only when every other step has passed -/
theorem step5 (A : Aff F) (h : validate K form false bs = .ok A) (hf : A.infinity = false)
    (hc : form = .uncompressed → A.y * A.y = A.x * A.x * A.x + K.b) (hsub : K.inSubgroup A = false) :
    firstFailure K form true bs = some .notInSubgroup := by
  unfold firstFailure
  rw [validate_checked_eq, h]
  simp only [hf, Bool.false_eq_true, if_false, hsub, if_true]
  cases form
  · simp
  · simp [hc rfl]

end precedence

/-! ### non-vacuity: concrete evaluations (kernel, `decide +kernel`) -/
namespace Examples

/-- outcomes as comparable data -/
def outcome {F : Type} (r : Except DecodeErr (Aff F)) : Option DecodeErr × Option (Aff F) :=
  match r with
  | .ok a => (none, some a)
  | .error e => (some e, none)

/-- the G1 generator of the Rust source and its standard ZCash compressed encoding `97f1d3a7…c6bb` -/
def gen1 : Aff Fq := ⟨Fq.ofMont Gen.G1_GENERATOR_X, Fq.ofMont Gen.G1_GENERATOR_Y, false⟩
def gen1Bytes : Bytes := [
   0x97, 0xf1, 0xd3, 0xa7, 0x31, 0x97, 0xd7, 0x94, 0x26, 0x95, 0x63, 0x8c, 0x4f, 0xa9, 0xac, 0x0f, 0xc3, 0x68, 0x8c, 0x4f, 0x97, 0x74, 0xb9, 0x05,
   0xa1, 0x4e, 0x3a, 0x3f, 0x17, 0x1b, 0xac, 0x58, 0x6c, 0x55, 0xe8, 0x3f, 0xf9, 0x7a, 0x1a, 0xef, 0xfb, 0x3a, 0xf0, 0x0a, 0xdb, 0x22, 0xc6, 0xbb]

/-- the G2 generator and its standard ZCash compressed encoding `93e02b60…bdb8` -/
def gen2 : Aff Fq2 :=
  ⟨⟨Fq.ofMont Gen.G2_GENERATOR_X_C0, Fq.ofMont Gen.G2_GENERATOR_X_C1⟩,
   ⟨Fq.ofMont Gen.G2_GENERATOR_Y_C0, Fq.ofMont Gen.G2_GENERATOR_Y_C1⟩, false⟩
def gen2Bytes : Bytes := [
   0x93, 0xe0, 0x2b, 0x60, 0x52, 0x71, 0x9f, 0x60, 0x7d, 0xac, 0xd3, 0xa0, 0x88, 0x27, 0x4f, 0x65, 0x59, 0x6b, 0xd0, 0xd0, 0x99, 0x20, 0xb6, 0x1a,
   0xb5, 0xda, 0x61, 0xbb, 0xdc, 0x7f, 0x50, 0x49, 0x33, 0x4c, 0xf1, 0x12, 0x13, 0x94, 0x5d, 0x57, 0xe5, 0xac, 0x7d, 0x05, 0x5d, 0x04, 0x2b, 0x7e,
   0x02, 0x4a, 0xa2, 0xb2, 0xf0, 0x8f, 0x0a, 0x91, 0x26, 0x08, 0x05, 0x27, 0x2d, 0xc5, 0x10, 0x51, 0xc6, 0xe4, 0x7a, 0xd4, 0xfa, 0x40, 0x3b, 0x02,
   0xb4, 0x51, 0x0b, 0x64, 0x7a, 0xe3, 0xd1, 0x77, 0x0b, 0xac, 0x03, 0x26, 0xa8, 0x05, 0xbb, 0xef, 0xd4, 0x80, 0x56, 0xc8, 0xc1, 0x21, 0xbd, 0xb8]

theorem eq_ok_of_outcome {F : Type} {r : Except DecodeErr (Aff F)} {a : Aff F}
    (h : outcome r = (none, some a)) : r = .ok a := by
  cases r with
  | error e => cases h
  | ok b => cases h; rfl

/-- the checked decoder accepts what the unchecked one returns if that is in the subgroup; the subgroup
test is then not part of the evaluation -/
theorem outcome_decodeCompressed {F : Type} [Add F] [Sub F] [Mul F] [Neg F] [Zero F] [One F] [FieldOps F]
    [DecidableEq F] [SqrtOps F] {cc : Codec F} {bs : Bytes} {a : Aff F}
    (hu : outcome (decodeCompressedUnchecked cc bs) = (none, some a)) (hs : Aff.inSubgroup cc.b a = true) :
    outcome (decodeCompressed cc bs) = (none, some a) := by
  rw [(decodeCompressed_ok_iff_unchecked bs a).mpr ⟨eq_ok_of_outcome hu, hs⟩]; rfl

/-- the square-root step on the generator's `x` and the sort flag give back the generator -/
theorem decodeCompressed_gen1 : outcome (decodeCompressed g1Codec gen1Bytes) = (none, some gen1) :=
  outcome_decodeCompressed (by decide +kernel) generatorG1_inSubgroup

-- every outcome class occurs (G1, compressed, 48 bytes)
example : outcome (decodeCompressed g1Codec gen1Bytes) = (none, some gen1) := decodeCompressed_gen1
example : outcome (decodeCompressed g1Codec (0xc0 :: List.replicate 47 0)) = (none, some Aff.zero) :=
  outcome_decodeCompressed (by decide +kernel) (Aff.inSubgroup_of_infinity (by decide) _ _ rfl)
example : outcome (decodeCompressed g1Codec (List.replicate 48 0)) = (some .compressionMode, none) := by
  decide +kernel
example : outcome (decodeCompressed g1Codec (0xe0 :: List.replicate 47 0)) = (some .unexpectedInfo, none) := by
  decide +kernel
example : outcome (decodeCompressed g1Codec (0xc0 :: List.replicate 46 0 ++ [1])) = (some .unexpectedInfo, none) := by
  decide +kernel
example : outcome (decodeCompressed g1Codec (0x9f :: List.replicate 47 0xff)) =
    (some (.coord "x coordinate"), none) := by decide +kernel
example : outcome (decodeCompressed g1Codec (0x80 :: List.replicate 46 0 ++ [1])) = (some .notOnCurve, none) := by
  decide +kernel
-- `x = 0`: `(0, ±2)` is on the curve but not in the subgroup
example : outcome (decodeCompressed g1Codec (0x80 :: List.replicate 47 0)) = (some .notInSubgroup, none) := by
  rw [decodeCompressed_g1_x0]; rfl
example : (outcome (decodeCompressedUnchecked g1Codec (0x80 :: List.replicate 47 0))).1 = none := by
  rw [decodeCompressedUnchecked_g1_x0]; rfl
-- uncompressed, 96 bytes
example : outcome (decodeUncompressed g1Codec (0x40 :: List.replicate 95 0)) = (none, some Aff.zero) := by
  have hu : outcome (decodeUncompressedUnchecked g1Codec (0x40 :: List.replicate 95 0)) = (none, some Aff.zero) := by
    decide +kernel
  rw [(decodeUncompressed_ok_iff_unchecked _ _).mpr
    ⟨eq_ok_of_outcome hu, rfl, Aff.inSubgroup_of_infinity (by decide) _ _ rfl⟩]
  rfl
example : outcome (decodeUncompressed g1Codec (0x60 :: List.replicate 95 0)) = (some .unexpectedInfo, none) := by
  decide +kernel
example : outcome (decodeUncompressed g1Codec (0x20 :: List.replicate 95 0)) = (some .unexpectedInfo, none) := by
  decide +kernel
example : outcome (decodeUncompressed g1Codec (0x80 :: List.replicate 95 0)) = (some .compressionMode, none) := by
  decide +kernel
example : outcome (decodeUncompressed g1Codec (List.replicate 96 0)) = (some .notOnCurve, none) := by
  decide +kernel
example : outcome (decodeUncompressed g1Codec (List.replicate 48 0 ++ 0x1f :: List.replicate 47 0xff)) =
    (some (.coord "y coordinate"), none) := by decide +kernel
example : outcome (decodeUncompressed g1Codec (List.replicate 95 0)) = (some .badLength, none) := by
  decide +kernel
-- G2: the generator decodes; with both components of `x` out of range, `c0` is reported (wire order c1, c0)
example : outcome (decodeCompressed g2Codec gen2Bytes) = (none, some gen2) :=
  outcome_decodeCompressed (by decide +kernel) generatorG2_inSubgroup
example : outcome (decodeCompressed g2Codec (0x9f :: List.replicate 95 0xff)) =
    (some (.coord "x coordinate (c0)"), none) := by decide +kernel
example : outcome (decodeCompressed g2Codec (0x9f :: List.replicate 47 0xff ++ List.replicate 48 0)) =
    (some (.coord "x coordinate (c1)"), none) := by decide +kernel
example : outcome (decodeCompressed g2Codec (0xc0 :: List.replicate 95 0)) = (none, some Aff.zero) :=
  outcome_decodeCompressed (by decide +kernel) (Aff.inSubgroup_of_infinity (by decide) _ _ rfl)

-- the generator's encoding is accepted by the spec (`LawfulSqrtOps Fq` is assumed here only because
-- this file does not import its instance), and the spec's flags see what the model sees
example [LawfulSqrtOps Fq] : ZCash.Accepts (g1Codec.curve ZCash.fqCoord) .compressed true gen1Bytes gen1 := by
  unfold ZCash.Accepts
  rw [← decodeCompressed_eq_validate g1Codec_lawful gen1Bytes (by decide)]
  exact eq_ok_of_outcome decodeCompressed_gen1
example : ZCash.flags gen1Bytes = ⟨true, false, false⟩ := by decide +kernel
example : ZCash.flags gen2Bytes = ⟨true, false, false⟩ := by decide +kernel

end Examples

end PP.C04
