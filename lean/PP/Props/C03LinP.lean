/-
PROPERTY C03, LINEARITY OF THE PAIRING IN ITS FIRST ARGUMENT, for ALL inputs:

    e(P₁ + P₂, Q) = e(P₁, Q) · e(P₂, Q),        e([k]P, Q) = e(P, Q)^k   (k ∈ ℕ, ℤ)

for all `P₁, P₂, P ∈ E(Fq)` (accepted by the model's `is_on_curve`; NO subgroup assumption; the identity
allowed) and all `Q ∈ G2` (accepted by the model's `in_subgroup`; the identity allowed).  `pairing` is the
model function of `PP/Model/Pairing.lean` (`none` = a panic of the Rust code: it never occurs here),
`+`, `[k]` refer to Mathlib's group `(W g1Codec.b).Point` through `Aff.abs`, and - through the C01/C02
correctness theorems - to the model's own `add_assign_mixed`, `add_assign`, `mul`.

Everything is proved (axioms `propext`, `Classical.choice`, `Quot.sound`).

HOW IT IS PROVED (elementary, no divisor theory; files `PP/Proofs/BilinP1.lean` … `BilinP3.lean`,
`BilinPFrob.lean`).  By `C03Lines`, `pairing P Q = conj(f)^E`, `f = textbookMiller P Q` the product of the
tangent/chord lines `l_T`, `l_{T,Q}` of `E(Fq12)` at the untwisted multiples of `Q`, evaluated at `P`,
`E = 3(q¹²-1)/r`.  Write `pw x = x^E`, let `m` be the line through `P₁, P₂, -P₃` (`P₃ = P₁ + P₂`; slope in
`Fq`; tangent if `P₁ = P₂`), `g(R) = m(R)` for `R ∈ E(Fq12)`, `ε(T) = pw g(ψT)`.

1. RECIPROCITY OF TWO LINES (`line_reciprocity`; Vieta for the cubic `x³ + b - (λx + ν)²`):
   `l(A') l(B') l(-C') = - m(A) m(B) m(-C)` for lines `l ∋ A, B, -C`, `m ∋ A', B', -C'`.
   Hence `l_T(P₁) l_T(P₂) l_T(-P₃) = - g(ψT)² g(-ψ(2T))` and the same for chords.
2. `l_T(-P) = -conj l_T(P)` (`NegPair.conj_lineAt`), `g(-ψT) = conj g(ψT)`, `pw(conj x) = (pw x)⁻¹`, `pw(-1) = 1`:
   `pw l_T(P₁) · pw l_T(P₂) / pw l_T(P₃) = ε(T)²/ε(2T)`, resp. `ε(T) ε(Q)/ε(T+Q)`.
3. ZERO BOOKKEEPING = induction over the Miller loop (`loop_invariant`):
   `pw f(P₁) · pw f(P₂) / pw f(P₃) = ε(Q)^k / ε([k]Q)` after the bits of `k`; at the end `k = n = |x|`.
4. FROBENIUS (`frobenius_on_G2`): the twisted Frobenius `Φ(x,y) = (conj x/γ², conj y/γ³)` is an
   endomorphism of `E'(Fq2)` (Mathlib group) and `[n]Q = -Φ(Q)` on `G2`; `ψ∘Φ = π∘ψ` and `m` has
   coefficients in `Fq`, so `ε([n]Q) = ε(Q)^(-q)`.
5. `r ∣ n + q`, `ε(Q)^r = 1`: the quotient in 3. is `1`.
No vertical line is needed: the verticals of the textbook plan all cancel against conjugates.
-/
import PP.Proofs.BilinP3

namespace PP.C03LinP

open PP Ate Miller Lines NegPair BilinP WeierstrassCurve.Affine

local notation "b₁" => g1Codec.b
local notation "b₂" => g2Codec.b

/-! ## intermediate results -/

/-- **reciprocity of two lines** on `y² = x³ + b` over any field: if the line of slope `l` through `A`
    meets the curve in `A`, `B`, `-(A+B)` and the line of slope `m` through `A'` in `A'`, `B'`,
    `-(A'+B')` (`LineZeros`: `B` on the line + Vieta), then
    `l(A') l(B') l(-(A'+B')) = - m(A) m(B) m(-(A+B))` -/
theorem line_reciprocity {K : Type} [Field K] {b l m : K} {A B A' B' : K × K}
    (h : LineZeros b l A B) (h' : LineZeros b m A' B') :
    lineAt l A A' * lineAt l A B' * lineAt l A (ngp (sumOfSlope m A' B')) =
      -(lineAt m A' A * lineAt m A' B * lineAt m A' (ngp (sumOfSlope l A B))) :=
  BilinP.line_reciprocity h h'

/-- tangents and chords satisfy `LineZeros` -/
theorem lineZeros_tangent {K : Type} [Field K] {b : K} {A : K × K} (h2 : (2 : K) ≠ 0)
    (hA : A.2 ^ 2 = A.1 ^ 3 + b) (hy : A.2 ≠ 0) : LineZeros b (tangentSlope A) A A :=
  BilinP.lineZeros_tangent h2 hA hy

theorem lineZeros_chord {K : Type} [Field K] {b : K} {A B : K × K} (hA : A.2 ^ 2 = A.1 ^ 3 + b)
    (hB : B.2 ^ 2 = B.1 ^ 3 + b) (hx : A.1 ≠ B.1) : LineZeros b (chordSlope A B) A B :=
  BilinP.lineZeros_chord hA hB hx

/-- **Frobenius on `G2`**: the twisted Frobenius `Φ = frobHom`,
    `(x, y) ↦ (conj x / γ², conj y / γ³)`, `γ = ξ^((q-1)/6)`, is an endomorphism of `E'(Fq2)` and
    `[|x|] S = -Φ(S)` for every `S` killed by `r` (i.e. `Φ = [q] = [x]` on `G2`) -/
theorem frobenius_on_G2 (S : (W b₂).Point) (hS : Gen.r • S = 0) : Gen.BLS_X • S = -frobHom S :=
  frob_eq_neg_nsmul S hS

theorem frobenius_coordinates {x y : Fq2} (h : (W b₂).Nonsingular x y) :
    frobHom (Point.some x y h) =
      Point.some (dInv ^ 2 * Fq2.conj x) (dInv ^ 3 * Fq2.conj y) (tw_nonsingular twFrob h) :=
  frobHom_some h

/-- `ψ ∘ Φ = π ∘ ψ`: `Φ` is the Frobenius of `E(Fq12)` seen on the twist -/
theorem untwist_frobenius (T : Fq2 × Fq2) :
    untwist (dInv ^ 2 * Fq2.conj T.1, dInv ^ 3 * Fq2.conj T.2) =
      ((untwist T).1 ^ Gen.q, (untwist T).2 ^ Gen.q) :=
  untwist_frob T

/-- **the invariant of the Miller loop** (the bookkeeping of zeros): with `pw x = x^(3(q¹²-1)/r)`,
    `ε(T) = pw (m(ψT))`, `m` the line through `P₁`, `P₂`, if
    `pw F₁ · pw F₂ / pw F₃ = ε(Q)^k / ε(T)` with `T = [k]Q` then the same holds after any list of bits
    (as long as `4K < r` for the final `K`) -/
theorem loop_invariant (lam : Fq) (P₁ P₂ : Fq × Fq) (hL : LineZeros (4 : Fq) lam P₁ P₂)
    (Q : Fq2 × Fq2) (S : (W b₂).Point) (hS0 : S ≠ 0) (hSr : Gen.r • S = 0) (hQ : Repr Q S)
    (bs : List Bool) (T : Fq2 × Fq2) (k : ℕ) (F₁ F₂ F₃ : Fq12) (hk : 1 ≤ k)
    (hlt : 4 * val k bs < Gen.r) (hT : Repr T (k • S))
    (h : pw F₁ * pw F₂ * (pw F₃)⁻¹ = eps lam P₁ Q ^ k * (eps lam P₁ T)⁻¹) :
    pw (bs.foldl (millerStep P₁ Q) (F₁, T)).1 * pw (bs.foldl (millerStep P₂ Q) (F₂, T)).1 *
        (pw (bs.foldl (millerStep (sumOfSlope lam P₁ P₂) Q) (F₃, T)).1)⁻¹ =
      eps lam P₁ Q ^ val k bs * (eps lam P₁ (pointLoop Q bs T))⁻¹ ∧
    Repr (pointLoop Q bs T) (val k bs • S) :=
  loop_inv lam P₁ P₂ hL Q S hS0 hSr hQ bs T k F₁ F₂ F₃ hk hlt hT h

/-- **the textbook reduced ate pairing is additive in `P`**: `P₁`, `P₂` on a line of slope `lam ∈ Fq`
    (chord or tangent of `E : y² = x³ + 4`), `P₃ = P₁ + P₂` the reflected third point, `Q ∈ G2` -/
theorem reducedAte_add (lam : Fq) (P₁ P₂ : Fq × Fq) (hL : LineZeros (4 : Fq) lam P₁ P₂)
    (hy₃ : (sumOfSlope lam P₁ P₂).2 ≠ 0) (q : Aff Fq2) (hq : Aff.InSub b₂ q)
    (hqi : q.infinity = false) :
    reducedAte (sumOfSlope lam P₁ P₂) (q.x, q.y) =
      reducedAte P₁ (q.x, q.y) * reducedAte P₂ (q.x, q.y) :=
  BilinP.reducedAte_add_left lam P₁ P₂ hL hy₃ q hq hqi

/-! ## the pairing of the model -/

/-- **`e(P₁ + P₂, Q) = e(P₁, Q) · e(P₂, Q)`** for all `P₁, P₂ ∈ E(Fq)`, `Q ∈ G2`: if `p₃` denotes the sum
    of `p₁` and `p₂` in the group of points, the three calls return `e₁`, `e₂`, `e₁ · e₂` -/
theorem pairing_add_left (p₁ p₂ p₃ : Aff Fq) (q : Aff Fq2) (hp₁ : p₁.isOnCurve b₁ = true)
    (hp₂ : p₂.isOnCurve b₁ = true) (hp₃ : p₃.isOnCurve b₁ = true)
    (hq : Aff.inSubgroup b₂ q = true)
    (hsum : Aff.abs b₁ p₃ = Aff.abs b₁ p₁ + Aff.abs b₁ p₂) :
    ∃ e₁ e₂ : Fq12, e₁ ≠ 0 ∧ e₂ ≠ 0 ∧ pairing p₁ q = some e₁ ∧ pairing p₂ q = some e₂ ∧
      pairing p₃ q = some (e₁ * e₂) :=
  pairing_add p₁ p₂ p₃ q hp₁ hp₂ hp₃ hq hsum

/-- the same in `Option`, without naming the values -/
theorem pairing_add_left_opt (p₁ p₂ p₃ : Aff Fq) (q : Aff Fq2) (hp₁ : p₁.isOnCurve b₁ = true)
    (hp₂ : p₂.isOnCurve b₁ = true) (hp₃ : p₃.isOnCurve b₁ = true)
    (hq : Aff.inSubgroup b₂ q = true)
    (hsum : Aff.abs b₁ p₃ = Aff.abs b₁ p₁ + Aff.abs b₁ p₂) :
    pairing p₃ q = optMul (pairing p₁ q) (pairing p₂ q) := by
  obtain ⟨e₁, e₂, -, -, h₁, h₂, h₃⟩ := pairing_add p₁ p₂ p₃ q hp₁ hp₂ hp₃ hq hsum
  rw [h₁, h₂, h₃, optMul_some]

/-- with the model's mixed addition `add_assign_mixed` followed by `into_affine`:
    **`pairing (p₁ + p₂) q = pairing p₁ q · pairing p₂ q`** -/
theorem pairing_addMixed_left (p₁ p₂ : Aff Fq) (q : Aff Fq2) (hp₁ : p₁.isOnCurve b₁ = true)
    (hp₂ : p₂.isOnCurve b₁ = true) (hq : Aff.inSubgroup b₂ q = true) :
    ∃ p₃, (p₁.toJac.addMixed p₂).toAffine = some p₃ ∧ p₃.isOnCurve b₁ = true ∧
      pairing p₃ q = optMul (pairing p₁ q) (pairing p₂ q) := by
  have hc₁ := (Aff.isOnCurve_iff _ p₁).mp hp₁
  have hc₂ := (Aff.isOnCurve_iff _ p₂).mp hp₂
  obtain ⟨hJ, hJa⟩ := Aff.toJac_spec hc₁
  obtain ⟨hS, hSa⟩ := Jac.addMixed_spec hJ hc₂
  obtain ⟨p₃, h₃, hc₃, ha₃⟩ := Jac.toAffine_spec hS
  have hp₃ := (Aff.isOnCurve_iff _ p₃).mpr hc₃
  exact ⟨p₃, h₃, hp₃, pairing_add_left_opt p₁ p₂ p₃ q hp₁ hp₂ hp₃ hq (by rw [ha₃, hSa, hJa])⟩

/-- with the model's projective addition `add_assign` -/
theorem pairing_jacAdd_left (p₁ p₂ : Aff Fq) (q : Aff Fq2) (hp₁ : p₁.isOnCurve b₁ = true)
    (hp₂ : p₂.isOnCurve b₁ = true) (hq : Aff.inSubgroup b₂ q = true) :
    ∃ p₃, (p₁.toJac.add p₂.toJac).toAffine = some p₃ ∧ p₃.isOnCurve b₁ = true ∧
      pairing p₃ q = optMul (pairing p₁ q) (pairing p₂ q) := by
  have hc₁ := (Aff.isOnCurve_iff _ p₁).mp hp₁
  have hc₂ := (Aff.isOnCurve_iff _ p₂).mp hp₂
  obtain ⟨hJ₁, hJa₁⟩ := Aff.toJac_spec hc₁
  obtain ⟨hJ₂, hJa₂⟩ := Aff.toJac_spec hc₂
  obtain ⟨hS, hSa⟩ := Jac.add_spec hJ₁ hJ₂
  obtain ⟨p₃, h₃, hc₃, ha₃⟩ := Jac.toAffine_spec hS
  have hp₃ := (Aff.isOnCurve_iff _ p₃).mpr hc₃
  exact ⟨p₃, h₃, hp₃,
    pairing_add_left_opt p₁ p₂ p₃ q hp₁ hp₂ hp₃ hq (by rw [ha₃, hSa, hJa₁, hJa₂])⟩

/-- **`e([k]P, Q) = e(P, Q)^k`**, `k : ℕ`: if `pk` denotes `k • p` in the group of points -/
theorem pairing_nsmul_left (p pk : Aff Fq) (q : Aff Fq2) (k : ℕ) (hp : p.isOnCurve b₁ = true)
    (hpk : pk.isOnCurve b₁ = true) (hq : Aff.inSubgroup b₂ q = true)
    (hk : Aff.abs b₁ pk = k • Aff.abs b₁ p) :
    ∃ e : Fq12, e ≠ 0 ∧ pairing p q = some e ∧ pairing pk q = some (e ^ k) := by
  obtain ⟨e, he0, he⟩ := C11Neg.pairing_some p q hp hq
  exact ⟨e, he0, he, pairing_nsmul p q hp hq e he k pk hpk hk⟩

/-- **`e([z]P, Q) = e(P, Q)^z`**, `z : ℤ` -/
theorem pairing_zsmul_left (p pz : Aff Fq) (q : Aff Fq2) (z : ℤ) (hp : p.isOnCurve b₁ = true)
    (hpz : pz.isOnCurve b₁ = true) (hq : Aff.inSubgroup b₂ q = true)
    (hz : Aff.abs b₁ pz = z • Aff.abs b₁ p) :
    ∃ e : Fq12, e ≠ 0 ∧ pairing p q = some e ∧ pairing pz q = some (e ^ z) := by
  obtain ⟨e, he0, he⟩ := C11Neg.pairing_some p q hp hq
  exact ⟨e, he0, he, pairing_zsmul p q hp hq e he z pz hpz hz⟩

/-- with the model's scalar multiplication `mul` (4-limb scalar, i.e. `a mod 2^256`) followed by
    `into_affine`: **`pairing (p.mul a) q = (pairing p q)^a`** -/
theorem pairing_mul_left_mod (p : Aff Fq) (q : Aff Fq2) (a : ℕ) (hp : p.isOnCurve b₁ = true)
    (hq : Aff.inSubgroup b₂ q = true) :
    ∃ pa, (p.mul a).toAffine = some pa ∧ pa.isOnCurve b₁ = true ∧
      pairing pa q = (pairing p q).map (· ^ (a % 2 ^ 256)) := by
  have hc := (Aff.isOnCurve_iff _ p).mp hp
  obtain ⟨hJ, hJa⟩ := Aff.mul_spec (b := b₁) hc a
  obtain ⟨pa, h₁, hca, haa⟩ := Jac.toAffine_spec hJ
  have hpa := (Aff.isOnCurve_iff _ pa).mpr hca
  obtain ⟨e, -, he, hk⟩ := pairing_nsmul_left p pa q (a % 2 ^ 256) hp hpa hq (by rw [haa, hJa])
  exact ⟨pa, h₁, hpa, by rw [hk, he]; rfl⟩

/-- **`pairing (p.mul a) q = (pairing p q)^a`** for every 256-bit scalar `a` -/
theorem pairing_mul_left (p : Aff Fq) (q : Aff Fq2) (a : ℕ) (ha : a < 2 ^ 256)
    (hp : p.isOnCurve b₁ = true) (hq : Aff.inSubgroup b₂ q = true) :
    ∃ pa, (p.mul a).toAffine = some pa ∧ pa.isOnCurve b₁ = true ∧
      pairing pa q = (pairing p q).map (· ^ a) := by
  have h := pairing_mul_left_mod p q a hp hq
  rwa [Nat.mod_eq_of_lt ha] at h

/-- the values are `r`-th roots of unity, so the exponent only matters modulo `r` (`C12`) -/
theorem pairing_pow_r (p : Aff Fq) (q : Aff Fq2) (e : Fq12) (h : pairing p q = some e) :
    e ^ Gen.r = 1 := C03.pairing_order p q e h

/-! ## non-vacuity -/

/-- the hypotheses are satisfiable and the conclusion is not trivial: for the generators,
    `e([2]g1, g2) = e(g1, g2)²` with `e(g1, g2) ≠ 1` the RELIC value of `C03.pairing_generators` -/
example : ∃ p₃, (C03.g1Generator.toJac.addMixed C03.g1Generator).toAffine = some p₃ ∧
    pairing p₃ C03.g2Generator = some (C03.relicValue * C03.relicValue) := by
  obtain ⟨p₃, h₃, -, h⟩ := pairing_addMixed_left C03.g1Generator C03.g1Generator C03.g2Generator
    ((Aff.isOnCurve_iff _ _).mpr C07.g1Generator_inSub.1)
    ((Aff.isOnCurve_iff _ _).mpr C07.g1Generator_inSub.1) C07.g2Generator_inSubgroup
  rw [C03.pairing_generators, optMul_some] at h
  exact ⟨p₃, h₃, h⟩

end PP.C03LinP
