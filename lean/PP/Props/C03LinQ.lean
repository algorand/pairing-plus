/-
PROPERTY C03, clause "bilinear": LINEARITY OF THE PAIRING IN ITS G2 ARGUMENT, for ALL inputs.

For every `P` accepted by the model's `is_on_curve` (`P ∈ E(Fq)`, not necessarily in `G1`, the point at
infinity included) and all `Q₁, Q₂` accepted by the model's `in_subgroup` (`Q_i ∈ G2`, the point at
infinity included):

    pairing P (Q₁ + Q₂) = pairing P Q₁ · pairing P Q₂          (`pairing_add_right`, `pairing_addMixed`,
                                                                 `pairing_add`)
    pairing P ([k] Q)   = (pairing P Q) ^ k                     (`pairing_nsmul_right`, `pairing_mul`)

and none of these calls panics.  `Q₁ + Q₂` / `[k]Q` are stated both abstractly (any affine record `Q₃ ∈ G2`
denoting the sum in Mathlib's group `(W g2Codec.b).Point`) and with the model's own operations
(`toJac`/`addMixed`/`add`/`toAffine`, `Aff.mul`), connected by the C01 / C02 theorems.

How it is proved (everything kernel-checked; axioms `propext`, `Classical.choice`, `Quot.sound`):

* `C03Lines`: `pairing P Q = conj(f_{|x|,ψQ}(P))^(3(q¹²-1)/r)`, `f` the textbook Miller value.
* `PP/Proofs/BilinQIdeal.lean` (any field `K`, `E : y² = x³ + b`): in the coordinate ring `K[E]` (a
  domain, Mathlib) the principal ideals of chords/tangents and verticals factor into the maximal ideals of
  points (`XYIdeal_mul_XYIdeal`, `XYIdeal_neg_mul`); along the double-and-add chain
  `⟨N⟩ · I(T) = ⟨D⟩ · I(Q)^k` (numerator/denominator of the Miller function, `T = [k]Q`); hence
  `N₃ l^n v_n D₁ D₂` and `D₃ N₁ N₂ v^n l_n` generate the same ideal, so they differ by a unit of `K[E]`; the
  units are the constants (norm/degree); comparing leading coefficients of norms, the constant `c` has
  `c⁴ = 1` (`miller_additive`).
* `CoordMap`, `BilinQ3`: transport along the untwist `ψ : E'(Fq2) → E(Fq12)`.
* `BilinQ4/5`: verticals and denominators at a rational point lie in `Fq6ˣ`, `c⁴ = 1`: killed by the final
  exponent.  Frobenius (`BilinPFrob`): `[|x|]Q = -Φ(Q)` on `G2`, so the line `l_n` through
  `[n]ψQ₁`, `[n]ψQ₂` at the rational point `P` is `(conj l(P))^q`, and `fe(l_n(P)) = fe(l(P))^n` since
  `r ∣ |x| + q`.  Hence `fe(f₃) = fe(f₁) fe(f₂)` (`textbookMiller_add_fe`, `reducedAte_add_right`).
* here: the exceptional cases (`P`, `Q₁`, `Q₂` or `Q₁ + Q₂` at infinity) from `C11` / `C11Neg`.

Nothing is assumed.  Also here:

* `nondegenerate_right` (without `LeftLinear`): for `Q ∈ G2`, `e(g1, Q) = 1` iff `Q = O` (`G2` is cyclic,
  generated by `G2Affine::one()`: `PP/Proofs/BilinQ6.lean` from the structure theorems of `CurveOrder`;
  `e(g1, g2)` is the published value, of order `r`: `C03.pairing_generators_order`).
* the combination with linearity in the FIRST argument (proved separately, `PP.C03LinP`):
  `bilinear_of_left : e([a]P, [b]Q) = e(P, Q)^(ab)` and `nondegenerate_of_left : e(P, Q) = 1 ↔ P = O ∨ Q = O`
  on `G1 × G2` take that linearity as the explicit hypothesis `LeftLinear`
  (= `C03LinP.pairing_nsmul_left` restricted to `G1`).
-/
import PP.Proofs.BilinQ5
import PP.Proofs.BilinQ6
import PP.Props.C11Neg
import PP.Props.C02Inst

namespace PP.C03LinQ
open PP Ate Miller Lines WeierstrassCurve.Affine

local notation "b₂" => g2Codec.b

/-! ## the textbook pairing -/

/-- **linearity of the textbook reduced ate pairing in `Q`**: finite `P ∈ E(Fq)`, finite
    `Q₁, Q₂, Q₃ ∈ G2` with `Q₃ = Q₁ + Q₂` -/
theorem reducedAte_add_right (P : Fq × Fq) (hP : P.2 ^ 2 = P.1 ^ 3 + g1Codec.b) (hy : P.2 ≠ 0)
    {q₁ q₂ q₃ : Aff Fq2} (h₁ : Aff.InSub b₂ q₁) (h₂ : Aff.InSub b₂ q₂) (h₃ : Aff.InSub b₂ q₃)
    (hi₁ : q₁.infinity = false) (hi₂ : q₂.infinity = false) (hi₃ : q₃.infinity = false)
    (hsum : Aff.abs b₂ q₃ = Aff.abs b₂ q₁ + Aff.abs b₂ q₂) :
    reducedAte P (q₃.x, q₃.y) = reducedAte P (q₁.x, q₁.y) * reducedAte P (q₂.x, q₂.y) :=
  BilinQ.reducedAte_add_right P hP hy h₁ h₂ h₃ hi₁ hi₂ hi₃ hsum

/-! ## the pairing depends only on the point denoted by its second argument -/

theorem coords_eq_of_abs_eq {q q' : Aff Fq2} (hq : Aff.OnCurve b₂ q) (hq' : Aff.OnCurve b₂ q')
    (hi : q.infinity = false) (hi' : q'.infinity = false) (h : Aff.abs b₂ q = Aff.abs b₂ q') :
    q.x = q'.x ∧ q.y = q'.y := by
  rw [Aff.abs_of_not_infinity hq hi, Aff.abs_of_not_infinity hq' hi'] at h
  exact PP.Point.some_eq_some.mp h

theorem pairing_congr_right (p : Aff Fq) (q q' : Aff Fq2) (hp : p.isOnCurve g1Codec.b = true)
    (hq : Aff.inSubgroup b₂ q = true) (hq' : Aff.inSubgroup b₂ q' = true)
    (h : Aff.abs b₂ q = Aff.abs b₂ q') : pairing p q = pairing p q' := by
  have hs := (Aff.inSubgroup_iff_inSub q).mp hq
  have hs' := (Aff.inSubgroup_iff_inSub q').mp hq'
  cases hpi : p.infinity with
  | true => rw [C11.pairing_identity p q (Or.inl hpi), C11.pairing_identity p q' (Or.inl hpi)]
  | false =>
    cases hi : q.infinity with
    | true =>
      have h0 : Aff.abs b₂ q' = 0 := by rw [← h]; exact Aff.abs_of_infinity hi
      have hi' : q'.infinity = true := (Aff.abs_eq_zero_iff hs'.1).mp h0
      rw [C11.pairing_identity p q (Or.inr hi), C11.pairing_identity p q' (Or.inr hi')]
    | false =>
      cases hi' : q'.infinity with
      | true =>
        have h0 : Aff.abs b₂ q = 0 := by rw [h]; exact Aff.abs_of_infinity hi'
        have := (Aff.abs_eq_zero_iff hs.1).mp h0
        rw [hi] at this; cases this
      | false =>
        obtain ⟨ex, ey⟩ := coords_eq_of_abs_eq hs.1 hs'.1 hi hi' h
        rw [C03Lines.pairing_is_reduced_ate_checked p q hp hpi hq hi,
          C03Lines.pairing_is_reduced_ate_checked p q' hp hpi hq' hi', ex, ey]

/-! ## linearity in the second argument -/

/-- **`e(P, Q₁ + Q₂) = e(P, Q₁) · e(P, Q₂)`**, values named: for every `P` accepted by `is_on_curve`,
    all `Q₁, Q₂, Q₃` accepted by `in_subgroup` with `Q₃ = Q₁ + Q₂` in the group `E'(Fq2)`: the three
    calls succeed and the values multiply -/
theorem pairing_add_right_values (p : Aff Fq) (q₁ q₂ q₃ : Aff Fq2)
    (hp : p.isOnCurve g1Codec.b = true) (h₁ : Aff.inSubgroup b₂ q₁ = true)
    (h₂ : Aff.inSubgroup b₂ q₂ = true) (h₃ : Aff.inSubgroup b₂ q₃ = true)
    (hsum : Aff.abs b₂ q₃ = Aff.abs b₂ q₁ + Aff.abs b₂ q₂) :
    ∃ e₁ e₂ : Fq12, e₁ ≠ 0 ∧ e₂ ≠ 0 ∧ pairing p q₁ = some e₁ ∧ pairing p q₂ = some e₂ ∧
      pairing p q₃ = some (e₁ * e₂) := by
  have s₁ := (Aff.inSubgroup_iff_inSub q₁).mp h₁
  have s₂ := (Aff.inSubgroup_iff_inSub q₂).mp h₂
  have s₃ := (Aff.inSubgroup_iff_inSub q₃).mp h₃
  obtain ⟨e₁, he₁0, he₁⟩ := C11Neg.pairing_some p q₁ hp h₁
  obtain ⟨e₂, he₂0, he₂⟩ := C11Neg.pairing_some p q₂ hp h₂
  refine ⟨e₁, e₂, he₁0, he₂0, he₁, he₂, ?_⟩
  cases hpi : p.infinity with
  | true =>
    rw [C11.pairing_identity p q₁ (Or.inl hpi)] at he₁
    rw [C11.pairing_identity p q₂ (Or.inl hpi)] at he₂
    rw [C11.pairing_identity p q₃ (Or.inl hpi), ← Option.some.inj he₁, ← Option.some.inj he₂, mul_one]
  | false =>
    cases hi₁ : q₁.infinity with
    | true =>
      -- `Q₃ = Q₂`
      have e : Aff.abs b₂ q₃ = Aff.abs b₂ q₂ := by rw [hsum, Aff.abs_of_infinity hi₁, zero_add]
      rw [C11.pairing_identity p q₁ (Or.inr hi₁)] at he₁
      rw [pairing_congr_right p q₃ q₂ hp h₃ h₂ e, he₂, ← Option.some.inj he₁, one_mul]
    | false =>
      cases hi₂ : q₂.infinity with
      | true =>
        have e : Aff.abs b₂ q₃ = Aff.abs b₂ q₁ := by rw [hsum, Aff.abs_of_infinity hi₂, add_zero]
        rw [C11.pairing_identity p q₂ (Or.inr hi₂)] at he₂
        rw [pairing_congr_right p q₃ q₁ hp h₃ h₁ e, he₁, ← Option.some.inj he₂, mul_one]
      | false =>
        cases hi₃ : q₃.infinity with
        | true =>
          -- `Q₂ = -Q₁`
          have e : Aff.abs b₂ q₂ = Aff.abs b₂ q₁.neg := by
            rw [(Aff.neg_spec s₁.1).2]
            have h0 : Aff.abs b₂ q₁ + Aff.abs b₂ q₂ = 0 := by
              rw [← hsum]; exact Aff.abs_of_infinity hi₃
            exact (neg_eq_of_add_eq_zero_right h0).symm
          have hn := C11Neg.pairing_neg_right_all p q₁ hp h₁ e₁ he₁
          rw [← pairing_congr_right p q₂ q₁.neg hp h₂ (C11Neg.neg_inSubgroup q₁ h₁) e, he₂] at hn
          rw [C11.pairing_identity p q₃ (Or.inr hi₃), Option.some.inj hn, mul_inv_cancel₀ he₁0]
        | false =>
          have hP := (Aff.isOnCurve_iff _ p).mp hp
          have hPe : p.y ^ 2 = p.x ^ 3 + g1Codec.b := hP.resolve_left (by simp [hpi])
          have hy := g1_y_ne_zero hP hpi
          rw [C03Lines.pairing_is_reduced_ate_checked p q₁ hp hpi h₁ hi₁] at he₁
          rw [C03Lines.pairing_is_reduced_ate_checked p q₂ hp hpi h₂ hi₂] at he₂
          rw [C03Lines.pairing_is_reduced_ate_checked p q₃ hp hpi h₃ hi₃,
            reducedAte_add_right (p.x, p.y) hPe hy s₁ s₂ s₃ hi₁ hi₂ hi₃ hsum,
            Option.some.inj he₁, Option.some.inj he₂]

/-- **`e(P, Q₁ + Q₂) = e(P, Q₁) · e(P, Q₂)`** in `Option` (`optMul` = product, `none` = panic; no call
    panics by `pairing_add_right_values`) -/
theorem pairing_add_right (p : Aff Fq) (q₁ q₂ q₃ : Aff Fq2)
    (hp : p.isOnCurve g1Codec.b = true) (h₁ : Aff.inSubgroup b₂ q₁ = true)
    (h₂ : Aff.inSubgroup b₂ q₂ = true) (h₃ : Aff.inSubgroup b₂ q₃ = true)
    (hsum : Aff.abs b₂ q₃ = Aff.abs b₂ q₁ + Aff.abs b₂ q₂) :
    pairing p q₃ = optMul (pairing p q₁) (pairing p q₂) := by
  obtain ⟨e₁, e₂, -, -, he₁, he₂, he₃⟩ := pairing_add_right_values p q₁ q₂ q₃ hp h₁ h₂ h₃ hsum
  rw [he₁, he₂, he₃, optMul_some]

/-! ### with the model's own addition -/

/-- **mixed addition**: `Q₃ = to_affine(Q₁.into_projective().add_assign_mixed(Q₂))` exists, is in `G2`,
    and `e(P, Q₃) = e(P, Q₁) · e(P, Q₂)` -/
theorem pairing_addMixed (p : Aff Fq) (q₁ q₂ : Aff Fq2) (hp : p.isOnCurve g1Codec.b = true)
    (h₁ : Aff.inSubgroup b₂ q₁ = true) (h₂ : Aff.inSubgroup b₂ q₂ = true) :
    ∃ q₃, (q₁.toJac.addMixed q₂).toAffine = some q₃ ∧ Aff.inSubgroup b₂ q₃ = true ∧
      pairing p q₃ = optMul (pairing p q₁) (pairing p q₂) := by
  have s₁ := (Aff.inSubgroup_iff_inSub q₁).mp h₁
  have s₂ := (Aff.inSubgroup_iff_inSub q₂).mp h₂
  obtain ⟨q₃, hq₃, s₃, habs⟩ := (s₁.toJac.addMixed s₂).toAffine
  have h₃ := (Aff.inSubgroup_iff_inSub q₃).mpr s₃
  refine ⟨q₃, hq₃, h₃, pairing_add_right p q₁ q₂ q₃ hp h₁ h₂ h₃ ?_⟩
  rw [habs, C01.addMixed_correct s₁.toJac.1 s₂.1, (Aff.toJac_spec s₁.1).2]

/-- **projective addition**: `Q₃ = to_affine(Q₁.into_projective() + Q₂.into_projective())` -/
theorem pairing_add (p : Aff Fq) (q₁ q₂ : Aff Fq2) (hp : p.isOnCurve g1Codec.b = true)
    (h₁ : Aff.inSubgroup b₂ q₁ = true) (h₂ : Aff.inSubgroup b₂ q₂ = true) :
    ∃ q₃, (q₁.toJac.add q₂.toJac).toAffine = some q₃ ∧ Aff.inSubgroup b₂ q₃ = true ∧
      pairing p q₃ = optMul (pairing p q₁) (pairing p q₂) := by
  have s₁ := (Aff.inSubgroup_iff_inSub q₁).mp h₁
  have s₂ := (Aff.inSubgroup_iff_inSub q₂).mp h₂
  obtain ⟨q₃, hq₃, s₃, habs⟩ := (s₁.toJac.add s₂.toJac).toAffine
  have h₃ := (Aff.inSubgroup_iff_inSub q₃).mpr s₃
  refine ⟨q₃, hq₃, h₃, pairing_add_right p q₁ q₂ q₃ hp h₁ h₂ h₃ ?_⟩
  rw [habs, C01.add_correct s₁.toJac.1 s₂.toJac.1, (Aff.toJac_spec s₁.1).2, (Aff.toJac_spec s₂.1).2]

/-! ## scalar multiples -/

/-- every point of `E'(Fq2)` killed by `r` is denoted by an affine record accepted by `in_subgroup` -/
theorem exists_aff (R : (W b₂).Point) (hr : Gen.r • R = 0) :
    ∃ q : Aff Fq2, Aff.inSubgroup b₂ q = true ∧ Aff.abs b₂ q = R := by
  rcases R with _ | ⟨x, y, h⟩
  · refine ⟨Aff.zero, (Aff.inSubgroup_iff_inSub _).mpr Aff.InSub.zero, ?_⟩
    exact Aff.abs_of_infinity rfl
  · have hoc : Aff.OnCurve b₂ (⟨x, y, false⟩ : Aff Fq2) := Or.inr ((W_nonsingular_iff b₂ x y).mp h)
    have habs : Aff.abs b₂ (⟨x, y, false⟩ : Aff Fq2) = Point.some x y h :=
      Aff.abs_of_not_infinity hoc rfl
    exact ⟨⟨x, y, false⟩, (Aff.inSubgroup_iff_inSub _).mpr ⟨hoc, by rw [habs]; exact hr⟩, habs⟩

/-- **`e(P, [k]Q) = e(P, Q)^k`**: for every `P` accepted by `is_on_curve`, `Q, Q'` accepted by
    `in_subgroup` with `Q' = [k]Q` in the group `E'(Fq2)`, every `k` -/
theorem pairing_nsmul_right (p : Aff Fq) (q q' : Aff Fq2) (k : ℕ) (hp : p.isOnCurve g1Codec.b = true)
    (hq : Aff.inSubgroup b₂ q = true) (hq' : Aff.inSubgroup b₂ q' = true)
    (h : Aff.abs b₂ q' = k • Aff.abs b₂ q) : pairing p q' = (pairing p q).map (· ^ k) := by
  have s := (Aff.inSubgroup_iff_inSub q).mp hq
  obtain ⟨e, -, he⟩ := C11Neg.pairing_some p q hp hq
  induction k generalizing q' with
  | zero =>
    rw [zero_smul] at h
    have s' := (Aff.inSubgroup_iff_inSub q').mp hq'
    rw [C11.pairing_identity p q' (Or.inr ((Aff.abs_eq_zero_iff s'.1).mp h)), he]
    simp
  | succ k ih =>
    obtain ⟨q'', hq'', habs⟩ := exists_aff (k • Aff.abs b₂ q) (by
      rw [smul_comm, s.2]; exact nsmul_zero _)
    have hsum : Aff.abs b₂ q' = Aff.abs b₂ q'' + Aff.abs b₂ q := by rw [h, habs, succ_nsmul]
    rw [pairing_add_right p q'' q q' hp hq'' hq hq' hsum, ih q'' hq'' habs, he]
    simp [pow_succ]

/-- **`e(P, [k]Q) = e(P, Q)^k` with the model's `mul`** (`CurveAffine::mul`, 4-limb scalar,
    `k < 2^256`): the product is in `G2`, converts to affine, and pairs to the `k`-th power -/
theorem pairing_mul (p : Aff Fq) (q : Aff Fq2) (k : ℕ) (hk : k < 2 ^ 256)
    (hp : p.isOnCurve g1Codec.b = true) (hq : Aff.inSubgroup b₂ q = true) :
    ∃ q', (q.mul k).toAffine = some q' ∧ Aff.inSubgroup b₂ q' = true ∧
      pairing p q' = (pairing p q).map (· ^ k) := by
  have s := (Aff.inSubgroup_iff_inSub q).mp hq
  obtain ⟨q', hq', s', habs⟩ := (s.mul k).toAffine
  have h' := (Aff.inSubgroup_iff_inSub q').mpr s'
  refine ⟨q', hq', h', pairing_nsmul_right p q q' k hp hq h' ?_⟩
  rw [habs, (C02Inst.g2_affine_mul q s.1 k hk).2]

/-- the values are `r`-th roots of unity, so the exponent only matters modulo `r` -/
theorem pairing_nsmul_right_mod (p : Aff Fq) (q q' : Aff Fq2) (k : ℕ)
    (hp : p.isOnCurve g1Codec.b = true) (hq : Aff.inSubgroup b₂ q = true)
    (hq' : Aff.inSubgroup b₂ q' = true) (h : Aff.abs b₂ q' = k • Aff.abs b₂ q) :
    pairing p q' = (pairing p q).map (· ^ (k % Gen.r)) := by
  rw [pairing_nsmul_right p q q' k hp hq hq' h]
  obtain ⟨e, -, he⟩ := C11Neg.pairing_some p q hp hq
  have her := C03.pairing_order p q e he
  rw [he]
  simp only [Option.map_some, Option.some.injEq]
  conv_lhs => rw [← Nat.div_add_mod k Gen.r, pow_add, pow_mul, her, one_pow, one_mul]

/-! ## bilinearity, given linearity in the first argument -/

/-- linearity of the pairing in its FIRST argument on `G1`, in the form
    `e([a]P, Q) = e(P, Q)^a`.  It is `C03LinP.pairing_nsmul_left`; it enters as a hypothesis only
    because this file does not import `PP.Props.C03LinP` (the two linearity proofs do not use each
    other and are checked side by side), and `C03Bilinear.leftLinear` discharges it. -/
def LeftLinear : Prop :=
  ∀ (p p' : Aff Fq) (q : Aff Fq2) (a : ℕ), Aff.inSubgroup g1Codec.b p = true →
    Aff.inSubgroup g1Codec.b p' = true → Aff.inSubgroup b₂ q = true →
    Aff.abs g1Codec.b p' = a • Aff.abs g1Codec.b p → pairing p' q = (pairing p q).map (· ^ a)

/-- **bilinearity `e([a]P, [b]Q) = e(P, Q)^(ab)`**, from linearity in `Q` (proved above) and linearity
    in `P` (hypothesis `LeftLinear`) -/
theorem bilinear_of_left (hL : LeftLinear) (p p' : Aff Fq) (q q' : Aff Fq2) (a b : ℕ)
    (hp : Aff.inSubgroup g1Codec.b p = true) (hp' : Aff.inSubgroup g1Codec.b p' = true)
    (hq : Aff.inSubgroup b₂ q = true) (hq' : Aff.inSubgroup b₂ q' = true)
    (ha : Aff.abs g1Codec.b p' = a • Aff.abs g1Codec.b p) (hb : Aff.abs b₂ q' = b • Aff.abs b₂ q) :
    pairing p' q' = (pairing p q).map (· ^ (a * b)) := by
  have hpc : p.isOnCurve g1Codec.b = true :=
    (Aff.isOnCurve_iff _ p).mpr ((Aff.inSubgroup_iff_inSub p).mp hp).1
  rw [hL p p' q' a hp hp' hq' ha, pairing_nsmul_right p q q' b hpc hq hq' hb]
  cases pairing p q with
  | none => rfl
  | some e => simp [pow_mul, mul_comm a b]

/-! ## non-degeneracy -/

/-- every `Q ∈ G2` is a multiple `[m] g2` of the generator `G2Affine::one()`, and
    `e(g1, Q) = e(g1, g2)^m` (`e(g1, g2)` = the published value `C03.relicValue`, of order `r`) -/
theorem pairing_generator_right (q : Aff Fq2) (hq : Aff.inSubgroup b₂ q = true) :
    ∃ m : ℕ, Aff.abs b₂ q = m • Aff.abs b₂ C03.g2Generator ∧
      pairing C03.g1Generator q = some (C03.relicValue ^ m) := by
  have s := (Aff.inSubgroup_iff_inSub q).mp hq
  obtain ⟨m, hm⟩ := BilinQ.g2_cyclic _ s.2
  have hm' : Aff.abs b₂ q = m • Aff.abs b₂ C03.g2Generator := hm
  refine ⟨m, hm', ?_⟩
  rw [pairing_nsmul_right C03.g1Generator C03.g2Generator q m
    ((Aff.isOnCurve_iff _ _).mpr C07.g1Generator_inSub.1) C07.g2Generator_inSubgroup hq hm',
    C03.pairing_generators]
  rfl

/-- **non-degeneracy in the second argument** (without `LeftLinear`): for `Q ∈ G2`,
    `e(g1, Q) = 1` iff `Q` is the point at infinity -/
theorem nondegenerate_right (q : Aff Fq2) (hq : Aff.inSubgroup b₂ q = true) :
    pairing C03.g1Generator q = some 1 ↔ q.infinity = true := by
  have s := (Aff.inSubgroup_iff_inSub q).mp hq
  constructor
  · intro h
    obtain ⟨m, hm, he⟩ := pairing_generator_right q hq
    rw [he] at h
    have h1 : C03.relicValue ^ m = 1 := Option.some.inj h
    have hd : Gen.r ∣ m := by
      rw [← C03.pairing_generators_order]; exact orderOf_dvd_of_pow_eq_one h1
    obtain ⟨t, rfl⟩ := hd
    have h0 : Aff.abs b₂ q = 0 := by
      rw [hm, mul_nsmul, show Gen.r • Aff.abs b₂ C03.g2Generator = 0 from C07.g2Generator_killed]
      exact nsmul_zero t
    exact (Aff.abs_eq_zero_iff s.1).mp h0
  · intro h
    exact C11.pairing_identity _ q (Or.inr h)

/-- **non-degeneracy on `G1 × G2`**, given linearity in the first argument: for `P ∈ G1`, `Q ∈ G2`,
    `e(P, Q) = 1` iff `P` or `Q` is the point at infinity -/
theorem nondegenerate_of_left (hL : LeftLinear) (p : Aff Fq) (q : Aff Fq2)
    (hp : Aff.inSubgroup g1Codec.b p = true) (hq : Aff.inSubgroup b₂ q = true) :
    pairing p q = some 1 ↔ p.infinity = true ∨ q.infinity = true := by
  have sp := (Aff.inSubgroup_iff_inSub p).mp hp
  have sq := (Aff.inSubgroup_iff_inSub q).mp hq
  constructor
  · intro h
    obtain ⟨a, ha⟩ := BilinQ.g1_cyclic _ sp.2
    have ha' : Aff.abs g1Codec.b p = a • Aff.abs g1Codec.b C03.g1Generator := ha
    obtain ⟨m, hm, he⟩ := pairing_generator_right q hq
    rw [hL C03.g1Generator p q a C07.g1Generator_inSubgroup hp hq ha', he] at h
    have h1 : (C03.relicValue ^ m) ^ a = 1 := Option.some.inj h
    rw [← pow_mul] at h1
    have hd : Gen.r ∣ m * a := by
      rw [← C03.pairing_generators_order]; exact orderOf_dvd_of_pow_eq_one h1
    have hprime : Nat.Prime Gen.r := Fact.out
    rcases (Nat.Prime.dvd_mul hprime).mp hd with ⟨t, rfl⟩ | ⟨t, rfl⟩
    · right
      have h0 : Aff.abs b₂ q = 0 := by
        rw [hm, mul_nsmul, show Gen.r • Aff.abs b₂ C03.g2Generator = 0 from C07.g2Generator_killed]
        exact nsmul_zero t
      exact (Aff.abs_eq_zero_iff sq.1).mp h0
    · left
      have h0 : Aff.abs g1Codec.b p = 0 := by
        rw [ha', mul_nsmul,
          show Gen.r • Aff.abs g1Codec.b C03.g1Generator = 0 from C07.g1Generator_killed]
        exact nsmul_zero t
      exact (Aff.abs_eq_zero_iff sp.1).mp h0
  · intro h
    exact C11.pairing_identity p q h

/-! ## non-vacuity -/

/-- the hypotheses are satisfiable, and the theorem specialises to a non-trivial instance: the
    generators, `Q₁ = Q₂ = g2` -/
example : ∃ q₃, (C03.g2Generator.toJac.addMixed C03.g2Generator).toAffine = some q₃ ∧
    Aff.inSubgroup b₂ q₃ = true ∧
    pairing C03.g1Generator q₃ =
      optMul (pairing C03.g1Generator C03.g2Generator) (pairing C03.g1Generator C03.g2Generator) :=
  pairing_addMixed C03.g1Generator C03.g2Generator C03.g2Generator
    ((Aff.isOnCurve_iff _ _).mpr C07.g1Generator_inSub.1) C07.g2Generator_inSubgroup
    C07.g2Generator_inSubgroup

end PP.C03LinQ
