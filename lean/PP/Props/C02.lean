/-
C02.  "For every point P and every scalar k below 2^255 (every canonical scalar included), plain
projective and affine multiplication, windowed-NAF multiplication in either staging order and with
any window size in the documented range 2..=22, and the two table-driven multiplications (3-entry
and 256-entry precomputation, using tables produced by the library's own precomputation routines)
all return the same point [k]P; the plain and table-driven paths do so for every 256-bit k.  A wNAF
context may be reused for any sequence of bases and scalars and still returns what a fresh context
would.  The recommended window sizes always lie in the documented range 2..=22."

All statements are about the executable model `PP.Model.Curve` / `PP.Model.Mul` and are relative to
a `GroupModel M` (the abstraction of the Jacobian arithmetic into an abelian group, provided by
C01): "the point [k]P" is `k • M.absA A` (resp. `k • M.absJ P`), "returns" is `= some R` (no panic).
-/
import PP.Proofs.ScalarMul
import PP.Proofs.Wnaf

namespace PP.C02

variable {F : Type} [Field F] [DecidableEq F] [FieldOps F] {G : Type} [AddCommGroup G]
  (M : GroupModel F G)

/-! ### plain multiplication, every 256-bit `k` -/

/-- affine `mul` (MSB-first double-and-add with mixed addition) -/
theorem affine_mul (A : Aff F) (hA : M.ValidA A) (k : ℕ) (hk : k < 2 ^ 256) :
    M.ValidJ (A.mul k) ∧ M.absJ (A.mul k) = k • M.absA A :=
  Aff.mul_correct_lt M A hA k hk

/-- `mul_bits` over an arbitrary MSB-first bit sequence (used by the cofactor multiplications) -/
theorem affine_mulBits (A : Aff F) (hA : M.ValidA A) (bits : List Bool) :
    M.ValidJ (A.mulBits bits) ∧ M.absJ (A.mulBits bits) = ofBitsMSB bits • M.absA A :=
  mulBits_correct M A hA bits

/-- projective `mul_assign` (with its `found_one` flag) -/
theorem projective_mul (P : Jac F) (hP : M.ValidJ P) (k : ℕ) (hk : k < 2 ^ 256) :
    M.ValidJ (P.mulAssign k) ∧ M.absJ (P.mulAssign k) = k • M.absJ P :=
  Jac.mulAssign_correct_lt M P hP k hk

/-- without the bound the 4-limb scalar is what is multiplied by: `k mod 2^256` -/
theorem affine_mul_mod (A : Aff F) (hA : M.ValidA A) (k : ℕ) :
    M.absJ (A.mul k) = (k % 2 ^ 256) • M.absA A :=
  (Aff.mul_correct M A hA k).2

/-! ### table-driven multiplication, every 256-bit `k`, tables from the library's own routines -/

/-- `precomp_3` never panics and returns `[2^64·A, 2^128·A, 2^192·A]` -/
theorem precomp3_table (A : Aff F) (hA : M.ValidA A) :
    ∃ a1 a2 a3, A.precomp3 = some [a1, a2, a3] ∧
      (M.ValidA a1 ∧ M.absA a1 = 2 ^ 64 • M.absA A) ∧
      (M.ValidA a2 ∧ M.absA a2 = 2 ^ 128 • M.absA A) ∧
      (M.ValidA a3 ∧ M.absA a3 = 2 ^ 192 • M.absA A) :=
  precomp3_spec M A hA

/-- `mul_precomp_3` with the table of `precomp_3` -/
theorem precomp3_mul (A : Aff F) (hA : M.ValidA A) (k : ℕ) (hk : k < 2 ^ 256) :
    ∃ pre, A.precomp3 = some pre ∧
      ∃ R, A.mulPrecomp3 k pre = some R ∧ M.ValidJ R ∧ M.absJ R = k • M.absA A := by
  obtain ⟨a1, a2, a3, hpre, h1, h2, h3⟩ := precomp3_spec M A hA
  obtain ⟨R, hR, hv, ha⟩ := mulPrecomp3_correct M A hA [a1, a2, a3]
    ⟨a1, a2, a3, rfl, rfl, rfl, h1, h2, h3⟩ k
  exact ⟨_, hpre, R, hR, hv, by rw [ha, Nat.mod_eq_of_lt hk]⟩

/-- `precomp_256` never panics and returns the 256-entry table
    `pre[i] = (Σ_{b ∈ bits of i} 2^(32 b)) · A` (`spread 32 8 i` is that sum) -/
theorem precomp256_table (A : Aff F) (hA : M.ValidA A) :
    ∃ pre, A.precomp256 = some pre ∧ pre.length = 256 ∧
      ∀ i < 256, ∃ e, pre[i]? = some e ∧ M.ValidA e ∧ M.absA e = spread 32 8 i • M.absA A :=
  precomp256_spec M A hA

/-- `mul_precomp_256` with the table of `precomp_256` -/
theorem precomp256_mul (A : Aff F) (hA : M.ValidA A) (k : ℕ) (hk : k < 2 ^ 256) :
    ∃ pre, A.precomp256 = some pre ∧
      ∃ R, A.mulPrecomp256 k pre.toArray = some R ∧ M.ValidJ R ∧ M.absJ R = k • M.absA A := by
  obtain ⟨pre, hpre, hspec⟩ := precomp256_spec M A hA
  obtain ⟨R, hR, hv, ha⟩ := mulPrecomp256_correct M A pre.toArray hspec k
  exact ⟨pre, hpre, R, hR, hv, by rw [ha, Nat.mod_eq_of_lt hk]⟩

/-! ### windowed NAF, `k < 2^255`, any window `2..=22` -/

/-- `wnaf_exp(wnaf_table(P, w), wnaf_form(k, w))`: no panic (the 300-iteration digit loop
    terminates, every table index is in range) and the result is `[k]P` -/
theorem wnaf_mul (P : Jac F) (hP : M.ValidJ P) (k w : ℕ) (hw2 : 2 ≤ w) (hw : w ≤ 22)
    (hk : k < 2 ^ 255) :
    ∃ R, (do let f ← wnafForm [] k w; wnafExp (wnafTable [] P w) f) = some R ∧
      M.ValidJ R ∧ M.absJ R = k • M.absJ P :=
  wnaf_correct M P hP k w hw2 hw hk

/-- the digit string: terminates, represents `k`, digits are zero or odd with `|d| < 2^w` -/
theorem wnaf_form (k w : ℕ) (hw2 : 2 ≤ w) (hw : w ≤ 22) (hk : k < 2 ^ 255) :
    ∃ ds, wnafForm [] k w = some ds ∧ wnafVal ds = k ∧
      ∀ d ∈ ds, d = 0 ∨ (d % 2 = 1 ∧ d.natAbs < 2 ^ w) :=
  wnafForm_spec [] k w (by omega) (by omega) (add_two_pow_le hw hk)

/-- the bound on `k` is needed: near `2^256` the digit loop's 256-bit arithmetic wraps -/
theorem wnaf_form_wraps :
    wnafForm [] (2 ^ 256 - 1) 2 = some [-1] ∧ wnafVal [-1] ≠ ((2 ^ 256 - 1 : ℕ) : ℤ) ∧
      2 ^ 256 - 2 ^ 2 ≤ 2 ^ 256 - 1 :=
  wnafForm_wraps_example

/-- staging order "base then scalar", on any used context, G1 or G2 recommendation tables -/
theorem wnaf_base_then_scalar (rc : WnafRec) (hrc : rc = g1Rec ∨ rc = g2Rec) (ctx : WnafCtx F)
    (b : Jac F) (hb : M.ValidJ b) (n k : ℕ) (hk : k < 2 ^ 255) :
    ∃ R ctx', WnafCtx.baseThenScalar rc ctx b n k = some (R, ctx') ∧
      M.ValidJ R ∧ M.absJ R = k • M.absJ b := by
  rcases hrc with rfl | rfl
  · exact baseThenScalar_correct M _ g1Rec_inRange ctx b hb n k hk
  · exact baseThenScalar_correct M _ g2Rec_inRange ctx b hb n k hk

/-- staging order "scalar then base", on any used context, G1 or G2 recommendation tables -/
theorem wnaf_scalar_then_base (rc : WnafRec) (hrc : rc = g1Rec ∨ rc = g2Rec) (ctx : WnafCtx F)
    (b : Jac F) (hb : M.ValidJ b) (k : ℕ) (hk : k < 2 ^ 255) :
    ∃ R ctx', WnafCtx.scalarThenBase rc ctx k b = some (R, ctx') ∧
      M.ValidJ R ∧ M.absJ R = k • M.absJ b := by
  rcases hrc with rfl | rfl
  · exact scalarThenBase_correct M _ g1Rec_inRange ctx b hb k hk
  · exact scalarThenBase_correct M _ g2Rec_inRange ctx b hb k hk

/-! ### all paths agree -/

/-- for `k < 2^255` every multiplication path returns (without panicking) a valid point that
    represents the same group element `[k]A` -/
theorem all_paths_agree (A : Aff F) (hA : M.ValidA A) (k w : ℕ) (hw2 : 2 ≤ w) (hw : w ≤ 22)
    (hk : k < 2 ^ 255) (rc : WnafRec) (hrc : rc = g1Rec ∨ rc = g2Rec) (ctx : WnafCtx F) (n : ℕ) :
    ∃ pre3 pre256 R3 R256 Rw Rbs Rsb ctx1 ctx2,
      A.precomp3 = some pre3 ∧ A.mulPrecomp3 k pre3 = some R3 ∧
      A.precomp256 = some pre256 ∧ A.mulPrecomp256 k pre256.toArray = some R256 ∧
      (do let f ← wnafForm [] k w; wnafExp (wnafTable [] A.toJac w) f) = some Rw ∧
      WnafCtx.baseThenScalar rc ctx A.toJac n k = some (Rbs, ctx1) ∧
      WnafCtx.scalarThenBase rc ctx k A.toJac = some (Rsb, ctx2) ∧
      M.absJ (A.mul k) = k • M.absA A ∧ M.absJ (A.toJac.mulAssign k) = k • M.absA A ∧
      M.absJ R3 = k • M.absA A ∧ M.absJ R256 = k • M.absA A ∧ M.absJ Rw = k • M.absA A ∧
      M.absJ Rbs = k • M.absA A ∧ M.absJ Rsb = k • M.absA A := by
  have hk' : k < 2 ^ 256 := by omega
  have hJ := M.toJac_valid A hA
  have eJ := M.toJac_abs A hA
  obtain ⟨pre3, h3, R3, hR3, -, a3⟩ := precomp3_mul M A hA k hk'
  obtain ⟨pre256, h256, R256, hR256, -, a256⟩ := precomp256_mul M A hA k hk'
  obtain ⟨Rw, hRw, -, aw⟩ := wnaf_mul M A.toJac hJ k w hw2 hw hk
  obtain ⟨Rbs, ctx1, hbs, -, abs'⟩ := wnaf_base_then_scalar M rc hrc ctx A.toJac hJ n k hk
  obtain ⟨Rsb, ctx2, hsb, -, asb⟩ := wnaf_scalar_then_base M rc hrc ctx A.toJac hJ k hk
  refine ⟨pre3, pre256, R3, R256, Rw, Rbs, Rsb, ctx1, ctx2, h3, hR3, h256, hR256, hRw, hbs, hsb,
    (affine_mul M A hA k hk').2, ?_, a3, a256, ?_, ?_, ?_⟩
  · rw [(projective_mul M A.toJac hJ k hk').2, eJ]
  · rw [aw, eJ]
  · rw [abs', eJ]
  · rw [asb, eJ]

/-! ### context reuse -/

/-- one call on a used context returns exactly what it returns on a fresh context -/
theorem wnaf_call_fresh (rc : WnafRec) (ctx : WnafCtx F) (c : WnafCall F) :
    (c.run rc ctx).map Prod.fst = (c.run rc WnafCtx.new).map Prod.fst := by
  rw [WnafCall.run_ctx]

/-- any sequence of `base(..).scalar(..)` / `scalar(..).base(..)` calls threaded through one reused
    context returns, call by call, what fresh contexts return -/
theorem wnaf_reuse (rc : WnafRec) (ctx : WnafCtx F) (cs : List (WnafCall F)) :
    WnafCall.runAll rc ctx cs = cs.mapM (fun c => (c.run rc WnafCtx.new).map Prod.fst) :=
  WnafCall.runAll_fresh rc ctx cs

/-! ### recommended windows -/

theorem recommended_for_scalar_range (k : ℕ) :
    (2 ≤ recommendForScalar g1Rec.ladder g1Rec.dflt k ∧
      recommendForScalar g1Rec.ladder g1Rec.dflt k ≤ 22) ∧
    (2 ≤ recommendForScalar g2Rec.ladder g2Rec.dflt k ∧
      recommendForScalar g2Rec.ladder g2Rec.dflt k ≤ 22) :=
  recommendForScalar_range k

theorem recommended_for_num_scalars_range (n : ℕ) :
    (2 ≤ recommendForNumScalars g1Rec.tbl g1Rec.base n ∧
      recommendForNumScalars g1Rec.tbl g1Rec.base n ≤ 22) ∧
    (2 ≤ recommendForNumScalars g2Rec.tbl g2Rec.base n ∧
      recommendForNumScalars g2Rec.tbl g2Rec.base n ≤ 22) :=
  recommendForNumScalars_range' n

/-! ### sanity checks of the pure-`Nat` layer on concrete numbers -/

example : ofBitsMSB (bitsMSB (limbsOf 4 0xdeadbeef0123456789abcdef00000000ffffffff)) =
    0xdeadbeef0123456789abcdef00000000ffffffff := by decide +kernel
example : (bitsMSB (limbsOf 4 5)).length = 256 := by decide +kernel
example : wnafForm [] 1000 3 = some [0, 0, 0, -3, 0, 0, 0, 0, 0, 0, 1] := by decide +kernel
example : wnafVal [0, 0, 0, -3, 0, 0, 0, 0, 0, 0, 1] = 1000 := by decide
example : (wnafForm [] (2 ^ 255 - 1) 22).isSome = true := by decide +kernel
example : nibbleAt 1 0 1 1 0 = 13 ∧ spread 64 4 13 = 1 + 2 ^ 128 + 2 ^ 192 := by decide +kernel
example : byteAt (2 ^ 32 + 1) 0 0 (2 ^ 63) 31 = 128 ∧ byteAt (2 ^ 32 + 1) 0 0 0 0 = 3 := by
  decide +kernel
example : recommendForScalar g1Rec.ladder g1Rec.dflt (2 ^ 254) = 4 := by decide +kernel

end PP.C02
