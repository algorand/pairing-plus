/-
PROPERTY C11, the cancellation law on which signature verification relies, for ALL inputs and WITHOUT any
bilinearity assumption:

    e(-P, Q) · e(P, Q) = 1,     e(P, -Q) = e(-P, Q),     e(-P, -Q) = e(P, Q)

for every `P` accepted by the model's `is_on_curve` (`P ∈ E(Fq)`, not necessarily in `G1`) and every `Q`
accepted by the model's `in_subgroup` (`Q ∈ G2`), the point at infinity included.  Consequently

    pairing_product(P, Q, -P, Q) = pairing_product(P, Q, P, -Q) = 1,
    pairing_multi_product([P, -P], [Q, Q]) = pairing_multi_product([P, P], [Q, -Q]) = 1,

and none of these calls panics.

How the statement is rendered.  `pairing`, `pairingProduct`, `pairingMultiProduct` are the model functions
of `PP/Model/Pairing.lean` (`none` = a panic of the Rust code); `Aff.neg` is the model of `neg` on affine
points (`PP/Model/Curve.lean`); `e⁻¹`, `1` refer to the `Field` structure of `Fq12` built on the model's own
operations (`PP.Proofs.Tower`).

How it is proved.  `C03Lines.pairing_is_reduced_ate_checked` identifies `pairing P Q` with the textbook
reduced ate pairing `conj(f_{|x|,Q}(P))^(3(q¹²-1)/r)` for finite `P ∈ E(Fq)`, `Q ∈ G2`; `-Q ∈ G2` and
`-P ∈ E(Fq)` again (`Aff.neg_spec`, `Aff.InSub.neg`).  On the textbook side (`PP/Proofs/NegPair.lean`): with `σ` the conjugation
of `Fq12/Fq6`, every tangent/chord line satisfies `σ(l_T(P)) = -l_T(-P) = l_{-T}(P)`, so the Miller values
satisfy `f_Q(-P) = ± σ f_Q(P)`, `f_{-Q}(P) = ± f_Q(-P)`; the sign and the relative norm `f · σ f ∈ Fq6ˣ`
are killed by the final exponent (`NegPair.neg_one_pow_fe`, `NegPair.norm_pow_fe`).  `f ≠ 0` because `E(Fq)` has no point with `y = 0`.
-/
import PP.Proofs.NegPair
import PP.Props.C03Lines
import PP.Props.C11
import PP.Proofs.Generators

namespace PP.C11Neg
open PP Ate Miller NegPair

/-! ## negation of model points -/

theorem neg_finite_g1 (p : Aff Fq) (h : p.infinity = false) : p.neg = ⟨p.x, -p.y, false⟩ := by
  simp [Aff.neg, h]

theorem neg_finite_g2 (q : Aff Fq2) (h : q.infinity = false) : q.neg = ⟨q.x, -q.y, false⟩ := by
  simp [Aff.neg, h]

theorem neg_infinite_g1 (p : Aff Fq) (h : p.infinity = true) : p.neg = p := by simp [Aff.neg, h]
theorem neg_infinite_g2 (q : Aff Fq2) (h : q.infinity = true) : q.neg = q := by simp [Aff.neg, h]

/-- `-P` is on the curve when `P` is -/
theorem neg_isOnCurve (p : Aff Fq) (hp : p.isOnCurve g1Codec.b = true) :
    p.neg.isOnCurve g1Codec.b = true :=
  (Aff.isOnCurve_iff _ _).mpr (Aff.neg_spec ((Aff.isOnCurve_iff _ p).mp hp)).1

/-- `-Q` is accepted by `in_subgroup` when `Q` is -/
theorem neg_inSubgroup (q : Aff Fq2) (hq : Aff.inSubgroup g2Codec.b q = true) :
    Aff.inSubgroup g2Codec.b q.neg = true :=
  (Aff.inSubgroup_iff_inSub _).mpr ((Aff.inSubgroup_iff_inSub q).mp hq).neg

/-! ## the textbook pairing -/

/-- **`e(-P,Q) · e(P,Q) = 1`** for the textbook reduced ate pairing: all `Q`, all `P` with `y_P ≠ 0` -/
theorem reducedAte_neg_left_mul (P : Fq × Fq) (Q : Fq2 × Fq2) (hy : P.2 ≠ 0) :
    reducedAte (P.1, -P.2) Q * reducedAte P Q = 1 := NegPair.reducedAte_neg_left_mul P Q hy

/-- **`e(P,-Q) = e(-P,Q)`** for the textbook reduced ate pairing, all `P`, `Q` -/
theorem reducedAte_neg_right (P : Fq × Fq) (Q : Fq2 × Fq2) :
    reducedAte P (Q.1, -Q.2) = reducedAte (P.1, -P.2) Q := NegPair.reducedAte_neg_right P Q

/-- the Miller values themselves: `f_Q(-P) = ± conj(f_Q(P))` and `f_{-Q}(P) = ± f_Q(-P)` -/
theorem textbookMiller_neg (P : Fq × Fq) (Q : Fq2 × Fq2) :
    (Fq12.conjugate (textbookMiller P Q) = textbookMiller (P.1, -P.2) Q ∨
      Fq12.conjugate (textbookMiller P Q) = -textbookMiller (P.1, -P.2) Q) ∧
    (textbookMiller P (Q.1, -Q.2) = textbookMiller (P.1, -P.2) Q ∨
      textbookMiller P (Q.1, -Q.2) = -textbookMiller (P.1, -P.2) Q) :=
  ⟨textbookMiller_neg_left P Q, textbookMiller_neg_right P Q⟩

/-! ## finite points -/

/-- the pairing of a finite `P ∈ E(Fq)` with a finite `Q ∈ G2` does not panic and is not `0` -/
theorem pairing_finite_some (p : Aff Fq) (q : Aff Fq2) (hp : p.isOnCurve g1Codec.b = true)
    (hpi : p.infinity = false) (hq : Aff.inSubgroup g2Codec.b q = true) (hqi : q.infinity = false) :
    ∃ e : Fq12, e ≠ 0 ∧ pairing p q = some e :=
  ⟨_, reducedAte_ne_zero (p.x, p.y) (q.x, q.y)
      (Lines.g1_y_ne_zero ((Aff.isOnCurve_iff _ p).mp hp) hpi),
    C03Lines.pairing_is_reduced_ate_checked p q hp hpi hq hqi⟩

/-- **`e(-P, Q) = e(P, Q)⁻¹`**: finite `P ∈ E(Fq)`, finite `Q ∈ G2` -/
theorem pairing_neg_left (p : Aff Fq) (q : Aff Fq2) (hp : p.isOnCurve g1Codec.b = true)
    (hpi : p.infinity = false) (hq : Aff.inSubgroup g2Codec.b q = true) (hqi : q.infinity = false)
    (e : Fq12) (h : pairing p q = some e) : pairing p.neg q = some e⁻¹ := by
  have hy := Lines.g1_y_ne_zero ((Aff.isOnCurve_iff _ p).mp hp) hpi
  have hn := neg_finite_g1 p hpi
  rw [C03Lines.pairing_is_reduced_ate_checked p q hp hpi hq hqi] at h
  rw [C03Lines.pairing_is_reduced_ate_checked p.neg q (neg_isOnCurve p hp) (by rw [hn]) hq hqi, hn,
    ← Option.some.inj h]
  exact congrArg some (NegPair.reducedAte_neg_left (p.x, p.y) (q.x, q.y) hy)

/-- **`e(P, -Q) = e(P, Q)⁻¹`**: finite `P ∈ E(Fq)`, finite `Q ∈ G2` -/
theorem pairing_neg_right (p : Aff Fq) (q : Aff Fq2) (hp : p.isOnCurve g1Codec.b = true)
    (hpi : p.infinity = false) (hq : Aff.inSubgroup g2Codec.b q = true) (hqi : q.infinity = false)
    (e : Fq12) (h : pairing p q = some e) : pairing p q.neg = some e⁻¹ := by
  have hn := neg_finite_g2 q hqi
  rw [← pairing_neg_left p q hp hpi hq hqi e h,
    C03Lines.pairing_is_reduced_ate_checked p q.neg hp hpi (neg_inSubgroup q hq) (by rw [hn]), hn,
    C03Lines.pairing_is_reduced_ate_checked p.neg q (neg_isOnCurve p hp)
      (by rw [neg_finite_g1 p hpi]) hq hqi, neg_finite_g1 p hpi]
  exact congrArg some (NegPair.reducedAte_neg_right (p.x, p.y) (q.x, q.y))

/-! ## the same with the point at infinity allowed -/

/-- for `P ∈ E(Fq)` and `Q ∈ G2` (identity allowed) the pairing does not panic and is not `0` -/
theorem pairing_some (p : Aff Fq) (q : Aff Fq2) (hp : p.isOnCurve g1Codec.b = true)
    (hq : Aff.inSubgroup g2Codec.b q = true) : ∃ e : Fq12, e ≠ 0 ∧ pairing p q = some e := by
  cases hpi : p.infinity with
  | true => exact ⟨1, one_ne_zero, C11.pairing_identity p q (Or.inl hpi)⟩
  | false =>
    cases hqi : q.infinity with
    | true => exact ⟨1, one_ne_zero, C11.pairing_identity p q (Or.inr hqi)⟩
    | false => exact pairing_finite_some p q hp hpi hq hqi

/-- **`e(-P, Q) = e(P, Q)⁻¹`** for every `P` accepted by `is_on_curve`, every `Q` accepted by
    `in_subgroup` -/
theorem pairing_neg_left_all (p : Aff Fq) (q : Aff Fq2) (hp : p.isOnCurve g1Codec.b = true)
    (hq : Aff.inSubgroup g2Codec.b q = true) (e : Fq12) (h : pairing p q = some e) :
    pairing p.neg q = some e⁻¹ := by
  cases hpi : p.infinity with
  | true =>
    rw [C11.pairing_identity p q (Or.inl hpi)] at h
    rw [neg_infinite_g1 p hpi, C11.pairing_identity p q (Or.inl hpi), ← Option.some.inj h, inv_one]
  | false =>
    cases hqi : q.infinity with
    | true =>
      rw [C11.pairing_identity p q (Or.inr hqi)] at h
      rw [C11.pairing_identity p.neg q (Or.inr hqi), ← Option.some.inj h, inv_one]
    | false => exact pairing_neg_left p q hp hpi hq hqi e h

/-- **`e(P, -Q) = e(P, Q)⁻¹`**, likewise -/
theorem pairing_neg_right_all (p : Aff Fq) (q : Aff Fq2) (hp : p.isOnCurve g1Codec.b = true)
    (hq : Aff.inSubgroup g2Codec.b q = true) (e : Fq12) (h : pairing p q = some e) :
    pairing p q.neg = some e⁻¹ := by
  cases hqi : q.infinity with
  | true =>
    rw [C11.pairing_identity p q (Or.inr hqi)] at h
    rw [neg_infinite_g2 q hqi, C11.pairing_identity p q (Or.inr hqi), ← Option.some.inj h, inv_one]
  | false =>
    cases hpi : p.infinity with
    | true =>
      rw [C11.pairing_identity p q (Or.inl hpi)] at h
      rw [C11.pairing_identity p q.neg (Or.inl hpi), ← Option.some.inj h, inv_one]
    | false => exact pairing_neg_right p q hp hpi hq hqi e h

/-- **`e(P, -Q) = e(-P, Q)`** -/
theorem pairing_neg_right_eq_neg_left (p : Aff Fq) (q : Aff Fq2)
    (hp : p.isOnCurve g1Codec.b = true) (hq : Aff.inSubgroup g2Codec.b q = true) :
    pairing p q.neg = pairing p.neg q := by
  obtain ⟨e, -, he⟩ := pairing_some p q hp hq
  rw [pairing_neg_left_all p q hp hq e he, pairing_neg_right_all p q hp hq e he]

/-- **`e(-P, -Q) = e(P, Q)`** -/
theorem pairing_neg_neg (p : Aff Fq) (q : Aff Fq2) (hp : p.isOnCurve g1Codec.b = true)
    (hq : Aff.inSubgroup g2Codec.b q = true) : pairing p.neg q.neg = pairing p q := by
  obtain ⟨e, -, he⟩ := pairing_some p q hp hq
  rw [pairing_neg_right_all p.neg q (neg_isOnCurve p hp) hq e⁻¹
    (pairing_neg_left_all p q hp hq e he), inv_inv, he]

/-- in `Option`, without naming the value: `e(-P, Q) = e(P, Q)⁻¹`, `e(P, -Q) = e(P, Q)⁻¹` -/
theorem pairing_neg_left_map (p : Aff Fq) (q : Aff Fq2) (hp : p.isOnCurve g1Codec.b = true)
    (hq : Aff.inSubgroup g2Codec.b q = true) : pairing p.neg q = (pairing p q).map (·⁻¹) := by
  obtain ⟨e, -, he⟩ := pairing_some p q hp hq
  rw [pairing_neg_left_all p q hp hq e he, he]; rfl

theorem pairing_neg_right_map (p : Aff Fq) (q : Aff Fq2) (hp : p.isOnCurve g1Codec.b = true)
    (hq : Aff.inSubgroup g2Codec.b q = true) : pairing p q.neg = (pairing p q).map (·⁻¹) := by
  obtain ⟨e, -, he⟩ := pairing_some p q hp hq
  rw [pairing_neg_right_all p q hp hq e he, he]; rfl

/-! ## the products used by signature verification -/

/-- **`e(P,Q) · e(-P,Q) = 1`** as a product of two calls of `pairing` -/
theorem pairing_mul_neg_left (p : Aff Fq) (q : Aff Fq2) (hp : p.isOnCurve g1Codec.b = true)
    (hq : Aff.inSubgroup g2Codec.b q = true) : optMul (pairing p q) (pairing p.neg q) = some 1 := by
  obtain ⟨e, he0, he⟩ := pairing_some p q hp hq
  rw [pairing_neg_left_all p q hp hq e he, he, optMul_some, mul_inv_cancel₀ he0]

theorem pairing_mul_neg_right (p : Aff Fq) (q : Aff Fq2) (hp : p.isOnCurve g1Codec.b = true)
    (hq : Aff.inSubgroup g2Codec.b q = true) : optMul (pairing p q) (pairing p q.neg) = some 1 := by
  rw [pairing_neg_right_eq_neg_left p q hp hq]; exact pairing_mul_neg_left p q hp hq

/-- **`pairing_product(P, Q, -P, Q) = 1`** -/
theorem pairingProduct_neg_left (p : Aff Fq) (q : Aff Fq2) (hp : p.isOnCurve g1Codec.b = true)
    (hq : Aff.inSubgroup g2Codec.b q = true) : pairingProduct p q p.neg q = some 1 := by
  rw [C11.pairingProduct_eq_mul]; exact pairing_mul_neg_left p q hp hq

/-- **`pairing_product(P, Q, P, -Q) = 1`** -/
theorem pairingProduct_neg_right (p : Aff Fq) (q : Aff Fq2) (hp : p.isOnCurve g1Codec.b = true)
    (hq : Aff.inSubgroup g2Codec.b q = true) : pairingProduct p q p q.neg = some 1 := by
  rw [C11.pairingProduct_eq_mul]; exact pairing_mul_neg_right p q hp hq

/-- the order of the two pairs is irrelevant -/
theorem pairingProduct_neg_left' (p : Aff Fq) (q : Aff Fq2) (hp : p.isOnCurve g1Codec.b = true)
    (hq : Aff.inSubgroup g2Codec.b q = true) : pairingProduct p.neg q p q = some 1 := by
  rw [C11.pairingProduct_eq_mul, optMul_comm]; exact pairing_mul_neg_left p q hp hq

theorem pairingProduct_neg_right' (p : Aff Fq) (q : Aff Fq2) (hp : p.isOnCurve g1Codec.b = true)
    (hq : Aff.inSubgroup g2Codec.b q = true) : pairingProduct p q.neg p q = some 1 := by
  rw [C11.pairingProduct_eq_mul, optMul_comm]; exact pairing_mul_neg_right p q hp hq

/-- **`pairing_multi_product([P, -P], [Q, Q]) = 1`** -/
theorem pairingMultiProduct_neg_left (p : Aff Fq) (q : Aff Fq2) (hp : p.isOnCurve g1Codec.b = true)
    (hq : Aff.inSubgroup g2Codec.b q = true) : pairingMultiProduct [p, p.neg] [q, q] = some 1 := by
  rw [← C11.pairingProduct_eq_multi]; exact pairingProduct_neg_left p q hp hq

/-- **`pairing_multi_product([P, P], [Q, -Q]) = 1`** -/
theorem pairingMultiProduct_neg_right (p : Aff Fq) (q : Aff Fq2) (hp : p.isOnCurve g1Codec.b = true)
    (hq : Aff.inSubgroup g2Codec.b q = true) : pairingMultiProduct [p, p] [q, q.neg] = some 1 := by
  rw [← C11.pairingProduct_eq_multi]; exact pairingProduct_neg_right p q hp hq

/-- the verification equation: **`e(P₁, Q) = e(P₂, Q)` iff `pairing_product(P₁, Q, -P₂, Q) = 1`**
    (this is how `e(σ, g2) = e(H(m), pk)`-style checks are evaluated with one final exponentiation;
    here for a common second argument, which needs no bilinearity) -/
theorem pairingProduct_eq_one_iff (p₁ p₂ : Aff Fq) (q : Aff Fq2)
    (hp₁ : p₁.isOnCurve g1Codec.b = true) (hp₂ : p₂.isOnCurve g1Codec.b = true)
    (hq : Aff.inSubgroup g2Codec.b q = true) :
    pairingProduct p₁ q p₂.neg q = some 1 ↔ pairing p₁ q = pairing p₂ q := by
  obtain ⟨e₁, h₁0, h₁⟩ := pairing_some p₁ q hp₁ hq
  obtain ⟨e₂, h₂0, h₂⟩ := pairing_some p₂ q hp₂ hq
  rw [C11.pairingProduct_eq_mul, pairing_neg_left_all p₂ q hp₂ hq e₂ h₂, h₁, h₂, optMul_some,
    Option.some.injEq, Option.some.injEq, mul_inv_eq_one₀ h₂0]

end PP.C11Neg

/-! ## the cancellation law at the generators

`e(g1,g2) · e(-g1,g2) = 1` through `pairing_product` and `e(g1,g2) · e(g1,-g2) = 1` through
`pairing_multi_product`.  `C11.g1neg` and
`C11.g2neg` are `Aff.neg` of the generators by `rfl`; membership of `g1` and `g2` is the kernel
evaluation of `PP.Proofs.Generators`. -/

namespace PP.C11

theorem g1_isOnCurve : g1.isOnCurve g1Codec.b = true :=
  (Bool.and_eq_true_iff.mp generatorG1_inSubgroup).1

theorem cancel_instance_g1 : pairingProduct g1 g2 g1neg g2 = some 1 :=
  C11Neg.pairingProduct_neg_left g1 g2 g1_isOnCurve generatorG2_inSubgroup

theorem cancel_instance_g2 : pairingMultiProduct [g1, g1] [g2, g2neg] = some 1 :=
  C11Neg.pairingMultiProduct_neg_right g1 g2 g1_isOnCurve generatorG2_inSubgroup

end PP.C11

namespace PP.C11Neg

/-! ## non-vacuity -/

/-- the hypotheses are satisfiable: the generators of `C11.cancel_instance_*` are finite, on the curve,
    in the subgroup (the model's own checks evaluated by the kernel) -/
example : C11.g1.isOnCurve g1Codec.b = true ∧ C11.g1.infinity = false ∧
    Aff.inSubgroup g2Codec.b C11.g2 = true ∧ C11.g2.infinity = false :=
  ⟨C11.g1_isOnCurve, rfl, generatorG2_inSubgroup, rfl⟩

/-- `Aff.neg` of the generators is the point used in the instances `C11.cancel_instance_*` -/
example : C11.g1.neg = C11.g1neg ∧ C11.g2.neg = C11.g2neg := ⟨rfl, rfl⟩

example : pairingProduct C11.g1 C11.g2 C11.g1neg C11.g2 = some 1 := C11.cancel_instance_g1

end PP.C11Neg
