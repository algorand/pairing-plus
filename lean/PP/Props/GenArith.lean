/-
OBLIGATIONS "GenArith": the straight-line arithmetic of the hand-written model IS the Rust source.

`PP/Gen/Arith.lean` (namespace `PP.Gen.A`) is REGENERATED from /repo on every run of
/verif/extract/extract.py by /verif/extract/extract_arith.py: one Lean definition per Rust function,
one `let` per Rust statement.  Each theorem below states that such a regenerated definition is equal
(as a function) to the hand-written model definition that all other properties are proved about.
A change of the MEANING of one of these Rust functions makes the corresponding theorem fail (or the
extractor refuses the new shape), whether or not a test input exposes it.  A rewrite that preserves the
meaning does not, for the functions over the concrete fields: the proofs (`gen_eq`,
PP/Proofs/GenArithTactic.lean) compare the two sides up to `let`s / projections first and, if that
fails, extensionally up to the commutative-ring laws of `Fq` (core solver `grobner`).  The functions
that are generic in the coefficient field are stated over bare notation classes (no laws); for those
only the syntactic comparison is possible, and the law-assuming versions are the additional
`_of_ring` / `_Fq` / `_Fq2` theorems below.

Correspondence Rust -> generated -> model:
  fq2.rs   mul_by_nonresidue norm zero one is_zero square double negate add_assign sub_assign mul_assign
           inverse frobenius_map, SqrtField::{legendre, sqrt}, Signum0::sgn0, Ord::cmp -> `PP.Fq2.*`
  fq.rs    Signum0::sgn0                                                             -> `Zp.sgn0`
  signum.rs  BitXor for Sgn0Result, Signum0::negate_if (default method)              -> `PP.Sgn0.xor`, `PP.negateIf`
  fq6.rs   mul_by_nonresidue mul_by_1 mul_by_01 zero one is_zero double negate add_assign sub_assign
           frobenius_map square mul_assign inverse                                   -> `PP.Fq6.*`
  fq12.rs  conjugate mul_by_014 zero one is_zero double negate add_assign sub_assign frobenius_map
           square mul_assign inverse                                                 -> `PP.Fq12.*`
  ec/mod.rs (macro `curve_impl!`, generic in the coefficient field)
           $affine: zero is_zero negate is_on_curve, From<$affine> for $projective, mul_bits, mul,
           get_point_from_x, is_in_correct_subgroup_assuming_on_curve                -> `PP.Aff.*`
           $projective: zero is_zero is_normalized PartialEq::eq double add_assign add_assign_mixed
           negate, From<$projective> for $affine, mul_assign                         -> `PP.Jac.*`
  lib.rs   CurveProjective::{sub_assign, sub_assign_mixed} (default methods)         -> `PP.Jac.sub`, `PP.Jac.subMixed`
  ec/g1.rs, ec/g2.rs  SubgroupCheck::in_subgroup                                     -> `PP.Aff.inSubgroup`
  osswu_map/mod.rs  osswu_help                                                       -> `PP.osswuHelp`
  osswu_map/g1.rs, g2.rs  OSSWUMap::osswu_map                                        -> `PP.osswuG1`, `PP.osswuG2`
  cofactor.rs  ClearH::clear_h for G1, G2                                            -> `PP.clearHG1`, `PP.clearHG2`
  map_to_curve.rs  map_to_curve, map2_to_curve (generic over the traits)             -> `PP.mapToCurveG1` ... `PP.map2ToCurveG2`
  mod.rs   doubling_step addition_step ell exp_by_x final_exponentiation             -> `PP.doublingStep` ...

Differences of representation that are visible in the statements: `$affine::is_zero` is inlined in
the model (`.infinity`); the `u64` argument of `exp_by_x` is a `UInt64` in the generated code and a
`Nat` (reduced mod 2^64 inside) in the model; `Ord for Fq2` returns an `Ordering` where the model
only has the derived `<` (`Fq2.lt`); associated constants of the macro (`get_coeff_b()`,
`$scalarfield::char()`) are leading parameters of the generated definitions, instantiated in the
statements (`Gen.r`); `map_to_curve` / `map2_to_curve` are generic over traits, their generated
definitions take the trait methods as parameters (`osswu_map` Option-valued: `none` = panic) and the
statements instantiate them with the generated methods of G1 / G2 and, for `isogeny_map`, with the
model's `iso11` / `iso3` (the translation of `eval_iso` is compared with these in PP/Props/GenIso.lean).

Primitives of the base field that are derive-generated (not in /repo) and therefore taken from the
model: `Fq::sqrt`, `Fq::legendre` (`SqrtOps`), `Fq::cmp` (`compare` of the canonical integers),
`into_repr().0[0] & 1 == 1` (translated as `v % 2 = 1`), `BitIterator::new(repr)` (`bitsMSB (limbsOf 4 ·)`).
The addition chains called by `osswu_map` and `clear_h` are extracted separately (PP/Gen/Chains.lean)
and enter as the model's `chainPm3div4`, `chainP2m9div16`, `chainZ`, `chainH2Eff`.
-/
import PP.Proofs.GenArith

namespace PP.GenArith
open PP PP.Gen PP.GenArithLemmas


/-! ## Fq2 (src/bls12_381/fq2.rs) -/
theorem Fq2_mulByNonresidue : A.Fq2.mulByNonresidue = PP.Fq2.mulByNonresidue := Fq2_mulByNonresidue_eq
theorem Fq2_norm : A.Fq2.norm = PP.Fq2.norm := Fq2_norm_eq
theorem Fq2_zero : A.Fq2.zero = (0 : Fq2) := Fq2_zero_eq
theorem Fq2_one : A.Fq2.one = (1 : Fq2) := Fq2_one_eq
theorem Fq2_isZero : A.Fq2.isZero = PP.Fq2.isZero := Fq2_isZero_eq
theorem Fq2_square : A.Fq2.square = PP.Fq2.square := Fq2_square_eq
theorem Fq2_double : A.Fq2.double = PP.Fq2.double := Fq2_double_eq
theorem Fq2_neg : A.Fq2.neg = PP.Fq2.neg := Fq2_neg_eq
theorem Fq2_add : A.Fq2.add = PP.Fq2.add := Fq2_add_eq
theorem Fq2_sub : A.Fq2.sub = PP.Fq2.sub := Fq2_sub_eq
theorem Fq2_mul : A.Fq2.mul = PP.Fq2.mul := Fq2_mul_eq
theorem Fq2_inverse : A.Fq2.inverse = PP.Fq2.inverse := Fq2_inverse_eq
theorem Fq2_frobeniusMap : A.Fq2.frobeniusMap = PP.Fq2.frobeniusMap := Fq2_frobeniusMap_eq
theorem Fq2_legendre : A.Fq2.legendre = PP.Fq2.legendre := by
  unfold A.Fq2.legendre; rw [Fq2_norm_eq]; rfl
theorem Fq2_sqrt : A.Fq2.sqrt = PP.Fq2.sqrt := Fq2_sqrt_eq
theorem Fq2_sgn0 : A.Fq2.sgn0 = PP.Fq2.sgn0 := Fq2_sgn0_eq
theorem Fq2_cmp (a b : Fq2) : PP.Fq2.lt a b = decide (A.Fq2.cmp a b = Ordering.lt) := Fq2_cmp_lt a b

/-! ## `Signum0` (src/bls12_381/fq.rs, src/signum.rs) -/
theorem Fq_sgn0 : A.Fq.sgn0 = (Zp.sgn0 : Fq → Sgn0) := Fq_sgn0_eq
theorem Sgn0_xor : A.Sgn0.xor = PP.Sgn0.xor := Sgn0_xor_eq
theorem negateIf {F : Type} [Neg F] : (A.negateIf : F → Sgn0 → F) = PP.negateIf := negateIf_eq

/-! ## Fq6 (src/bls12_381/fq6.rs) -/
theorem Fq6_mulByNonresidue : A.Fq6.mulByNonresidue = PP.Fq6.mulByNonresidue := Fq6_mulByNonresidue_eq
theorem Fq6_mulBy1 : A.Fq6.mulBy1 = PP.Fq6.mulBy1 := Fq6_mulBy1_eq
theorem Fq6_mulBy01 : A.Fq6.mulBy01 = PP.Fq6.mulBy01 := Fq6_mulBy01_eq
theorem Fq6_zero : A.Fq6.zero = (0 : Fq6) := Fq6_zero_eq
theorem Fq6_one : A.Fq6.one = (1 : Fq6) := Fq6_one_eq
theorem Fq6_isZero : A.Fq6.isZero = PP.Fq6.isZero := Fq6_isZero_eq
theorem Fq6_double : A.Fq6.double = PP.Fq6.double := Fq6_double_eq
theorem Fq6_neg : A.Fq6.neg = PP.Fq6.neg := Fq6_neg_eq
theorem Fq6_add : A.Fq6.add = PP.Fq6.add := Fq6_add_eq
theorem Fq6_sub : A.Fq6.sub = PP.Fq6.sub := Fq6_sub_eq
theorem Fq6_frobeniusMap : A.Fq6.frobeniusMap = PP.Fq6.frobeniusMap := Fq6_frobeniusMap_eq
theorem Fq6_square : A.Fq6.square = PP.Fq6.square := Fq6_square_eq
theorem Fq6_mul : A.Fq6.mul = PP.Fq6.mul := Fq6_mul_eq
theorem Fq6_inverse : A.Fq6.inverse = PP.Fq6.inverse := Fq6_inverse_eq

/-! ## Fq12 (src/bls12_381/fq12.rs) -/
theorem Fq12_conjugate : A.Fq12.conjugate = PP.Fq12.conjugate := Fq12_conjugate_eq
theorem Fq12_mulBy014 : A.Fq12.mulBy014 = PP.Fq12.mulBy014 := Fq12_mulBy014_eq
theorem Fq12_zero : A.Fq12.zero = (0 : Fq12) := Fq12_zero_eq
theorem Fq12_one : A.Fq12.one = (1 : Fq12) := Fq12_one_eq
theorem Fq12_isZero : A.Fq12.isZero = PP.Fq12.isZero := Fq12_isZero_eq
theorem Fq12_double : A.Fq12.double = PP.Fq12.double := Fq12_double_eq
theorem Fq12_neg : A.Fq12.neg = PP.Fq12.neg := Fq12_neg_eq
theorem Fq12_add : A.Fq12.add = PP.Fq12.add := Fq12_add_eq
theorem Fq12_sub : A.Fq12.sub = PP.Fq12.sub := Fq12_sub_eq
theorem Fq12_frobeniusMap : A.Fq12.frobeniusMap = PP.Fq12.frobeniusMap := Fq12_frobeniusMap_eq
theorem Fq12_square : A.Fq12.square = PP.Fq12.square := Fq12_square_eq
theorem Fq12_mul : A.Fq12.mul = PP.Fq12.mul := Fq12_mul_eq
theorem Fq12_inverse : A.Fq12.inverse = PP.Fq12.inverse := Fq12_inverse_eq

/-! ## `curve_impl!` (src/bls12_381/ec/mod.rs), generic in the coefficient field -/

section
set_option linter.unusedSectionVars false
variable {F : Type} [Add F] [Sub F] [Mul F] [Neg F] [Zero F] [One F] [FieldOps F] [DecidableEq F]

theorem Aff_zero : (A.Aff.zero : Aff F) = PP.Aff.zero := Aff_zero_eq
theorem Aff_isZero : (A.Aff.isZero : Aff F → Bool) = fun p => p.infinity := Aff_isZero_eq
theorem Aff_isOnCurve : (A.Aff.isOnCurve : F → Aff F → Bool) = PP.Aff.isOnCurve := Aff_isOnCurve_eq
theorem Jac_zero : (A.Jac.zero : Jac F) = PP.Jac.zero := Jac_zero_eq
theorem Jac_isZero : (A.Jac.isZero : Jac F → Bool) = PP.Jac.isZero := Jac_isZero_eq
theorem Jac_isNormalized : (A.Jac.isNormalized : Jac F → Bool) = PP.Jac.isNormalized := Jac_isNormalized_eq
theorem Jac_beq : (A.Jac.beq : Jac F → Jac F → Bool) = PP.Jac.beq := by
  unfold A.Jac.beq; simp -zeta only [Jac_isZero_eq]; rfl
theorem Jac_double : (A.Jac.double : Jac F → Jac F) = PP.Jac.double := Jac_double_eq
theorem Jac_add : (A.Jac.add : Jac F → Jac F → Jac F) = PP.Jac.add := Jac_add_eq
theorem Jac_addMixed : (A.Jac.addMixed : Jac F → Aff F → Jac F) = PP.Jac.addMixed := Jac_addMixed_eq
theorem Aff_toJac : (A.Aff.toJac : Aff F → Jac F) = PP.Aff.toJac := Aff_toJac_eq
theorem Jac_toAffine : (A.Jac.toAffine : Jac F → Option (Aff F)) = PP.Jac.toAffine := Jac_toAffine_eq
theorem Aff_neg : (A.Aff.neg : Aff F → Aff F) = PP.Aff.neg := Aff_neg_eq
theorem Jac_neg : (A.Jac.neg : Jac F → Jac F) = PP.Jac.neg := Jac_neg_eq
theorem Aff_mulBits : (A.Aff.mulBits : Aff F → List Bool → Jac F) = PP.Aff.mulBits := Aff_mulBits_eq
theorem Aff_mul : (A.Aff.mul : Aff F → Nat → Jac F) = PP.Aff.mul := Aff_mul_eq
theorem Jac_mulAssign : (A.Jac.mulAssign : Jac F → Nat → Jac F) = PP.Jac.mulAssign := by
  funext p k
  unfold A.Jac.mulAssign PP.Jac.mulAssign
  simp -zeta only [Jac_zero_eq, Jac_double_eq, Jac_add_eq]
  rw [← Jac_mulLoop_foldl]
  show Prod.fst (List.foldl _ _ _) = Prod.fst (List.foldl _ _ _)
  congr 2
  funext st i
  obtain ⟨res, found⟩ := st
  cases found <;> cases i <;> rfl
theorem Aff_getPointFromX [SqrtOps F] :
    (A.Aff.getPointFromX : F → F → Bool → Option (Aff F)) = PP.Aff.getPointFromX := Aff_getPointFromX_eq
theorem Aff_isInCorrectSubgroupAssumingOnCurve :
    (A.Aff.isInCorrectSubgroupAssumingOnCurve Gen.r : Aff F → Bool) = PP.Aff.inSubgroupAssumingOnCurve :=
  Aff_isInCorrectSubgroupAssumingOnCurve_eq
/-- src/lib.rs, default methods of `trait CurveProjective` -/
theorem Jac_sub : (A.Jac.sub : Jac F → Jac F → Jac F) = PP.Jac.sub := Jac_sub_eq
theorem Jac_subMixed : (A.Jac.subMixed : Jac F → Aff F → Jac F) = PP.Jac.subMixed := by
  unfold A.Jac.subMixed; simp -zeta only [Aff_neg_eq, Jac_addMixed_eq]; rfl

/-! ## `osswu_help` (src/bls12_381/osswu_map/mod.rs) -/
theorem osswuHelp : (A.osswuHelp : F → F → F → F → OsswuHelp F) = PP.osswuHelp := osswuHelp_eq

end

/-! ## the arithmetic-carrying functions of `curve_impl!` / `osswu_help` over a coefficient ring WITH laws

The theorems of the previous section are over bare notation classes, where only syntactic equality
(up to `let`s and projections) can hold: an algebraically equivalent rewrite of the Rust formulas makes
them fail although the code is still right.  Over a coefficient type with ring laws
(`Lean.Grind.CommRing F`, core class; `PP.GenArithTactic.LawfulSqDbl F`: `sq a = a * a`, `dbl a = a + a`)
the same equalities are proved up to ring identities and survive such rewrites; `_Fq` / `_Fq2` are the
instances for the model's fields with the model's own operations (the statements are literally those of
the previous section at `F := Fq`, `Fq2`). -/

section
open PP.GenArithTactic
set_option linter.unusedSectionVars false
variable {F : Type} [Lean.Grind.CommRing F] [FieldOps F] [LawfulSqDbl F] [DecidableEq F]

theorem Aff_isOnCurve_of_ring : (A.Aff.isOnCurve : F → Aff F → Bool) = PP.Aff.isOnCurve := Aff_isOnCurve_eq_of_ring
theorem Jac_beq_of_ring : (A.Jac.beq : Jac F → Jac F → Bool) = PP.Jac.beq := Jac_beq_eq_of_ring
theorem Jac_double_of_ring : (A.Jac.double : Jac F → Jac F) = PP.Jac.double := Jac_double_eq_of_ring
theorem Jac_add_of_ring : (A.Jac.add : Jac F → Jac F → Jac F) = PP.Jac.add := Jac_add_eq_of_ring
theorem Jac_addMixed_of_ring : (A.Jac.addMixed : Jac F → Aff F → Jac F) = PP.Jac.addMixed := Jac_addMixed_eq_of_ring
theorem Jac_toAffine_of_ring : (A.Jac.toAffine : Jac F → Option (Aff F)) = PP.Jac.toAffine := Jac_toAffine_eq_of_ring
theorem osswuHelp_of_ring : (A.osswuHelp : F → F → F → F → OsswuHelp F) = PP.osswuHelp := osswuHelp_eq_of_ring
theorem Aff_getPointFromX_of_ring [SqrtOps F] :
    (A.Aff.getPointFromX : F → F → Bool → Option (Aff F)) = PP.Aff.getPointFromX := Aff_getPointFromX_eq_of_ring

end

theorem Aff_isOnCurve_Fq : (A.Aff.isOnCurve : Fq → Aff Fq → Bool) = PP.Aff.isOnCurve := Aff_isOnCurve_eq_Fq
theorem Jac_beq_Fq : (A.Jac.beq : Jac Fq → Jac Fq → Bool) = PP.Jac.beq := by
  open PP.GenArithTactic in exact Jac_beq_eq_of_ring
theorem Jac_double_Fq : (A.Jac.double : Jac Fq → Jac Fq) = PP.Jac.double := by
  open PP.GenArithTactic in exact Jac_double_eq_of_ring
theorem Jac_add_Fq : (A.Jac.add : Jac Fq → Jac Fq → Jac Fq) = PP.Jac.add := Jac_add_eq_Fq
theorem Jac_addMixed_Fq : (A.Jac.addMixed : Jac Fq → Aff Fq → Jac Fq) = PP.Jac.addMixed := by
  open PP.GenArithTactic in exact Jac_addMixed_eq_of_ring
theorem Jac_toAffine_Fq : (A.Jac.toAffine : Jac Fq → Option (Aff Fq)) = PP.Jac.toAffine := by
  open PP.GenArithTactic in exact Jac_toAffine_eq_of_ring
theorem osswuHelp_Fq : (A.osswuHelp : Fq → Fq → Fq → Fq → OsswuHelp Fq) = PP.osswuHelp := by
  open PP.GenArithTactic in exact osswuHelp_eq_of_ring
theorem Aff_getPointFromX_Fq :
    (A.Aff.getPointFromX : Fq → Fq → Bool → Option (Aff Fq)) = PP.Aff.getPointFromX := by
  open PP.GenArithTactic in exact Aff_getPointFromX_eq_of_ring

theorem Aff_isOnCurve_Fq2 : (A.Aff.isOnCurve : Fq2 → Aff Fq2 → Bool) = PP.Aff.isOnCurve := Aff_isOnCurve_eq_Fq2
theorem Jac_beq_Fq2 : (A.Jac.beq : Jac Fq2 → Jac Fq2 → Bool) = PP.Jac.beq := by
  open PP.GenArithTactic in exact Jac_beq_eq_of_ring
theorem Jac_double_Fq2 : (A.Jac.double : Jac Fq2 → Jac Fq2) = PP.Jac.double := by
  open PP.GenArithTactic in exact Jac_double_eq_of_ring
theorem Jac_add_Fq2 : (A.Jac.add : Jac Fq2 → Jac Fq2 → Jac Fq2) = PP.Jac.add := Jac_add_eq_Fq2
theorem Jac_addMixed_Fq2 : (A.Jac.addMixed : Jac Fq2 → Aff Fq2 → Jac Fq2) = PP.Jac.addMixed := by
  open PP.GenArithTactic in exact Jac_addMixed_eq_of_ring
theorem Jac_toAffine_Fq2 : (A.Jac.toAffine : Jac Fq2 → Option (Aff Fq2)) = PP.Jac.toAffine := by
  open PP.GenArithTactic in exact Jac_toAffine_eq_of_ring
theorem osswuHelp_Fq2 : (A.osswuHelp : Fq2 → Fq2 → Fq2 → Fq2 → OsswuHelp Fq2) = PP.osswuHelp := by
  open PP.GenArithTactic in exact osswuHelp_eq_of_ring
theorem Aff_getPointFromX_Fq2 :
    (A.Aff.getPointFromX : Fq2 → Fq2 → Bool → Option (Aff Fq2)) = PP.Aff.getPointFromX := by
  open PP.GenArithTactic in exact Aff_getPointFromX_eq_of_ring

/-! ## `SubgroupCheck` (ec/g1.rs, ec/g2.rs), `osswu_map` (osswu_map/g1.rs, g2.rs), `clear_h` (cofactor.rs),
    `map_to_curve` / `map2_to_curve` (src/map_to_curve.rs) -/
theorem G1Affine_inSubgroup (b : Fq) : A.G1Affine.inSubgroup b Gen.r = PP.Aff.inSubgroup b := G1Affine_inSubgroup_eq b
theorem G2Affine_inSubgroup (b : Fq2) : A.G2Affine.inSubgroup b Gen.r = PP.Aff.inSubgroup b := G2Affine_inSubgroup_eq b
theorem G1_osswuMap : A.G1.osswuMap = PP.osswuG1 := G1_osswuMap_eq
theorem G2_osswuMap : A.G2.osswuMap = PP.osswuG2 := G2_osswuMap_eq
theorem G1_clearH : A.G1.clearH = PP.clearHG1 := G1_clearH_eq
theorem G2_clearH : A.G2.clearH = PP.clearHG2 := G2_clearH_eq
theorem mapToCurve_G1 :
    A.mapToCurve (osswu_map := fun u => some (A.G1.osswuMap u)) (isogeny_map := PP.iso11) (clear_h := A.G1.clearH)
      = fun u => some (PP.mapToCurveG1 u) := mapToCurve_G1_eq
theorem map2ToCurve_G1 :
    A.map2ToCurve (osswu_map := fun u => some (A.G1.osswuMap u)) (isogeny_map := PP.iso11)
        (add_assign := A.Jac.add) (clear_h := A.G1.clearH)
      = fun u0 u1 => some (PP.map2ToCurveG1 u0 u1) := map2ToCurve_G1_eq
theorem mapToCurve_G2 :
    A.mapToCurve (osswu_map := A.G2.osswuMap) (isogeny_map := PP.iso3) (clear_h := A.G2.clearH) = PP.mapToCurveG2 :=
  mapToCurve_G2_eq
theorem map2ToCurve_G2 :
    A.map2ToCurve (osswu_map := A.G2.osswuMap) (isogeny_map := PP.iso3) (add_assign := A.Jac.add)
        (clear_h := A.G2.clearH) = PP.map2ToCurveG2 := map2ToCurve_G2_eq

/-! ## pairing (src/bls12_381/mod.rs) -/
theorem doublingStep : A.doublingStep = PP.doublingStep := doublingStep_eq
theorem additionStep : A.additionStep = PP.additionStep := additionStep_eq
theorem ell : A.ell = PP.ell := ell_eq
theorem expByX : A.expByX = fun f x => PP.expByX f x.toNat := expByX_eq
theorem finalExponentiation : A.finalExponentiation = PP.finalExponentiation := finalExponentiation_eq

end PP.GenArith
