/-
C02 / C20 — HISTORY INDEPENDENCE OF THE wNAF CONTEXT FOR THE WHOLE `Wnaf` API.

"A wNAF context may be reused for any sequence of bases and scalars and still returns what a fresh context
would" (C02); "… no dependence on call history, including sharing wNAF tables across threads" (C20).

`PP.C02.wnaf_reuse` / `PP.C20.wnaf_history_independent` range over histories of PAIRED calls only
(`base(b, n).scalar(k)` or `scalar(k).base(b)`, the language `WnafCall`).  The Rust API (src/wnaf.rs) is finer:

    let mut w = Wnaf::new();
    { let mut v = w.base(b, n);        // Wnaf<usize, &[G], &mut Vec<i64>>: table built once, borrows `w`
      v.scalar(k1); v.scalar(k2); …    // ANY number of scalars on the same table, digit buffer reused
      let mut s = v.shared();          // Wnaf<usize, &[G], Vec<i64>>: same table, OWN (empty) digit buffer
      s.scalar(k3); v.scalar(k4); s.scalar(k5); … }          // used in between, in any order
    { let mut u = w.scalar(k);         // Wnaf<usize, &mut Vec<G>, &[i64]>: digits computed once
      u.base(b1); u.base(b2); …        // ANY number of bases, table buffer reused
      let mut t = u.shared(); t.base(b3); u.base(b4); … }    // own (empty) table buffer

HISTORY LANGUAGE here: a history is a list of SESSIONS on one persistent context; a session is
`base(b, n)` followed by any list of operations on the returned view — `scalar(k)` on the view, `share i`
(slot `i` := `view.shared()`), `copyScalar i k` (`scalar(k)` on the copy in slot `i`; an empty slot is filled by
`shared()` first) — or `scalar(k)` followed by any list of `base(b)`, `share i`, `copyBase i b`.  Copies and the
view are used in any interleaving; any number of copies is alive at the same time; at the end of a session the
borrowed buffer is written back to the context (as in `GenMsm.Wnaf_baseThenScalar`) and the copies are dropped
(their lifetime is bounded by the borrow of the context).

SEMANTICS: the run functions below execute a history with the GENERATED methods of `PP/Gen/Msm.lean`
(`M.Wnaf.ctxBase`, `ctxScalar`, `expScalar`, `expBase`, `baseShared`, `scalarShared`: the line-by-line translation
of src/wnaf.rs, fuel 300 as in `PP.Props.GenMsm`), not with a hand-written model.

THEOREMS
* `runAll_eq_spec` (history independence, exact about panics, NO hypothesis on scalars or points): the list of
  results of any history on ANY (used) context is what FRESH buffers return request by request
  (`fresh b k w = wnaf_exp(wnaf_table([], b, w), wnaf_form([], k, w))`); the right-hand side mentions neither the
  context nor the slots nor the order of the interleaving.
* `runAll_results` : each result `R` of a history satisfies `fresh b k w = some R` for its request.
* `runAll_correct` : for `k < 2^255`, valid points and recommended windows in `2..=22` the history does not panic
  and every result is `[k]B`.
* `fresh_eq_session_new` : `fresh` is literally the one-request session on `Wnaf::new()`.
* `g1_history`, `g2_history` : the same with the window recommendations of G1 / G2 (no hypothesis on windows), on
  `E(Fq)` / `E'(Fq2)`; `curve_history` : on any curve, any recommendations in `2..=22`.
* `runAll_two_contexts`, `runAll_after` : two pasts, or a past and none, give the same results.
* `g1_history_independent`, `g2_history_independent` : `runAll_eq_spec` with the library's window recommendations.
* `run_baseScalar`, `run_scalarBase` : the two shapes of the language `WnafCall` of C02 / C20 are the
  one-operation sessions.
-/
import PP.Props.GenMsm
import PP.Props.C02Inst
import PP.Props.C07


namespace PP.C20Hist
open PP PP.Gen PP.GenMsmLemmas

/-- the staged objects `Wnaf<usize, _, _>` of src/wnaf.rs (table, digits, window), as generated -/
abbrev View (F : Type) := M.Wnaf Nat (List (Jac F)) (List Int)

/-- operations on the view returned by `Wnaf::base(b, n)` -/
inductive BaseOp where
  /-- `view.scalar(k)` -/
  | scalar (k : ℕ)
  /-- `slot[i] = view.shared()` -/
  | share (i : ℕ)
  /-- `slot[i].scalar(k)` (an empty slot is first filled with `view.shared()`) -/
  | copyScalar (i : ℕ) (k : ℕ)

/-- operations on the view returned by `Wnaf::scalar(k)` -/
inductive ScalarOp (F : Type) where
  /-- `view.base(b)` -/
  | base (b : Jac F)
  /-- `slot[i] = view.shared()` -/
  | share (i : ℕ)
  /-- `slot[i].base(b)` (an empty slot is first filled with `view.shared()`) -/
  | copyBase (i : ℕ) (b : Jac F)

/-- one borrow of the context -/
inductive Session (F : Type) where
  | base (b : Jac F) (n : ℕ) (ops : List BaseOp)
  | scalar (k : ℕ) (ops : List (ScalarOp F))

/-- the scalar an operation asks a result for, if any -/
def BaseOp.scalar? : BaseOp → Option ℕ
  | .scalar k => some k
  | .share _ => none
  | .copyScalar _ k => some k

/-- the base an operation asks a result for, if any -/
def ScalarOp.base? {F : Type} : ScalarOp F → Option (Jac F)
  | .base b => some b
  | .share _ => none
  | .copyBase _ b => some b

section model
variable {F : Type} [Add F] [Sub F] [Mul F] [Neg F] [Zero F] [One F] [FieldOps F] [DecidableEq F]

/-- what fresh buffers return for base `b`, scalar `k`, window `w` (the expression of `C02.wnaf_mul`) -/
def fresh (b : Jac F) (k w : ℕ) : Option (Jac F) :=
  (wnafForm [] k w).bind fun f => wnafExp (wnafTable [] b w) f

/-- run the operations of a `base` session: the view, the live copies, the operations; returns the final view and
    the results in order -/
def runBaseOps : View F → List (ℕ × View F) → List BaseOp → Option (View F × List (Jac F))
  | v, _, [] => some (v, [])
  | v, sl, .scalar k :: ops =>
    match M.Wnaf.expScalar 300 v (limbsOf 4 k) with
    | none => none
    | some (v', r) =>
      match runBaseOps v' sl ops with
      | none => none
      | some (v'', rs) => some (v'', r :: rs)
  | v, sl, .share i :: ops => runBaseOps v ((i, M.Wnaf.baseShared v) :: sl) ops
  | v, sl, .copyScalar i k :: ops =>
    match M.Wnaf.expScalar 300 ((sl.lookup i).getD (M.Wnaf.baseShared v)) (limbsOf 4 k) with
    | none => none
    | some (s', r) =>
      match runBaseOps v ((i, s') :: sl) ops with
      | none => none
      | some (v'', rs) => some (v'', r :: rs)

/-- run the operations of a `scalar` session -/
def runScalarOps : View F → List (ℕ × View F) → List (ScalarOp F) → Option (View F × List (Jac F))
  | v, _, [] => some (v, [])
  | v, sl, .base b :: ops =>
    match M.Wnaf.expBase v b with
    | none => none
    | some (v', r) =>
      match runScalarOps v' sl ops with
      | none => none
      | some (v'', rs) => some (v'', r :: rs)
  | v, sl, .share i :: ops => runScalarOps v ((i, M.Wnaf.scalarShared v) :: sl) ops
  | v, sl, .copyBase i b :: ops =>
    match M.Wnaf.expBase ((sl.lookup i).getD (M.Wnaf.scalarShared v)) b with
    | none => none
    | some (s', r) =>
      match runScalarOps v ((i, s') :: sl) ops with
      | none => none
      | some (v'', rs) => some (v'', r :: rs)

/-- one session on the context `ctx` (`rn` = `G::recommended_wnaf_for_num_scalars`, `rs` =
    `G::recommended_wnaf_for_scalar`): the context afterwards (the borrowed buffer written back) and the results -/
def Session.run (rn : ℕ → ℕ) (rs : List ℕ → ℕ) (ctx : WnafCtx F) :
    Session F → Option (WnafCtx F × List (Jac F))
  | .base b n ops =>
    match M.Wnaf.ctxBase rn (ofCtx ctx) b n with
    | none => none
    | some (c1, v) =>
      match runBaseOps v [] ops with
      | none => none
      | some (v', out) => some (⟨c1.base, v'.scalar⟩, out)
  | .scalar k ops =>
    match M.Wnaf.ctxScalar 300 rs (ofCtx ctx) (limbsOf 4 k) with
    | none => none
    | some (c1, v) =>
      match runScalarOps v [] ops with
      | none => none
      | some (v', out) => some (⟨v'.base, c1.scalar⟩, out)

/-- a history: sessions threaded through ONE context; `none` if anything panics -/
def runAll (rn : ℕ → ℕ) (rs : List ℕ → ℕ) : WnafCtx F → List (Session F) → Option (WnafCtx F × List (Jac F))
  | ctx, [] => some (ctx, [])
  | ctx, s :: ss =>
    match s.run rn rs ctx with
    | none => none
    | some (c, out) =>
      match runAll rn rs c ss with
      | none => none
      | some (c', outs) => some (c', out ++ outs)

/-- the requests `(base, scalar, window)` of a session, one per result, in order -/
def Session.requests (rn : ℕ → ℕ) (rs : List ℕ → ℕ) : Session F → List (Jac F × ℕ × ℕ)
  | .base b n ops => (ops.filterMap BaseOp.scalar?).map fun k => (b, k, rn n)
  | .scalar k ops => (ops.filterMap ScalarOp.base?).map fun b => (b, k, rs (limbsOf 4 k))

/-- what FRESH buffers return for the requests of a session (a `scalar` session computes its digit string once,
    which may fail on its own) -/
def Session.spec (rn : ℕ → ℕ) (rs : List ℕ → ℕ) : Session F → Option (List (Jac F))
  | .base b n ops => (ops.filterMap BaseOp.scalar?).mapM fun k => fresh b k (rn n)
  | .scalar k ops =>
    (wnafForm [] k (rs (limbsOf 4 k))).bind fun _ =>
      (ops.filterMap ScalarOp.base?).mapM fun b => fresh b k (rs (limbsOf 4 k))

/-! ### the two refill routines ignore the buffers: one step -/

/-- `.scalar(k)` on a view with table `T` and window `w` returns what fresh digits give, whatever its digit buffer
    holds, and keeps table and window -/
theorem expScalar_view (T : List (Jac F)) (w : ℕ) (v : View F) (hv : v.base = T ∧ v.window_size = w) (k : ℕ) :
    (M.Wnaf.expScalar 300 v (limbsOf 4 k)).map Prod.snd = ((wnafForm [] k w).bind fun f => wnafExp T f) ∧
      ∀ p, M.Wnaf.expScalar 300 v (limbsOf 4 k) = some p → p.1.base = T ∧ p.1.window_size = w := by
  rw [GenMsm.Wnaf_expScalar, wnafForm_old, hv.1, hv.2]
  cases wnafForm [] k w with
  | none => exact ⟨rfl, fun p hp => nomatch hp⟩
  | some sc =>
    rw [Option.bind_some, Option.bind_some]
    cases wnafExp T sc with
    | none => exact ⟨rfl, fun p hp => nomatch hp⟩
    | some r => exact ⟨rfl, fun p hp => Option.some.inj hp ▸ ⟨rfl, rfl⟩⟩

/-- `.base(b)` on a view with digits `S` and window `w`: the same for the table buffer -/
theorem expBase_view (S : List Int) (w : ℕ) (hw1 : 1 ≤ w) (v : View F) (hv : v.scalar = S ∧ v.window_size = w)
    (b : Jac F) :
    (M.Wnaf.expBase v b).map Prod.snd = wnafExp (wnafTable [] b w) S ∧
      ∀ p, M.Wnaf.expBase v b = some p → p.1.scalar = S ∧ p.1.window_size = w := by
  rw [GenMsm.Wnaf_expBase v b (by rw [hv.2]; exact hw1), wnafTable_old, hv.1, hv.2]
  cases wnafExp (wnafTable [] b w) S with
  | none => exact ⟨rfl, fun p hp => nomatch hp⟩
  | some r => exact ⟨rfl, fun p hp => Option.some.inj hp ▸ ⟨rfl, rfl⟩⟩

omit [Add F] [Sub F] [Mul F] [Neg F] [Zero F] [One F] [FieldOps F] [DecidableEq F] in
/-- an operation with a result, then the rest of the session: if the operation returns what `fa` says and leaves
    a view that satisfies `Inv`, and from every such view the rest returns `spec`, the results are `fa`'s followed
    by `spec`'s (stated at the types of `runBaseOps` / `runScalarOps`, whose `match` this is) -/
theorem step_results (Inv : View F → Prop) {o : Option (View F × Jac F)} {fa : Option (Jac F)}
    (h : o.map Prod.snd = fa ∧ ∀ p, o = some p → Inv p.1)
    (rest : View F → Option (View F × List (Jac F))) (spec : Option (List (Jac F)))
    (hr : ∀ s, Inv s → (rest s).map Prod.snd = spec) :
    (match o with
      | none => none
      | some (s, r) =>
        match rest s with
        | none => none
        | some (s', rs) => some (s', r :: rs)).map Prod.snd
      = (do let r ← fa; let rs ← spec; pure (r :: rs)) := by
  obtain ⟨rfl, hi⟩ := h
  cases o with
  | none => rfl
  | some p =>
    obtain ⟨s, r⟩ := p
    rw [← hr s (hi _ rfl)]
    dsimp only
    cases rest s <;> rfl

theorem lookup_getD_inv {α : Type} (Inv : α → Prop) {sl : List (ℕ × α)} (hsl : ∀ p ∈ sl, Inv p.2) (d : α)
    (hd : Inv d) (i : ℕ) : Inv ((sl.lookup i).getD d) := by
  cases h : sl.lookup i with
  | none => exact hd
  | some s =>
    obtain ⟨l₁, l₂, rfl, -⟩ := List.lookup_eq_some_iff.mp h
    exact hsl (i, s) (by simp)

theorem runBaseOps_spec (T : List (Jac F)) (w : ℕ) (ops : List BaseOp) (v : View F) (sl : List (ℕ × View F))
    (hv : v.base = T ∧ v.window_size = w) (hsl : ∀ p ∈ sl, p.2.base = T ∧ p.2.window_size = w) :
    (runBaseOps v sl ops).map Prod.snd
      = (ops.filterMap BaseOp.scalar?).mapM fun k => (wnafForm [] k w).bind fun f => wnafExp T f := by
  induction ops generalizing v sl with
  | nil => rfl
  | cons op ops ih =>
    cases op with
    | scalar k =>
      rw [runBaseOps, List.filterMap_cons, BaseOp.scalar?, List.mapM_cons]
      exact step_results (fun s => s.base = T ∧ s.window_size = w) (expScalar_view T w v hv k) _ _
        (fun s hs => ih s sl hs hsl)
    | share i =>
      exact ih v ((i, M.Wnaf.baseShared v) :: sl) hv (List.forall_mem_cons.mpr ⟨hv, hsl⟩)
    | copyScalar i k =>
      rw [runBaseOps, List.filterMap_cons, BaseOp.scalar?, List.mapM_cons]
      have hc := lookup_getD_inv (fun s : View F => s.base = T ∧ s.window_size = w) hsl (M.Wnaf.baseShared v) hv i
      exact step_results (fun s => s.base = T ∧ s.window_size = w) (expScalar_view T w _ hc k) _ _
        (fun s hs => ih v ((i, s) :: sl) hv (List.forall_mem_cons.mpr ⟨hs, hsl⟩))

theorem runScalarOps_spec (S : List Int) (w : ℕ) (hw1 : 1 ≤ w) (ops : List (ScalarOp F)) (v : View F)
    (sl : List (ℕ × View F)) (hv : v.scalar = S ∧ v.window_size = w)
    (hsl : ∀ p ∈ sl, p.2.scalar = S ∧ p.2.window_size = w) :
    (runScalarOps v sl ops).map Prod.snd
      = (ops.filterMap ScalarOp.base?).mapM fun b => wnafExp (wnafTable [] b w) S := by
  induction ops generalizing v sl with
  | nil => rfl
  | cons op ops ih =>
    cases op with
    | base b =>
      rw [runScalarOps, List.filterMap_cons, ScalarOp.base?, List.mapM_cons]
      exact step_results (fun s => s.scalar = S ∧ s.window_size = w) (expBase_view S w hw1 v hv b) _ _
        (fun s hs => ih s sl hs hsl)
    | share i =>
      exact ih v ((i, M.Wnaf.scalarShared v) :: sl) hv (List.forall_mem_cons.mpr ⟨hv, hsl⟩)
    | copyBase i b =>
      rw [runScalarOps, List.filterMap_cons, ScalarOp.base?, List.mapM_cons]
      have hc := lookup_getD_inv (fun s : View F => s.scalar = S ∧ s.window_size = w) hsl (M.Wnaf.scalarShared v) hv i
      exact step_results (fun s => s.scalar = S ∧ s.window_size = w) (expBase_view S w hw1 _ hc b) _ _
        (fun s hs => ih v ((i, s) :: sl) hv (List.forall_mem_cons.mpr ⟨hs, hsl⟩))

/-- **one session on any (used) context returns what fresh buffers return**, exactly (panics included) -/
theorem Session.run_eq_spec (rn : ℕ → ℕ) (rs : List ℕ → ℕ) (hrn : ∀ n, 1 ≤ rn n)
    (hrs : ∀ k, 1 ≤ rs (limbsOf 4 k)) (ctx : WnafCtx F) (s : Session F) :
    (s.run rn rs ctx).map Prod.snd = s.spec rn rs := by
  cases s with
  | base b n ops =>
    rw [Session.run, GenMsm.Wnaf_ctxBase rn ctx b n (hrn n), Session.spec, wnafTable_old]
    simp only [fresh]
    rw [← runBaseOps_spec (wnafTable [] b (rn n)) (rn n) ops ⟨wnafTable [] b (rn n), ctx.scalar, rn n⟩ []
      ⟨rfl, rfl⟩ (by simp)]
    cases runBaseOps (⟨wnafTable [] b (rn n), ctx.scalar, rn n⟩ : View F) [] ops <;> rfl
  | scalar k ops =>
    rw [Session.run, GenMsm.Wnaf_ctxScalar rs ctx k, Session.spec, wnafForm_old]
    simp only [fresh]
    cases wnafForm [] k (rs (limbsOf 4 k)) with
    | none => rfl
    | some sc =>
      simp only [Option.map_some, Option.bind_some]
      rw [← runScalarOps_spec sc (rs (limbsOf 4 k)) (hrs k) ops ⟨ctx.base, sc, rs (limbsOf 4 k)⟩ []
        ⟨rfl, rfl⟩ (by simp)]
      cases runScalarOps (⟨ctx.base, sc, rs (limbsOf 4 k)⟩ : View F) [] ops <;> rfl

/-- **HISTORY INDEPENDENCE for the whole `Wnaf` API**: the results of ANY history of sessions threaded through one
    context, started on ANY (used) context, are — request by request, and exactly, panics included — what fresh
    buffers return.  The right-hand side does not mention the context, the copies, or the interleaving. -/
theorem runAll_eq_spec (rn : ℕ → ℕ) (rs : List ℕ → ℕ) (hrn : ∀ n, 1 ≤ rn n)
    (hrs : ∀ k, 1 ≤ rs (limbsOf 4 k)) (ctx : WnafCtx F) (hist : List (Session F)) :
    (runAll rn rs ctx hist).map Prod.snd = (hist.mapM (Session.spec rn rs)).map List.flatten := by
  induction hist generalizing ctx with
  | nil => rfl
  | cons s ss ih =>
    rw [runAll, List.mapM_cons, ← Session.run_eq_spec rn rs hrn hrs ctx s]
    cases s.run rn rs ctx with
    | none => rfl
    | some p =>
      obtain ⟨c, out⟩ := p
      have hflat : ∀ m : Option (List (List (Jac F))),
          (m.bind fun os => some (out :: os)).map List.flatten = (m.map List.flatten).map (out ++ ·) :=
        fun m => by cases m <;> rfl
      simp only [Option.map_some, Option.bind_eq_bind, Option.bind_some, Option.pure_def]
      rw [hflat, ← ih c]
      cases runAll rn rs c ss <;> rfl

/-- two different pasts cannot change the results of a history -/
theorem runAll_two_contexts (rn : ℕ → ℕ) (rs : List ℕ → ℕ) (hrn : ∀ n, 1 ≤ rn n)
    (hrs : ∀ k, 1 ≤ rs (limbsOf 4 k)) (ctx₁ ctx₂ : WnafCtx F) (hist : List (Session F)) :
    (runAll rn rs ctx₁ hist).map Prod.snd = (runAll rn rs ctx₂ hist).map Prod.snd := by
  rw [runAll_eq_spec rn rs hrn hrs, runAll_eq_spec rn rs hrn hrs]

set_option linter.unusedVariables false in
/-- a history after any other history on the same context = the history on `Wnaf::new()`.  The hypothesis
    `h` only says where `ctx'` comes from; nothing about `ctx'` is needed (`runAll_two_contexts`). -/
theorem runAll_after (rn : ℕ → ℕ) (rs : List ℕ → ℕ) (hrn : ∀ n, 1 ≤ rn n)
    (hrs : ∀ k, 1 ≤ rs (limbsOf 4 k)) (ctx ctx' : WnafCtx F) (past hist : List (Session F))
    (out : List (Jac F)) (h : runAll rn rs ctx past = some (ctx', out)) :
    (runAll rn rs ctx' hist).map Prod.snd = (runAll rn rs WnafCtx.new hist).map Prod.snd :=
  runAll_two_contexts rn rs hrn hrs ctx' WnafCtx.new hist

theorem Session.spec_results (rn : ℕ → ℕ) (rs : List ℕ → ℕ) (s : Session F) (out : List (Jac F))
    (h : s.spec rn rs = some out) :
    List.Forall₂ (fun q R => fresh q.1 q.2.1 q.2.2 = some R) (s.requests rn rs) out := by
  cases s with
  | base b n ops =>
    rw [Session.requests, List.forall₂_map_left_iff]
    exact mapM_some_forall₂ _ _ _ h
  | scalar k ops =>
    rw [Session.spec] at h
    cases hf : wnafForm [] k (rs (limbsOf 4 k)) with
    | none => rw [hf] at h; cases h
    | some sc =>
      rw [hf, Option.bind_some] at h
      rw [Session.requests, List.forall₂_map_left_iff]
      exact mapM_some_forall₂ _ _ _ h

omit [Add F] [Sub F] [Mul F] [Neg F] [Zero F] [One F] [FieldOps F] [DecidableEq F] in
/-- a relation between each session's requests and its results holds between all requests and all results -/
theorem forall₂_requests {P : Jac F × ℕ × ℕ → Jac F → Prop} (rn : ℕ → ℕ) (rs : List ℕ → ℕ)
    {hist : List (Session F)} {os : List (List (Jac F))}
    (h : List.Forall₂ (fun s o => List.Forall₂ P (s.requests rn rs) o) hist os) :
    List.Forall₂ P (hist.flatMap (Session.requests rn rs)) os.flatten :=
  List.rel_flatten (List.forall₂_map_left_iff.mpr h)

theorem spec_results_all (rn : ℕ → ℕ) (rs : List ℕ → ℕ) (hist : List (Session F)) (os : List (List (Jac F)))
    (h : hist.mapM (Session.spec rn rs) = some os) :
    List.Forall₂ (fun q R => fresh q.1 q.2.1 q.2.2 = some R) (hist.flatMap (Session.requests rn rs)) os.flatten :=
  forall₂_requests rn rs ((mapM_some_forall₂ _ _ _ h).imp fun s o hs => Session.spec_results rn rs s o hs)

/-- **every result in any history is what fresh buffers return for its request** (`(b, k, w)` = the base and the
    scalar the operation was called with, and the window `G::recommended_wnaf_for_…` chose for the session) -/
theorem runAll_results (rn : ℕ → ℕ) (rs : List ℕ → ℕ) (hrn : ∀ n, 1 ≤ rn n)
    (hrs : ∀ k, 1 ≤ rs (limbsOf 4 k)) (ctx ctx' : WnafCtx F) (hist : List (Session F)) (out : List (Jac F))
    (h : runAll rn rs ctx hist = some (ctx', out)) :
    List.Forall₂ (fun q R => fresh q.1 q.2.1 q.2.2 = some R) (hist.flatMap (Session.requests rn rs)) out := by
  have h' := runAll_eq_spec rn rs hrn hrs ctx hist
  rw [h, Option.map_some] at h'
  cases hm : hist.mapM (Session.spec rn rs) with
  | none => rw [hm] at h'; cases h'
  | some os =>
    rw [hm, Option.map_some, Option.some.injEq] at h'
    have e : out = os.flatten := h'
    subst e
    exact spec_results_all rn rs hist os hm

/-- `fresh` IS the one-request session on `Wnaf::new()` (either staging order) -/
theorem fresh_eq_session_new (rn : ℕ → ℕ) (rs : List ℕ → ℕ) (hrn : ∀ n, 1 ≤ rn n)
    (hrs : ∀ k, 1 ≤ rs (limbsOf 4 k)) (b : Jac F) (n k : ℕ) :
    ((Session.base b n [.scalar k]).run rn rs WnafCtx.new).map Prod.snd = (fresh b k (rn n)).map ([·]) ∧
    ((Session.scalar k [.base b]).run rn rs WnafCtx.new).map Prod.snd
      = (fresh b k (rs (limbsOf 4 k))).map ([·]) := by
  constructor
  · rw [Session.run_eq_spec rn rs hrn hrs, Session.spec, List.filterMap_cons, BaseOp.scalar?, List.filterMap_nil,
      List.mapM_cons, List.mapM_nil]
    cases fresh b k (rn n) <;> rfl
  · rw [Session.run_eq_spec rn rs hrn hrs, Session.spec, List.filterMap_cons, ScalarOp.base?, List.filterMap_nil,
      List.mapM_cons, List.mapM_nil]
    unfold fresh
    cases h1 : wnafForm [] k (rs (limbsOf 4 k)) with
    | none => rfl
    | some sc => cases h2 : wnafExp (wnafTable [] b (rs (limbsOf 4 k))) sc <;> simp [h2]

/-! ### the history language `WnafCall` of C02 / C20 is the one-operation fragment -/

theorem run_baseScalar (rc : WnafRec) (rs : List ℕ → ℕ) (ctx : WnafCtx F) (b : Jac F) (n k : ℕ)
    (hw : 1 ≤ recommendForNumScalars rc.tbl rc.base n) :
    (Session.base b n [.scalar k]).run (recommendForNumScalars rc.tbl rc.base) rs ctx
      = (ctx.baseThenScalar rc b n k).map fun p => (p.2, [p.1]) := by
  rw [← GenMsm.Wnaf_baseThenScalar rc _ ctx b n k rfl hw, Session.run]
  cases M.Wnaf.ctxBase (recommendForNumScalars rc.tbl rc.base) (ofCtx ctx) b n with
  | none => rfl
  | some p =>
    obtain ⟨c1, v⟩ := p
    simp only [runBaseOps]
    cases M.Wnaf.expScalar 300 v (limbsOf 4 k) with
    | none => rfl
    | some q => rfl

theorem run_scalarBase (rc : WnafRec) (rn : ℕ → ℕ) (rs : List ℕ → ℕ) (ctx : WnafCtx F) (k : ℕ) (b : Jac F)
    (hrs : rs (limbsOf 4 k) = recommendForScalar rc.ladder rc.dflt (k % 2 ^ 256))
    (hw : 1 ≤ recommendForScalar rc.ladder rc.dflt (k % 2 ^ 256)) :
    (Session.scalar k [.base b]).run rn rs ctx
      = (ctx.scalarThenBase rc k b).map fun p => (p.2, [p.1]) := by
  rw [← GenMsm.Wnaf_scalarThenBase rc rs ctx k b hrs hw, Session.run]
  cases M.Wnaf.ctxScalar 300 rs (ofCtx ctx) (limbsOf 4 k) with
  | none => rfl
  | some p =>
    obtain ⟨c1, v⟩ := p
    simp only [runScalarOps]
    cases M.Wnaf.expBase v b with
    | none => rfl
    | some q => rfl

end model

/-! ## correctness of every result: `[k]B` -/

section correct
variable {F : Type} [Field F] [DecidableEq F] [FieldOps F] {G : Type} [AddCommGroup G] (M' : GroupModel F G)

/-- the scalars and points a session is called with are in the ranges of C02 -/
def Session.InRange : Session F → Prop
  | .base b _ ops => M'.ValidJ b ∧ ∀ k ∈ ops.filterMap BaseOp.scalar?, k < 2 ^ 255
  | .scalar k ops => k < 2 ^ 255 ∧ ∀ b ∈ ops.filterMap ScalarOp.base?, M'.ValidJ b

/-- requests in the ranges of C02 are all answered, each with `[k]B` (`C02.wnaf_mul` request by request) -/
theorem requests_correct {α : Type} (q : α → Jac F × ℕ × ℕ) (l : List α)
    (h : ∀ a ∈ l, M'.ValidJ (q a).1 ∧ (q a).2.1 < 2 ^ 255 ∧ 2 ≤ (q a).2.2 ∧ (q a).2.2 ≤ 22) :
    ∃ out, l.mapM (fun a => fresh (q a).1 (q a).2.1 (q a).2.2) = some out ∧
      List.Forall₂ (fun q R => fresh q.1 q.2.1 q.2.2 = some R ∧ M'.ValidJ R ∧ M'.absJ R = q.2.1 • M'.absJ q.1)
        (l.map q) out := by
  obtain ⟨out, ho, hf⟩ := mapM_option_spec (fun a => fresh (q a).1 (q a).2.1 (q a).2.2)
    (fun a R => fresh (q a).1 (q a).2.1 (q a).2.2 = some R ∧ M'.ValidJ R ∧ M'.absJ R = (q a).2.1 • M'.absJ (q a).1)
    l (fun a ha => by
      obtain ⟨hv, hk, hw2, hw⟩ := h a ha
      obtain ⟨R, h1, h2, h3⟩ := C02.wnaf_mul M' _ hv _ _ hw2 hw hk
      exact ⟨R, h1, h1, h2, h3⟩)
  exact ⟨out, ho, List.forall₂_map_left_iff.mpr hf⟩

theorem Session.spec_correct (rn : ℕ → ℕ) (rs : List ℕ → ℕ) (hrn : ∀ n, 2 ≤ rn n ∧ rn n ≤ 22)
    (hrs : ∀ k, 2 ≤ rs (limbsOf 4 k) ∧ rs (limbsOf 4 k) ≤ 22) (s : Session F) (hs : s.InRange M') :
    ∃ out, s.spec rn rs = some out ∧
      List.Forall₂ (fun q R => fresh q.1 q.2.1 q.2.2 = some R ∧ M'.ValidJ R ∧ M'.absJ R = q.2.1 • M'.absJ q.1)
        (s.requests rn rs) out := by
  cases s with
  | base b n ops =>
    exact requests_correct M' (fun k => (b, k, rn n)) _ (fun k hk => ⟨hs.1, hs.2 k hk, hrn n⟩)
  | scalar k ops =>
    obtain ⟨ds, hds, -, -⟩ := C02.wnaf_form k (rs (limbsOf 4 k)) (hrs k).1 (hrs k).2 hs.1
    rw [Session.spec, hds, Option.bind_some]
    exact requests_correct M' (fun b => (b, k, rs (limbsOf 4 k))) _ (fun b hb => ⟨hs.2 b hb, hs.1, hrs k⟩)

/-- **any history in the ranges of C02** (every scalar `< 2^255`, every base a valid point, recommended windows in
    `2..=22`), started on any used context: no panic, and EVERY result — of the view or of a `shared()` copy, in
    any interleaving — is what fresh buffers return and denotes `[k]B` -/
theorem runAll_correct (rn : ℕ → ℕ) (rs : List ℕ → ℕ) (hrn : ∀ n, 2 ≤ rn n ∧ rn n ≤ 22)
    (hrs : ∀ k, 2 ≤ rs (limbsOf 4 k) ∧ rs (limbsOf 4 k) ≤ 22) (ctx : WnafCtx F) (hist : List (Session F))
    (hh : ∀ s ∈ hist, s.InRange M') :
    ∃ ctx' out, runAll rn rs ctx hist = some (ctx', out) ∧
      List.Forall₂ (fun q R => fresh q.1 q.2.1 q.2.2 = some R ∧ M'.ValidJ R ∧ M'.absJ R = q.2.1 • M'.absJ q.1)
        (hist.flatMap (Session.requests rn rs)) out := by
  obtain ⟨os, hos, hf⟩ := mapM_option_spec (Session.spec rn rs) _ hist
    (fun s hs => Session.spec_correct M' rn rs hrn hrs s (hh s hs))
  have h := runAll_eq_spec rn rs (fun n => by have := (hrn n).1; omega) (fun k => by have := (hrs k).1; omega)
    ctx hist
  rw [hos] at h
  cases hr : runAll rn rs ctx hist with
  | none => rw [hr] at h; cases h
  | some p =>
    obtain ⟨c, out⟩ := p
    rw [hr, Option.map_some, Option.map_some, Option.some.injEq] at h
    subst h
    exact ⟨c, _, rfl, forall₂_requests rn rs hf⟩

end correct

/-! ## G1 and G2: the library's own window recommendations, the curves `E(Fq)`, `E'(Fq2)` -/

/-- `G1::recommended_wnaf_for_num_scalars` / `G1::recommended_wnaf_for_scalar`, as generated -/
abbrev rnG1 : ℕ → ℕ := M.Jac.recommendedWnafForNumScalars M.G1.empiricalRecommendedWnafForNumScalars
abbrev rsG1 : List ℕ → ℕ := M.Jac.recommendedWnafForScalar M.G1.empiricalRecommendedWnafForScalar
abbrev rnG2 : ℕ → ℕ := M.Jac.recommendedWnafForNumScalars M.G2.empiricalRecommendedWnafForNumScalars
abbrev rsG2 : List ℕ → ℕ := M.Jac.recommendedWnafForScalar M.G2.empiricalRecommendedWnafForScalar

theorem rnG1_range (n : ℕ) : 2 ≤ rnG1 n ∧ rnG1 n ≤ 22 := by
  rw [rnG1, GenMsm.Jac_recommendedWnafForNumScalars, GenMsm.G1_empiricalRecommendedWnafForNumScalars]
  exact (recommendForNumScalars_range' n).1

theorem rnG2_range (n : ℕ) : 2 ≤ rnG2 n ∧ rnG2 n ≤ 22 := by
  rw [rnG2, GenMsm.Jac_recommendedWnafForNumScalars, GenMsm.G2_empiricalRecommendedWnafForNumScalars]
  exact (recommendForNumScalars_range' n).2

theorem rsG1_range (k : ℕ) : 2 ≤ rsG1 (limbsOf 4 k) ∧ rsG1 (limbsOf 4 k) ≤ 22 := by
  rw [rsG1, GenMsm.Jac_recommendedWnafForScalar, GenMsm.G1_empiricalRecommendedWnafForScalar]
  exact (recommendForScalar_range (k % 2 ^ 256)).1

theorem rsG2_range (k : ℕ) : 2 ≤ rsG2 (limbsOf 4 k) ∧ rsG2 (limbsOf 4 k) ≤ 22 := by
  rw [rsG2, GenMsm.Jac_recommendedWnafForScalar, GenMsm.G2_empiricalRecommendedWnafForScalar]
  exact (recommendForScalar_range (k % 2 ^ 256)).2

/-- the ranges of C02 on a curve: bases on the curve, scalars below `2^255` -/
def Session.InRangeCurve {F : Type} [Field F] [DecidableEq F] [FieldOps F] (b : F) : Session F → Prop
  | .base P _ ops => Jac.OnCurve b P ∧ ∀ k ∈ ops.filterMap BaseOp.scalar?, k < 2 ^ 255
  | .scalar k ops => k < 2 ^ 255 ∧ ∀ P ∈ ops.filterMap ScalarOp.base?, Jac.OnCurve b P

section curves
variable {F : Type} [Field F] [DecidableEq F] [FieldOps F] [LawfulFieldOps F] (b : F) [ShortW b]

theorem inRangeCurve_iff (s : Session F) : s.InRangeCurve b ↔ s.InRange (curveModel b) := by
  cases s <;> rfl

/-- any curve `y² = x³ + b`, any recommendation functions with values in `2..=22` -/
theorem curve_history (rn : ℕ → ℕ) (rs : List ℕ → ℕ) (hrn : ∀ n, 2 ≤ rn n ∧ rn n ≤ 22)
    (hrs : ∀ k, 2 ≤ rs (limbsOf 4 k) ∧ rs (limbsOf 4 k) ≤ 22) (ctx : WnafCtx F) (hist : List (Session F))
    (hh : ∀ s ∈ hist, s.InRangeCurve b) :
    ∃ ctx' out, runAll rn rs ctx hist = some (ctx', out) ∧
      List.Forall₂ (fun q R => fresh q.1 q.2.1 q.2.2 = some R ∧ Jac.OnCurve b R ∧
          Jac.abs b R = q.2.1 • Jac.abs b q.1)
        (hist.flatMap (Session.requests rn rs)) out :=
  runAll_correct (curveModel b) rn rs hrn hrs ctx hist (fun s hs => (inRangeCurve_iff b s).mp (hh s hs))

end curves

/-- **G1**: any history of `Wnaf` sessions (views, `shared()` copies, any interleaving) on any used context, bases on
    `E(Fq)`, scalars `< 2^255`, windows chosen by the library: no panic, every result is what a fresh context
    returns and is `[k]B` -/
theorem g1_history (ctx : WnafCtx Fq) (hist : List (Session Fq)) (hh : ∀ s ∈ hist, s.InRangeCurve g1Codec.b) :
    ∃ ctx' out, runAll rnG1 rsG1 ctx hist = some (ctx', out) ∧
      List.Forall₂ (fun q R => fresh q.1 q.2.1 q.2.2 = some R ∧ Jac.OnCurve g1Codec.b R ∧
          Jac.abs g1Codec.b R = q.2.1 • Jac.abs g1Codec.b q.1)
        (hist.flatMap (Session.requests rnG1 rsG1)) out :=
  curve_history g1Codec.b rnG1 rsG1 rnG1_range rsG1_range ctx hist hh

/-- **G2** -/
theorem g2_history (ctx : WnafCtx Fq2) (hist : List (Session Fq2)) (hh : ∀ s ∈ hist, s.InRangeCurve g2Codec.b) :
    ∃ ctx' out, runAll rnG2 rsG2 ctx hist = some (ctx', out) ∧
      List.Forall₂ (fun q R => fresh q.1 q.2.1 q.2.2 = some R ∧ Jac.OnCurve g2Codec.b R ∧
          Jac.abs g2Codec.b R = q.2.1 • Jac.abs g2Codec.b q.1)
        (hist.flatMap (Session.requests rnG2 rsG2)) out :=
  curve_history g2Codec.b rnG2 rsG2 rnG2_range rsG2_range ctx hist hh

/-- history independence for G1 / G2 without any hypothesis on scalars or points -/
theorem g1_history_independent (ctx : WnafCtx Fq) (hist : List (Session Fq)) :
    (runAll rnG1 rsG1 ctx hist).map Prod.snd = (hist.mapM (Session.spec rnG1 rsG1)).map List.flatten :=
  runAll_eq_spec rnG1 rsG1 (fun n => by have := (rnG1_range n).1; omega)
    (fun k => by have := (rsG1_range k).1; omega) ctx hist

theorem g2_history_independent (ctx : WnafCtx Fq2) (hist : List (Session Fq2)) :
    (runAll rnG2 rsG2 ctx hist).map Prod.snd = (hist.mapM (Session.spec rnG2 rsG2)).map List.flatten :=
  runAll_eq_spec rnG2 rsG2 (fun n => by have := (rnG2_range n).1; omega)
    (fun k => by have := (rsG2_range k).1; omega) ctx hist

theorem forall₂_right {α β : Type} {P : α → β → Prop} {Q : β → Prop} (h : ∀ a r, P a r → Q r) :
    ∀ {l : List α} {out : List β}, List.Forall₂ P l out → ∀ r ∈ out, Q r := by
  intro l out hf
  induction hf with
  | nil => intro r hr; cases hr
  | cons hp _ ih =>
    intro r hr
    rcases List.mem_cons.mp hr with rfl | hr
    · exact h _ _ hp
    · exact ih r hr

/-- a history that is NOT expressible in the language `WnafCall`: one table, three scalars on the view and two on two
    `shared()` copies (one of them created implicitly), interleaved; then one digit string, one base on the view
    and one on a copy — started on a context with junk in both buffers.  The hypotheses of `g1_history` hold for
    it (the base is the G1 generator), so it returns 7 results, each a curve point denoting `[k]g`. -/
example : ∃ ctx' out,
    runAll rnG1 rsG1 (⟨[Jac.zero, Jac.zero], [1, -3, 7]⟩ : WnafCtx Fq)
      [.base C07.g1Generator.toJac 3 [.scalar 5, .share 0, .copyScalar 0 7, .scalar 11, .copyScalar 1 2, .scalar 0],
       .scalar 9 [.base C07.g1Generator.toJac, .share 2, .copyBase 2 C07.g1Generator.toJac]]
      = some (ctx', out) ∧ out.length = 7 ∧
      ∀ R ∈ out, Jac.OnCurve g1Codec.b R := by
  have hg : Jac.OnCurve g1Codec.b C07.g1Generator.toJac := C07.g1Generator_toJac_inSub.1
  refine Exists.imp (fun ctx' => Exists.imp fun out h =>
    ⟨h.1, h.2.length_eq.symm.trans rfl, forall₂_right (fun q R h => h.2.1) h.2⟩) (g1_history _ _ ?_)
  simp only [List.forall_mem_cons, Session.InRangeCurve, List.filterMap_cons, BaseOp.scalar?, ScalarOp.base?,
    List.filterMap_nil, hg, true_and]
  simp

end PP.C20Hist
