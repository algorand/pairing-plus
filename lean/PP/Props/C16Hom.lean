/-
C16, the homomorphism law of the 3-isogeny `E₂' → E₂` used for hashing to G2 (RFC 9380 appendix
E.3, `isogeny/g2.rs`).

Objects.
* `E2'` : the isogenous curve `y² = x³ + 240u·x + 1012(1+u)` over `Fq2` as a Mathlib
  `WeierstrassCurve.Affine` (coefficients `g2EllpA`, `g2EllpB` of the model, see `C16.g2_consts`),
  `E2'.Point` its group of points with Mathlib's chord-and-tangent law (an `a₄ ≠ 0` curve);
* `(W b₂).Point`, `b₂ = g2Codec.b = 4(1+u)` : the group of points of the target curve (C01);
* `iso3Pt : E2'.Point → (W b₂).Point` : the RFC's `iso_map` — `O ↦ O` and
  `(x, y) ↦ isoMapPoint b₂ XN XD YN YD x y` (rational map of the extracted coefficient tables, identity
  on poles; the same function that `C16Inst.abs_iso3` / `C14.g2_sswu_iso_eq_rfc` use);
* `absE2' p` : the point of `E₂'` denoted by a Jacobian triple; `OnE2' p` : the triple is on `E₂'`.

Theorems (no hypothesis left; axioms: `propext`, `Classical.choice`, `Quot.sound`).
* `iso3_hom`           : `iso3Pt (P + Q) = iso3Pt P + iso3Pt Q` for ALL points `P, Q` of `E₂'(Fq2)`
                         (identity, opposite points, doubling, 2-torsion — there is none — included);
* `iso3_neg`, `iso3_ker_trivial`, `iso3Hom`, `iso3Hom_injective` : it is odd, and no rational point
                         except `O` is sent to `O` (the kernel `{O, (−6+6u, ±√(4(1+u)))}` is not rational);
* `abs_iso3`           : the MODEL's `iso3` computes `iso3Pt` on every Jacobian representative of every
                         point of `E₂'` (any `z = 0` triple is the identity);
* `iso3_add`, `iso3_add_model` : hence for Jacobian triples `p, q, r` on `E₂'` with `r` denoting the
                         sum of the points denoted by `p` and `q` (group law of `E₂'`), `iso3 r` denotes
                         the sum (group law of `E₂`) of the points denoted by `iso3 p`, `iso3 q`, which is
                         also what the model's `Jac.add` (the `a = 0` formulas, correct on `E₂` by C01)
                         returns on `iso3 p`, `iso3 q`;  `iso3_add_exists` : such an `r` always exists;
* `g2_map2_eq_iso_of_sum` : the (post-fix) `map2_to_curve(u0, u1)` equals
                         `[h_eff] · iso_map(sswu(u0) +_{E₂'} sswu(u1))`: adding before or after the
                         isogeny gives the same point, PROVIDED the sum before the isogeny is the group
                         law of `E₂'` (the pre-fix code used the `a = 0` formulas there, see C14).

The model has no addition on `E₂'` (the code in /repo never adds there), so the
law is stated with Mathlib's group law on `E2'.Point`, and at the level of the model through `absE2'`.

Method (`PP/Proofs/IsoHomAlg.lean`, `IsoHom.lean`, `IsoHomInst.lean`): with `s = −1 + u` one has
`A' = −120s²`, `B' = 506s³`, `b = 2s³`, kernel abscissa `6s`, and in `ξ = x − 6s` the map is
`(N(ξ)/(9ξ²), −y·M(ξ)/(27ξ³))` with `N, M` cubic with small integer coefficients in `s` (all checked
on the extracted tables by the kernel).  For ANY field and `s` with `2s³` a non-square and no
2-torsion on the target, the map is shown additive up to sign from two `ring`-checked identities
(chord and tangent abscissae) and `ξ(P₁+P₂)·ξ(P₁−P₂)·(ξ₁−ξ₂)² = G(ξ₁,ξ₂)` (the images of two points
with different abscissae have different abscissae, because `P₁ ± P₂` are rational and the kernel is
not); additivity up to sign, oddness and the absence of 2-torsion give additivity.

The degree-11 isogeny `E₁' → E₁` of G1 is in `PP/Props/C16Hom11.lean` (its kernel is rational and
the identities are far larger; handled there by grid evaluation in the kernel and translation
invariance under the kernel).
-/
import PP.Proofs.IsoHomInst
import PP.Props.C14
import PP.Props.C16Inst

namespace PP
namespace C16Hom

open WeierstrassCurve.Affine IsoPoly Iso
open IsoHom (E2' iso3Pt absE2' OnE2')
open C17 (hEffG2)

local notation "b₂" => g2Codec.b

/-- the isogenous curve is `y² = x³ + g2EllpA·x + g2EllpB` (`a₁ = a₂ = a₃ = 0`) -/
theorem E2'_coeffs : E2' = ⟨0, 0, 0, g2EllpA, g2EllpB⟩ := rfl

/-- `iso3Pt` is the RFC's `iso_map`: identity to identity, an affine point to `isoMapPoint …` -/
theorem iso3Pt_spec :
    iso3Pt 0 = 0 ∧ ∀ (x y : Fq2) (h : E2'.Nonsingular x y),
      iso3Pt (Point.some x y h) = isoMapPoint b₂ iso3XNum iso3XDen iso3YNum iso3YDen x y :=
  ⟨rfl, fun _ _ _ => rfl⟩

/-- on `E₂'(Fq2)` the rational map has no pole: the image of an affine point is the affine point
    `(XN(x)/XD(x), y·YN(x)/YD(x))` -/
theorem iso3Pt_affine (x y : Fq2) (h : E2'.Nonsingular x y) :
    evalP iso3XDen x ≠ 0 ∧ evalP iso3YDen x ≠ 0 ∧
    ∃ h' : (W b₂).Nonsingular (evalP iso3XNum x / evalP iso3XDen x)
        (y * evalP iso3YNum x / evalP iso3YDen x),
      iso3Pt (Point.some x y h) = Point.some _ _ h' := by
  have hk := IsoHom.no_ker IsoHom.hyp_s2 (IsoHom.E2'_to_src h)
  obtain ⟨h', e⟩ := IsoHom.iso3Pt_some_eq h
  refine ⟨by rw [IsoHom.evalP_xden]; exact pow_ne_zero 2 hk,
    by rw [IsoHom.evalP_yden]; exact pow_ne_zero 3 hk, ?_⟩
  have h'' := h'
  rw [← IsoHom.xmap_eq x hk, ← IsoHom.ymap_eq x y hk] at h''
  refine ⟨h'', ?_⟩
  rw [e, PP.Point.some_eq_some]
  exact ⟨(IsoHom.xmap_eq x hk).symm, (IsoHom.ymap_eq x y hk).symm⟩

/-- **C16, homomorphism law (G2)**: the 3-isogeny is additive on `E₂'(Fq2)` -/
theorem iso3_hom (P Q : E2'.Point) : iso3Pt (P + Q) = iso3Pt P + iso3Pt Q := IsoHom.iso3Pt_add P Q

theorem iso3_neg (P : E2'.Point) : iso3Pt (-P) = -iso3Pt P := IsoHom.iso3Pt_neg P

/-- the kernel has no rational point except the identity -/
theorem iso3_ker_trivial (P : E2'.Point) : iso3Pt P = 0 ↔ P = 0 := IsoHom.iso3Pt_eq_zero_iff P

/-- the isogeny as a homomorphism of Mathlib's groups of points, injective on `E₂'(Fq2)` -/
noncomputable def iso3Hom : E2'.Point →+ (W b₂).Point := IsoHom.iso3Hom

theorem iso3Hom_apply (P : E2'.Point) : iso3Hom P = iso3Pt P := rfl

theorem iso3Hom_injective : Function.Injective iso3Hom := IsoHom.iso3Hom_injective

/-- the model's `iso3` computes `iso3Pt` on every Jacobian representative of every point of `E₂'` -/
theorem abs_iso3 (p : Jac Fq2) (hp : OnE2' p) : Jac.abs b₂ (iso3 p) = iso3Pt (absE2' p) :=
  IsoHom.abs_iso3_eq_iso3Pt p hp

/-- **the law on Jacobian representatives**: if `r` denotes the sum in `E₂'` of the points denoted
    by `p` and `q`, then `iso3 r` denotes the sum in `E₂` of the points denoted by `iso3 p`, `iso3 q` -/
theorem iso3_add (p q r : Jac Fq2) (hp : OnE2' p) (hq : OnE2' q) (hr : OnE2' r)
    (hsum : absE2' r = absE2' p + absE2' q) :
    Jac.abs b₂ (iso3 r) = Jac.abs b₂ (iso3 p) + Jac.abs b₂ (iso3 q) := by
  rw [abs_iso3 r hr, abs_iso3 p hp, abs_iso3 q hq, hsum, iso3_hom]

/-- … which is the point denoted by the model's `add_assign` (target-curve formulas) of the images -/
theorem iso3_add_model (p q r : Jac Fq2) (hp : OnE2' p) (hq : OnE2' q) (hr : OnE2' r)
    (hsum : absE2' r = absE2' p + absE2' q) :
    Jac.abs b₂ (iso3 r) = Jac.abs b₂ ((iso3 p).add (iso3 q)) := by
  rw [iso3_add p q r hp hq hr hsum, C01.add_correct (iso3_onCurve' p hp) (iso3_onCurve' q hq)]

/-- non-vacuity of `iso3_add`: a representative of the sum always exists -/
theorem iso3_add_exists (p q : Jac Fq2) (hp : OnE2' p) (hq : OnE2' q) :
    ∃ r, OnE2' r ∧ absE2' r = absE2' p + absE2' q ∧
      Jac.abs b₂ (iso3 r) = Jac.abs b₂ (iso3 p) + Jac.abs b₂ (iso3 q) := by
  obtain ⟨r, hr, e⟩ := IsoHom.absE2'_surjective (absE2' p + absE2' q)
  exact ⟨r, hr, e, iso3_add p q r hp hq hr e⟩

/-- `map2_to_curve(u0, u1) = [h_eff]·iso_map(sswu(u0) + sswu(u1))`, the sum being the group law of
    `E₂'`: isogeny-then-add (the code after the fix, and the RFC) is add-then-isogeny -/
theorem g2_map2_eq_iso_of_sum (u0 u1 : Fq2) :
    ∃ P0 P1 R, osswuG2 u0 = some P0 ∧ osswuG2 u1 = some P1 ∧ map2ToCurveG2 u0 u1 = some R ∧
      OnE2' P0 ∧ OnE2' P1 ∧ Jac.OnCurve b₂ R ∧
      Jac.abs b₂ R = hEffG2 • iso3Pt (absE2' P0 + absE2' P1) := by
  obtain ⟨P0, P1, R, h0, h1, hR, -, -, hon, habs⟩ := C14.g2_map2_eq u0 u1
  obtain ⟨Q0, hQ0, hz0, hc0⟩ := sswuG2_ex u0
  obtain ⟨Q1, hQ1, hz1, hc1⟩ := sswuG2_ex u1
  obtain rfl : Q0 = P0 := Option.some.inj (hQ0.symm.trans h0)
  obtain rfl : Q1 = P1 := Option.some.inj (hQ1.symm.trans h1)
  have hp0 : OnE2' Q0 := Or.inr hc0
  have hp1 : OnE2' Q1 := Or.inr hc1
  refine ⟨Q0, Q1, R, h0, h1, hR, hp0, hp1, hon, ?_⟩
  rw [habs, abs_iso3 Q0 hp0, abs_iso3 Q1 hp1, iso3_hom]

end C16Hom
end PP
