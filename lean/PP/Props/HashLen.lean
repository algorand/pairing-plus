/-
HashLen.  "The reference hash functions return digests of the nominal length for every input:
SHA-256 returns 32 bytes, SHA-512 returns 64 bytes, and SHAKE128 / SHAKE256 return exactly the
number of bytes requested."

With these four facts the output-length hypotheses (`hH`, `hX`) of the C13 and C06
theorems are discharged for the concrete hashes of `PP/Spec/Hash.lean`; the corollaries below are
those theorems instantiated at SHA-256, SHA-512, SHAKE128 and SHAKE256, with no hypothesis about
the hash left.  Proofs: `PP/Proofs/HashLen.lean`.
-/
import PP.Proofs.HashLen
import PP.Props.C13
import PP.Props.C06

namespace PP
namespace HashLen
open Expand

/-! ## the four length facts -/

theorem sha256_length (m : List UInt8) : (Hash.sha256 m).length = 32 := Hash.sha256_length m

theorem sha512_length (m : List UInt8) : (Hash.sha512 m).length = 64 := Hash.sha512_length m

theorem shake128_length (m : List UInt8) (n : Nat) : (Hash.shake128 m n).length = n :=
  Hash.shake128_length m n

theorem shake256_length (m : List UInt8) (n : Nat) : (Hash.shake256 m n).length = n :=
  Hash.shake256_length m n

/-- the sponge itself, for any byte rate that is a positive multiple of 8 -/
theorem keccakSponge_length (rate : Nat) (suffix : UInt8) (msg : List UInt8) (outLen : Nat)
    (hr : 8 ∣ rate) (h0 : 0 < rate) :
    (Hash.keccakSponge rate suffix msg outLen).length = outLen :=
  Hash.keccakSponge_length rate suffix msg outLen hr h0

variable (msg dst : Bytes) (len count : Nat)

/-! ## C13 without hash hypotheses -/

theorem expandXmd_sha256_length (hdst : dst.length ≤ 255) (hlen : len ≤ 65535) (bytes : Bytes)
    (h : expandMessageXmd C13.sha256H msg dst len = some bytes) : bytes.length = len :=
  C13.expandXmd_length C13.sha256H msg dst len (by decide) sha256_length hdst hlen bytes h

theorem expandXmd_sha512_length (hdst : dst.length ≤ 255) (hlen : len ≤ 65535) (bytes : Bytes)
    (h : expandMessageXmd C13.sha512H msg dst len = some bytes) : bytes.length = len :=
  C13.expandXmd_length C13.sha512H msg dst len (by decide) sha512_length hdst hlen bytes h

theorem hashToField_sha256_fq_eq_rfc (hdst : dst.length ≤ 255) (hlen : count * 64 ≤ 65535) :
    (hashToField (expandMessageXmd C13.sha256H) 64 Fq.fromOkm msg dst count).map
        (List.map Zp.coords)
      = Rfc.hash_to_field (Rfc.expand_message_xmd Hash.sha256 32 64) Gen.q 1 64 msg dst count :=
  C13.hashToField_xmd_fq_eq_rfc C13.sha256H msg dst count (by decide) sha256_length hdst hlen

theorem hashToField_sha256_fr_eq_rfc (hdst : dst.length ≤ 255) (hlen : count * 48 ≤ 65535) :
    (hashToField (expandMessageXmd C13.sha256H) 48 Fr.fromOkm msg dst count).map
        (List.map Zp.coords)
      = Rfc.hash_to_field (Rfc.expand_message_xmd Hash.sha256 32 64) Gen.r 1 48 msg dst count :=
  C13.hashToField_xmd_fr_eq_rfc C13.sha256H msg dst count (by decide) sha256_length hdst hlen

theorem hashToField_sha256_fq2_eq_rfc (hdst : dst.length ≤ 255) (hlen : count * 128 ≤ 65535) :
    (hashToField (expandMessageXmd C13.sha256H) 128 Fq2.fromRo msg dst count).map
        (List.map Fq2.coords)
      = Rfc.hash_to_field (Rfc.expand_message_xmd Hash.sha256 32 64) Gen.q 2 64 msg dst count :=
  C13.hashToField_xmd_fq2_eq_rfc C13.sha256H msg dst count (by decide) sha256_length hdst hlen

theorem hashToField_sha512_fq_eq_rfc (hdst : dst.length ≤ 255) (hlen : count * 64 ≤ 65535) :
    (hashToField (expandMessageXmd C13.sha512H) 64 Fq.fromOkm msg dst count).map
        (List.map Zp.coords)
      = Rfc.hash_to_field (Rfc.expand_message_xmd Hash.sha512 64 128) Gen.q 1 64 msg dst count :=
  C13.hashToField_xmd_fq_eq_rfc C13.sha512H msg dst count (by decide) sha512_length hdst hlen

theorem hashToField_sha512_fr_eq_rfc (hdst : dst.length ≤ 255) (hlen : count * 48 ≤ 65535) :
    (hashToField (expandMessageXmd C13.sha512H) 48 Fr.fromOkm msg dst count).map
        (List.map Zp.coords)
      = Rfc.hash_to_field (Rfc.expand_message_xmd Hash.sha512 64 128) Gen.r 1 48 msg dst count :=
  C13.hashToField_xmd_fr_eq_rfc C13.sha512H msg dst count (by decide) sha512_length hdst hlen

theorem hashToField_sha512_fq2_eq_rfc (hdst : dst.length ≤ 255) (hlen : count * 128 ≤ 65535) :
    (hashToField (expandMessageXmd C13.sha512H) 128 Fq2.fromRo msg dst count).map
        (List.map Fq2.coords)
      = Rfc.hash_to_field (Rfc.expand_message_xmd Hash.sha512 64 128) Gen.q 2 64 msg dst count :=
  C13.hashToField_xmd_fq2_eq_rfc C13.sha512H msg dst count (by decide) sha512_length hdst hlen

theorem hashToField_shake128_fq_eq_rfc (hdst : dst.length ≤ 255) (hlen : count * 64 ≤ 65535) :
    (hashToField (xofExpand Hash.shake128) 64 Fq.fromOkm msg dst count).map (List.map Zp.coords)
      = Rfc.hash_to_field (Rfc.expand_message_xof Hash.shake128) Gen.q 1 64 msg dst count :=
  C13.hashToField_xof_fq_eq_rfc Hash.shake128 msg dst count shake128_length hdst hlen

theorem hashToField_shake128_fr_eq_rfc (hdst : dst.length ≤ 255) (hlen : count * 48 ≤ 65535) :
    (hashToField (xofExpand Hash.shake128) 48 Fr.fromOkm msg dst count).map (List.map Zp.coords)
      = Rfc.hash_to_field (Rfc.expand_message_xof Hash.shake128) Gen.r 1 48 msg dst count :=
  C13.hashToField_xof_fr_eq_rfc Hash.shake128 msg dst count shake128_length hdst hlen

theorem hashToField_shake128_fq2_eq_rfc (hdst : dst.length ≤ 255) (hlen : count * 128 ≤ 65535) :
    (hashToField (xofExpand Hash.shake128) 128 Fq2.fromRo msg dst count).map (List.map Fq2.coords)
      = Rfc.hash_to_field (Rfc.expand_message_xof Hash.shake128) Gen.q 2 64 msg dst count :=
  C13.hashToField_xof_fq2_eq_rfc Hash.shake128 msg dst count shake128_length hdst hlen

theorem hashToField_shake256_fq_eq_rfc (hdst : dst.length ≤ 255) (hlen : count * 64 ≤ 65535) :
    (hashToField (xofExpand Hash.shake256) 64 Fq.fromOkm msg dst count).map (List.map Zp.coords)
      = Rfc.hash_to_field (Rfc.expand_message_xof Hash.shake256) Gen.q 1 64 msg dst count :=
  C13.hashToField_xof_fq_eq_rfc Hash.shake256 msg dst count shake256_length hdst hlen

theorem hashToField_shake256_fr_eq_rfc (hdst : dst.length ≤ 255) (hlen : count * 48 ≤ 65535) :
    (hashToField (xofExpand Hash.shake256) 48 Fr.fromOkm msg dst count).map (List.map Zp.coords)
      = Rfc.hash_to_field (Rfc.expand_message_xof Hash.shake256) Gen.r 1 48 msg dst count :=
  C13.hashToField_xof_fr_eq_rfc Hash.shake256 msg dst count shake256_length hdst hlen

theorem hashToField_shake256_fq2_eq_rfc (hdst : dst.length ≤ 255) (hlen : count * 128 ≤ 65535) :
    (hashToField (xofExpand Hash.shake256) 128 Fq2.fromRo msg dst count).map (List.map Fq2.coords)
      = Rfc.hash_to_field (Rfc.expand_message_xof Hash.shake256) Gen.q 2 64 msg dst count :=
  C13.hashToField_xof_fq2_eq_rfc Hash.shake256 msg dst count shake256_length hdst hlen

/-! ## C06 without hash hypotheses

The suites `BLS12381G1_XMD:SHA-256_SSWU_RO_`, `…_NU_`, `BLS12381G2_XMD:SHA-256_SSWU_RO_`, `…_NU_`:
the only remaining hypothesis is the tag length (`hdst`, see C13 for why it is needed). -/

open C06

local notation "b₁" => g1Codec.b
local notation "b₂" => g2Codec.b

theorem hashToCurveG1_sha256 (hdst : dst.length ≤ 255) :
    ∃ u0 u1 P,
      Rfc.hash_to_field (Rfc.expand_message_xmd Hash.sha256 32 64) Gen.q 1 64 msg dst 2
        = some [Zp.coords u0, Zp.coords u1] ∧
      hashToCurveG1 (expandMessageXmd C13.sha256H) msg dst = some P ∧
      Jac.OnCurve b₁ P ∧ IsHashToCurveG1 u0 u1 (Jac.abs b₁ P) :=
  C06.hashToCurveG1_total _ msg dst _
    (C13.expandXmd_eq_rfc_some C13.sha256H msg dst (2 * 1 * 64) (by decide) sha256_length hdst (by decide)
      (by decide))

theorem encodeToCurveG1_sha256 (hdst : dst.length ≤ 255) :
    ∃ u P,
      Rfc.hash_to_field (Rfc.expand_message_xmd Hash.sha256 32 64) Gen.q 1 64 msg dst 1
        = some [Zp.coords u] ∧
      encodeToCurveG1 (expandMessageXmd C13.sha256H) msg dst = some P ∧
      Jac.OnCurve b₁ P ∧ IsEncodeToCurveG1 u (Jac.abs b₁ P) :=
  C06.encodeToCurveG1_total _ msg dst _
    (C13.expandXmd_eq_rfc_some C13.sha256H msg dst (1 * 1 * 64) (by decide) sha256_length hdst (by decide)
      (by decide))

theorem hashToCurveG2_sha256 (hdst : dst.length ≤ 255) :
    ∃ u0 u1 P,
      Rfc.hash_to_field (Rfc.expand_message_xmd Hash.sha256 32 64) Gen.q 2 64 msg dst 2
        = some [Fq2.coords u0, Fq2.coords u1] ∧
      hashToCurveG2 (expandMessageXmd C13.sha256H) msg dst = some P ∧
      Jac.OnCurve b₂ P ∧ IsHashToCurveG2 u0 u1 (Jac.abs b₂ P) :=
  C06.hashToCurveG2_total _ msg dst _
    (C13.expandXmd_eq_rfc_some C13.sha256H msg dst (2 * 2 * 64) (by decide) sha256_length hdst (by decide)
      (by decide))

theorem encodeToCurveG2_sha256 (hdst : dst.length ≤ 255) :
    ∃ u P,
      Rfc.hash_to_field (Rfc.expand_message_xmd Hash.sha256 32 64) Gen.q 2 64 msg dst 1
        = some [Fq2.coords u] ∧
      encodeToCurveG2 (expandMessageXmd C13.sha256H) msg dst = some P ∧
      Jac.OnCurve b₂ P ∧ IsEncodeToCurveG2 u (Jac.abs b₂ P) :=
  C06.encodeToCurveG2_total _ msg dst _
    (C13.expandXmd_eq_rfc_some C13.sha256H msg dst (1 * 2 * 64) (by decide) sha256_length hdst (by decide)
      (by decide))

/-! ### the same four suites over SHA-512 (`ell = ceil(len / 64) ≤ 255` holds for 64/128/256 bytes) -/

theorem hashToCurveG1_sha512 (hdst : dst.length ≤ 255) :
    ∃ u0 u1 P,
      Rfc.hash_to_field (Rfc.expand_message_xmd Hash.sha512 64 128) Gen.q 1 64 msg dst 2
        = some [Zp.coords u0, Zp.coords u1] ∧
      hashToCurveG1 (expandMessageXmd C13.sha512H) msg dst = some P ∧
      Jac.OnCurve b₁ P ∧ IsHashToCurveG1 u0 u1 (Jac.abs b₁ P) :=
  C06.hashToCurveG1_total _ msg dst _
    (C13.expandXmd_eq_rfc_some C13.sha512H msg dst (2 * 1 * 64) (by decide) sha512_length hdst (by decide)
      (by decide))

theorem encodeToCurveG1_sha512 (hdst : dst.length ≤ 255) :
    ∃ u P,
      Rfc.hash_to_field (Rfc.expand_message_xmd Hash.sha512 64 128) Gen.q 1 64 msg dst 1
        = some [Zp.coords u] ∧
      encodeToCurveG1 (expandMessageXmd C13.sha512H) msg dst = some P ∧
      Jac.OnCurve b₁ P ∧ IsEncodeToCurveG1 u (Jac.abs b₁ P) :=
  C06.encodeToCurveG1_total _ msg dst _
    (C13.expandXmd_eq_rfc_some C13.sha512H msg dst (1 * 1 * 64) (by decide) sha512_length hdst (by decide)
      (by decide))

theorem hashToCurveG2_sha512 (hdst : dst.length ≤ 255) :
    ∃ u0 u1 P,
      Rfc.hash_to_field (Rfc.expand_message_xmd Hash.sha512 64 128) Gen.q 2 64 msg dst 2
        = some [Fq2.coords u0, Fq2.coords u1] ∧
      hashToCurveG2 (expandMessageXmd C13.sha512H) msg dst = some P ∧
      Jac.OnCurve b₂ P ∧ IsHashToCurveG2 u0 u1 (Jac.abs b₂ P) :=
  C06.hashToCurveG2_total _ msg dst _
    (C13.expandXmd_eq_rfc_some C13.sha512H msg dst (2 * 2 * 64) (by decide) sha512_length hdst (by decide)
      (by decide))

theorem encodeToCurveG2_sha512 (hdst : dst.length ≤ 255) :
    ∃ u P,
      Rfc.hash_to_field (Rfc.expand_message_xmd Hash.sha512 64 128) Gen.q 2 64 msg dst 1
        = some [Fq2.coords u] ∧
      encodeToCurveG2 (expandMessageXmd C13.sha512H) msg dst = some P ∧
      Jac.OnCurve b₂ P ∧ IsEncodeToCurveG2 u (Jac.abs b₂ P) :=
  C06.encodeToCurveG2_total _ msg dst _
    (C13.expandXmd_eq_rfc_some C13.sha512H msg dst (1 * 2 * 64) (by decide) sha512_length hdst (by decide)
      (by decide))

/-! ### the XOF suites over SHAKE128 / SHAKE256 -/

theorem hashToCurveG1_shake128 (hdst : dst.length ≤ 255) :
    ∃ u0 u1 P,
      Rfc.hash_to_field (Rfc.expand_message_xof Hash.shake128) Gen.q 1 64 msg dst 2
        = some [Zp.coords u0, Zp.coords u1] ∧
      hashToCurveG1 (xofExpand Hash.shake128) msg dst = some P ∧
      Jac.OnCurve b₁ P ∧ IsHashToCurveG1 u0 u1 (Jac.abs b₁ P) :=
  C06.hashToCurveG1_total _ msg dst _
    (C13.expandXof_eq_rfc_some Hash.shake128 msg dst (2 * 1 * 64) shake128_length hdst (by decide))

theorem encodeToCurveG1_shake128 (hdst : dst.length ≤ 255) :
    ∃ u P,
      Rfc.hash_to_field (Rfc.expand_message_xof Hash.shake128) Gen.q 1 64 msg dst 1
        = some [Zp.coords u] ∧
      encodeToCurveG1 (xofExpand Hash.shake128) msg dst = some P ∧
      Jac.OnCurve b₁ P ∧ IsEncodeToCurveG1 u (Jac.abs b₁ P) :=
  C06.encodeToCurveG1_total _ msg dst _
    (C13.expandXof_eq_rfc_some Hash.shake128 msg dst (1 * 1 * 64) shake128_length hdst (by decide))

theorem hashToCurveG2_shake128 (hdst : dst.length ≤ 255) :
    ∃ u0 u1 P,
      Rfc.hash_to_field (Rfc.expand_message_xof Hash.shake128) Gen.q 2 64 msg dst 2
        = some [Fq2.coords u0, Fq2.coords u1] ∧
      hashToCurveG2 (xofExpand Hash.shake128) msg dst = some P ∧
      Jac.OnCurve b₂ P ∧ IsHashToCurveG2 u0 u1 (Jac.abs b₂ P) :=
  C06.hashToCurveG2_total _ msg dst _
    (C13.expandXof_eq_rfc_some Hash.shake128 msg dst (2 * 2 * 64) shake128_length hdst (by decide))

theorem encodeToCurveG2_shake128 (hdst : dst.length ≤ 255) :
    ∃ u P,
      Rfc.hash_to_field (Rfc.expand_message_xof Hash.shake128) Gen.q 2 64 msg dst 1
        = some [Fq2.coords u] ∧
      encodeToCurveG2 (xofExpand Hash.shake128) msg dst = some P ∧
      Jac.OnCurve b₂ P ∧ IsEncodeToCurveG2 u (Jac.abs b₂ P) :=
  C06.encodeToCurveG2_total _ msg dst _
    (C13.expandXof_eq_rfc_some Hash.shake128 msg dst (1 * 2 * 64) shake128_length hdst (by decide))

theorem hashToCurveG1_shake256 (hdst : dst.length ≤ 255) :
    ∃ u0 u1 P,
      Rfc.hash_to_field (Rfc.expand_message_xof Hash.shake256) Gen.q 1 64 msg dst 2
        = some [Zp.coords u0, Zp.coords u1] ∧
      hashToCurveG1 (xofExpand Hash.shake256) msg dst = some P ∧
      Jac.OnCurve b₁ P ∧ IsHashToCurveG1 u0 u1 (Jac.abs b₁ P) :=
  C06.hashToCurveG1_total _ msg dst _
    (C13.expandXof_eq_rfc_some Hash.shake256 msg dst (2 * 1 * 64) shake256_length hdst (by decide))

theorem encodeToCurveG1_shake256 (hdst : dst.length ≤ 255) :
    ∃ u P,
      Rfc.hash_to_field (Rfc.expand_message_xof Hash.shake256) Gen.q 1 64 msg dst 1
        = some [Zp.coords u] ∧
      encodeToCurveG1 (xofExpand Hash.shake256) msg dst = some P ∧
      Jac.OnCurve b₁ P ∧ IsEncodeToCurveG1 u (Jac.abs b₁ P) :=
  C06.encodeToCurveG1_total _ msg dst _
    (C13.expandXof_eq_rfc_some Hash.shake256 msg dst (1 * 1 * 64) shake256_length hdst (by decide))

theorem hashToCurveG2_shake256 (hdst : dst.length ≤ 255) :
    ∃ u0 u1 P,
      Rfc.hash_to_field (Rfc.expand_message_xof Hash.shake256) Gen.q 2 64 msg dst 2
        = some [Fq2.coords u0, Fq2.coords u1] ∧
      hashToCurveG2 (xofExpand Hash.shake256) msg dst = some P ∧
      Jac.OnCurve b₂ P ∧ IsHashToCurveG2 u0 u1 (Jac.abs b₂ P) :=
  C06.hashToCurveG2_total _ msg dst _
    (C13.expandXof_eq_rfc_some Hash.shake256 msg dst (2 * 2 * 64) shake256_length hdst (by decide))

theorem encodeToCurveG2_shake256 (hdst : dst.length ≤ 255) :
    ∃ u P,
      Rfc.hash_to_field (Rfc.expand_message_xof Hash.shake256) Gen.q 2 64 msg dst 1
        = some [Fq2.coords u] ∧
      encodeToCurveG2 (xofExpand Hash.shake256) msg dst = some P ∧
      Jac.OnCurve b₂ P ∧ IsEncodeToCurveG2 u (Jac.abs b₂ P) :=
  C06.encodeToCurveG2_total _ msg dst _
    (C13.expandXof_eq_rfc_some Hash.shake256 msg dst (1 * 2 * 64) shake256_length hdst (by decide))

end HashLen
end PP
