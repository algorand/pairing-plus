/-
OBLIGATIONS "GenRest": the functions of /repo with behaviour that the other translators did not cover (see
/verif/notes/COVERAGE.md) ARE what the hand-written model / the driver assume.

`PP/Gen/Rest.lean` (namespace `PP.Gen.R`) is REGENERATED from /repo on every run of /verif/extract/extract.py
by /verif/extract/extract_rest.py: one Lean definition per Rust function, one Lean line per Rust statement.
Each theorem below states that such a regenerated definition is equal to the hand-written model definition
where the model has a counterpart, and otherwise characterises it directly in terms of model functions.  An
edit of one of these Rust functions changes the generated text, and the corresponding theorem no longer
compiles (or the extractor refuses the new shape), whether or not a test input exposes it.

Correspondence Rust -> generated -> model:
  ec/mod.rs (macro `curve_impl!`)
      batch_normalization                  -> `Jac.batchNormalize` (PP/Model/Curve.lean; 3-pass Montgomery trick)
      Default for $affine / $projective    -> `Aff.zero` / `Jac.zero`
      CurveAffine::one / CurveProjective::one
                                           -> the generator `g` (a parameter: `get_generator` is defined per group) /
                                              `Aff.toJac g`; for G1 / G2 the extracted generator coordinates with `z = 1`
      transmute_affine / transmute_projective
                                           -> the constructors `⟨x, y, i⟩` / `⟨x, y, z⟩`
      random                               -> NO model counterpart (the model has no RNG): `Jac.randomSpec`
                                              (PP/Model/Curve.lean), a structural recursion over the number of
                                              attempts in terms of the MODEL's `Aff.getPointFromX` and `Jac.isZero`;
                                              the RNG is abstract (`$basefield::random`, `next_u32` are parameters)
  ec/g1.rs, ec/g2.rs
      scale_by_cofactor                    -> NO model function; `Aff.mulBits` on the bits of the extracted constant
                                              `Gen.G1_COFACTOR` / `Gen.G2_COFACTOR` (the expression of the driver)
      get_generator                        -> NO model function; the extracted coordinates `Gen.G1_GENERATOR_X` .. (the
                                              expression of the driver)
  lib.rs (defaults of `trait CurveAffine`, for G1Affine and G2Affine)
      into_compressed / into_uncompressed  -> `encodeCompressed` / `encodeUncompressed` (PP/Model/Enc.lean)
  fq2.rs   PartialOrd::partial_cmp         -> NO model function (the model has `Fq2.lt` only): `some (cmp ..)`, and
                                              `partial_cmp = Some(Less)` iff `Fq2.lt`
  fq2.rs, fq6.rs, fq12.rs  Field::random   -> NO model counterpart: the coefficients are drawn in the order of the
                                              fields of the struct literal (`c0` first), the RNG state threaded through
  fq.rs, fr.rs   transmute                 -> the identity on the limbs (newtypes erased, as in Derive.lean)
  fr.rs    Default for Fr                  -> the limbs of 0 (`GenDerive.Fr_zero`, PP/Proofs/GenDerive.lean)
-/
import PP.Proofs.GenRest
import PP.Proofs.GenDerive

namespace PP.GenRest
open PP PP.Gen PP.GenRestLemmas

section
set_option linter.unusedSectionVars false
variable {F : Type} [Add F] [Sub F] [Mul F] [Neg F] [Zero F] [One F] [FieldOps F] [DecidableEq F]

/-! ## the macro `curve_impl!` (src/bls12_381/ec/mod.rs) -/

theorem transmuteAffine (x y : F) (i : Bool) : R.transmuteAffine x y i = (⟨x, y, i⟩ : Aff F) := rfl
theorem transmuteProjective (x y z : F) : R.transmuteProjective x y z = (⟨x, y, z⟩ : Jac F) := rfl
theorem Aff_default : (R.Aff.default : Aff F) = PP.Aff.zero := rfl
theorem Jac_default : (R.Jac.default : Jac F) = PP.Jac.zero := rfl
theorem Aff_one (g : Aff F) : R.Aff.one g = g := rfl
theorem Jac_one (g : Aff F) : R.Jac.one g = PP.Aff.toJac g := by
  unfold R.Jac.one R.Aff.one; rw [GenArithLemmas.Aff_toJac_eq]
theorem Jac_batchNormalization (v : List (Jac F)) : R.Jac.batchNormalization v = PP.Jac.batchNormalize v := by
  unfold R.Jac.batchNormalization PP.Jac.batchNormalize
  simp only [GenArithLemmas.Jac_isNormalized_eq]
  rw [forMut_prods _ (by intros; rfl)]
  simp only [List.nil_append]
  cases FieldOps.inv ((Jac.bnProds v (1 : F)).getLastD 1) with
  | none => rfl
  | some tinv =>
    simp only [R.revMut]
    rw [forMutZip_inv _ (by intros; rfl), forMut_affine _ (by intros; rfl)]
theorem Jac_random {Rng : Type} [SqrtOps F] (fuel : Nat) (baseRandom : Rng → Rng × F) (nextU32 : Rng → Rng × Nat)
    (b : F) (cof : Aff F → Jac F) (rng : Rng) :
    R.Jac.random fuel baseRandom nextU32 b cof rng = randomSpec baseRandom nextU32 b cof fuel rng :=
  Jac_random_eq fuel baseRandom nextU32 b cof rng

end

/-! ## per group (src/bls12_381/ec/g1.rs, ec/g2.rs) -/

theorem G1Affine_scaleByCofactor (p : Aff Fq) :
    R.G1Affine.scaleByCofactor p = PP.Aff.mulBits p (bitsMSB (limbsOf Gen.G1_COFACTOR_LIMBS Gen.G1_COFACTOR)) :=
  G1Affine_scaleByCofactor_eq p
theorem G2Affine_scaleByCofactor (p : Aff Fq2) :
    R.G2Affine.scaleByCofactor p = PP.Aff.mulBits p (bitsMSB (limbsOf Gen.G2_COFACTOR_LIMBS Gen.G2_COFACTOR)) :=
  G2Affine_scaleByCofactor_eq p
theorem G1Affine_getGenerator :
    R.G1Affine.getGenerator = (⟨Fq.ofMont Gen.G1_GENERATOR_X, Fq.ofMont Gen.G1_GENERATOR_Y, false⟩ : Aff Fq) := rfl
theorem G2Affine_getGenerator :
    R.G2Affine.getGenerator
      = (⟨⟨Fq.ofMont Gen.G2_GENERATOR_X_C0, Fq.ofMont Gen.G2_GENERATOR_X_C1⟩,
          ⟨Fq.ofMont Gen.G2_GENERATOR_Y_C0, Fq.ofMont Gen.G2_GENERATOR_Y_C1⟩, false⟩ : Aff Fq2) := rfl
/-- `G1::one()`: `CurveProjective::one` of the macro at the generator of ec/g1.rs -/
theorem G1_one :
    R.Jac.one R.G1Affine.getGenerator
      = (⟨Fq.ofMont Gen.G1_GENERATOR_X, Fq.ofMont Gen.G1_GENERATOR_Y, 1⟩ : Jac Fq) := by
  rw [Jac_one, G1Affine_getGenerator, toJac_finite]
/-- `G2::one()` -/
theorem G2_one :
    R.Jac.one R.G2Affine.getGenerator
      = (⟨⟨Fq.ofMont Gen.G2_GENERATOR_X_C0, Fq.ofMont Gen.G2_GENERATOR_X_C1⟩,
          ⟨Fq.ofMont Gen.G2_GENERATOR_Y_C0, Fq.ofMont Gen.G2_GENERATOR_Y_C1⟩, 1⟩ : Jac Fq2) := by
  rw [Jac_one, G2Affine_getGenerator, toJac_finite]
/-- `G1::random(rng)`: the macro's `random` with the associated items of G1 (`get_coeff_b` of Enc.lean,
    `scale_by_cofactor` above; `Fq::random` is derive-generated and stays a parameter) -/
theorem G1_random {Rng : Type} (fuel : Nat) (fqRandom : Rng → Rng × Fq) (nextU32 : Rng → Rng × Nat) (rng : Rng) :
    R.Jac.random fuel fqRandom nextU32 E.G1Affine.getCoeffB R.G1Affine.scaleByCofactor rng
      = randomSpec fqRandom nextU32 g1Codec.b
          (fun p => PP.Aff.mulBits p (bitsMSB (limbsOf Gen.G1_COFACTOR_LIMBS Gen.G1_COFACTOR))) fuel rng :=
  G1_random_eq fuel fqRandom nextU32 rng
/-- `G2::random(rng)`: `$basefield::random` is `Fq2::random` of fq2.rs (translated below) -/
theorem G2_random {Rng : Type} (fuel : Nat) (fqRandom : Rng → Rng × Fq) (nextU32 : Rng → Rng × Nat) (rng : Rng) :
    R.Jac.random fuel (R.Fq2.random fqRandom) nextU32 E.G2Affine.getCoeffB R.G2Affine.scaleByCofactor rng
      = randomSpec (R.Fq2.random fqRandom) nextU32 g2Codec.b
          (fun p => PP.Aff.mulBits p (bitsMSB (limbsOf Gen.G2_COFACTOR_LIMBS Gen.G2_COFACTOR))) fuel rng :=
  G2_random_eq fuel fqRandom nextU32 rng

/-! ## defaults of `trait CurveAffine` (src/lib.rs) -/

theorem G1Affine_intoCompressed (a : Aff Fq) :
    R.G1Affine.intoCompressed a = some (encodeCompressed g1Codec a) := GenEncLemmas.G1Compressed_fromAffine_eq a
theorem G1Affine_intoUncompressed (a : Aff Fq) :
    R.G1Affine.intoUncompressed a = some (encodeUncompressed g1Codec a) := GenEncLemmas.G1Uncompressed_fromAffine_eq a
theorem G2Affine_intoCompressed (a : Aff Fq2) :
    R.G2Affine.intoCompressed a = some (encodeCompressed g2Codec a) := GenEncLemmas.G2Compressed_fromAffine_eq a
theorem G2Affine_intoUncompressed (a : Aff Fq2) :
    R.G2Affine.intoUncompressed a = some (encodeUncompressed g2Codec a) := GenEncLemmas.G2Uncompressed_fromAffine_eq a

/-! ## towers (src/bls12_381/fq2.rs, fq6.rs, fq12.rs) -/

theorem Fq2_partialCmp (a b : Fq2) : R.Fq2.partialCmp a b = some (A.Fq2.cmp a b) := rfl
theorem Fq2_partialCmp_isLt (a b : Fq2) :
    PP.Fq2.lt a b = decide (R.Fq2.partialCmp a b = some Ordering.lt) := by
  rw [Fq2_partialCmp, GenArithLemmas.Fq2_cmp_lt]
  simp only [Option.some.injEq]
theorem Fq2_random {Rng : Type} (fqRandom : Rng → Rng × Fq) (rng : Rng) :
    R.Fq2.random fqRandom rng
      = ((fqRandom (fqRandom rng).1).1, (⟨(fqRandom rng).2, (fqRandom (fqRandom rng).1).2⟩ : Fq2)) :=
  Fq2_random_eq fqRandom rng
theorem Fq6_random {Rng : Type} (fqRandom : Rng → Rng × Fq) (rng : Rng) :
    R.Fq6.random fqRandom rng
      = (let r1 := R.Fq2.random fqRandom rng
         let r2 := R.Fq2.random fqRandom r1.1
         let r3 := R.Fq2.random fqRandom r2.1
         (r3.1, (⟨r1.2, r2.2, r3.2⟩ : Fq6))) := rfl
theorem Fq12_random {Rng : Type} (fqRandom : Rng → Rng × Fq) (rng : Rng) :
    R.Fq12.random fqRandom rng
      = (let r1 := R.Fq6.random fqRandom rng
         let r2 := R.Fq6.random fqRandom r1.1
         (r2.1, (⟨r1.2, r2.2⟩ : Fq12))) := rfl

/-! ## fq.rs / fr.rs -/

theorem Fq_transmute (r : List Nat) : R.Fq.transmute r = r := rfl
theorem Fr_transmute (r : List Nat) : R.Fr.transmute r = r := rfl
theorem Fr_default : R.Fr.default = limbsOf 4 0 := PP.GenDerive.Fr_zero

end PP.GenRest
