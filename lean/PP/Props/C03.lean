/-
PROPERTY C03.  "For all P in G1, Q in G2 and integers a, b: e([a]P,[b]Q) = e(P,Q)^(ab), e(P,Q) has order
dividing r, equals 1 exactly when P or Q is the identity, and is the same value whichever side initiates
the call. The value is the reduced optimal-ate pairing of BLS12-381 (Miller function for |x| conjugated,
raised to 3(q^12-1)/r), i.e. it agrees with an independent textbook evaluation on every input and with
the published e(g1,g2)."

How the statement is rendered.
* `pairing : Aff Fq → Aff Fq2 → Option Fq12` (`PP/Model/Pairing.lean`) is the model of
  `Engine::pairing(p, q)` = `final_exponentiation(miller_loop([(p.prepare(), q.prepare())])).unwrap()`;
  `none` is a panic.  `Fq12` carries the `Field` structure of `PP.Proofs.Tower` on the model's own
  operations, so `e ^ n` is the power for the model's multiplication.

PROVED (for ALL inputs, no curve or subgroup hypothesis):
* "order dividing r": `pairing_order`;
* "equals 1 when P or Q is the identity" (the IF direction): `pairing_identity_left/right`;
* "Miller function for |x| conjugated, raised to 3(q^12-1)/r", as far as the shape of the computation
  goes: `pairing_eq_fe_miller`, `pairing_spec`, `pairing_total` (the Miller loop over the 62 bits of
  `|x| >> 1` after the leading one never panics on prepared input, its result is a conjugate
  (`miller_value_is_conjugate`), and the pairing is that value raised to `3(q¹²-1)/r`, a panic occurring
  exactly for the Miller value `0`);
* "the published e(g1,g2)": `pairing_generators` - the model's `pairing` evaluated by the Lean kernel on
  the extracted generators equals the twelve decimal constants of the test
  `test_pairing_result_against_relic` (src/bls12_381/tests/mod.rs), sent by the author of RELIC;
  consequently `e(g1,g2) ≠ 1` and has order exactly `r` (`pairing_generators_ne_one`, `_order`).
* "whichever side initiates the call": `G1Affine::pairing_with(&q)` and `G2Affine::pairing_with(&p)`
  (`perform_pairing`, ec/g1.rs and ec/g2.rs) are both the single model function `pairing p q`, the
  second with its arguments swapped: `PP.GenPair.G1Affine_pairingWith`, `G2Affine_pairingWith`, about
  the translation of the Rust code.

PROVED ELSEWHERE:
* BILINEARITY `e([a]P,[b]Q) = e(P,Q)^(ab)` and NON-DEGENERACY, i.e. the ONLY-IF direction of "equals 1
  exactly when P or Q is the identity" (for P ∈ G1, Q ∈ G2 of order r): PP/Props/C03Bilinear.lean, from
  C03LinP + C03LinQ.  The classical proofs use the theory of divisors / Weil reciprocity on the curve,
  which Mathlib does not provide; C03LinP / C03LinQ replace it by line reciprocity and by the ideal theory
  of the coordinate ring.
* agreement of the Miller loop (the line coefficients of `doubling_step`/`addition_step` on the twist,
  evaluated through `ell`) with a textbook definition of the Miller function `f_{|x|,Q}(P)` / the optimal
  ate pairing on every input: PP/Props/C03Lines.lean.
The kernel-checked value at the generators, together with bilinearity, determines the pairing on all of
G1 × G2.
-/
import PP.Props.C11

namespace PP.C03
open PP Miller

/-! ## the shape of the computation -/

/-- definitional unfolding: Miller loop on the freshly prepared `q`, then final exponentiation -/
theorem pairing_eq_fe_miller (p : Aff Fq) (q : Aff Fq2) :
    pairing p q = (millerLoop [(p, G2Prepared.fromAffine q)]).bind finalExponentiation :=
  Miller.pairing_eq p q

/-- the Miller loop of a pair prepared by `G2Prepared::from_affine` never panics -/
theorem miller_total (p : Aff Fq) (q : Aff Fq2) :
    ∃ m, millerLoop [(p, G2Prepared.fromAffine q)] = some m :=
  Option.ne_none_iff_exists'.mp (C11.miller_prepared_single_ne_none p q)

/-- **"raised to 3(q¹²-1)/r"**: the pairing is the Miller value `m` to the power `3(q¹²-1)/r`; it
    panics exactly when `m = 0` -/
theorem pairing_total (p : Aff Fq) (q : Aff Fq2) :
    ∃ m, millerLoop [(p, G2Prepared.fromAffine q)] = some m ∧
      pairing p q = if m = 0 then none else some (m ^ (3 * (Gen.q ^ 12 - 1) / Gen.r)) := by
  obtain ⟨m, hm⟩ := miller_total p q
  refine ⟨m, hm, ?_⟩
  rw [pairing_eq_fe_miller, hm, Option.bind_some]
  split
  · next h => rw [h]; exact FinalExp.fe_zero
  · next h => exact FinalExp.fe_spec h

theorem pairing_spec (p : Aff Fq) (q : Aff Fq2) (e : Fq12) (h : pairing p q = some e) :
    ∃ m, millerLoop [(p, G2Prepared.fromAffine q)] = some m ∧ m ≠ 0 ∧
      e = m ^ (3 * (Gen.q ^ 12 - 1) / Gen.r) := by
  obtain ⟨m, hm, hp⟩ := pairing_total p q
  refine ⟨m, hm, ?_⟩
  rw [h] at hp
  by_cases h0 : m = 0
  · rw [if_pos h0] at hp; exact absurd hp (by simp)
  · rw [if_neg h0] at hp; exact ⟨h0, Option.some.inj hp⟩

theorem pairing_none_iff (p : Aff Fq) (q : Aff Fq2) :
    pairing p q = none ↔ millerLoop [(p, G2Prepared.fromAffine q)] = some 0 :=
  C11.pairing_none_iff p q

/-- **"Miller function for |x| conjugated"**: for finite `p`, `q` the Miller value is the conjugate of
    the value `f` accumulated by the loop `Miller.mlb1` over `blsXBits` (the 62 bits of `|x| >> 1` after
    the leading one: `f ← (f · line)², …`) followed by one last line (`Miller.ell1`) -/
theorem miller_value_is_conjugate (p : Aff Fq) (q : Aff Fq2) (hp : p.infinity = false)
    (hq : q.infinity = false) :
    ∃ f cs, (mlb1 p blsXBits (G2Prepared.fromAffine q).coeffs 1).bind
        (fun x => ell1 p x.2 x.1) = some (f, cs) ∧
      millerLoop [(p, G2Prepared.fromAffine q)] = some f.conjugate := by
  obtain ⟨m, hm⟩ := miller_total p q
  rw [millerLoop_single, single, fromAffine_infinity, hp, hq] at hm
  simp only [Bool.or_self, Bool.false_eq_true, if_false] at hm
  rw [millerLoop_single, single, fromAffine_infinity, hp, hq]
  simp only [Bool.or_self, Bool.false_eq_true, if_false]
  unfold core1 at hm ⊢
  cases h1 : mlb1 p blsXBits (G2Prepared.fromAffine q).coeffs 1 with
  | none => rw [h1] at hm; simp at hm
  | some x =>
    rw [h1, Option.bind_some] at hm
    rw [Option.bind_some, Option.bind_some]
    cases h2 : ell1 p x.2 x.1 with
    | none => rw [h2] at hm; simp at hm
    | some y => exact ⟨y.1, y.2, rfl, rfl⟩

/-! ## identity arguments, order -/

/-- `e(0, Q) = 1` -/
theorem pairing_identity_left (p : Aff Fq) (q : Aff Fq2) (h : p.infinity = true) :
    pairing p q = some 1 := C11.pairing_identity p q (Or.inl h)

/-- `e(P, 0) = 1` -/
theorem pairing_identity_right (p : Aff Fq) (q : Aff Fq2) (h : q.infinity = true) :
    pairing p q = some 1 := C11.pairing_identity p q (Or.inr h)

/-- **`e(P,Q)` has order dividing `r`** -/
theorem pairing_order (p : Aff Fq) (q : Aff Fq2) (e : Fq12) (h : pairing p q = some e) :
    e ^ Gen.r = 1 := by
  obtain ⟨m, hm, -⟩ := pairing_total p q
  rw [pairing_eq_fe_miller, hm, Option.bind_some] at h
  exact FinalExp.fe_pow_r h

theorem pairing_orderOf_dvd (p : Aff Fq) (q : Aff Fq2) (e : Fq12) (h : pairing p q = some e) :
    orderOf e ∣ Gen.r := orderOf_dvd_of_pow_eq_one (pairing_order p q e h)

/-! ## the published value of `e(g1, g2)` -/

/-- `G1Affine::one()` (the same definition as `PP.C07.g1Generator`) -/
def g1Generator : Aff Fq := ⟨Fq.ofMont Gen.G1_GENERATOR_X, Fq.ofMont Gen.G1_GENERATOR_Y, false⟩

/-- `G2Affine::one()` (the same definition as `PP.C07.g2Generator`) -/
def g2Generator : Aff Fq2 :=
  ⟨⟨Fq.ofMont Gen.G2_GENERATOR_X_C0, Fq.ofMont Gen.G2_GENERATOR_X_C1⟩,
   ⟨Fq.ofMont Gen.G2_GENERATOR_Y_C0, Fq.ofMont Gen.G2_GENERATOR_Y_C1⟩, false⟩

/-- the twelve `Fq::from_str` decimals of `test_pairing_result_against_relic`, in the order
    `c0.c0.c0, c0.c0.c1, c0.c1.c0, c0.c1.c1, c0.c2.c0, c0.c2.c1, c1.c0.c0, …, c1.c2.c1` -/
def relic : List Nat := [
  2819105605953691245277803056322684086884703000473961065716485506033588504203831029066448642358042597501014294104502,
  1323968232986996742571315206151405965104242542339680722164220900812303524334628370163366153839984196298685227734799,
  2987335049721312504428602988447616328830341722376962214011674875969052835043875658579425548512925634040144704192135,
  3879723582452552452538684314479081967502111497413076598816163759028842927668327542875108457755966417881797966271311,
  261508182517997003171385743374653339186059518494239543139839025878870012614975302676296704930880982238308326681253,
  231488992246460459663813598342448669854473942105054381511346786719005883340876032043606739070883099647773793170614,
  3993582095516422658773669068931361134188738159766715576187490305611759126554796569868053818105850661142222948198557,
  1074773511698422344502264006159859710502164045911412750831641680783012525555872467108249271286757399121183508900634,
  2727588299083545686739024317998512740561167011046940249988557419323068809019137624943703910267790601287073339193943,
  493643299814437640914745677854369670041080344349607504656543355799077485536288866009245028091988146107059514546594,
  734401332196641441839439105942623141234148957972407782257355060229193854324927417865401895596108124443575283868655,
  2348330098288556420918672502923664952620152483128593484301759394583320358354186482723629999370241674973832318248497]

/-- the canonical representatives (`< q`) of the twelve `Fq` coordinates of an element of `Fq12` -/
def toNats (a : Fq12) : List Nat :=
  [a.c0.c0.c0.v, a.c0.c0.c1.v, a.c0.c1.c0.v, a.c0.c1.c1.v, a.c0.c2.c0.v, a.c0.c2.c1.v,
   a.c1.c0.c0.v, a.c1.c0.c1.v, a.c1.c1.c0.v, a.c1.c1.c1.v, a.c1.c2.c0.v, a.c1.c2.c1.v]

/-- the published element of `Fq12` -/
def relicValue : Fq12 :=
  ⟨⟨⟨Zp.ofNat relic[0], Zp.ofNat relic[1]⟩, ⟨Zp.ofNat relic[2], Zp.ofNat relic[3]⟩,
     ⟨Zp.ofNat relic[4], Zp.ofNat relic[5]⟩⟩,
   ⟨⟨Zp.ofNat relic[6], Zp.ofNat relic[7]⟩, ⟨Zp.ofNat relic[8], Zp.ofNat relic[9]⟩,
     ⟨Zp.ofNat relic[10], Zp.ofNat relic[11]⟩⟩⟩

/-- the published decimals are canonical (`< q`), so `relicValue` has exactly these coordinates -/
theorem relic_canonical : relic.all (· < Gen.q) = true := by decide +kernel
theorem relicValue_toNats : toNats relicValue = relic := by decide +kernel

/-- **known answer**: the model's pairing of the two generators, evaluated by the Lean kernel, is the
    published element … -/
theorem pairing_generators : pairing g1Generator g2Generator = some relicValue := by
  decide +kernel

/-- … i.e. has the twelve published coordinates -/
theorem pairing_generators_coordinates :
    (pairing g1Generator g2Generator).map toNats = some relic := by
  rw [pairing_generators, Option.map_some, relicValue_toNats]

/-- at the generators the pairing is not `1` … -/
theorem pairing_generators_ne_one : pairing g1Generator g2Generator ≠ some 1 := by
  rw [pairing_generators]; decide +kernel

theorem relicValue_pow_r : relicValue ^ Gen.r = 1 :=
  pairing_order _ _ _ pairing_generators

/-- … and, `r` being prime, has order exactly `r` -/
theorem pairing_generators_order : orderOf relicValue = Gen.r := by
  have hr : Nat.Prime Gen.r := Fact.out
  have hdvd : orderOf relicValue ∣ Gen.r := orderOf_dvd_of_pow_eq_one relicValue_pow_r
  rcases (Nat.dvd_prime hr).mp hdvd with h | h
  · exfalso
    have h1 : relicValue = 1 := orderOf_eq_one_iff.mp h
    exact pairing_generators_ne_one (by rw [pairing_generators, h1])
  · exact h

end PP.C03
