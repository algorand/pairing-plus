/-
PROPERTY C03, clause "The value is the reduced optimal-ate pairing of BLS12-381 (Miller function for
|x| conjugated, raised to 3(q^12-1)/r), i.e. it agrees with an independent textbook evaluation on every
input".

The textbook evaluation is `PP.Ate.reducedAte` of `PP/Spec/Ate.lean`: double-and-add Miller loop over the
bits of `|x| = Gen.BLS_X` in AFFINE coordinates, `T` updated by the chord-and-tangent formulas of
`E' : y² = x³ + 4(1+u)` over `Fq2`, `f ← f² · l_{ψT,ψT}(P)`, `f ← f · l_{ψT,ψQ}(P)` with the tangent and
chord lines of `E : y² = x³ + 4` through the untwisted points `ψ(x', y') = (x'/w², y'/w³) ∈ E(Fq12)`, slopes
computed in `Fq12`; no vertical lines (denominator elimination); then `conj(f)^(3(q¹²-1)/r)`.

WHAT IS PROVED (all kernel-checked, axioms `propext`, `Classical.choice`, `Quot.sound`):

1. Point tracking.  `doubling_step` doubles every representative of every point of `E'`
   (`doubling_step_point`); `addition_step` adds the affine point outside `r = 0`, `r = ±q`
   (`addition_step_point`); the accumulator of `G2Prepared::from_affine` after a prefix of the bits is a
   representative of `[k]Q`, `k` = the prefix with the leading one restored (`prepared_accumulator`),
   in Mathlib's group `(W g2Codec.b).Point`.
2. Lines.  For EVERY `P`, the dense `Fq12` element by which `ell` multiplies (`Miller.line c p`) is
   `ι(4YZ³) · w³ · l_{ψT,ψT}(P)` for the coefficients of `doubling_step` (`doubling_coeffs_are_tangent`)
   and `ι(4ZH) · w³ · l_{ψT,ψQ}(P)`, `H = x_Q Z² - X`, for those of `addition_step`
   (`addition_coeffs_are_chord`); `T = (X/Z², Y/Z³)`.  The scalars are non-zero elements of `Fq2`; `w³`
   lies in `Fq4` (`(w³)² = 1 + u`); both are sent to `1` by the final exponentiation (`unitish_fe`).
3. Assembly.  `millerLoop [(P, from_affine Q)] = some (conj (c · textbookMiller P Q))` with
   `c = ι a · (w³)ⁿ`, `a ∈ Fq2ˣ` (`miller_loop_is_textbook`).  The model's order of operations
   (`f ← (f · lines)²` per bit, one last `ell` after the loop, over the 62 bits of `|x| >> 1` below the
   leading one) is the textbook order (`f ← f² · lines` over the 63 bits of `|x|` below the leading one):
   `Lines.bitsBelowTop_eq`, `Lines.loops_agree`.
4. `pairing P Q = some (reducedAte P Q)` (`pairing_is_reduced_ate`, `pairing_is_reduced_ate_order_r`,
   `pairing_is_reduced_ate_checked`); consequently the textbook value at the generators is the published
   RELIC value (`reducedAte_generators`).

5. Denominator elimination.  The Miller function WITH the vertical lines, `textbookMillerFull`, differs
   from `textbookMiller` by a non-zero element of `Fq6` when `x_P ≠ 0` (`denominator_elimination`), so
   `reducedAteFull = reducedAte`; for `P ∈ G1`, `Q ∈ G2`: `pairing P Q = some (reducedAteFull P Q)`
   (`pairing_is_reduced_ate_full`).

SIDE CONDITIONS, all explicit: `P`, `Q` finite; `Q` on `E'`; `[j]Q ≠ 0` for `0 < j ≤ |x| + 1` (no
exceptional case of the affine formulas: vertical tangent or chord) - implied by `Q ≠ 0`, `[r]Q = 0`;
`P` on `E` is used only to get `y_P ≠ 0` (`E(Fq)` has no 2-torsion: `-4` is not a cube), which makes
every line value, hence the textbook Miller value, non-zero.  Without it: `pairing_is_reduced_ate_or_none`.

NOT proved IN THIS FILE: bilinearity / non-degeneracy (PROVED in PP/Props/C03Bilinear.lean without divisor theory); that `textbookMiller` is the Miller
function `f_{|x|,ψQ}(P)` in the sense of divisors is the DEFINITION used here (product of line functions),
not a theorem about divisors.
-/
import PP.Proofs.Lines2
import PP.Proofs.Lines3
import PP.Proofs.Lines4
import PP.Props.C03
import PP.Props.C07

namespace PP.C03Lines
open PP Ate Miller Lines

/-! ## 1. point tracking -/

/-- `doubling_step` doubles, for every representative of every point of `E'` (identity included) -/
theorem doubling_step_point (r : Jac Fq2) (hr : Jac.OnCurve g2Codec.b r) :
    Jac.OnCurve g2Codec.b (doublingStep r).1 ∧
      Jac.abs g2Codec.b (doublingStep r).1 = 2 • Jac.abs g2Codec.b r :=
  doublingStep_abs hr

/-- as a triple, the point returned by `doubling_step` is that of `double` -/
theorem doubling_step_eq_double (r : Jac Fq2) (hz : r.z ≠ 0) : (doublingStep r).1 = r.double :=
  doublingStep_eq_double r hz

/-- `addition_step` adds the affine point `q`, outside the exceptional cases `r = 0` and `r = ±q`
    (the latter is `X = x_Q Z²`) -/
theorem addition_step_point (r : Jac Fq2) (q : Aff Fq2) (hr : Jac.OnCurve g2Codec.b r)
    (hq : Aff.OnCurve g2Codec.b q) (hqi : q.infinity = false) (hz : r.z ≠ 0)
    (hx : r.x ≠ q.x * r.z ^ 2) :
    Jac.OnCurve g2Codec.b (additionStep r q).1 ∧
      Jac.abs g2Codec.b (additionStep r q).1 = Jac.abs g2Codec.b r + Aff.abs g2Codec.b q :=
  additionStep_abs hr hq hqi hz hx

/-- **the accumulator of `from_affine` is `[k]Q`**: after the bits `bs` (any list; for the prefixes of
    `blsXBits` these are the prefixes of the binary expansion of `|x|/2` below the leading one) the
    accumulator is a representative of `[k]Q`, `k = Lines.val 1 bs` the integer with binary expansion
    `1 bs`, provided `[j]Q ≠ 0` for `0 < j ≤ k + 1` -/
theorem prepared_accumulator (q : Aff Fq2) (hq : Aff.OnCurve g2Codec.b q) (hqi : q.infinity = false)
    (bs : List Bool)
    (hord : ∀ j : ℕ, 0 < j → j ≤ Lines.val 1 bs + 1 → j • Aff.abs g2Codec.b q ≠ 0) :
    Jac.OnCurve g2Codec.b (prepareLoop q bs q.toJac []).1 ∧
      Jac.abs g2Codec.b (prepareLoop q bs q.toJac []).1 = Lines.val 1 bs • Aff.abs g2Codec.b q :=
  prepareLoop_point hq hqi bs hord

/-- the whole loop of `from_affine` runs up to `[|x|/2]Q` (the last doubling, whose coefficients are
    appended, is not applied to the accumulator) -/
theorem prepared_accumulator_final (q : Aff Fq2) (hq : Aff.OnCurve g2Codec.b q)
    (hqi : q.infinity = false)
    (hord : ∀ j : ℕ, 0 < j → j ≤ Gen.BLS_X / 2 + 1 → j • Aff.abs g2Codec.b q ≠ 0) :
    Jac.abs g2Codec.b (prepareLoop q blsXBits q.toJac []).1 =
      (Gen.BLS_X / 2) • Aff.abs g2Codec.b q := by
  have := prepareLoop_point hq hqi blsXBits (by rw [val_blsXBits]; exact hord)
  rw [val_blsXBits] at this
  exact this.2

/-! ## 2. the coefficients are the tangent and chord lines -/

/-- the affine point `(X/Z², Y/Z³)` of `E'` denoted by the triple -/
abbrev affineOf (r : Jac Fq2) : Fq2 × Fq2 := Lines.aff r

/-- **`doubling_step` returns the tangent line**: for every `P = (x_P, y_P)`, the element by which `ell`
    multiplies is `ι(4YZ³) · w³` times the tangent to `E` at `ψ(T)` evaluated at `P` -/
theorem doubling_coeffs_are_tangent (r : Jac Fq2) (p : Aff Fq) (hy : r.y ≠ 0) (hz : r.z ≠ 0) :
    line (doublingStep r).2 p =
      ι (4 * r.y * r.z ^ 3) * Fq12.w ^ 3 *
        tangentAt (untwist (affineOf r)) (embed (p.x, p.y)) :=
  doublingStep_line r p hy hz

/-- **`addition_step` returns the chord line** through `ψ(T)` and `ψ(Q)`, up to `ι(4ZH) · w³`,
    `H = x_Q Z² - X ≠ 0` -/
theorem addition_coeffs_are_chord (r : Jac Fq2) (q : Aff Fq2) (p : Aff Fq) (hz : r.z ≠ 0)
    (hH : q.x * r.z ^ 2 - r.x ≠ 0) :
    line (additionStep r q).2 p =
      ι (4 * r.z * (q.x * r.z ^ 2 - r.x)) * Fq12.w ^ 3 *
        chordAt (untwist (affineOf r)) (untwist (q.x, q.y)) (embed (p.x, p.y)) :=
  additionStep_line r q p hz hH

/-- `ell` with the coefficients of `doubling_step` -/
theorem ell_doubling (f : Fq12) (r : Jac Fq2) (p : Aff Fq) (hy : r.y ≠ 0) (hz : r.z ≠ 0) :
    ell f (doublingStep r).2 p =
      f * (ι (4 * r.y * r.z ^ 3) * Fq12.w ^ 3 *
        tangentAt (untwist (affineOf r)) (embed (p.x, p.y))) := by
  rw [ell_eq, doubling_coeffs_are_tangent r p hy hz]

/-- the factors `ι a · (w³)ⁿ`, `a ≠ 0`, are sent to `1` by the final exponentiation -/
theorem unitish_fe (a : Fq2) (n : ℕ) (ha : a ≠ 0) :
    finalExponentiation (ι a * (Fq12.w ^ 3) ^ n) = some 1 :=
  Unitish.fe ⟨a, n, ha, rfl⟩

/-- `w³` generates `Fq4` over `Fq2`: `(w³)² = 1 + u` -/
theorem w_cube_sq : (Fq12.w ^ 3) ^ 2 = ι Fq2.xi := by rw [← pow_mul]; exact w_pow_six

/-! ## 3. the Miller loop -/

/-- **the model's Miller loop is the textbook Miller loop**, conjugated, up to a factor
    `c = ι a · (w³)ⁿ` with `a ∈ Fq2ˣ` -/
theorem miller_loop_is_textbook (p : Aff Fq) (q : Aff Fq2) (hp : p.infinity = false)
    (hqi : q.infinity = false) (hq : Aff.OnCurve g2Codec.b q)
    (hord : ∀ j : ℕ, 0 < j → j ≤ Gen.BLS_X + 1 → j • Aff.abs g2Codec.b q ≠ 0) :
    ∃ (a : Fq2) (n : ℕ), a ≠ 0 ∧
      millerLoop [(p, G2Prepared.fromAffine q)] =
        some (Fq12.conjugate (ι a * (Fq12.w ^ 3) ^ n * textbookMiller (p.x, p.y) (q.x, q.y))) := by
  obtain ⟨c, ⟨a, n, ha, rfl⟩, h⟩ := millerLoop_eq_textbook p q hp hqi hq hord
  exact ⟨a, n, ha, h⟩

/-- the same under the purely algebraic hypothesis that the textbook loop meets no vertical tangent or
    chord (`Lines.Regular`); `Q` need not be on the curve -/
theorem miller_loop_is_textbook_of_regular (p : Aff Fq) (q : Aff Fq2) (hp : p.infinity = false)
    (hqi : q.infinity = false)
    (hreg : Regular (q.x, q.y) (bitsBelowTop Gen.BLS_X) (q.x, q.y)) :
    ∃ (a : Fq2) (n : ℕ), a ≠ 0 ∧
      millerLoop [(p, G2Prepared.fromAffine q)] =
        some (Fq12.conjugate (ι a * (Fq12.w ^ 3) ^ n * textbookMiller (p.x, p.y) (q.x, q.y))) := by
  obtain ⟨c, ⟨a, n, ha, rfl⟩, h⟩ := millerLoop_eq_textbook_of_regular p q hp hqi hreg
  exact ⟨a, n, ha, h⟩

theorem textbook_miller_ne_zero (P : Fq × Fq) (Q : Fq2 × Fq2) (hy : P.2 ≠ 0) :
    textbookMiller P Q ≠ 0 := textbookMiller_ne_zero P Q hy

/-! ## 4. the pairing -/

/-- **the pairing is the textbook reduced ate pairing**, or panics exactly when the textbook Miller
    value is `0`; no hypothesis on `P` beyond finiteness -/
theorem pairing_is_reduced_ate_or_none (p : Aff Fq) (q : Aff Fq2) (hp : p.infinity = false)
    (hqi : q.infinity = false) (hq : Aff.OnCurve g2Codec.b q)
    (hord : ∀ j : ℕ, 0 < j → j ≤ Gen.BLS_X + 1 → j • Aff.abs g2Codec.b q ≠ 0) :
    pairing p q =
      if textbookMiller (p.x, p.y) (q.x, q.y) = 0 then none
      else some (reducedAte (p.x, p.y) (q.x, q.y)) := by
  obtain ⟨c, hc, h⟩ := millerLoop_eq_textbook p q hp hqi hq hord
  rw [C03.pairing_eq_fe_miller, h, Option.bind_some]
  exact fe_conjugate_unitish_mul hc _

/-- **C03, agreement with the textbook evaluation**: for finite `P ∈ E(Fq)`, finite `Q ∈ E'(Fq2)` with
    `[j]Q ≠ 0` for `0 < j ≤ |x| + 1`,
    `pairing P Q = conj(f_{|x|,Q}(P)) ^ (3 (q¹² - 1) / r)` -/
theorem pairing_is_reduced_ate (p : Aff Fq) (q : Aff Fq2) (hp : Aff.OnCurve g1Codec.b p)
    (hpi : p.infinity = false) (hq : Aff.OnCurve g2Codec.b q) (hqi : q.infinity = false)
    (hord : ∀ j : ℕ, 0 < j → j ≤ Gen.BLS_X + 1 → j • Aff.abs g2Codec.b q ≠ 0) :
    pairing p q = some (reducedAte (p.x, p.y) (q.x, q.y)) := by
  rw [pairing_is_reduced_ate_or_none p q hpi hqi hq hord,
    if_neg (textbookMiller_ne_zero (p.x, p.y) (q.x, q.y) (g1_y_ne_zero hp hpi))]

/-- unfolded: the value is `conj(textbookMiller P Q) ^ (3 (q¹² - 1) / r)` -/
theorem pairing_is_reduced_ate' (p : Aff Fq) (q : Aff Fq2) (hp : Aff.OnCurve g1Codec.b p)
    (hpi : p.infinity = false) (hq : Aff.OnCurve g2Codec.b q) (hqi : q.infinity = false)
    (hord : ∀ j : ℕ, 0 < j → j ≤ Gen.BLS_X + 1 → j • Aff.abs g2Codec.b q ≠ 0) :
    pairing p q =
      some (Fq12.conjugate (textbookMiller (p.x, p.y) (q.x, q.y)) ^
        (3 * (Gen.q ^ 12 - 1) / Gen.r)) :=
  pairing_is_reduced_ate p q hp hpi hq hqi hord

/-- for `Q` in the subgroup of order `r` of `E'(Fq2)`, `Q ≠ 0` (in particular for `Q ∈ G2`): the
    hypothesis on the multiples holds since `r` is a prime larger than `|x| + 1` -/
theorem pairing_is_reduced_ate_order_r (p : Aff Fq) (q : Aff Fq2) (hp : Aff.OnCurve g1Codec.b p)
    (hpi : p.infinity = false) (hq : Aff.OnCurve g2Codec.b q) (hqi : q.infinity = false)
    (hr : Gen.r • Aff.abs g2Codec.b q = 0) :
    pairing p q = some (reducedAte (p.x, p.y) (q.x, q.y)) := by
  have h0 : Aff.abs g2Codec.b q ≠ 0 := fun h => by
    rw [Aff.abs_eq_zero_iff hq, hqi] at h; cases h
  exact pairing_is_reduced_ate p q hp hpi hq hqi (multiples_ne_zero_of_order_r h0 hr)

/-- the same with the model's own executable checks (`is_on_curve`, `in_subgroup`) as hypotheses -/
theorem pairing_is_reduced_ate_checked (p : Aff Fq) (q : Aff Fq2)
    (hp : p.isOnCurve g1Codec.b = true) (hpi : p.infinity = false)
    (hq : Aff.inSubgroup g2Codec.b q = true) (hqi : q.infinity = false) :
    pairing p q = some (reducedAte (p.x, p.y) (q.x, q.y)) := by
  have hq' := (Aff.inSubgroup_iff_inSub q).mp hq
  exact pairing_is_reduced_ate_order_r p q ((Aff.isOnCurve_iff _ p).mp hp) hpi hq'.1 hqi hq'.2

/-- **the textbook pairing of the generators is the published value** (`C03.pairing_generators`: the
    twelve decimals of `test_pairing_result_against_relic`): the specification `PP.Ate.reducedAte` is
    thereby tied to an external known answer -/
theorem reducedAte_generators :
    reducedAte (C03.g1Generator.x, C03.g1Generator.y) (C03.g2Generator.x, C03.g2Generator.y) =
      C03.relicValue := by
  have h := pairing_is_reduced_ate_order_r C03.g1Generator C03.g2Generator
    C07.g1Generator_inSub.1 rfl C07.g2Generator_inSub.1 rfl C07.g2Generator_killed
  rw [C03.pairing_generators] at h
  exact (Option.some.inj h).symm

/-! ## 5. with the vertical lines (denominator elimination) -/

/-- the Miller function without verticals is the one with verticals times a non-zero element of `Fq6`
    (`x_P ≠ 0`) -/
theorem denominator_elimination (P : Fq × Fq) (Q : Fq2 × Fq2) (hx : P.1 ≠ 0) :
    ∃ a : Fq6, a ≠ 0 ∧ textbookMiller P Q = textbookMillerFull P Q * Fq12.ofFq6 a := by
  obtain ⟨d, ⟨a, ha, rfl⟩, h⟩ := textbookMiller_eq_full P Q hx
  exact ⟨a, ha, h⟩

theorem reduced_ate_full_eq (P : Fq × Fq) (Q : Fq2 × Fq2) (hx : P.1 ≠ 0) :
    reducedAteFull P Q = reducedAte P Q := reducedAteFull_eq P Q hx

/-- **the pairing is the reduced ate pairing computed from the Miller function with tangents, chords
    and verticals**, for `P ∈ G1`, `Q ∈ G2` (the model's own `in_subgroup` checks), both finite -/
theorem pairing_is_reduced_ate_full (p : Aff Fq) (q : Aff Fq2)
    (hp : Aff.inSubgroup g1Codec.b p = true) (hpi : p.infinity = false)
    (hq : Aff.inSubgroup g2Codec.b q = true) (hqi : q.infinity = false) :
    pairing p q = some (reducedAteFull (p.x, p.y) (q.x, q.y)) := by
  have hp' := (Aff.inSubgroup_iff_inSub p).mp hp
  have hq' := (Aff.inSubgroup_iff_inSub q).mp hq
  rw [reducedAteFull_eq _ _ (g1_x_ne_zero hp'.1 hpi hp'.2)]
  exact pairing_is_reduced_ate_order_r p q hp'.1 hpi hq'.1 hqi hq'.2

/-! ## non-vacuity and cross-checks -/

/-- the hypotheses are satisfiable: the generators are finite, on their curves, and `[r]g2 = 0`
    (`C07`: the model's own `in_subgroup` evaluated by the kernel) -/
example : Aff.OnCurve g1Codec.b C03.g1Generator ∧ Aff.OnCurve g2Codec.b C03.g2Generator ∧
    Gen.r • Aff.abs g2Codec.b C03.g2Generator = 0 :=
  ⟨C07.g1Generator_inSub.1, C07.g2Generator_inSub.1, C07.g2Generator_killed⟩

/-- the specification's list of bits, with the leading one restored, is the binary expansion of `|x|` -/
theorem bits_represent_x : Lines.val 1 (bitsBelowTop Gen.BLS_X) = Gen.BLS_X := val_bitsBelowTop

/-- the specification's list of bits: 63 bits, 5 of them set (`|x|` has Hamming weight 6) -/
example : (bitsBelowTop Gen.BLS_X).length = 63 ∧ (bitsBelowTop Gen.BLS_X).count true = 5 := by
  decide +kernel

end PP.C03Lines
