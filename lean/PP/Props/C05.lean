/-
C05 — "For every point of G1/G2, identity included, both encodings have the fixed length (48/96 and
96/192 bytes), are byte-for-byte the big-endian ZCash BLS12-381 format (c1 before c0 for Fq2,
compression, infinity and sort flags in the top three bits, sort flag set iff y is the lexicographically
larger root), and decode back to the same point. Encoding is injective and is the only accepted
preimage: whenever a byte string decodes to a point, re-encoding that point reproduces the byte string."

Model: `encodeCompressed`, `encodeUncompressed` (PP.Model.Enc).  Spec: `ZCash.encode` (PP.Spec.ZCash).

Two side conditions are kept VISIBLE in the statements:
* `hinf : A.infinity = true → A = Aff.zero` in `decode…_encode…` / injectivity: every affine record flagged
  `infinity` (whatever its `x`, `y`) encodes to the identity string, which decodes to the record
  `Aff.zero = ⟨0, 1, true⟩` exactly;
* `hy : A.infinity = false → −A.y ≠ A.y` in `encodeCompressed_of_decodeCompressed(Unchecked)`: for `y = 0` the decoder does not
  look at the sort flag, so `x`-bytes with the sort flag set decode to `(x, 0)` but the encoder clears the
  flag.  No such point exists on a curve without 2-torsion (`encodeCompressed_of_decodeCompressed'`): that
  is proved for G1 in `PP.Proofs.Encoding` (`x³ + 4` has no root in `Fq`) and for G2 with the field `Fq2`
  at hand, so the statements for the two groups in `PP.Props.C05Inst` carry no side condition.
-/
import PP.Proofs.Encoding
import PP.Proofs.Generators

-- the theorems are stated for a lawful field and codec throughout, also where a proof uses less
set_option linter.unusedSectionVars false

namespace PP.C05
open ZCash (Coord Form Flags Selected)

section generic
variable {F : Type} [Field F] [DecidableEq F] [FieldOps F] [LawfulFieldOps F] [SqrtOps F] [LawfulSqrtOps F]
variable {cc : Codec F} {C : Coord F}

/-! ### byte for byte the ZCash format, fixed lengths -/

theorem encodeCompressed_eq_zcash (L : cc.Lawful C) (A : Aff F) :
    encodeCompressed cc A = ZCash.encode (cc.curve C) .compressed A := encodeCompressed_eq L A

theorem encodeUncompressed_eq_zcash (L : cc.Lawful C) (A : Aff F) :
    encodeUncompressed cc A = ZCash.encode (cc.curve C) .uncompressed A := encodeUncompressed_eq L A

theorem encodeCompressed_length (L : cc.Lawful C) (A : Aff F) : (encodeCompressed cc A).length = cc.size :=
  PP.encodeCompressed_length L A

theorem encodeUncompressed_length (L : cc.Lawful C) (A : Aff F) :
    (encodeUncompressed cc A).length = 2 * cc.size := PP.encodeUncompressed_length L A

/-! ### decode ∘ encode -/

theorem decodeCompressed_encodeCompressed (L : cc.Lawful C) (A : Aff F)
    (hinf : A.infinity = true → A = Aff.zero) (hs : Aff.inSubgroup cc.b A = true) :
    decodeCompressed cc (encodeCompressed cc A) = .ok A := decodeCompressed_encode L A hinf hs

theorem decodeUncompressed_encodeUncompressed (L : cc.Lawful C) (A : Aff F)
    (hinf : A.infinity = true → A = Aff.zero)
    (hc : Aff.isOnCurve cc.b A = true) (hs : Aff.inSubgroup cc.b A = true) :
    decodeUncompressed cc (encodeUncompressed cc A) = .ok A := decodeUncompressed_encode L A hinf hc hs

/-- unchecked, compressed: the curve equation is needed (`y` is recomputed), the subgroup is not -/
theorem decodeCompressedUnchecked_encodeCompressed (L : cc.Lawful C) (A : Aff F)
    (hinf : A.infinity = true → A = Aff.zero) (hc : Aff.isOnCurve cc.b A = true) :
    decodeCompressedUnchecked cc (encodeCompressed cc A) = .ok A := decodeCompressedUnchecked_encode L A hinf hc

/-- unchecked, uncompressed: ANY pair of field elements round-trips -/
theorem decodeUncompressedUnchecked_encodeUncompressed (L : cc.Lawful C) (A : Aff F)
    (hinf : A.infinity = true → A = Aff.zero) :
    decodeUncompressedUnchecked cc (encodeUncompressed cc A) = .ok A := decodeUncompressedUnchecked_encode L A hinf

/-! ### encode ∘ decode: the encoding is the only accepted preimage

Spec level: an accepted string is `setFlags (flags bs) (clearFlags bs)`, its flags are forced by the point
and coordinates in range are canonical (`encode_of_validate_…`); transported along `decode = validate`,
`encode = ZCash.encode`. -/

theorem encodeUncompressed_of_decodeUncompressedUnchecked (L : cc.Lawful C) (bs : Bytes) (A : Aff F)
    (h : decodeUncompressedUnchecked cc bs = .ok A) : encodeUncompressed cc A = bs := by
  have hl := decodeUncompressedUnchecked_length bs A h
  rw [decodeUncompressedUnchecked_eq L bs hl] at h
  rw [encodeUncompressed_eq L]
  exact encode_of_validate_uncompressed _ L.coord bs (L.size_eq ▸ hl) A h

theorem encodeUncompressed_of_decodeUncompressed (L : cc.Lawful C) (bs : Bytes) (A : Aff F)
    (h : decodeUncompressed cc bs = .ok A) : encodeUncompressed cc A = bs :=
  encodeUncompressed_of_decodeUncompressedUnchecked L bs A ((decodeUncompressed_ok_iff_unchecked bs A).mp h).1

/-- Hypothesis `hy`: the decoded point is not its own negative (`y ≠ −y`, i.e. `y ≠ 0`): for `y = 0` the
decoder ignores the sort flag, so the string with the sort flag set decodes to `(x, 0)` but is not what
the encoder produces. -/
theorem encodeCompressed_of_decodeCompressedUnchecked (L : cc.Lawful C) (bs : Bytes) (A : Aff F)
    (h : decodeCompressedUnchecked cc bs = .ok A) (hy : A.infinity = false → -A.y ≠ A.y) :
    encodeCompressed cc A = bs := by
  have hl := decodeCompressedUnchecked_length bs A h
  rw [decodeCompressedUnchecked_eq L bs hl] at h
  rw [encodeCompressed_eq L]
  exact encode_of_validate_compressed cc C L.coord bs (L.size_eq ▸ hl) A h hy

theorem encodeCompressed_of_decodeCompressed (L : cc.Lawful C) (bs : Bytes) (A : Aff F)
    (h : decodeCompressed cc bs = .ok A) (hy : A.infinity = false → -A.y ≠ A.y) :
    encodeCompressed cc A = bs :=
  encodeCompressed_of_decodeCompressedUnchecked L bs A ((decodeCompressed_ok_iff_unchecked bs A).mp h).1 hy

/-- on a curve without a point of order two, in odd characteristic, no side condition on the point -/
theorem encodeCompressed_of_decodeCompressed' (L : cc.Lawful C) (h2 : (2 : F) ≠ 0)
    (hno2 : ∀ x : F, x * x * x + cc.b ≠ 0) (bs : Bytes) (A : Aff F)
    (h : decodeCompressedUnchecked cc bs = .ok A) : encodeCompressed cc A = bs :=
  encodeCompressed_of_decodeCompressedUnchecked L bs A h (fun hf =>
    neg_ne_self_of_ne_zero h2 _ (y_ne_zero_of_onCurve hno2 A (decodeCompressedUnchecked_onCurve bs A h) hf))

/-! ### injectivity: two records with the same encoding are what that string decodes to -/

/-- uncompressed: no validity needed beyond the normal form of the identity record -/
theorem encodeUncompressed_injective (L : cc.Lawful C) (A B : Aff F)
    (hA : A.infinity = true → A = Aff.zero) (hB : B.infinity = true → B = Aff.zero)
    (h : encodeUncompressed cc A = encodeUncompressed cc B) : A = B := by
  have h1 := decodeUncompressedUnchecked_encode L A hA
  rw [h, decodeUncompressedUnchecked_encode L B hB] at h1
  exact (Except.ok.inj h1).symm

/-- compressed: points satisfying the curve equation -/
theorem encodeCompressed_injective (L : cc.Lawful C) (A B : Aff F)
    (hA : A.infinity = true → A = Aff.zero) (hB : B.infinity = true → B = Aff.zero)
    (hcA : Aff.isOnCurve cc.b A = true) (hcB : Aff.isOnCurve cc.b B = true)
    (h : encodeCompressed cc A = encodeCompressed cc B) : A = B := by
  have h1 := decodeCompressedUnchecked_encode L A hA hcA
  rw [h, decodeCompressedUnchecked_encode L B hB hcB] at h1
  exact (Except.ok.inj h1).symm

/-- without the normal-form hypothesis injectivity FAILS: two different records, one string -/
theorem encode_infinity_not_injective (A : Aff F) (hA : A.infinity = true) :
    encodeCompressed cc A = encodeCompressed cc (Aff.zero : Aff F) ∧
    encodeUncompressed cc A = encodeUncompressed cc (Aff.zero : Aff F) := by
  unfold encodeCompressed encodeUncompressed
  simp [hA, Aff.zero]

end generic

/-! ### the format, read back from the spec (flags in the top three bits, coordinates untouched) -/
section readback
variable {F : Type} [Neg F]

theorem flags_encode (K : ZCash.Curve F) (hK : K.coord.Lawful) (form : Form) (A : Aff F) :
    ZCash.flags (ZCash.encode K form A) =
      ⟨form.isCompressed, A.infinity, form.isCompressed && !A.infinity && K.lt (-A.y) A.y⟩ :=
  PP.flags_encode K hK form A

theorem clearFlags_encode (K : ZCash.Curve F) (hK : K.coord.Lawful) (form : Form) (A : Aff F)
    (hf : A.infinity = false) :
    ZCash.clearFlags (ZCash.encode K form A) =
      match form with
      | .compressed => K.coord.bytes A.x
      | .uncompressed => K.coord.bytes A.x ++ K.coord.bytes A.y :=
  PP.clearFlags_encode K hK form A hf

/-- the identity is `0x40 ||| (c ? 0x80 : 0)` followed by zeros -/
theorem encode_identity (K : ZCash.Curve F) (form : Form) (A : Aff F) (hA : A.infinity = true) (n : Nat)
    (hn : form.length K.coord = n + 1) :
    ZCash.encode K form A = (if form.isCompressed then 0xc0 else 0x40) :: List.replicate n 0 := by
  unfold ZCash.encode; rw [if_pos hA]; exact identityBytes_eq K.coord form n hn

/-- the coordinate bytes: 48-byte big-endian for `Fq`; `c1` before `c0` for `Fq2` -/
theorem fqCoord_bytes_eq (a : Fq) : ZCash.fqCoord.bytes a = ZCash.I2OSP a.v 48 := rfl
theorem fq2Coord_bytes_eq (a : Fq2) : ZCash.fq2Coord.bytes a = ZCash.I2OSP a.c1.v 48 ++ ZCash.I2OSP a.c0.v 48 := rfl
theorem fqCoord_lawful : ZCash.fqCoord.Lawful := PP.fqCoord_lawful
theorem fq2Coord_lawful : ZCash.fq2Coord.Lawful := PP.fq2Coord_lawful

end readback

/-! ### non-vacuity: concrete evaluations (kernel, `decide +kernel`) -/
namespace Examples

/-- outcomes as comparable data -/
def outcome {F : Type} (r : Except DecodeErr (Aff F)) : Option DecodeErr × Option (Aff F) :=
  match r with
  | .ok a => (none, some a)
  | .error e => (some e, none)

/-- the G1 generator of the Rust source and its standard ZCash compressed encoding `97f1d3a7…c6bb` -/
def gen1 : Aff Fq := ⟨Fq.ofMont Gen.G1_GENERATOR_X, Fq.ofMont Gen.G1_GENERATOR_Y, false⟩
def gen1Bytes : Bytes := [
   0x97, 0xf1, 0xd3, 0xa7, 0x31, 0x97, 0xd7, 0x94, 0x26, 0x95, 0x63, 0x8c, 0x4f, 0xa9, 0xac, 0x0f, 0xc3, 0x68, 0x8c, 0x4f, 0x97, 0x74, 0xb9, 0x05,
   0xa1, 0x4e, 0x3a, 0x3f, 0x17, 0x1b, 0xac, 0x58, 0x6c, 0x55, 0xe8, 0x3f, 0xf9, 0x7a, 0x1a, 0xef, 0xfb, 0x3a, 0xf0, 0x0a, 0xdb, 0x22, 0xc6, 0xbb]

/-- the G2 generator and its standard ZCash compressed encoding `93e02b60…bdb8` -/
def gen2 : Aff Fq2 :=
  ⟨⟨Fq.ofMont Gen.G2_GENERATOR_X_C0, Fq.ofMont Gen.G2_GENERATOR_X_C1⟩,
   ⟨Fq.ofMont Gen.G2_GENERATOR_Y_C0, Fq.ofMont Gen.G2_GENERATOR_Y_C1⟩, false⟩
def gen2Bytes : Bytes := [
   0x93, 0xe0, 0x2b, 0x60, 0x52, 0x71, 0x9f, 0x60, 0x7d, 0xac, 0xd3, 0xa0, 0x88, 0x27, 0x4f, 0x65, 0x59, 0x6b, 0xd0, 0xd0, 0x99, 0x20, 0xb6, 0x1a,
   0xb5, 0xda, 0x61, 0xbb, 0xdc, 0x7f, 0x50, 0x49, 0x33, 0x4c, 0xf1, 0x12, 0x13, 0x94, 0x5d, 0x57, 0xe5, 0xac, 0x7d, 0x05, 0x5d, 0x04, 0x2b, 0x7e,
   0x02, 0x4a, 0xa2, 0xb2, 0xf0, 0x8f, 0x0a, 0x91, 0x26, 0x08, 0x05, 0x27, 0x2d, 0xc5, 0x10, 0x51, 0xc6, 0xe4, 0x7a, 0xd4, 0xfa, 0x40, 0x3b, 0x02,
   0xb4, 0x51, 0x0b, 0x64, 0x7a, 0xe3, 0xd1, 0x77, 0x0b, 0xac, 0x03, 0x26, 0xa8, 0x05, 0xbb, 0xef, 0xd4, 0x80, 0x56, 0xc8, 0xc1, 0x21, 0xbd, 0xb8]

-- model and spec both produce the standard encodings of the generators
example : encodeCompressed g1Codec gen1 = gen1Bytes := by decide +kernel
example : encodeCompressed g2Codec gen2 = gen2Bytes := by decide +kernel
example : ZCash.encode (g1Codec.curve ZCash.fqCoord) .compressed gen1 = gen1Bytes := by decide +kernel
example : ZCash.encode (g2Codec.curve ZCash.fq2Coord) .compressed gen2 = gen2Bytes := by decide +kernel
example : (encodeUncompressed g1Codec gen1).take 48 = 0x17 :: gen1Bytes.drop 1 := by decide +kernel
-- the negated generator: same `x` bytes, sort flag set
example : encodeCompressed g1Codec gen1.neg = 0xb7 :: gen1Bytes.drop 1 := by decide +kernel
-- identity
example : encodeCompressed g1Codec (Aff.zero : Aff Fq) = 0xc0 :: List.replicate 47 0 := by decide +kernel
example : encodeUncompressed g1Codec (Aff.zero : Aff Fq) = 0x40 :: List.replicate 95 0 := by decide +kernel
example : encodeCompressed g2Codec (Aff.zero : Aff Fq2) = 0xc0 :: List.replicate 95 0 := by decide +kernel
example : encodeUncompressed g2Codec (Aff.zero : Aff Fq2) = 0x40 :: List.replicate 191 0 := by decide +kernel

-- the hypotheses of the round-trip theorems hold of the generator (finite, in the subgroup) and of the
-- identity; `LawfulSqrtOps Fq` is assumed here only because this file does not import its instance
example [LawfulSqrtOps Fq] : decodeCompressed g1Codec (encodeCompressed g1Codec gen1) = .ok gen1 :=
  decodeCompressed_encodeCompressed g1Codec_lawful gen1 (fun h => nomatch h) generatorG1_inSubgroup
example [LawfulSqrtOps Fq] : decodeUncompressed g1Codec (encodeUncompressed g1Codec gen1) = .ok gen1 :=
  decodeUncompressed_encodeUncompressed g1Codec_lawful gen1 (fun h => nomatch h)
    (Aff.isOnCurve_of_inSubgroup _ _ generatorG1_inSubgroup) generatorG1_inSubgroup
example [LawfulSqrtOps Fq] : decodeCompressed g1Codec (encodeCompressed g1Codec Aff.zero) = .ok Aff.zero :=
  decodeCompressed_encodeCompressed g1Codec_lawful Aff.zero (fun _ => rfl) (Aff.inSubgroup_zero _)

end Examples

end PP.C05
