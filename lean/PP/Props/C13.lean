/-
C13.  "For every message, every tag of at most 255 bytes and every requested length within the RFC
limits, the XMD expansion (any Merkle-Damgard hash, in particular SHA-256 and SHA-512) and the XOF
expansion (SHAKE128/256) output exactly the bytes RFC 9380 section 5.3 defines, and requests beyond
255 output blocks abort instead of returning bytes.  Field hashing splits those bytes into
consecutive blocks and reduces each as a big-endian integer modulo the field order: 64 bytes per Fq
element, 48 per Fr element, and two Fq blocks (real part first) per Fq2 element, for any element
count."

Specification: `PP/Spec/Rfc9380.lean` (RFC 9380 §5.3.1, §5.3.2, §5.2 transcribed; `none` = ABORT).
Model: section "hash_to_field.rs" of `PP/Model/Map.lean`.

What the code does NOT check (and the RFC does): `len_in_bytes ≤ 65535` and `len(DST) ≤ 255`.  The
Rust silently truncates `len_in_bytes >> 8` and `dst.len()` to one byte where the RFC aborts, so
those two bounds appear as hypotheses below (for SHA-256 / SHA-512, `ell ≤ 255` already forces
`len_in_bytes ≤ 255·32 = 8160` / `255·64 = 16320`, see `expandXmd_sha256_eq_rfc`; for a generic hash
with a huge output size it does not).  `0 < H.outSize` excludes a division by zero (a panic in Rust).
-/
import PP.Proofs.Expand
import PP.Spec.Hash

namespace PP
namespace C13
open Expand

variable (H : XmdHash) (xof : Bytes → Nat → Bytes) (msg dst : Bytes) (len count : Nat)

/-! ## expand_message_xmd -/

/-- The XMD model IS RFC 9380 §5.3.1, for every hash, message, tag ≤ 255 bytes and length ≤ 65535:
same bytes when the RFC returns bytes, abort (`none`) exactly when the RFC aborts. -/
theorem expandXmd_eq_rfc (hout : 0 < H.outSize) (hdst : dst.length ≤ 255) (hlen : len ≤ 65535) :
    expandMessageXmd H msg dst len
      = Rfc.expand_message_xmd H.hash H.outSize H.blockSize msg dst len := by
  unfold expandMessageXmd Rfc.expand_message_xmd
  simp only [ceilDiv_eq _ _ hout]
  by_cases hell : (len + H.outSize - 1) / H.outSize > 255
  · simp [hell]
  · have hcond : ¬ ((len + H.outSize - 1) / H.outSize > 255 ∨ len > 65535 ∨ dst.length > 255) := by
      omega
    rw [if_neg hell, if_neg hcond]
    simp only [I2OSP_zero, I2OSP_one, I2OSP_two]
    congr 1
    generalize hmp : List.replicate H.blockSize (0 : UInt8) ++ msg ++ [u8 (len >>> 8), u8 len]
      ++ [u8 0] ++ (dst ++ [u8 dst.length]) = msgP
    have hmp' : List.replicate H.blockSize (0 : UInt8) ++ msg ++ [u8 (len >>> 8), u8 len, 0]
      ++ (dst ++ [u8 dst.length]) = msgP := by
      rw [← hmp]; simp [u8]
    rw [hmp']
    generalize dst ++ [u8 dst.length] = dstP
    have h0 : H.hash msgP = Rfc.xmd_b H.hash msgP dstP 0 := rfl
    have h1 : H.hash (H.hash msgP ++ [1] ++ dstP) = Rfc.xmd_b H.hash msgP dstP 1 := by
      show _ = H.hash (H.hash msgP ++ Rfc.I2OSP 1 1 ++ dstP)
      rw [I2OSP_one]; rfl
    rw [h1, h0, xmdBlocks_eq H msgP dstP _ 1 _ (le_refl 1)]
    unfold Rfc.substr
    rw [List.drop_zero]
    -- the model starts from `b_1` and appends `ell - 1` blocks; for `ell = 0` (only if `len = 0`)
    -- it still holds `b_1`, of which it takes no byte
    rcases Nat.eq_zero_or_pos ((len + H.outSize - 1) / H.outSize) with hz | hpos
    · have : len = 0 := by
        rcases Nat.div_eq_zero_iff.mp hz with h | h <;> omega
      subst this
      simp
    · obtain ⟨e, he⟩ : ∃ e, (len + H.outSize - 1) / H.outSize = e + 1 := ⟨_, (Nat.succ_pred_eq_of_pos hpos).symm⟩
      rw [he, Nat.add_sub_cancel, List.range_succ_eq_map]
      simp only [List.map_cons, List.map_map, List.flatten_cons]
      congr 3
      apply List.map_congr_left
      intro k _
      simp only [Function.comp]
      congr 1
      omega

/-- … and within `ell = ceil(len / b_in_bytes) ≤ 255` neither aborts: both return the same bytes, as
many as requested (`hH`: the digests have `outSize` bytes). -/
theorem expandXmd_eq_rfc_some (hout : 0 < H.outSize) (hH : ∀ x, (H.hash x).length = H.outSize)
    (hdst : dst.length ≤ 255) (hlen : len ≤ 65535) (hell : Rfc.ceilDiv len H.outSize ≤ 255) :
    ∃ bytes, Rfc.expand_message_xmd H.hash H.outSize H.blockSize msg dst len = some bytes ∧
      expandMessageXmd H msg dst len = some bytes ∧ bytes.length = len := by
  rw [expandXmd_eq_rfc H msg dst len hout hdst hlen]
  have hc : ¬ (Rfc.ceilDiv len H.outSize > 255 ∨ len > 65535 ∨ dst.length > 255) := by omega
  have hs : ∃ bytes, Rfc.expand_message_xmd H.hash H.outSize H.blockSize msg dst len = some bytes := by
    unfold Rfc.expand_message_xmd; simp only [if_neg hc]; exact ⟨_, rfl⟩
  obtain ⟨bytes, hb⟩ := hs
  exact ⟨bytes, hb, hb, rfc_xmd_length H.hash H.outSize H.blockSize hout hH msg dst len bytes hb⟩

theorem expandXmd_length (hout : 0 < H.outSize) (hH : ∀ x, (H.hash x).length = H.outSize)
    (hdst : dst.length ≤ 255) (hlen : len ≤ 65535) (bytes : Bytes)
    (h : expandMessageXmd H msg dst len = some bytes) : bytes.length = len := by
  rw [expandXmd_eq_rfc H msg dst len hout hdst hlen] at h
  exact rfc_xmd_length H.hash H.outSize H.blockSize hout hH msg dst len bytes h

/-- The model aborts (Rust: `panic!("ell was too big")`) exactly when more than 255 output blocks
are requested; no hypothesis on `msg`, `dst`, `len`.  (`ceil` written as in the Rust; for
`outSize > 0` it is `Rfc.ceilDiv`, see `Expand.ceilDiv_eq`.) -/
theorem expandXmd_panics_iff :
    expandMessageXmd H msg dst len = none ↔ (len + H.outSize - 1) / H.outSize > 255 := by
  unfold expandMessageXmd
  by_cases hell : (len + H.outSize - 1) / H.outSize > 255 <;> simp [hell]

theorem expandXmd_panics_iff_ceil (hout : 0 < H.outSize) :
    expandMessageXmd H msg dst len = none ↔ Rfc.ceilDiv len H.outSize > 255 := by
  rw [ceilDiv_eq _ _ hout]; exact expandXmd_panics_iff H msg dst len

/-- When `255 * outSize ≤ 65535` (digests of at most 257 bytes) the RFC's `ell ≤ 255` is the only
length condition: beyond it both sides abort, so there is no length hypothesis at all. -/
theorem expandXmd_eq_rfc_of_digest (hout : 0 < H.outSize) (hsize : 255 * H.outSize ≤ 65535)
    (hdst : dst.length ≤ 255) :
    expandMessageXmd H msg dst len
      = Rfc.expand_message_xmd H.hash H.outSize H.blockSize msg dst len := by
  by_cases hlen : len ≤ 65535
  · exact expandXmd_eq_rfc H msg dst len hout hdst hlen
  · have hell : (len + H.outSize - 1) / H.outSize > 255 := by
      rw [gt_iff_lt, Nat.lt_div_iff_mul_lt hout]; omega
    have hc : Rfc.ceilDiv len H.outSize > 255 ∨ len > 65535 ∨ dst.length > 255 := by omega
    rw [(expandXmd_panics_iff H msg dst len).mpr hell]
    unfold Rfc.expand_message_xmd; simp only [if_pos hc]

theorem le_of_expandXmd_eq_some (hout : 0 < H.outSize) (hsize : 255 * H.outSize ≤ 65535)
    {bytes : Bytes} (h : expandMessageXmd H msg dst len = some bytes) : len ≤ 65535 := by
  have hell : ¬ (len + H.outSize - 1) / H.outSize > 255 := fun hc => by
    rw [(expandXmd_panics_iff H msg dst len).mpr hc] at h; cases h
  rw [gt_iff_lt, Nat.lt_div_iff_mul_lt hout] at hell
  omega

/-- SHA-256 / SHA-512 with the digest and block sizes `Driver.lean` gives them -/
def sha256H : XmdHash := ⟨32, 64, Hash.sha256⟩
def sha512H : XmdHash := ⟨64, 128, Hash.sha512⟩

/-- for SHA-256 the only length condition is the RFC's `ell ≤ 255`, i.e. `len ≤ 8160`; beyond it
both sides abort, so there is no length hypothesis at all -/
theorem expandXmd_sha256_eq_rfc (hdst : dst.length ≤ 255) :
    expandMessageXmd sha256H msg dst len = Rfc.expand_message_xmd Hash.sha256 32 64 msg dst len :=
  expandXmd_eq_rfc_of_digest sha256H msg dst len (by decide) (by decide) hdst

theorem expandXmd_sha512_eq_rfc (hdst : dst.length ≤ 255) :
    expandMessageXmd sha512H msg dst len = Rfc.expand_message_xmd Hash.sha512 64 128 msg dst len :=
  expandXmd_eq_rfc_of_digest sha512H msg dst len (by decide) (by decide) hdst

/-! ## expand_message_xof -/

/-- The XOF model returns the bytes of RFC 9380 §5.3.2 (which does not abort in this range), for
every XOF, in particular `Hash.shake128`, `Hash.shake256`. -/
theorem expandXof_eq_rfc (hdst : dst.length ≤ 255) (hlen : len ≤ 65535) :
    Rfc.expand_message_xof xof msg dst len = some (expandMessageXof xof msg dst len) := by
  unfold Rfc.expand_message_xof expandMessageXof
  have hcond : ¬ (len > 65535 ∨ dst.length > 255) := by omega
  rw [if_neg hcond]
  simp only [I2OSP_one, I2OSP_two, List.append_assoc]

/-- the counterpart of `expandXmd_eq_rfc_some` (`hX`: the XOF returns as many bytes as requested) -/
theorem expandXof_eq_rfc_some (hX : ∀ m n, (xof m n).length = n) (hdst : dst.length ≤ 255)
    (hlen : len ≤ 65535) :
    ∃ bytes, Rfc.expand_message_xof xof msg dst len = some bytes ∧
      xofExpand xof msg dst len = some bytes ∧ bytes.length = len :=
  ⟨_, expandXof_eq_rfc xof msg dst len hdst hlen, rfl, hX _ _⟩

/-! ## from_okm / from_ro: a block is reduced as a big-endian integer modulo the field order -/

/-- `Fq::from_okm` never hits an `unwrap` and returns `OS2IP(okm) mod q` -/
theorem fromOkm_fq (okm : Bytes) (h : okm.length = 64) :
    Fq.fromOkm okm = some (Zp.ofNat (Rfc.OS2IP okm)) := Expand.fromOkm_fq okm h

theorem fromOkm_fq_v (okm : Bytes) (h : okm.length = 64) :
    (Fq.fromOkm okm).map (·.v) = some (Rfc.OS2IP okm % Gen.q) := by
  rw [fromOkm_fq okm h]; rfl

/-- `Fr::from_okm` never hits an `unwrap` and returns `OS2IP(okm) mod r` -/
theorem fromOkm_fr (okm : Bytes) (h : okm.length = 48) :
    Fr.fromOkm okm = some (Zp.ofNat (Rfc.OS2IP okm)) := Expand.fromOkm_fr okm h

theorem fromOkm_fr_v (okm : Bytes) (h : okm.length = 48) :
    (Fr.fromOkm okm).map (·.v) = some (Rfc.OS2IP okm % Gen.r) := by
  rw [fromOkm_fr okm h]; rfl

/-- `Fq2::from_ro`: two 64-byte blocks, real part (`c0`) first -/
theorem fromRo_fq2 (okm : Bytes) (h : okm.length = 128) :
    Fq2.fromRo okm
      = some ⟨Zp.ofNat (Rfc.OS2IP (okm.take 64)), Zp.ofNat (Rfc.OS2IP (okm.drop 64))⟩ :=
  Expand.fromRo_fq2 okm h

theorem beToNat_eq_OS2IP (bs : Bytes) : beToNat bs = Rfc.OS2IP bs := Expand.beToNat_eq_OS2IP bs

/-! ## hash_to_field, for every element count

`expand` is any expander (abort = `none`) whose successful outputs are at least as long as
requested.  `Zp.coords x = [x.v]`, `Fq2.coords x = [x.c0.v, x.c1.v]` are the canonical integers, the
RFC's `u_i = (e_0, …, e_(m-1))`.  Since the spec is `some _` whenever `expand` is, equality with the
spec also says that the model does not abort on its own. -/

variable (expand : Bytes → Bytes → Nat → Option Bytes)

/-- Fq: `m = 1`, `L = 64` -/
theorem hashToField_fq_eq_rfc
    (hl : ∀ bytes, expand msg dst (count * 64) = some bytes → count * 64 ≤ bytes.length) :
    (hashToField expand 64 Fq.fromOkm msg dst count).map (List.map Zp.coords)
      = Rfc.hash_to_field expand Gen.q 1 64 msg dst count :=
  hashToField_zp_rfc 64 Fq.fromOkm Expand.fromOkm_fq expand msg dst count hl

/-- Fr: `m = 1`, `L = 48` -/
theorem hashToField_fr_eq_rfc
    (hl : ∀ bytes, expand msg dst (count * 48) = some bytes → count * 48 ≤ bytes.length) :
    (hashToField expand 48 Fr.fromOkm msg dst count).map (List.map Zp.coords)
      = Rfc.hash_to_field expand Gen.r 1 48 msg dst count :=
  hashToField_zp_rfc 48 Fr.fromOkm Expand.fromOkm_fr expand msg dst count hl

/-- Fq2: `m = 2`, `L = 64` (the code uses one 128-byte block per element) -/
theorem hashToField_fq2_eq_rfc
    (hl : ∀ bytes, expand msg dst (count * 128) = some bytes → count * 128 ≤ bytes.length) :
    (hashToField expand 128 Fq2.fromRo msg dst count).map (List.map Fq2.coords)
      = Rfc.hash_to_field expand Gen.q 2 64 msg dst count := by
  unfold Rfc.hash_to_field
  simp only [Nat.mul_assoc, show 2 * 64 = 128 from rfl]
  cases h : expand msg dst (count * 128) with
  | none => rw [hashToField_none _ _ _ _ _ _ h]; rfl
  | some bytes =>
    rw [hashToField_eq expand 128 Fq2.fromRo _ Expand.fromRo_fq2 msg dst count bytes h (hl _ h)]
    simp only [Option.map_some, List.map_map]
    congr 1
    apply List.map_congr_left
    intro i _
    simp only [Function.comp, Fq2.coords, substr_take _ _ 64 128 (by decide), substr_drop _ _ 64 64 128 rfl, Zp.ofNat_v,
      show List.range 2 = [0, 1] from rfl, List.map_cons, List.map_nil]
    rw [show 64 * (0 + i * 2) = i * 128 by omega, show 64 * (1 + i * 2) = i * 128 + 64 by omega]

/-- explicit forms: the `i`-th element is the reduction of the `i`-th block -/
theorem hashToField_fq_explicit (bytes : Bytes) (h : expand msg dst (count * 64) = some bytes)
    (hl : bytes.length = count * 64) :
    hashToField expand 64 Fq.fromOkm msg dst count
      = some ((List.range count).map fun i => Zp.ofNat (Rfc.OS2IP (Rfc.substr bytes (i * 64) 64))) :=
  hashToField_eq expand 64 Fq.fromOkm _ Expand.fromOkm_fq msg dst count bytes h (le_of_eq hl.symm)

theorem hashToField_fr_explicit (bytes : Bytes) (h : expand msg dst (count * 48) = some bytes)
    (hl : bytes.length = count * 48) :
    hashToField expand 48 Fr.fromOkm msg dst count
      = some ((List.range count).map fun i => Zp.ofNat (Rfc.OS2IP (Rfc.substr bytes (i * 48) 48))) :=
  hashToField_eq expand 48 Fr.fromOkm _ Expand.fromOkm_fr msg dst count bytes h (le_of_eq hl.symm)

theorem hashToField_fq2_explicit (bytes : Bytes) (h : expand msg dst (count * 128) = some bytes)
    (hl : bytes.length = count * 128) :
    hashToField expand 128 Fq2.fromRo msg dst count
      = some ((List.range count).map fun i =>
          (⟨Zp.ofNat (Rfc.OS2IP (Rfc.substr bytes (i * 128) 64)),
            Zp.ofNat (Rfc.OS2IP (Rfc.substr bytes (i * 128 + 64) 64))⟩ : Fq2)) := by
  rw [hashToField_eq expand 128 Fq2.fromRo _ Expand.fromRo_fq2 msg dst count bytes h
    (le_of_eq hl.symm)]
  simp only [substr_take _ _ 64 128 (by decide), substr_drop _ _ 64 64 128 rfl]

/-! ### end to end: the model's `hash_to_field` over the model's expanders is the RFC's
`hash_to_field` over the RFC's expanders (`hH`/`hX`: the hash/XOF outputs have the nominal length)

Each is the theorem above for the model's expander, followed by the exchange of the expander on the
RFC side (`rfc_h2f_xmd`, `rfc_h2f_xof`), which agrees with it on the one length that is requested. -/

theorem xmd_len_ok (hout : 0 < H.outSize) (hH : ∀ x, (H.hash x).length = H.outSize)
    (hdst : dst.length ≤ 255) (hlen : len ≤ 65535) :
    ∀ bytes, expandMessageXmd H msg dst len = some bytes → len ≤ bytes.length :=
  fun bytes h => le_of_eq (expandXmd_length H msg dst len hout hH hdst hlen bytes h).symm

theorem xof_len_ok (hX : ∀ m n, (xof m n).length = n) :
    ∀ bytes, xofExpand xof msg dst len = some bytes → len ≤ bytes.length :=
  fun _ h => Option.some.inj h ▸ le_of_eq (hX _ _).symm

theorem rfc_h2f_xmd (hout : 0 < H.outSize) (hdst : dst.length ≤ 255) (p m L : Nat)
    (hlen : count * m * L ≤ 65535) :
    Rfc.hash_to_field (expandMessageXmd H) p m L msg dst count
      = Rfc.hash_to_field (Rfc.expand_message_xmd H.hash H.outSize H.blockSize) p m L msg dst count :=
  rfc_hash_to_field_congr _ _ _ _ _ _ _ _ (expandXmd_eq_rfc H msg dst _ hout hdst hlen)

theorem rfc_h2f_xof (hdst : dst.length ≤ 255) (p m L : Nat) (hlen : count * m * L ≤ 65535) :
    Rfc.hash_to_field (xofExpand xof) p m L msg dst count
      = Rfc.hash_to_field (Rfc.expand_message_xof xof) p m L msg dst count :=
  rfc_hash_to_field_congr _ _ _ _ _ _ _ _ (expandXof_eq_rfc xof msg dst _ hdst hlen).symm

theorem hashToField_xmd_fq_eq_rfc (hout : 0 < H.outSize) (hH : ∀ x, (H.hash x).length = H.outSize)
    (hdst : dst.length ≤ 255) (hlen : count * 64 ≤ 65535) :
    (hashToField (expandMessageXmd H) 64 Fq.fromOkm msg dst count).map (List.map Zp.coords)
      = Rfc.hash_to_field (Rfc.expand_message_xmd H.hash H.outSize H.blockSize) Gen.q 1 64
          msg dst count :=
  (hashToField_fq_eq_rfc msg dst count _ (xmd_len_ok H msg dst _ hout hH hdst hlen)).trans
    (rfc_h2f_xmd H msg dst count hout hdst _ _ _ (by omega))

theorem hashToField_xmd_fr_eq_rfc (hout : 0 < H.outSize) (hH : ∀ x, (H.hash x).length = H.outSize)
    (hdst : dst.length ≤ 255) (hlen : count * 48 ≤ 65535) :
    (hashToField (expandMessageXmd H) 48 Fr.fromOkm msg dst count).map (List.map Zp.coords)
      = Rfc.hash_to_field (Rfc.expand_message_xmd H.hash H.outSize H.blockSize) Gen.r 1 48
          msg dst count :=
  (hashToField_fr_eq_rfc msg dst count _ (xmd_len_ok H msg dst _ hout hH hdst hlen)).trans
    (rfc_h2f_xmd H msg dst count hout hdst _ _ _ (by omega))

theorem hashToField_xmd_fq2_eq_rfc (hout : 0 < H.outSize) (hH : ∀ x, (H.hash x).length = H.outSize)
    (hdst : dst.length ≤ 255) (hlen : count * 128 ≤ 65535) :
    (hashToField (expandMessageXmd H) 128 Fq2.fromRo msg dst count).map (List.map Fq2.coords)
      = Rfc.hash_to_field (Rfc.expand_message_xmd H.hash H.outSize H.blockSize) Gen.q 2 64
          msg dst count :=
  (hashToField_fq2_eq_rfc msg dst count _ (xmd_len_ok H msg dst _ hout hH hdst hlen)).trans
    (rfc_h2f_xmd H msg dst count hout hdst _ _ _ (by omega))

theorem hashToField_xof_fq_eq_rfc (hX : ∀ m n, (xof m n).length = n)
    (hdst : dst.length ≤ 255) (hlen : count * 64 ≤ 65535) :
    (hashToField (xofExpand xof) 64 Fq.fromOkm msg dst count).map (List.map Zp.coords)
      = Rfc.hash_to_field (Rfc.expand_message_xof xof) Gen.q 1 64 msg dst count :=
  (hashToField_fq_eq_rfc msg dst count _ (xof_len_ok xof msg dst _ hX)).trans
    (rfc_h2f_xof xof msg dst count hdst _ _ _ (by omega))

theorem hashToField_xof_fr_eq_rfc (hX : ∀ m n, (xof m n).length = n)
    (hdst : dst.length ≤ 255) (hlen : count * 48 ≤ 65535) :
    (hashToField (xofExpand xof) 48 Fr.fromOkm msg dst count).map (List.map Zp.coords)
      = Rfc.hash_to_field (Rfc.expand_message_xof xof) Gen.r 1 48 msg dst count :=
  (hashToField_fr_eq_rfc msg dst count _ (xof_len_ok xof msg dst _ hX)).trans
    (rfc_h2f_xof xof msg dst count hdst _ _ _ (by omega))

theorem hashToField_xof_fq2_eq_rfc (hX : ∀ m n, (xof m n).length = n)
    (hdst : dst.length ≤ 255) (hlen : count * 128 ≤ 65535) :
    (hashToField (xofExpand xof) 128 Fq2.fromRo msg dst count).map (List.map Fq2.coords)
      = Rfc.hash_to_field (Rfc.expand_message_xof xof) Gen.q 2 64 msg dst count :=
  (hashToField_fq2_eq_rfc msg dst count _ (xof_len_ok xof msg dst _ hX)).trans
    (rfc_h2f_xof xof msg dst count hdst _ _ _ (by omega))

/-! ## non-vacuity: a toy 2-byte hash, evaluated -/

/-- toy "hash": two polynomial checksums, 2-byte output, 3-byte block -/
def toyH : XmdHash :=
  ⟨2, 3, fun bs => [bs.foldl (fun a b => a * 31 + b) 7, bs.foldl (fun a b => a * 5 + b + 1) 3]⟩
def toyXof : Bytes → Nat → Bytes := fun bs n => (List.range n).map fun i => bs.foldl (· + ·) (UInt8.ofNat i)

-- 5 bytes = 3 blocks, the last one truncated; model and RFC agree on concrete bytes
example : expandMessageXmd toyH [1, 2, 3] [9, 8] 5 = some [213, 119, 174, 128, 37] := by decide +kernel
example : Rfc.expand_message_xmd toyH.hash 2 3 [1, 2, 3] [9, 8] 5 = some [213, 119, 174, 128, 37] := by
  decide +kernel
-- `len = 0` returns the empty string, `255 * outSize` is still served, `255 * outSize + 1` panics
example : expandMessageXmd toyH [1, 2, 3] [9, 8] 0 = some [] := by decide +kernel
example : (expandMessageXmd toyH [1] [2] (255 * 2)).isSome = true := by decide +kernel
example : expandMessageXmd toyH msg dst (255 * 2 + 1) = none :=
  (expandXmd_panics_iff toyH msg dst _).mpr (by decide)
example : expandMessageXmd toyH msg dst (256 * 2) = none :=
  (expandXmd_panics_iff toyH msg dst _).mpr (by decide)
example : expandMessageXof toyXof [1, 2] [3] 4 = [11, 12, 13, 14] := by decide +kernel
example : Rfc.expand_message_xof toyXof [1, 2] [3] 4 = some [11, 12, 13, 14] := by decide +kernel
-- the hypotheses `dst.length ≤ 255`, `len ≤ 65535` are needed: beyond them the code returns
-- bytes where the RFC aborts
example : (expandMessageXmd toyH [] (List.replicate 256 0) 1).isSome = true
    ∧ Rfc.expand_message_xmd toyH.hash 2 3 [] (List.replicate 256 0) 1 = none := by decide +kernel
-- hash_to_field with two Fr elements out of 96 bytes
example : hashToField (xofExpand toyXof) 48 Fr.fromOkm [1] [2] 2
    = some [Zp.ofNat (Rfc.OS2IP ((List.range 48).map fun i => UInt8.ofNat (i + 100))),
            Zp.ofNat (Rfc.OS2IP ((List.range 48).map fun i => UInt8.ofNat (i + 148)))] := by
  decide +kernel

end C13
end PP
