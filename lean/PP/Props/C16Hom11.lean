/-
C16, the homomorphism law of the 11-isogeny `E₁' → E₁` used for hashing to G1 (RFC 9380 appendix
E.2, `isogeny/g1.rs`).  (The 3-isogeny of G2 is `PP.Props.C16Hom`.)

Objects.
* `E1'` : the isogenous curve `y² = x³ + A'x + B'` over `Fq` as a Mathlib `WeierstrassCurve.Affine`
  (coefficients `g1EllpA`, `g1EllpB` of the model), `E1'.Point` its group of points with Mathlib's
  chord-and-tangent law (an `a₄ ≠ 0` curve);
* `(W b₁).Point`, `b₁ = g1Codec.b = 4` : the group of points of the target curve (C01);
* `iso11Pt : E1'.Point → (W b₁).Point` : the RFC's `iso_map` — `O ↦ O` and
  `(x, y) ↦ isoMapPoint b₁ XN XD YN YD x y` (rational map of the extracted coefficient tables, identity
  on the poles; the same function that `C16Inst.abs_iso11` uses);
* `absE1' p` : the point of `E₁'` denoted by a Jacobian triple; `OnE1' p` : the triple is on `E₁'`.

Theorems (no hypothesis left; axioms: `propext`, `Classical.choice`, `Quot.sound`).
* `iso11_hom`          : `iso11Pt (P + Q) = iso11Pt P + iso11Pt Q` for ALL points `P, Q` of `E₁'(Fq)`
                         (identity, opposite points, doubling, kernel points, and the exceptional
                         pairs `P ± Q ∈ ker` included);
* `iso11_neg`, `iso11Hom`;
* the kernel IS rational (unlike G2): `iso11_ker_iff` (`O` and the points with `K(x) = 0`),
  `iso11_ker_points` (`O, ±T, …, ±5T`), `iso11_ker_cyclic`, `iso11_ker_card` (`#ker = 11`),
  `iso11_translate` (`iso11Pt (P + T) = iso11Pt P` for `T` in the kernel);
* `abs_iso11`          : the MODEL's `iso11` computes `iso11Pt` on every Jacobian representative of every
                         point of `E₁'` (any `z = 0` triple is the identity; kernel points go to `O`);
* `iso11_add`, `iso11_add_model`, `iso11_add_exists` : for Jacobian triples `p, q, r` on `E₁'` with `r`
                         denoting the sum of the points denoted by `p` and `q` (group law of `E₁'`),
                         `iso11 r` denotes the sum (group law of `E₁`) of the points denoted by
                         `iso11 p`, `iso11 q`, which is what the model's `Jac.add` returns on them;
* `g1_map2_eq_iso_of_sum` : `map2_to_curve(u0, u1) = [h_eff]·iso_map(sswu(u0) +_{E₁'} sswu(u1))`.

The model has no addition on `E₁'` (the Rust code never adds there), so the law is stated with Mathlib's
group law on `E1'.Point`, and at the level of the model through `absE1'`.

Method.  `PP/Proofs/IsoHom11Eval.lean`: polynomial identities of degree ≤ 55 in each of two variables
(and a formal square root `y₁y₂`) are proved by evaluating an expression tree on a grid inside the
kernel (`decide +kernel`, GMP arithmetic on canonical representatives), the degree bounds being computed
on the same tree and "vanishing on a grid ⇒ zero" proved with Mathlib's `Polynomial`.
`IsoHom11Ast/Ids.lean`: the chord identity (56 × 56 grid), the tangent identity, translation by
the generator `T` of the kernel (both coordinates), `K(x(P₁+P₂))·K(x(P₁−P₂)) ∝ XN₁K₂² − XN₂K₁²`.
`IsoHom11.lean`: the kernel points are the multiples of `T`; additivity up to sign in every case (generic
chord, tangent, translation invariance for the kernel, the exceptional case reduced to these), then oddness + no 2-torsion on `E₁` (`IsoHom.additive_of_weak`).
`IsoHom11Inst.lean`: the kernel is `⟨T⟩ ≅ Z/11`, and the model.
-/
import PP.Proofs.IsoHom11Inst
import PP.Props.C14
import PP.Props.C16Inst

namespace PP
namespace C16Hom11

open WeierstrassCurve.Affine IsoPoly Iso
open IsoHom11 (E1' iso11Pt absE1' OnE1' Tk)
open C17 (hEffG1)

local notation "b₁" => g1Codec.b

/-- the isogenous curve is `y² = x³ + g1EllpA·x + g1EllpB` (`a₁ = a₂ = a₃ = 0`) -/
theorem E1'_coeffs : E1' = ⟨0, 0, 0, g1EllpA, g1EllpB⟩ := rfl

/-- `iso11Pt` is the RFC's `iso_map`: identity to identity, an affine point to `isoMapPoint …` -/
theorem iso11Pt_spec :
    iso11Pt 0 = 0 ∧ ∀ (x y : Fq) (h : E1'.Nonsingular x y),
      iso11Pt (Point.some x y h) = isoMapPoint b₁ iso11XNum iso11XDen iso11YNum iso11YDen x y :=
  ⟨rfl, fun _ _ _ => rfl⟩

/-- outside the kernel the image of an affine point is the affine point
    `(XN(x)/XD(x), y·YN(x)/YD(x))`; the kernel points (`K(x) = 0`, the poles) go to `O` -/
theorem iso11Pt_affine (x y : Fq) (h : E1'.Nonsingular x y) :
    (evalP iso11Ker x = 0 → iso11Pt (Point.some x y h) = 0) ∧
    (evalP iso11Ker x ≠ 0 → evalP iso11XDen x ≠ 0 ∧ evalP iso11YDen x ≠ 0 ∧
      ∃ h' : (W b₁).Nonsingular (evalP iso11XNum x / evalP iso11XDen x)
          (y * evalP iso11YNum x / evalP iso11YDen x),
        iso11Pt (Point.some x y h) = Point.some _ _ h') :=
  ⟨IsoHom11.iso11Pt_of_ker h, fun hk =>
    ⟨by rw [IsoHom11.xden_eq]; exact pow_ne_zero 2 hk, by rw [IsoHom11.yden_eq]; exact pow_ne_zero 3 hk,
      _, IsoHom11.iso11Pt_of_not_ker h hk⟩⟩

/-- **C16, homomorphism law (G1)**: the 11-isogeny is additive on `E₁'(Fq)` -/
theorem iso11_hom (P Q : E1'.Point) : iso11Pt (P + Q) = iso11Pt P + iso11Pt Q :=
  IsoHom11.iso11Pt_add P Q

theorem iso11_neg (P : E1'.Point) : iso11Pt (-P) = -iso11Pt P := IsoHom11.iso11Pt_neg P

/-- the isogeny as a homomorphism of Mathlib's groups of points -/
noncomputable def iso11Hom : E1'.Point →+ (W b₁).Point := IsoHom11.iso11Hom

theorem iso11Hom_apply (P : E1'.Point) : iso11Hom P = iso11Pt P := rfl

/-- the kernel: `O` and the affine points whose abscissa is a zero of the kernel polynomial -/
theorem iso11_ker_iff (P : E1'.Point) :
    iso11Pt P = 0 ↔ P = 0 ∨ ∃ x y h, P = Point.some x y h ∧ evalP iso11Ker x = 0 :=
  IsoHom11.iso11Pt_eq_zero_iff P

/-- the kernel is `{O, ±T, ±2T, ±3T, ±4T, ±5T}`, `kT = (tₖ, sₖ)` -/
theorem iso11_ker_points (P : E1'.Point) :
    iso11Pt P = 0 ↔ P = 0 ∨ ∃ k, (1 ≤ k ∧ k ≤ 5) ∧ (P = Tk k ∨ P = -Tk k) :=
  IsoHom11.iso11Pt_eq_zero_iff_Tk P

/-- `kT = k • T`, and `T` has order 11 -/
theorem iso11_ker_generator :
    (∀ k, 1 ≤ k ∧ k ≤ 5 → k • Tk 1 = Tk k) ∧ addOrderOf (Tk 1) = 11 :=
  ⟨IsoHom11.Tk_nsmul, IsoHom11.addOrderOf_T⟩

/-- the kernel is cyclic, generated by the rational point `T` -/
theorem iso11_ker_cyclic : iso11Hom.ker = AddSubgroup.zmultiples (Tk 1) :=
  IsoHom11.ker_eq_zmultiples

/-- it has 11 elements: the isogeny has degree 11 and all its kernel is rational -/
theorem iso11_ker_card : Nat.card iso11Hom.ker = 11 := IsoHom11.ker_card

/-- translation by a kernel point does not change the image -/
theorem iso11_translate (T P : E1'.Point) (hT : iso11Pt T = 0) : iso11Pt (P + T) = iso11Pt P :=
  IsoHom11.ti T P hT

/-- the model's `iso11` computes `iso11Pt` on every Jacobian representative of every point of `E₁'` -/
theorem abs_iso11 (p : Jac Fq) (hp : OnE1' p) : Jac.abs b₁ (iso11 p) = iso11Pt (absE1' p) :=
  IsoHom11.abs_iso11_eq_iso11Pt p hp

/-- **the law on Jacobian representatives**: if `r` denotes the sum in `E₁'` of the points denoted
    by `p` and `q`, then `iso11 r` denotes the sum in `E₁` of the points denoted by `iso11 p`, `iso11 q` -/
theorem iso11_add (p q r : Jac Fq) (hp : OnE1' p) (hq : OnE1' q) (hr : OnE1' r)
    (hsum : absE1' r = absE1' p + absE1' q) :
    Jac.abs b₁ (iso11 r) = Jac.abs b₁ (iso11 p) + Jac.abs b₁ (iso11 q) := by
  rw [abs_iso11 r hr, abs_iso11 p hp, abs_iso11 q hq, hsum, iso11_hom]

/-- … which is the point denoted by the model's `add_assign` (target-curve formulas) of the images -/
theorem iso11_add_model (p q r : Jac Fq) (hp : OnE1' p) (hq : OnE1' q) (hr : OnE1' r)
    (hsum : absE1' r = absE1' p + absE1' q) :
    Jac.abs b₁ (iso11 r) = Jac.abs b₁ ((iso11 p).add (iso11 q)) := by
  rw [iso11_add p q r hp hq hr hsum, C01.add_correct (iso11_onCurve' p hp) (iso11_onCurve' q hq)]

/-- non-vacuity of `iso11_add`: a representative of the sum always exists -/
theorem iso11_add_exists (p q : Jac Fq) (hp : OnE1' p) (hq : OnE1' q) :
    ∃ r, OnE1' r ∧ absE1' r = absE1' p + absE1' q ∧
      Jac.abs b₁ (iso11 r) = Jac.abs b₁ (iso11 p) + Jac.abs b₁ (iso11 q) := by
  obtain ⟨r, hr, e⟩ := IsoHom11.absE1'_surjective (absE1' p + absE1' q)
  exact ⟨r, hr, e, iso11_add p q r hp hq hr e⟩

/-- `map2_to_curve(u0, u1) = [h_eff]·iso_map(sswu(u0) + sswu(u1))`, the sum being the group law of
    `E₁'`: isogeny-then-add (the code, and the RFC) is add-then-isogeny -/
theorem g1_map2_eq_iso_of_sum (u0 u1 : Fq) :
    OnE1' (osswuG1 u0) ∧ OnE1' (osswuG1 u1) ∧ Jac.OnCurve b₁ (map2ToCurveG1 u0 u1) ∧
      Jac.abs b₁ (map2ToCurveG1 u0 u1) =
        hEffG1 • iso11Pt (absE1' (osswuG1 u0) + absE1' (osswuG1 u1)) := by
  have hp0 : OnE1' (osswuG1 u0) := Or.inr (sswuG1_onE' u0).2
  have hp1 : OnE1' (osswuG1 u1) := Or.inr (sswuG1_onE' u1).2
  obtain ⟨hon, habs⟩ := C14.g1_map2_eq u0 u1
  refine ⟨hp0, hp1, hon, ?_⟩
  rw [habs, abs_iso11 _ hp0, abs_iso11 _ hp1, iso11_hom]

end C16Hom11
end PP
