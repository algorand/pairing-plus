/-
C03 / C11 — BILINEARITY and NON-DEGENERACY of the pairing, unconditionally.

Combination of the two linearity results, each proved for all inputs without divisor theory:
* `PP.C03LinP` (linearity in the G1 argument): line–line reciprocity on explicit points, the Miller-loop
  invariant `pw F₁ · pw F₂ / pw F₃ = ε(Q)^k / ε([k]Q)`, the twisted Frobenius `π = [q]` on G2, `r ∣ |x| + q`;
* `PP.C03LinQ` (linearity in the G2 argument): Mathlib's coordinate ring of the curve over Fq12 — the ideal of a
  line is the product of the maximal ideals of its three zeros, units of the coordinate ring are constants,
  so the quotient of Miller functions has a constant value `c` with `c⁴ = 1`, killed by the final exponentiation.

Statements are about the MODEL's `pairing` (proved equal to the translation of the Rust code, `PP.GenPair`).
-/
import PP.Props.C03LinP
import PP.Props.C03LinQ

namespace PP.C03Bilinear
open PP

local notation "b₁" => g1Codec.b
local notation "b₂" => g2Codec.b

/-- linearity in the first argument in the shape `C03LinQ` asks for -/
theorem leftLinear : C03LinQ.LeftLinear := by
  intro p p' q a hp hp' hq ha
  have hpc : p.isOnCurve b₁ = true :=
    (Aff.isOnCurve_iff _ p).mpr ((Aff.inSubgroup_iff_inSub p).mp hp).1
  have hpc' : p'.isOnCurve b₁ = true :=
    (Aff.isOnCurve_iff _ p').mpr ((Aff.inSubgroup_iff_inSub p').mp hp').1
  obtain ⟨e, _, he, he'⟩ := C03LinP.pairing_nsmul_left p p' q a hpc hpc' hq ha
  rw [he, he']; rfl

/-- **bilinearity**: for `P ∈ G1`, `Q ∈ G2` and all `a b : ℕ`, if `P'` denotes `[a]P` and `Q'` denotes `[b]Q`
    then `e(P', Q') = e(P, Q)^(a·b)` (identities allowed everywhere; the pairing never fails on these inputs) -/
theorem bilinear (p p' : Aff Fq) (q q' : Aff Fq2) (a b : ℕ)
    (hp : Aff.inSubgroup b₁ p = true) (hp' : Aff.inSubgroup b₁ p' = true)
    (hq : Aff.inSubgroup b₂ q = true) (hq' : Aff.inSubgroup b₂ q' = true)
    (ha : Aff.abs b₁ p' = a • Aff.abs b₁ p) (hb : Aff.abs b₂ q' = b • Aff.abs b₂ q) :
    pairing p' q' = (pairing p q).map (· ^ (a * b)) :=
  C03LinQ.bilinear_of_left leftLinear p p' q q' a b hp hp' hq hq' ha hb

/-- **non-degeneracy**: on `G1 × G2`, `e(P, Q) = 1` exactly when `P` or `Q` is the point at infinity -/
theorem nondegenerate (p : Aff Fq) (q : Aff Fq2)
    (hp : Aff.inSubgroup b₁ p = true) (hq : Aff.inSubgroup b₂ q = true) :
    pairing p q = some 1 ↔ p.infinity = true ∨ q.infinity = true :=
  C03LinQ.nondegenerate_of_left leftLinear p q hp hq

/-- bilinearity with the model's own scalar multiplications (`CurveAffine::mul` on both sides), scalars `< 2^256` -/
theorem bilinear_mul (p : Aff Fq) (q : Aff Fq2) (a b : ℕ) (ha : a < 2 ^ 256) (hb : b < 2 ^ 256)
    (hp : Aff.inSubgroup b₁ p = true) (hq : Aff.inSubgroup b₂ q = true) :
    ∃ pa qb, (p.mul a).toAffine = some pa ∧ (q.mul b).toAffine = some qb ∧
      pairing pa qb = (pairing p q).map (· ^ (a * b)) := by
  have hpc : p.isOnCurve b₁ = true :=
    (Aff.isOnCurve_iff _ p).mpr ((Aff.inSubgroup_iff_inSub p).mp hp).1
  obtain ⟨pa, hpa, hpac, he'⟩ := C03LinP.pairing_mul_left p q a ha hpc hq
  obtain ⟨qb, hqb, -, he⟩ := C03LinQ.pairing_mul pa q b hb hpac hq
  refine ⟨pa, qb, hpa, hqb, ?_⟩
  rw [he, he']
  cases pairing p q with
  | none => rfl
  | some e => simp [pow_mul]

/-- **the exponent clause of C11**: if `Pᵢ` denotes `[aᵢ]P` and `Qᵢ` denotes `[bᵢ]Q` (`P ∈ G1`, `Q ∈ G2`), the product of
    pairings computed by ONE Miller loop and one final exponentiation is `e(P, Q)^(Σ aᵢ bᵢ)`; in particular it is `1`
    when the exponent sum vanishes modulo `r` (`pairing_pow_r`) -/
theorem multiProduct_exponent (p : Aff Fq) (q : Aff Fq2)
    (hp : Aff.inSubgroup b₁ p = true) (hq : Aff.inSubgroup b₂ q = true)
    (ts : List (Aff Fq × Aff Fq2 × ℕ × ℕ))
    (h : ∀ t ∈ ts, Aff.inSubgroup b₁ t.1 = true ∧ Aff.inSubgroup b₂ t.2.1 = true ∧
      Aff.abs b₁ t.1 = t.2.2.1 • Aff.abs b₁ p ∧ Aff.abs b₂ t.2.1 = t.2.2.2 • Aff.abs b₂ q) :
    pairingMultiProduct (ts.map (·.1)) (ts.map (·.2.1)) =
      (pairing p q).map (· ^ (ts.map (fun t => t.2.2.1 * t.2.2.2)).sum) := by
  have hpc : p.isOnCurve b₁ = true :=
    (Aff.isOnCurve_iff _ p).mpr ((Aff.inSubgroup_iff_inSub p).mp hp).1
  obtain ⟨e, _, he⟩ := C11Neg.pairing_some p q hpc hq
  rw [C11.pairingMultiProduct_eq_prod _ _ (by simp), he]
  induction ts with
  | nil => simp [Miller.optProd]
  | cons t ts ih =>
    obtain ⟨h1, h2, h3, h4⟩ := h t (List.mem_cons_self ..)
    have ih' := ih (fun t' ht' => h t' (List.mem_cons_of_mem _ ht'))
    have hb := bilinear p t.1 q t.2.1 t.2.2.1 t.2.2.2 hp h1 hq h2 h3 h4
    rw [he] at hb
    have hc : Miller.optProd (List.zipWith pairing ((t :: ts).map (·.1)) ((t :: ts).map (·.2.1))) =
        Miller.optMul (pairing t.1 t.2.1)
          (Miller.optProd (List.zipWith pairing (ts.map (·.1)) (ts.map (·.2.1)))) := rfl
    rw [hc, ih', hb]
    simp [Miller.optMul, pow_add]

end PP.C03Bilinear
