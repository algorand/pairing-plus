/-
Known answers of the SHA-256 and SHA-512 models (PP/Spec/Hash.lean), checked by the KERNEL: the FIPS 180-4
example messages ("abc", the empty message, the 448- and 896-bit messages) and the lengths around the padding
boundary (55/56/64 bytes for SHA-256, 111/112 for SHA-512).  The expected digests are those of Python's
hashlib; the published FIPS example digests (abc, empty, 448/896-bit) are among them.  These are TESTS of
the model, not part of any property: C13's theorems take the hash as a parameter (see PP.Props.HashLen).
The SHAKE models do not reduce in the kernel (their sponge loop is not structurally recursive); their known
answers are checked at run time by the correspondence check only.
What the kernel evaluates is `Hash.sha256N`/`Hash.sha512N`, the same algorithm on `Nat` words, which
`Hash.sha256_eq`/`Hash.sha512_eq` (PP.Proofs.HashEval) prove equal to the model for every message: the kernel is
slow on the `UInt32`/`UInt64` and `Array` operations of the model itself.
-/
import PP.Proofs.HashEval

namespace PP.HashKat
open PP

theorem sha256_empty : Hash.sha256 [] = [227, 176, 196, 66, 152, 252, 28, 20, 154, 251, 244, 200, 153, 111, 185, 36, 39, 174, 65, 228, 100, 155, 147, 76, 164, 149, 153, 27, 120, 82, 184, 85] := by rw [Hash.sha256_eq]; decide +kernel
theorem sha256_abc : Hash.sha256 [97, 98, 99] = [186, 120, 22, 191, 143, 1, 207, 234, 65, 65, 64, 222, 93, 174, 34, 35, 176, 3, 97, 163, 150, 23, 122, 156, 180, 16, 255, 97, 242, 0, 21, 173] := by rw [Hash.sha256_eq]; decide +kernel
theorem sha256_fips_448 : Hash.sha256 [97, 98, 99, 100, 98, 99, 100, 101, 99, 100, 101, 102, 100, 101, 102, 103, 101, 102, 103, 104, 102, 103, 104, 105, 103, 104, 105, 106, 104, 105, 106, 107, 105, 106, 107, 108, 106, 107, 108, 109, 107, 108, 109, 110, 108, 109, 110, 111, 109, 110, 111, 112, 110, 111, 112, 113] = [36, 141, 106, 97, 210, 6, 56, 184, 229, 192, 38, 147, 12, 62, 96, 57, 163, 60, 228, 89, 100, 255, 33, 103, 246, 236, 237, 212, 25, 219, 6, 193] := by rw [Hash.sha256_eq]; decide +kernel
theorem sha256_len55 : Hash.sha256 [97, 97, 97, 97, 97, 97, 97, 97, 97, 97, 97, 97, 97, 97, 97, 97, 97, 97, 97, 97, 97, 97, 97, 97, 97, 97, 97, 97, 97, 97, 97, 97, 97, 97, 97, 97, 97, 97, 97, 97, 97, 97, 97, 97, 97, 97, 97, 97, 97, 97, 97, 97, 97, 97, 97] = [159, 67, 144, 248, 211, 12, 45, 217, 46, 201, 240, 149, 182, 94, 43, 154, 233, 176, 169, 37, 165, 37, 142, 36, 28, 159, 30, 145, 15, 115, 67, 24] := by rw [Hash.sha256_eq]; decide +kernel
theorem sha256_len56 : Hash.sha256 [97, 97, 97, 97, 97, 97, 97, 97, 97, 97, 97, 97, 97, 97, 97, 97, 97, 97, 97, 97, 97, 97, 97, 97, 97, 97, 97, 97, 97, 97, 97, 97, 97, 97, 97, 97, 97, 97, 97, 97, 97, 97, 97, 97, 97, 97, 97, 97, 97, 97, 97, 97, 97, 97, 97, 97] = [179, 84, 57, 164, 172, 111, 9, 72, 182, 214, 249, 227, 198, 175, 15, 95, 89, 12, 226, 15, 27, 222, 112, 144, 239, 121, 112, 104, 110, 198, 115, 138] := by rw [Hash.sha256_eq]; decide +kernel
theorem sha256_len64 : Hash.sha256 [97, 97, 97, 97, 97, 97, 97, 97, 97, 97, 97, 97, 97, 97, 97, 97, 97, 97, 97, 97, 97, 97, 97, 97, 97, 97, 97, 97, 97, 97, 97, 97, 97, 97, 97, 97, 97, 97, 97, 97, 97, 97, 97, 97, 97, 97, 97, 97, 97, 97, 97, 97, 97, 97, 97, 97, 97, 97, 97, 97, 97, 97, 97, 97] = [255, 224, 84, 254, 122, 224, 203, 109, 198, 92, 58, 249, 182, 29, 82, 9, 244, 57, 133, 29, 180, 61, 11, 165, 153, 115, 55, 223, 21, 70, 104, 235] := by rw [Hash.sha256_eq]; decide +kernel
theorem sha512_empty : Hash.sha512 [] = [207, 131, 225, 53, 126, 239, 184, 189, 241, 84, 40, 80, 214, 109, 128, 7, 214, 32, 228, 5, 11, 87, 21, 220, 131, 244, 169, 33, 211, 108, 233, 206, 71, 208, 209, 60, 93, 133, 242, 176, 255, 131, 24, 210, 135, 126, 236, 47, 99, 185, 49, 189, 71, 65, 122, 129, 165, 56, 50, 122, 249, 39, 218, 62] := by rw [Hash.sha512_eq]; decide +kernel
theorem sha512_abc : Hash.sha512 [97, 98, 99] = [221, 175, 53, 161, 147, 97, 122, 186, 204, 65, 115, 73, 174, 32, 65, 49, 18, 230, 250, 78, 137, 169, 126, 162, 10, 158, 238, 230, 75, 85, 211, 154, 33, 146, 153, 42, 39, 79, 193, 168, 54, 186, 60, 35, 163, 254, 235, 189, 69, 77, 68, 35, 100, 60, 232, 14, 42, 154, 201, 79, 165, 76, 164, 159] := by rw [Hash.sha512_eq]; decide +kernel
theorem sha512_fips_896 : Hash.sha512 [97, 98, 99, 100, 101, 102, 103, 104, 98, 99, 100, 101, 102, 103, 104, 105, 99, 100, 101, 102, 103, 104, 105, 106, 100, 101, 102, 103, 104, 105, 106, 107, 101, 102, 103, 104, 105, 106, 107, 108, 102, 103, 104, 105, 106, 107, 108, 109, 103, 104, 105, 106, 107, 108, 109, 110, 104, 105, 106, 107, 108, 109, 110, 111, 105, 106, 107, 108, 109, 110, 111, 112, 106, 107, 108, 109, 110, 111, 112, 113, 107, 108, 109, 110, 111, 112, 113, 114, 108, 109, 110, 111, 112, 113, 114, 115, 109, 110, 111, 112, 113, 114, 115, 116, 110, 111, 112, 113, 114, 115, 116, 117] = [142, 149, 155, 117, 218, 227, 19, 218, 140, 244, 247, 40, 20, 252, 20, 63, 143, 119, 121, 198, 235, 159, 127, 161, 114, 153, 174, 173, 182, 136, 144, 24, 80, 29, 40, 158, 73, 0, 247, 228, 51, 27, 153, 222, 196, 181, 67, 58, 199, 211, 41, 238, 182, 221, 38, 84, 94, 150, 229, 91, 135, 75, 233, 9] := by rw [Hash.sha512_eq]; decide +kernel
theorem sha512_len111 : Hash.sha512 [97, 97, 97, 97, 97, 97, 97, 97, 97, 97, 97, 97, 97, 97, 97, 97, 97, 97, 97, 97, 97, 97, 97, 97, 97, 97, 97, 97, 97, 97, 97, 97, 97, 97, 97, 97, 97, 97, 97, 97, 97, 97, 97, 97, 97, 97, 97, 97, 97, 97, 97, 97, 97, 97, 97, 97, 97, 97, 97, 97, 97, 97, 97, 97, 97, 97, 97, 97, 97, 97, 97, 97, 97, 97, 97, 97, 97, 97, 97, 97, 97, 97, 97, 97, 97, 97, 97, 97, 97, 97, 97, 97, 97, 97, 97, 97, 97, 97, 97, 97, 97, 97, 97, 97, 97, 97, 97, 97, 97, 97, 97] = [250, 145, 33, 199, 179, 43, 158, 1, 115, 61, 3, 76, 252, 120, 203, 246, 127, 146, 108, 126, 216, 62, 130, 32, 14, 248, 104, 24, 25, 105, 33, 118, 11, 75, 239, 244, 132, 4, 223, 129, 27, 149, 56, 40, 39, 68, 97, 103, 60, 104, 208, 78, 41, 123, 14, 183, 178, 180, 214, 15, 198, 181, 102, 162] := by rw [Hash.sha512_eq]; decide +kernel
theorem sha512_len112 : Hash.sha512 [97, 97, 97, 97, 97, 97, 97, 97, 97, 97, 97, 97, 97, 97, 97, 97, 97, 97, 97, 97, 97, 97, 97, 97, 97, 97, 97, 97, 97, 97, 97, 97, 97, 97, 97, 97, 97, 97, 97, 97, 97, 97, 97, 97, 97, 97, 97, 97, 97, 97, 97, 97, 97, 97, 97, 97, 97, 97, 97, 97, 97, 97, 97, 97, 97, 97, 97, 97, 97, 97, 97, 97, 97, 97, 97, 97, 97, 97, 97, 97, 97, 97, 97, 97, 97, 97, 97, 97, 97, 97, 97, 97, 97, 97, 97, 97, 97, 97, 97, 97, 97, 97, 97, 97, 97, 97, 97, 97, 97, 97, 97, 97] = [192, 29, 8, 14, 253, 73, 39, 118, 161, 196, 59, 210, 61, 217, 157, 10, 46, 98, 109, 72, 30, 22, 120, 46, 117, 213, 76, 37, 3, 181, 220, 50, 189, 5, 240, 241, 186, 51, 229, 104, 184, 143, 210, 217, 112, 146, 155, 113, 158, 203, 177, 82, 245, 143, 19, 10, 64, 124, 136, 48, 96, 75, 112, 202] := by rw [Hash.sha512_eq]; decide +kernel

end PP.HashKat
