/-
OBLIGATIONS "GenPair": the pairing DRIVER of the hand-written model IS the Rust source.

`PP/Gen/Pair.lean` (namespace `PP.Gen.P`) is REGENERATED from /repo on every run of
/verif/extract/extract.py by /verif/extract/extract_pair.py: one Lean definition per Rust function, one
line per Rust statement.  The filter of identity pairs, the loop over the bits of `BLS_X >> 1` with
`found_one`, the coefficient iterators (`coeffs.next().unwrap()`), the order of `ell` rounds and
squarings, the final `ell` round, the conjugation, the preparation loop of `G2Prepared::from_affine`
and the way `pairing_multi_product` pairs its two slices are translated literally.  Each theorem below
states that such a regenerated definition is equal (as a function) to the hand-written model function
(`PP/Model/Pairing.lean`) that all other properties (C03, C11, C20 ..) are proved or tested about.  An
edit of one of these Rust functions changes the generated text, and the corresponding theorem no longer
compiles (or the extractor refuses the new shape), whether or not a test input exposes it.

Correspondence Rust -> generated -> model:
  ec/g1.rs   G1Prepared::{is_zero, from_affine}                 -> `.infinity`, the identity (newtype)
  mod.rs     G2Prepared::{is_zero, from_affine}                 -> `.infinity`, `PP.G2Prepared.fromAffine` (`prepareLoop`)
  ec/mod.rs  CurveAffine::prepare (macro, G1Affine / G2Affine)  -> the identity, `PP.G2Prepared.fromAffine`
  mod.rs     Bls12::miller_loop                                 -> `PP.millerLoop` (`millerLoopBits`, `ellAll`)
  lib.rs     Engine::{pairing, pairing_product, pairing_multi_product} (default methods, Self = Bls12)
                                                                -> `PP.pairing`, `PP.pairingProduct`, `PP.pairingMultiProduct`
  ec/g1.rs, ec/g2.rs  perform_pairing;  ec/mod.rs  CurveAffine::pairing_with (macro)
                                                                -> `PP.pairing` (arguments swapped for G2Affine)
(`ell`, `doubling_step`, `addition_step`, `final_exponentiation` are in Props/GenArith.lean.)

Differences of representation that are visible in the statements: `G1Prepared` is a newtype of
`G1Affine`, both are `Aff Fq` (so `from_affine` / `prepare` for G1 are the identity function);
a function that can PANIC is `Option`-valued in the generated code and in the model, `none` = panic
(`miller_loop`: a coefficient iterator runs dry, which `G2Prepared::from_affine` never produces;
`pairing*`: `final_exponentiation` of zero; `pairing_multi_product`: `q` shorter than `p`, an index out
of bounds -- while a LONGER `q` is silently truncated, as in the model).

Primitives that are not in /repo (std, ff crate) and are therefore NOT pinned down by these theorems but
taken as list operations: `Vec::push` (`++ [x]`), `slice::Iter::next` (head / tail), `Iterator::map` +
`collect` (`List.map`), `v[i]` (`v[i]?`, `none` = panic), `0..n` (`List.range`), `BitIterator::new`
(`bitsMSB`), `Option::unwrap`.

Proof method.  Every proof first rewrites the calls of functions generated in Arith.lean / earlier in
Pair.lean into the model's with the equalities already proved (`PP.GenArithLemmas`, this file), so that
each theorem stays LOCAL: an edit of `miller_loop` breaks `millerLoop` and nothing else.  The loops of
the generated code (`List.foldl` / `List.foldlM` over a state tuple) are turned into the model's
structural recursions by the lemmas of PP/Proofs/GenPair.lean, whose one-iteration hypotheses the
generated lambdas satisfy by `rfl`.
-/
import PP.Proofs.GenArith
import PP.Proofs.GenPair

namespace PP.GenPair
open PP PP.Gen PP.GenPairLemmas

/-! ## `G1Prepared`, `G2Prepared`, `CurveAffine::prepare` -/
theorem G1Prepared_isZero : P.G1Prepared.isZero = fun p => p.infinity := by
  unfold P.G1Prepared.isZero; rw [GenArithLemmas.Aff_isZero_eq]

theorem G1Prepared_fromAffine : P.G1Prepared.fromAffine = fun p => p := rfl
theorem G2Prepared_isZero : P.G2Prepared.isZero = fun q => q.infinity := rfl
theorem G2Prepared_fromAffine : P.G2Prepared.fromAffine = PP.G2Prepared.fromAffine := by
  funext q
  unfold P.G2Prepared.fromAffine
  lowerInst2
  rw [GenArithLemmas.Aff_isZero_eq, GenArithLemmas.Aff_toJac_eq, GenArithLemmas.doublingStep_eq,
    GenArithLemmas.additionStep_eq, blsBits_eq]
  unfold PP.G2Prepared.fromAffine
  rw [blsXBits_eq]
  generalize bitsMSB [Gen.BLS_X >>> 1] = bits
  dsimp only
  rw [foldl_prepare_skip q]
  case h0 => intro c r i; rfl
  case h1 => intro c r i; cases i <;> rfl
  all_goals rfl

theorem G1Affine_prepare : P.G1Affine.prepare = fun p => p := by
  unfold P.G1Affine.prepare; rw [G1Prepared_fromAffine]

theorem G2Affine_prepare : P.G2Affine.prepare = PP.G2Prepared.fromAffine := by
  unfold P.G2Affine.prepare; rw [G2Prepared_fromAffine]

/-! ## `Bls12::miller_loop` -/
theorem millerLoop : P.millerLoop = PP.millerLoop := by
  funext ps
  unfold P.millerLoop
  rw [G1Prepared_isZero, G2Prepared_isZero, GenArithLemmas.ell_eq, GenArithLemmas.Fq12_one_eq,
    GenArithLemmas.Fq12_square_eq, GenArithLemmas.Fq12_conjugate_eq, blsBits_eq]
  unfold PP.millerLoop
  rw [blsXBits_eq]
  generalize bitsMSB [Gen.BLS_X >>> 1] = bits
  dsimp only
  rw [foldl_filter]
  case h => intro acc p q; rfl
  rw [List.nil_append, foldlM_miller_skip]
  case h0 => intro pairs f i; rfl
  case h1 =>
    intro pairs f i
    unfold millerStep
    dsimp only
    rw [foldlM_ellAll_nil]
    case h0 => intro f acc p; rfl
    case h1 => intro f acc p c cs; rfl
    cases ellAll pairs f with
    | none => rfl
    | some r =>
      cases i with
      | false => rfl
      | true =>
        simp only [if_true]
        rw [foldlM_ellAll_nil]
        case h0 => intro f acc p; rfl
        case h1 => intro f acc p c cs; rfl
        cases ellAll r.2 r.1 <;> rfl
  generalize millerLoopBits (skipBits bits) _ 1 = m
  cases m with
  | none => rfl
  | some r =>
    simp only [Option.map_some]
    rw [foldlM_ellAll_nil]
    case h0 => intro f acc p; rfl
    case h1 => intro f acc p c cs; rfl
    show _ = (ellAll r.2 r.1 >>= fun x => pure (if BLS_X_IS_NEGATIVE = true then x.1.conjugate else x.1))
    cases ellAll r.2 r.1 with
    | none => rfl
    | some r2 =>
      generalize BLS_X_IS_NEGATIVE = b
      cases b <;> rfl

/-! ## default methods of `trait Engine` (Self = Bls12) -/

/-- `final_exponentiation(&miller_loop(..)).unwrap()` with both panics as `none` is the model's bind -/
local macro "opt_bind" : tactic => `(tactic| (
  generalize PP.finalExponentiation = fe
  generalize PP.millerLoop _ = a
  cases a with
  | none => rfl
  | some m =>
    show _ = fe m
    dsimp only
    cases fe m <;> rfl))

theorem pairing : P.pairing = PP.pairing := by
  funext p q
  unfold P.pairing PP.pairing
  rw [G1Affine_prepare, G2Affine_prepare, millerLoop, GenArithLemmas.finalExponentiation_eq]
  dsimp only
  opt_bind

theorem pairingProduct : P.pairingProduct = PP.pairingProduct := by
  funext p1 q1 p2 q2
  unfold P.pairingProduct PP.pairingProduct
  rw [G1Affine_prepare, G2Affine_prepare, millerLoop, GenArithLemmas.finalExponentiation_eq]
  dsimp only
  opt_bind

theorem pairingMultiProduct : P.pairingMultiProduct = PP.pairingMultiProduct := by
  funext ps qs
  unfold P.pairingMultiProduct PP.pairingMultiProduct
  rw [G1Affine_prepare, G2Affine_prepare, millerLoop, GenArithLemmas.finalExponentiation_eq]
  dsimp only
  rw [List.map_id', foldlM_index ps (List.map (fun v => PP.G2Prepared.fromAffine v) qs)]
  case h =>
    intro acc i
    cases ps[i]? with
    | none => rfl
    | some x => cases (List.map (fun v => PP.G2Prepared.fromAffine v) qs)[i]? <;> rfl
  case _hn => exact Nat.le_refl _
  rw [List.length_map, List.take_length, List.nil_append]
  by_cases hl : qs.length < ps.length
  · rw [if_neg (Nat.not_le_of_lt hl), if_pos hl]
  · rw [if_pos (Nat.le_of_not_lt hl), if_neg hl]
    rw [zip_take_length ps]
    dsimp only
    opt_bind

/-! ## `perform_pairing`, `CurveAffine::pairing_with` -/

/-- `match a with | none => none | some x => some x` is `a` -/
local macro "opt_id" : tactic => `(tactic| (
  generalize PP.pairing _ _ = a
  cases a <;> rfl))

theorem G1Affine_performPairing : P.G1Affine.performPairing = PP.pairing := by
  funext p q
  unfold P.G1Affine.performPairing
  rw [pairing]
  opt_id

theorem G2Affine_performPairing : P.G2Affine.performPairing = fun q p => PP.pairing p q := by
  funext q p
  unfold P.G2Affine.performPairing
  rw [pairing]
  opt_id

theorem G1Affine_pairingWith : P.G1Affine.pairingWith = PP.pairing := by
  funext p q
  unfold P.G1Affine.pairingWith
  rw [G1Affine_performPairing]
  opt_id

theorem G2Affine_pairingWith : P.G2Affine.pairingWith = fun q p => PP.pairing p q := by
  funext q p
  unfold P.G2Affine.pairingWith
  rw [G2Affine_performPairing]
  dsimp only
  opt_id

end PP.GenPair
