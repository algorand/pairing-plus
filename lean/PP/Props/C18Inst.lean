/-
C18, INSTANTIATED.  `Fq2::sqrt` (Algorithm 9 of eprint 2012/685 as implemented in fq2.rs): the
theorems of `PP/Props/C18.lean` are stated under the hypotheses `Fq2Sqrt.FieldHyp` (a `Field Fq2`
agreeing with the model's operations, Fermat's little theorem in `Fq2`, `frobenius_map(1) = (·)^q`).
They are discharged here by the tower proofs (`PP.fq2FieldHyp`): `*`, `IsSquare` below are those of
the `Field Fq2` of `PP/Proofs/Tower2.lean`, whose operations ARE the model's
(`Fq2.mul_eq : Fq2.mul a b = a * b := rfl`, etc.).  Nothing is left as a hypothesis.
-/
import PP.Proofs.Assembly

namespace PP.C18Inst

open PP

/-- a returned value is a square root -/
theorem fq2_sqrt_sound (a b : Fq2) (h : Fq2.sqrt a = some b) : b * b = a :=
  C18.fq2_sqrt_sound_of fq2FieldHyp a b h

/-- … also written with the model's multiplication function -/
theorem fq2_sqrt_sound' (a b : Fq2) (h : Fq2.sqrt a = some b) : Fq2.mul b b = a :=
  fq2_sqrt_sound a b h

/-- failure is reported exactly on non-squares -/
theorem fq2_sqrt_none_iff (a : Fq2) : Fq2.sqrt a = none ↔ ¬ IsSquare a :=
  C18.fq2_sqrt_none_iff_of fq2FieldHyp a

/-- a root of every square is returned -/
theorem fq2_sqrt_complete (a : Fq2) (h : IsSquare a) : ∃ b, Fq2.sqrt a = some b ∧ b * b = a :=
  C18.fq2_sqrt_complete_of fq2FieldHyp a h

/-- the decoder interface -/
example : LawfulSqrtOps Fq := inferInstance
example : LawfulSqrtOps Fr := inferInstance
example : LawfulSqrtOps Fq2 := inferInstance

/-- the interface's `sqrt` on `Fq2` is `Fq2.sqrt` -/
theorem sqrtOps_sqrt_fq2 (a : Fq2) : SqrtOps.sqrt a = Fq2.sqrt a := rfl

/-- soundness of `sqrt` through the `LawfulSqrtOps Fq2` instance, the form in which `get_point_from_x`
    on G2 (C04's decoders, C07's `random_candidate_inSub`) uses it -/
theorem fq2_sqrtOps_sound (a b : Fq2) (h : SqrtOps.sqrt a = some b) : b * b = a :=
  LawfulSqrtOps.sqrt_sound a b h

end PP.C18Inst
