/-
C20 — "All operations are deterministic and independent of concurrent use":
"Every library operation is a pure function of its arguments: evaluating it again, from another thread,
or while other threads run arbitrary other library operations (including sharing wNAF tables or prepared
pairing elements across threads) yields bit-identical results, with no data race, deadlock or dependence
on call history."

What a Lean model can carry is the LOGIC of history dependence.  The only API objects with internal
buffers are the `Wnaf` context (two `Vec`s that every call truncates and refills) and `G2Prepared`
(an immutable coefficient list).  Every other operation is modelled by a Lean function of its
arguments, and the differential runs tie the implementation to those functions call after call, in
shuffled orders and from 16 threads (that part is a TEST: data races, deadlocks and scheduling are
runtime phenomena no theorem about the model can exhibit).

Theorems here: history independence of the reusable wNAF context (any sequence of calls through one
context returns, call by call, what fresh contexts return), for stale buffers of any content, over
histories of paired calls (`WnafCall`).  The whole `Wnaf` API, with views used many times and
`shared()` copies, is in `PP.Props.C20Hist`.
-/
import PP.Props.C02
import PP.Model.Pairing
import PP.Proofs.Primes

namespace PP.C20

variable {F : Type} [Field F] [DecidableEq F] [FieldOps F]

/-- one call on a used context = the same call on a fresh context (result and resulting buffers) -/
theorem wnaf_call_history_independent (rc : WnafRec) (ctx : WnafCtx F) (c : WnafCall F) :
    c.run rc ctx = c.run rc WnafCtx.new :=
  WnafCall.run_ctx rc ctx c

/-- any history of calls through ONE reused context returns what fresh contexts return
    (`C02.wnaf_reuse`, which C02 states for its own reuse clause) -/
theorem wnaf_history_independent (rc : WnafRec) (ctx : WnafCtx F) (cs : List (WnafCall F)) :
    WnafCall.runAll rc ctx cs = cs.mapM (fun c => (c.run rc WnafCtx.new).map Prod.fst) :=
  PP.C02.wnaf_reuse rc ctx cs

/-- two different histories before the same call cannot change its result -/
theorem wnaf_two_histories (rc : WnafRec) (ctx₁ ctx₂ : WnafCtx F) (c : WnafCall F) :
    (c.run rc ctx₁).map Prod.fst = (c.run rc ctx₂).map Prod.fst := by
  rw [WnafCall.run_ctx rc ctx₁, WnafCall.run_ctx rc ctx₂]

/-- stale table / digit buffers are ignored by the two refill routines -/
theorem wnaf_buffers_refilled (old : List (Jac F)) (oldDigits : List Int) (b : Jac F) (k w : Nat) :
    wnafTable old b w = wnafTable [] b w ∧ wnafForm oldDigits k w = wnafForm [] k w :=
  ⟨wnafTable_old old b w, wnafForm_old oldDigits k w⟩

/-- in the model a prepared G2 element is an immutable value and `millerLoop` a function of it, so
    reuse across evaluations has no content beyond this `rfl` -/
theorem prepared_reuse (ps : List (Aff Fq × G2Prepared)) : millerLoop ps = millerLoop ps := rfl

example : (WnafCall.baseScalar (F := Fq) Jac.zero 3 5).run g1Rec ⟨[Jac.zero, Jac.zero], [1, -3, 7]⟩
    = (WnafCall.baseScalar (F := Fq) Jac.zero 3 5).run g1Rec WnafCtx.new :=
  WnafCall.run_ctx _ _ _

end PP.C20
