/-
PROPERTY C12.  "For every non-zero element f of Fq12 the final exponentiation succeeds and equals f
raised to 3(q^12-1)/r; it is therefore multiplicative, maps into the r-th roots of unity, and sends every
non-zero element of a proper subfield to 1. It reports failure exactly for f = 0."

How the statement is rendered.
* `finalExponentiation : Fq12 → Option Fq12` (`PP/Model/Pairing.lean`) is the model of
  `Engine::final_exponentiation`; `none` is the `None` of the Rust code (the `inverse` failed).
* `Fq12` carries the `Field` instance of `PP.Proofs.Tower`, whose `0 1 * ⁻¹` are the model's own
  operations, so `f ^ n` below is the monoid power for the model's multiplication.
* `3 * (Gen.q ^ 12 - 1) / Gen.r` is a natural number; the division is exact (`r_dvd`).
* "proper subfield": a Mathlib `Subfield Fq12` different from `⊤` (`proper_subfield`); also stated for
  the fixed fields of `x ↦ x^(q^d)`, `d ∣ 12`, `d ≠ 12`, and for the embedded `Fq6`, `Fq2`, `Fq`.
* multiplicativity is stated in `Option` and holds for ALL arguments (a zero factor makes both sides
  `none`).

No hypothesis other than those displayed; the primality of `q` comes from `PP.Proofs.Primes`.
-/
import PP.Proofs.FinalExp

namespace PP.C12
open PP

/-- for every non-zero `f` the final exponentiation succeeds and is `f ^ (3 (q¹² - 1) / r)` -/
theorem spec (f : Fq12) (hf : f ≠ 0) :
    finalExponentiation f = some (f ^ (3 * (Gen.q ^ 12 - 1) / Gen.r)) := FinalExp.fe_spec hf

/-- the exponent is an exact quotient: `r ∣ q¹² - 1` -/
theorem r_dvd : Gen.r ∣ Gen.q ^ 12 - 1 := FinalExp.r_dvd

theorem r_mul_exponent : Gen.r * (3 * (Gen.q ^ 12 - 1) / Gen.r) = 3 * (Gen.q ^ 12 - 1) :=
  FinalExp.r_mul_feTarget

/-- it reports failure exactly for `f = 0` -/
theorem none_iff (f : Fq12) : finalExponentiation f = none ↔ f = 0 := FinalExp.fe_none_iff f

theorem zero : finalExponentiation 0 = none := FinalExp.fe_zero

theorem isSome_iff (f : Fq12) : (finalExponentiation f).isSome = true ↔ f ≠ 0 :=
  FinalExp.fe_isSome_iff f

/-- multiplicative (all arguments; with a zero factor both sides are `none`) -/
theorem mul (f g : Fq12) :
    finalExponentiation (f * g) =
      (finalExponentiation f).bind fun a => (finalExponentiation g).map fun b => a * b :=
  FinalExp.fe_mul_all f g

/-- multiplicative, in terms of results -/
theorem mul_some (f g a b : Fq12) (ha : finalExponentiation f = some a)
    (hb : finalExponentiation g = some b) : finalExponentiation (f * g) = some (a * b) := by
  rw [mul, ha, hb]; rfl

theorem one : finalExponentiation 1 = some 1 := FinalExp.fe_one

theorem pow (f : Fq12) (hf : f ≠ 0) (n : ℕ) :
    finalExponentiation (f ^ n) = (finalExponentiation f).map (· ^ n) := FinalExp.fe_pow hf n

theorem inv (f : Fq12) (hf : f ≠ 0) :
    finalExponentiation f⁻¹ = (finalExponentiation f).map (·⁻¹) := FinalExp.fe_inv hf

/-- every result is an `r`-th root of unity -/
theorem pow_r (f y : Fq12) (h : finalExponentiation f = some y) : y ^ Gen.r = 1 :=
  FinalExp.fe_pow_r h

/-- every non-zero element of a proper subfield of `Fq12` is sent to `1` -/
theorem proper_subfield (K : Subfield Fq12) (hK : K ≠ ⊤) (f : Fq12) (hf : f ≠ 0) (hfK : f ∈ K) :
    finalExponentiation f = some 1 := FinalExp.fe_properSubfield K hK hf hfK

/-- the same for the fixed field of `x ↦ x^(qᵈ)`, `d` a proper divisor of 12 (the subfield with `qᵈ`
    elements) -/
theorem subfield_fixed_by_frobenius (f : Fq12) (hf : f ≠ 0) (d : ℕ) (hd : d ∣ 12) (hd' : d ≠ 12)
    (h : f ^ Gen.q ^ d = f) : finalExponentiation f = some 1 := FinalExp.fe_subfield hf hd hd' h

/-- the same with the model's Frobenius map -/
theorem subfield_fixed_by_frobeniusMap (f : Fq12) (hf : f ≠ 0) (d : ℕ) (hd : d ∣ 12) (hd' : d ≠ 12)
    (h : Fq12.frobeniusMap f d = f) : finalExponentiation f = some 1 :=
  FinalExp.fe_subfield hf hd hd' (by rw [← Fq12.frobenius_spec]; exact h)

theorem subfield_Fq6 (a : Fq6) (ha : a ≠ 0) : finalExponentiation (Fq12.ofFq6 a) = some 1 :=
  FinalExp.fe_ofFq6 ha

theorem subfield_Fq2 (a : Fq2) (ha : a ≠ 0) :
    finalExponentiation (Fq12.ofFq6 (Fq6.ofFq2 a)) = some 1 := FinalExp.fe_ofFq2 ha

theorem subfield_Fq (a : Fq) (ha : a ≠ 0) :
    finalExponentiation (Fq12.ofFq6 (Fq6.ofFq2 (Fq2.ofFq a))) = some 1 := FinalExp.fe_ofFq ha

/-! ## non-vacuity -/

/-- the hypotheses are satisfiable -/
example : (1 : Fq12) ≠ 0 := one_ne_zero

/-- there is a proper subfield (the hypothesis `K ≠ ⊤` is satisfiable): the embedded `Fq6` -/
example : (Fq12.ofFq6).fieldRange ≠ ⊤ := by
  intro h
  have hw : Fq12.w ∈ (Fq12.ofFq6).fieldRange := h ▸ Subfield.mem_top _
  obtain ⟨a, ha⟩ := RingHom.mem_fieldRange.mp hw
  have h1 : (0 : Fq6) = 1 := congrArg Fq12.c1 ha
  exact zero_ne_one h1

example : finalExponentiation 1 = some 1 := one

/-- the map is not trivial: evaluated by the kernel, `1 + w` is not sent to `1` (and does not fail) -/
example : finalExponentiation ⟨1, 1⟩ ≠ some 1 ∧ finalExponentiation ⟨1, 1⟩ ≠ none := by
  decide +kernel

end PP.C12
