/-
PROPERTY C08, limb level.  The UNROLLED `mul_assign`, `square` and `mont_reduce` that the `ff_derive`
proc-macro generates for `Fq` (6 limbs) and `Fr` (4 limbs) compute exactly the integer-level
word-by-word REDC model `PP.Mont.mul / square / montReduce` (about which `PP.Props.C08` proves
"multiplication modulo p") -- for ALL `u64` limb values, not only reduced inputs.

Objects.
* `Gen.FQ_MUL_PROG`, `Gen.FQ_SQUARE_PROG`, `Gen.FQ_MONT_REDUCE_PROG` (and `FR_…`): the bodies of the
  three functions, read from the macro-EXPANDED crate by `extract/extract_mont.py`, one IR instruction
  per Rust statement (`PP/Gen/MontProg.lean`; the Rust statement is printed next to each instruction).
* `MontLimb.runMul / runSquare / runMontReduce` (`PP/Model/MontLimb.lean`): the interpreter -- a register
  file of `u64` locals, `ff::adc` / `ff::mac_with_carry` in `u128`, `wrapping_mul`, `<<`, `>>`, `|`,
  the call of `mont_reduce` with parameter passing, and `reduce` = compare with `MODULUS` (derived
  `Ord`, `Mont.cmp`) and `sub_noborrow`.
* `limbsToNat` : little-endian value of a limb list.

Proof route.  (1) The six extracted instruction lists are LITERALLY the output of the Lean generators
`genMulProg n`, `genSquareProg n`, `genMontReduceProg n` for `n = 6, 4` (kernel-checked equality of
lists, section 1).  (2) For every `n` (`n ≥ 2` for `square`) and every well-formed parameter set the
interpretation of the generated program equals the integer-level function (section 2; induction over
rows / rounds, `PP/Proofs/MontLimb*.lean`).  The only facts about the constants that are used:
`INV·p ≡ −1 (mod 2^64)` and `p < 2^(64 n)` (both part of `Params.WF`, proved for the extracted constants
in `Mont.fqP_wf`, `Mont.frP_wf`).

Not covered here: that rustc/LLVM compile the expanded source faithfully; the meaning of the IR
instructions is the interpreter's (for `adc`/`mac_with_carry` the extractor checks that the `ff` crate
source has the expected bodies).
-/
import PP.Proofs.MontLimb3

-- the `…_limb_spec` theorems identify `P.W` with `2 ^ 384`, `2 ^ 256` by evaluation
set_option exponentiation.threshold 2048

namespace PP.C08Limb
open PP PP.Mont PP.MontLimb PP.Limbs

/-- a list of exactly `n` limbs, each a `u64` -/
def Limbs (n : Nat) (a : List Nat) : Prop := a.length = n ∧ ∀ l ∈ a, l < 2 ^ 64

/-! ## 1. the extracted programs are the generator's output (syntactic, kernel-checked) -/

theorem fq_mul_prog : Gen.FQ_MUL_PROG = genMulProg 6 := by decide +kernel
theorem fq_square_prog : Gen.FQ_SQUARE_PROG = genSquareProg 6 := by decide +kernel
theorem fq_mont_reduce_prog : Gen.FQ_MONT_REDUCE_PROG = genMontReduceProg 6 := by decide +kernel
theorem fr_mul_prog : Gen.FR_MUL_PROG = genMulProg 4 := by decide +kernel
theorem fr_square_prog : Gen.FR_SQUARE_PROG = genSquareProg 4 := by decide +kernel
theorem fr_mont_reduce_prog : Gen.FR_MONT_REDUCE_PROG = genMontReduceProg 4 := by decide +kernel
/-- `mont_reduce` takes `2n` words -/
theorem mont_reduce_nparams : Gen.FQ_MONT_REDUCE_NPARAMS = 2 * 6 ∧ Gen.FR_MONT_REDUCE_NPARAMS = 2 * 4 :=
  ⟨rfl, rfl⟩

/-! ## 2. generic in the limb count: the generated code computes the integer-level model -/

/-- `mul_assign` for `n = P.limbs` limbs, all `u64` limb values -/
theorem gen_mul_eq {P : Params} (h : P.WF) {a b : List Nat} (ha : Limbs P.limbs a) (hb : Limbs P.limbs b) :
    limbsToNat (runMul P (genMulProg P.limbs) (genMontReduceProg P.limbs) a b)
      = Mont.mul P (limbsToNat a) (limbsToNat b) :=
  genMul_correct h ha.2 hb.2 ha.1 hb.1

/-- `square` for `n = P.limbs ≥ 2` limbs, all `u64` limb values -/
theorem gen_square_eq {P : Params} (h : P.WF) (hn : 2 ≤ P.limbs) {a : List Nat} (ha : Limbs P.limbs a) :
    limbsToNat (runSquare P (genSquareProg P.limbs) (genMontReduceProg P.limbs) a)
      = Mont.square P (limbsToNat a) :=
  genSquare_correct h hn ha.2 ha.1

/-- `mont_reduce` for `n = P.limbs` limbs, all `2n` `u64` argument values -/
theorem gen_mont_reduce_eq {P : Params} (h : P.WF) {rs : List Nat} (hrs : Limbs (2 * P.limbs) rs) :
    limbsToNat (runMontReduce P (genMontReduceProg P.limbs) rs) = Mont.montReduce P (limbsToNat rs) :=
  genMontReduce_correct h hrs.2 hrs.1

/-- the result of any of the three functions is again `P.limbs` `u64` limbs -/
theorem run_limbs (P : Params) (prog mr : List Instr) {a b : List Nat} (ha : Limbs P.limbs a)
    (hb : ∀ l ∈ b, l < 2 ^ 64) : Limbs P.limbs (runMul P prog mr a b) :=
  ⟨out_length P _, out_ok P (run_ok P mr prog (initState_ok ha.2 hb))⟩

/-- `square` runs in the same machine as `mul_assign` (with no `other`) -/
theorem runSquare_eq (P : Params) (prog mr : List Instr) (a : List Nat) :
    runSquare P prog mr a = runMul P prog mr a [] := rfl

/-! ## 3. `Fq` -/

/-- `Fq::mul_assign`: the extracted limb program computes `Mont.mul fqP` -/
theorem fq_mul_limb_eq (a b : List Nat) (ha : Limbs 6 a) (hb : Limbs 6 b) :
    limbsToNat (runMul fqP Gen.FQ_MUL_PROG Gen.FQ_MONT_REDUCE_PROG a b)
      = Mont.mul fqP (limbsToNat a) (limbsToNat b) := by
  rw [fq_mul_prog, fq_mont_reduce_prog]
  exact gen_mul_eq fqP_wf ha hb

theorem fq_square_limb_eq (a : List Nat) (ha : Limbs 6 a) :
    limbsToNat (runSquare fqP Gen.FQ_SQUARE_PROG Gen.FQ_MONT_REDUCE_PROG a)
      = Mont.square fqP (limbsToNat a) := by
  rw [fq_square_prog, fq_mont_reduce_prog]
  exact gen_square_eq fqP_wf (by decide) ha

theorem fq_mont_reduce_limb_eq (rs : List Nat) (hrs : Limbs 12 rs) :
    limbsToNat (runMontReduce fqP Gen.FQ_MONT_REDUCE_PROG rs) = Mont.montReduce fqP (limbsToNat rs) := by
  rw [fq_mont_reduce_prog]
  exact gen_mont_reduce_eq fqP_wf hrs

/-! ## 4. `Fr` -/

theorem fr_mul_limb_eq (a b : List Nat) (ha : Limbs 4 a) (hb : Limbs 4 b) :
    limbsToNat (runMul frP Gen.FR_MUL_PROG Gen.FR_MONT_REDUCE_PROG a b)
      = Mont.mul frP (limbsToNat a) (limbsToNat b) := by
  rw [fr_mul_prog, fr_mont_reduce_prog]
  exact gen_mul_eq frP_wf ha hb

theorem fr_square_limb_eq (a : List Nat) (ha : Limbs 4 a) :
    limbsToNat (runSquare frP Gen.FR_SQUARE_PROG Gen.FR_MONT_REDUCE_PROG a)
      = Mont.square frP (limbsToNat a) := by
  rw [fr_square_prog, fr_mont_reduce_prog]
  exact gen_square_eq frP_wf (by decide) ha

theorem fr_mont_reduce_limb_eq (rs : List Nat) (hrs : Limbs 8 rs) :
    limbsToNat (runMontReduce frP Gen.FR_MONT_REDUCE_PROG rs) = Mont.montReduce frP (limbsToNat rs) := by
  rw [fr_mont_reduce_prog]
  exact gen_mont_reduce_eq frP_wf hrs

/-! ## 5. the executable entry points used by the differential tests, on raw values -/

theorem limbs_limbsOf (n x : Nat) : Limbs n (limbsOf n x) := ⟨limbsOf_length n x, limbsOf_ok n x⟩

theorem mulFq_eq (a b : Nat) : mulFq a b = Mont.mul fqP (a % 2 ^ 384) (b % 2 ^ 384) := by
  unfold mulFq
  rw [fq_mul_limb_eq _ _ (limbs_limbsOf 6 a) (limbs_limbsOf 6 b), limbsToNat_limbsOf, limbsToNat_limbsOf]
theorem squareFq_eq (a : Nat) : squareFq a = Mont.square fqP (a % 2 ^ 384) := by
  unfold squareFq
  rw [fq_square_limb_eq _ (limbs_limbsOf 6 a), limbsToNat_limbsOf]
theorem montReduceFq_eq (t : Nat) : montReduceFq t = Mont.montReduce fqP (t % 2 ^ 768) := by
  unfold montReduceFq
  rw [fq_mont_reduce_limb_eq _ (limbs_limbsOf 12 t), limbsToNat_limbsOf]
theorem mulFr_eq (a b : Nat) : mulFr a b = Mont.mul frP (a % 2 ^ 256) (b % 2 ^ 256) := by
  unfold mulFr
  rw [fr_mul_limb_eq _ _ (limbs_limbsOf 4 a) (limbs_limbsOf 4 b), limbsToNat_limbsOf, limbsToNat_limbsOf]
theorem squareFr_eq (a : Nat) : squareFr a = Mont.square frP (a % 2 ^ 256) := by
  unfold squareFr
  rw [fr_square_limb_eq _ (limbs_limbsOf 4 a), limbsToNat_limbsOf]
theorem montReduceFr_eq (t : Nat) : montReduceFr t = Mont.montReduce frP (t % 2 ^ 512) := by
  unfold montReduceFr
  rw [fr_mont_reduce_limb_eq _ (limbs_limbsOf 8 t), limbsToNat_limbsOf]

/-! ## 6. hence: the limb-level code multiplies modulo `p`

For reduced raw inputs `a, b < p` (the invariant every `Fq`/`Fr` value satisfies) the limb program's
result is reduced and is the Montgomery product: `result · 2^(64n) ≡ a·b (mod p)`, i.e.
`dec result = dec a · dec b mod p` for the decoding `dec x = x·2^(-64n) mod p` of `PP.Props.C08`. -/

/-- a raw value computed as `Mont.mul` of the inputs cut to `n` limbs, on reduced inputs -/
theorem limb_spec {P : Params} (h : P.WF) {a b x : Nat} (ha : a < P.p) (hb : b < P.p)
    (e : x = Mont.mul P (a % P.W) (b % P.W)) :
    x < P.p ∧ x * P.W % P.p = a * b % P.p ∧ dec P x = dec P a * dec P b % P.p := by
  rw [e, Nat.mod_eq_of_lt (lt_trans ha h.p_lt_W), Nat.mod_eq_of_lt (lt_trans hb h.p_lt_W)]
  exact ⟨(mul_spec h ha hb).1, (mul_spec h ha hb).2, dec_mul h ha hb⟩

theorem fq_mul_limb_spec {a b : Nat} (ha : a < fqP.p) (hb : b < fqP.p) :
    mulFq a b < fqP.p ∧ mulFq a b * 2 ^ 384 % fqP.p = a * b % fqP.p ∧
      dec fqP (mulFq a b) = dec fqP a * dec fqP b % fqP.p :=
  limb_spec fqP_wf ha hb (mulFq_eq a b)

theorem fq_square_limb_spec {a : Nat} (ha : a < fqP.p) :
    squareFq a < fqP.p ∧ squareFq a * 2 ^ 384 % fqP.p = a * a % fqP.p ∧
      dec fqP (squareFq a) = dec fqP a * dec fqP a % fqP.p :=
  limb_spec fqP_wf ha ha (squareFq_eq a)

theorem fr_mul_limb_spec {a b : Nat} (ha : a < frP.p) (hb : b < frP.p) :
    mulFr a b < frP.p ∧ mulFr a b * 2 ^ 256 % frP.p = a * b % frP.p ∧
      dec frP (mulFr a b) = dec frP a * dec frP b % frP.p :=
  limb_spec frP_wf ha hb (mulFr_eq a b)

theorem fr_square_limb_spec {a : Nat} (ha : a < frP.p) :
    squareFr a < frP.p ∧ squareFr a * 2 ^ 256 % frP.p = a * a % frP.p ∧
      dec frP (squareFr a) = dec frP a * dec frP a % frP.p :=
  limb_spec frP_wf ha ha (squareFr_eq a)

/-! ## 7. concrete runs of the interpreter in the kernel (sanity of the executable path) -/

example : mulFq Gen.fq_R2 Gen.fq_R2 = Mont.mul fqP Gen.fq_R2 Gen.fq_R2 := by decide +kernel
example : mulFq (2 ^ 384 - 1) (2 ^ 384 - 1) = Mont.mul fqP (2 ^ 384 - 1) (2 ^ 384 - 1) := by decide +kernel
example : mulFq (Gen.fq_MODULUS - 1) Gen.fq_R = Gen.fq_MODULUS - 1 := by decide +kernel
example : squareFq (Gen.fq_MODULUS - 1) = Mont.square fqP (Gen.fq_MODULUS - 1) := by decide +kernel
example : squareFq (2 ^ 384 - 1) = Mont.square fqP (2 ^ 384 - 1) := by decide +kernel
example : montReduceFq (2 ^ 768 - 1) = Mont.montReduce fqP (2 ^ 768 - 1) := by decide +kernel
example : mulFr Gen.fr_R2 Gen.fr_R2 = Mont.mul frP Gen.fr_R2 Gen.fr_R2 := by decide +kernel
example : mulFr (2 ^ 256 - 1) (2 ^ 256 - 1) = Mont.mul frP (2 ^ 256 - 1) (2 ^ 256 - 1) := by decide +kernel
example : squareFr (Gen.fr_MODULUS - 1) = Mont.square frP (Gen.fr_MODULUS - 1) := by decide +kernel
example : squareFr (2 ^ 256 - 1) = Mont.square frP (2 ^ 256 - 1) := by decide +kernel
example : montReduceFr (2 ^ 512 - 1) = Mont.montReduce frP (2 ^ 512 - 1) := by decide +kernel

end PP.C08Limb
