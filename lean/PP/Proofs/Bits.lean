/-
Pure `Nat` / bit lemmas behind the scalar-multiplication proofs (C02, C10):
the `BitIterator` order (`bitsMSB`), limbs, and the "digit column" identities used by the
interleaved table-driven multiplications.
-/
import Mathlib.Data.Nat.Bitwise
import Mathlib.Tactic.Ring
import PP.Model.Mul
import PP.Proofs.Limbs

namespace PP

/-! ## MSB-first bit lists -/

theorem ofBitsMSBAux_eq (acc : Nat) (bits : List Bool) :
    ofBitsMSBAux acc bits = acc * 2 ^ bits.length + ofBitsMSB bits := by
  induction bits generalizing acc with
  | nil => simp [ofBitsMSB]
  | cons b l ih =>
    simp only [ofBitsMSB, ofBitsMSBAux_cons, List.length_cons]
    rw [ih, ih (2 * 0 + b.toNat)]
    ring

@[simp] theorem ofBitsMSB_nil : ofBitsMSB [] = 0 := rfl

theorem ofBitsMSB_cons (b : Bool) (l : List Bool) :
    ofBitsMSB (b :: l) = b.toNat * 2 ^ l.length + ofBitsMSB l := by
  show ofBitsMSBAux (2 * 0 + b.toNat) l = _
  rw [ofBitsMSBAux_eq]; simp

theorem ofBitsMSB_append (a b : List Bool) :
    ofBitsMSB (a ++ b) = ofBitsMSB a * 2 ^ b.length + ofBitsMSB b := by
  show ofBitsMSBAux 0 (a ++ b) = _
  rw [ofBitsMSBAux_append, ofBitsMSBAux_eq]; rfl

theorem ofBitsMSB_lt (l : List Bool) : ofBitsMSB l < 2 ^ l.length := by
  induction l with
  | nil => simp
  | cons b l ih =>
    rw [ofBitsMSB_cons, List.length_cons, pow_succ, Nat.add_comm, Nat.mul_comm]
    exact Limbs.digit_lt ih (Bool.toNat_lt b)

theorem mod_two_pow_succ' (x i : Nat) :
    x % 2 ^ (i + 1) = x % 2 ^ i + 2 ^ i * (x.testBit i).toNat := by
  rw [Nat.mod_pow_succ, Nat.toNat_testBit]

@[simp] theorem length_wordBitsMSB (w n : Nat) : (wordBitsMSB w n).length = n := by
  induction n with
  | zero => rfl
  | succ n ih => simp [wordBitsMSB, ih]

theorem ofBitsMSB_wordBitsMSB (w n : Nat) : ofBitsMSB (wordBitsMSB w n) = w % 2 ^ n := by
  rw [ofBitsMSB, ofBitsMSBAux_wordBitsMSB, Nat.zero_mul, Nat.zero_add]

theorem wordBitsMSB_getElem? (w n i : Nat) :
    (wordBitsMSB w n)[i]? = if i < n then some (w.testBit (n - 1 - i)) else none := by
  induction n generalizing i with
  | zero => simp [wordBitsMSB]
  | succ n ih =>
    cases i with
    | zero => simp [wordBitsMSB]
    | succ i =>
      simp only [wordBitsMSB, List.getElem?_cons_succ, ih, Nat.add_lt_add_iff_right]
      congr 3
      omega

theorem wordBitsMSB_congr {w w' : Nat} (n : Nat) (h : ∀ i < n, w.testBit i = w'.testBit i) :
    wordBitsMSB w n = wordBitsMSB w' n := by
  induction n with
  | zero => rfl
  | succ n ih =>
    simp only [wordBitsMSB]
    rw [h n (Nat.lt_succ_self n), ih (fun i hi => h i (Nat.lt_succ_of_lt hi))]

theorem wordBitsMSB_add (w a b : Nat) :
    wordBitsMSB w (a + b) = wordBitsMSB (w >>> b) a ++ wordBitsMSB w b := by
  induction a with
  | zero => simp [wordBitsMSB]
  | succ a ih =>
    rw [Nat.add_right_comm, wordBitsMSB, wordBitsMSB, ih, Nat.testBit_shiftRight,
      Nat.add_comm b a]
    rfl

@[simp] theorem length_limbsOf (n k : Nat) : (limbsOf n k).length = n := Limbs.limbsOf_length n k

/-- `BitIterator` over the `n` limbs of `k` yields bits `64n-1 … 0` of `k`, most significant first. -/
theorem bitsMSB_limbsOf (n k : Nat) : bitsMSB (limbsOf n k) = wordBitsMSB k (64 * n) := by
  induction n generalizing k with
  | zero => rfl
  | succ n ih =>
    rw [limbsOf, bitsMSB, ih, Nat.mul_succ, wordBitsMSB_add, Nat.shiftRight_eq_div_pow]
    congr 1
    apply wordBitsMSB_congr
    intro i hi
    rw [Nat.testBit_mod_two_pow]; simp [hi]

theorem length_bitsMSB_limbsOf (n k : Nat) : (bitsMSB (limbsOf n k)).length = 64 * n := by
  rw [bitsMSB_limbsOf, length_wordBitsMSB]

theorem bitsMSB_limbsOf_getElem? (n k i : Nat) (hi : i < 64 * n) :
    (bitsMSB (limbsOf n k))[i]? = some (k.testBit (64 * n - 1 - i)) := by
  rw [bitsMSB_limbsOf, wordBitsMSB_getElem?, if_pos hi]

theorem ofBitsMSB_bitsMSB_limbsOf (n k : Nat) :
    ofBitsMSB (bitsMSB (limbsOf n k)) = k % 2 ^ (64 * n) := by
  rw [bitsMSB_limbsOf, ofBitsMSB_wordBitsMSB]

theorem ofBitsMSB_bitsMSB_limbsOf4 (k : Nat) :
    ofBitsMSB (bitsMSB (limbsOf 4 k)) = k % 2 ^ 256 :=
  ofBitsMSB_bitsMSB_limbsOf 4 k

/-! ## limbs -/

theorem limb_lt (k j : Nat) : limb k j < 2 ^ 64 := Nat.mod_lt _ (by decide)

theorem limb_testBit (k j i : Nat) :
    (limb k j).testBit i = (decide (i < 64) && k.testBit (64 * j + i)) := by
  rw [limb, Nat.testBit_mod_two_pow, Nat.testBit_shiftRight]

theorem limbsOf_eq_limbs_aux (n k j : Nat) :
    limbsOf n (k >>> (64 * j)) = (List.range n).map (fun i => limb k (j + i)) := by
  induction n generalizing j with
  | zero => rfl
  | succ n ih =>
    rw [limbsOf, List.range_succ_eq_map, List.map_cons, List.map_map]
    congr 1
    have : (k >>> (64 * j)) / 2 ^ 64 = k >>> (64 * (j + 1)) := by
      rw [← Nat.shiftRight_eq_div_pow, ← Nat.shiftRight_add]; congr 1
    rw [this, ih]
    apply List.map_congr_left
    intro i _
    simp [Nat.add_assoc, Nat.add_comm 1 i]

theorem limbsOf4 (k : Nat) : limbsOf 4 k = [limb k 0, limb k 1, limb k 2, limb k 3] := by
  have := limbsOf_eq_limbs_aux 4 k 0
  simpa [List.range_succ] using this

theorem getD_limbsOf4 (k j : Nat) (hj : j < 4) : (limbsOf 4 k).getD j 0 = limb k j := by
  rw [limbsOf4]
  rcases j with _ | _ | _ | _ | j <;> first | rfl | omega

theorem limbs_sum (k : Nat) :
    limb k 0 + 2 ^ 64 * limb k 1 + 2 ^ 128 * limb k 2 + 2 ^ 192 * limb k 3 = k % 2 ^ 256 := by
  have h := Limbs.limbsToNat_limbsOf 4 k
  rw [limbsOf4] at h
  simp only [limbsToNat] at h
  rw [← h]; ring

/-! ## digit columns

`cs` is a list of "pieces" of a scalar (piece `p` has weight `2^(s·p)`).  The interleaved
multiplications read, for `i` from the top down, the column `colBits cs i` (bit `i` of every piece)
and use it to index a table whose entry `n` holds `spread s m n` times the base. -/

/-- the number whose bit `p` is bit `i` of piece `p` -/
def colBits : List Nat → Nat → Nat
  | [], _ => 0
  | c :: cs, i => (c.testBit i).toNat + 2 * colBits cs i

/-- `Σ_p 2^(s p) · (c_p mod 2^i)` -/
def colVal (s : Nat) : List Nat → Nat → Nat
  | [], _ => 0
  | c :: cs, i => c % 2 ^ i + 2 ^ s * colVal s cs i

/-- replace base 2 by base `2^s` in the `m` low binary digits of `n`:
    `spread s m n = Σ_{b<m} bit_b(n) · 2^(s b)` -/
def spread (s : Nat) : Nat → Nat → Nat
  | 0, _ => 0
  | m + 1, n => n % 2 + 2 ^ s * spread s m (n / 2)

theorem colBits_lt (cs : List Nat) (i : Nat) : colBits cs i < 2 ^ cs.length := by
  induction cs with
  | nil => simp [colBits]
  | cons c cs ih =>
    rw [colBits, List.length_cons, pow_succ]
    have : (c.testBit i).toNat ≤ 1 := Bool.toNat_le _
    omega

@[simp] theorem colVal_zero (s : Nat) (cs : List Nat) : colVal s cs 0 = 0 := by
  induction cs with
  | nil => rfl
  | cons c cs ih => simp [colVal, ih, Nat.mod_one]

@[simp] theorem spread_zero (s m : Nat) : spread s m 0 = 0 := by
  induction m with
  | zero => rfl
  | succ m ih => simp [spread, ih]

theorem spread_colBits (s m : Nat) (cs : List Nat) (i : Nat) (h : cs.length ≤ m) :
    colVal s cs (i + 1) = colVal s cs i + 2 ^ i * spread s m (colBits cs i) := by
  induction cs generalizing m with
  | nil => simp [colVal, colBits]
  | cons c cs ih =>
    cases m with
    | zero => simp at h
    | succ m =>
      have hb : (c.testBit i).toNat ≤ 1 := Bool.toNat_le _
      have h1 : ((c.testBit i).toNat + 2 * colBits cs i) % 2 = (c.testBit i).toNat := by omega
      have h2 : ((c.testBit i).toNat + 2 * colBits cs i) / 2 = colBits cs i := by omega
      rw [colVal, colVal, colBits, spread, h1, h2, ih m (by simpa using h), mod_two_pow_succ']
      ring

theorem spread_two_pow_add (s m t i : Nat) (ht : t < m) (hi : i < 2 ^ t) :
    spread s m (2 ^ t + i) = 2 ^ (s * t) + spread s m i := by
  induction m generalizing t i with
  | zero => omega
  | succ m ih =>
    cases t with
    | zero =>
      have : i = 0 := by simpa using hi
      subst this
      simp [spread]
    | succ t =>
      rw [pow_succ, Nat.mul_comm] at hi
      have h1 : (2 ^ (t + 1) + i) % 2 = i % 2 := by rw [pow_succ]; exact Nat.mul_add_mod' _ _ _
      have h2 : (2 ^ (t + 1) + i) / 2 = 2 ^ t + i / 2 := by
        rw [pow_succ, Nat.mul_comm]; exact Nat.mul_add_div Nat.two_pos _ _
      rw [spread, spread, h1, h2, ih t (i / 2) (Nat.lt_of_succ_lt_succ ht) (Nat.div_lt_of_lt_mul hi),
        Nat.mul_succ, pow_add]
      ring

theorem spread_lt_two_pow (s m n : Nat) : spread s m n = spread s m (n % 2 ^ m) := by
  induction m generalizing n with
  | zero => rfl
  | succ m ih =>
    rw [spread, spread, ih (n / 2), ih (n % 2 ^ (m + 1) / 2)]
    have h1 : n % 2 ^ (m + 1) % 2 = n % 2 := by
      rw [pow_succ, Nat.mul_comm]; exact Nat.mod_mul_right_mod n 2 (2 ^ m)
    have h2 : n % 2 ^ (m + 1) / 2 % 2 ^ m = n / 2 % 2 ^ m := by
      rw [pow_succ, Nat.mul_comm, Nat.mod_mul_right_div_self, Nat.mod_mod]
    rw [h1, h2]

/-! ### the 4 × 64 interleaving of `mul_precomp_3` -/

private theorem or4 (c0 c1 c2 c3 : Bool) :
    c3.toNat * 8 ||| c2.toNat * 4 ||| c1.toNat * 2 ||| c0.toNat
      = c0.toNat + 2 * (c1.toNat + 2 * (c2.toNat + 2 * (c3.toNat + 2 * 0))) := by
  revert c0 c1 c2 c3; decide

theorem and_one_eq (x : Nat) : x &&& 1 = (x.testBit 0).toNat := by
  have := Nat.and_two_pow x 0; simpa using this
theorem and_2_eq (x : Nat) : x &&& 2 = (x.testBit 1).toNat * 2 := Nat.and_two_pow x 1
theorem and_4_eq (x : Nat) : x &&& 4 = (x.testBit 2).toNat * 4 := Nat.and_two_pow x 2
theorem and_8_eq (x : Nat) : x &&& 8 = (x.testBit 3).toNat * 8 := Nat.and_two_pow x 3
theorem and_16_eq (x : Nat) : x &&& 16 = (x.testBit 4).toNat * 16 := Nat.and_two_pow x 4
theorem and_32_eq (x : Nat) : x &&& 32 = (x.testBit 5).toNat * 32 := Nat.and_two_pow x 5
theorem and_64_eq (x : Nat) : x &&& 64 = (x.testBit 6).toNat * 64 := Nat.and_two_pow x 6
theorem and_128_eq (x : Nat) : x &&& 128 = (x.testBit 7).toNat * 128 := Nat.and_two_pow x 7

theorem nibbleAt_eq (b0 b1 b2 b3 i : Nat) :
    nibbleAt b0 b1 b2 b3 i = colBits [b0, b1, b2, b3] i := by
  simp only [nibbleAt, colBits, and_one_eq, and_2_eq, and_4_eq, and_8_eq, Nat.testBit_shiftLeft,
    Nat.testBit_shiftRight]
  simpa using or4 (b0.testBit i) (b1.testBit i) (b2.testBit i) (b3.testBit i)

theorem nibbleTop_eq (b0 b1 b2 b3 : Nat) :
    nibbleTop b0 b1 b2 b3 = colBits [b0, b1, b2, b3] 63 := by
  simp only [nibbleTop, colBits, and_one_eq, and_2_eq, and_4_eq, and_8_eq,
    Nat.testBit_shiftRight]
  simpa using or4 (b0.testBit 63) (b1.testBit 63) (b2.testBit 63) (b3.testBit 63)

theorem colVal_limbs64 (k : Nat) :
    colVal 64 [limb k 0, limb k 1, limb k 2, limb k 3] 64 = k % 2 ^ 256 := by
  simp only [colVal, Nat.mod_eq_of_lt (limb_lt k _)]
  rw [← limbs_sum]; ring

/-! ### the 8 × 32 interleaving of `mul_precomp_256` -/

private theorem or8 (c0 c1 c2 c3 c4 c5 c6 c7 : Bool) :
    c7.toNat * 128 ||| c6.toNat * 64 ||| c5.toNat * 32 ||| c4.toNat * 16 ||| c3.toNat * 8 |||
        c2.toNat * 4 ||| c1.toNat * 2 ||| c0.toNat
      = c0.toNat + 2 * (c1.toNat + 2 * (c2.toNat + 2 * (c3.toNat + 2 * (c4.toNat + 2 *
          (c5.toNat + 2 * (c6.toNat + 2 * (c7.toNat + 2 * 0))))))) := by
  revert c0 c1 c2 c3 c4 c5 c6 c7; decide

/-- the eight 32-bit pieces of four 64-bit limbs -/
def pieces32 (b0 b1 b2 b3 : Nat) : List Nat :=
  [b0, b0 >>> 32, b1, b1 >>> 32, b2, b2 >>> 32, b3, b3 >>> 32]

theorem byteAt_eq (b0 b1 b2 b3 i : Nat) :
    byteAt b0 b1 b2 b3 i = colBits (pieces32 b0 b1 b2 b3) i := by
  simp only [byteAt, pieces32, colBits, and_one_eq, and_2_eq, and_4_eq, and_8_eq, and_16_eq,
    and_32_eq, and_64_eq, and_128_eq, Nat.testBit_shiftLeft, Nat.testBit_shiftRight, Nat.reduceSub,
    Nat.add_zero, ge_iff_le, Nat.le_refl, decide_true, Bool.true_and, Nat.add_comm i 32]
  exact or8 _ _ _ _ _ _ _ _

theorem byteTop_eq (b0 b1 b2 b3 : Nat) :
    byteTop b0 b1 b2 b3 = colBits (pieces32 b0 b1 b2 b3) 31 := by
  simp only [byteTop, pieces32, colBits, and_one_eq, and_2_eq, and_4_eq, and_8_eq, and_16_eq,
    and_32_eq, and_64_eq, and_128_eq, Nat.testBit_shiftRight, Nat.reduceAdd]
  exact or8 _ _ _ _ _ _ _ _

theorem colBits_pieces32_lt (b0 b1 b2 b3 i : ℕ) : colBits (pieces32 b0 b1 b2 b3) i < 256 := by
  have := colBits_lt (pieces32 b0 b1 b2 b3) i
  simpa [pieces32] using this

private theorem split32 (b : Nat) (hb : b < 2 ^ 64) :
    b % 2 ^ 32 + 2 ^ 32 * ((b >>> 32) % 2 ^ 32) = b := by
  rw [Nat.shiftRight_eq_div_pow]; omega

theorem colVal_pieces32 (k : Nat) :
    colVal 32 (pieces32 (limb k 0) (limb k 1) (limb k 2) (limb k 3)) 32 = k % 2 ^ 256 := by
  simp only [colVal, pieces32]
  rw [← limbs_sum]
  have h0 := split32 _ (limb_lt k 0)
  have h1 := split32 _ (limb_lt k 1)
  have h2 := split32 _ (limb_lt k 2)
  have h3 := split32 _ (limb_lt k 3)
  generalize limb k 0 = a0 at *
  generalize limb k 1 = a1 at *
  generalize limb k 2 = a2 at *
  generalize limb k 3 = a3 at *
  conv_rhs => rw [← h0, ← h1, ← h2, ← h3]
  ring

end PP
