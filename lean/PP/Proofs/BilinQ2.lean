/-
Linearity of the pairing in its second argument: the accumulators of the textbook loop of a point killed
by `r` have `x ≠ 0` (a finite point with `x = 0` has order 3), so that the verticals through them take
non-zero values at rational points.
-/
import PP.Proofs.BilinQIdeal
import PP.Proofs.BilinPFrob
import PP.Proofs.NegPair
import PP.Proofs.Lines2

namespace PP
namespace BilinQ

open WeierstrassCurve.Affine Ate Lines

local notation "b₂" => g2Codec.b

/-- a finite point of `E'(Fq2)` killed by `r` has `x ≠ 0` -/
theorem repr_x_ne_zero {T : Fq2 × Fq2} {R : E2} (hT : Repr T R) (hr : Gen.r • R = 0) : T.1 ≠ 0 :=
  CoordOf.x_ne_zero three_coprime_r hT hr

/-- all the accumulators of the chain have `x ≠ 0` -/
def XNZ (Q : Fq2 × Fq2) : List Bool → Fq2 × Fq2 → Prop
  | [], _ => True
  | bit :: bs, T =>
    (affDouble T).1 ≠ 0 ∧
      if bit then (affAdd (affDouble T) Q).1 ≠ 0 ∧ XNZ Q bs (affAdd (affDouble T) Q)
      else XNZ Q bs (affDouble T)

theorem xnz_of_regular (Q : Fq2 × Fq2) (S : E2) (hQ : Repr Q S) (hr : Gen.r • S = 0) (bs : List Bool)
    (k : ℕ) (T : Fq2 × Fq2) (hT : Repr T (k • S)) (hreg : Regular Q bs T) : XNZ Q bs T := by
  induction bs generalizing k T with
  | nil => trivial
  | cons bit bs ih =>
    have hy : T.2 ≠ 0 := hreg.1
    have hD : Repr (affDouble T) ((2 * k) • S) := by
      have := CoordOf.double hT hy
      rwa [← two_nsmul, ← mul_nsmul'] at this
    have hk : ∀ j : ℕ, Gen.r • (j • S) = 0 := fun j => by rw [smul_comm, hr]; exact nsmul_zero j
    have hD0 : (affDouble T).1 ≠ 0 := repr_x_ne_zero hD (hk _)
    cases bit with
    | false =>
      have h2 := hreg.2
      simp only [Bool.false_eq_true, if_false] at h2
      exact ⟨hD0, by simpa using ih (2 * k) (affDouble T) hD h2⟩
    | true =>
      have h2 := hreg.2
      simp only [if_true] at h2
      have hA : Repr (affAdd (affDouble T) Q) ((2 * k + 1) • S) := by
        rw [succ_nsmul]; exact CoordOf.chord hD hQ h2.1
      exact ⟨hD0, by simpa using ⟨repr_x_ne_zero hA (hk _), ih (2 * k + 1) _ hA h2.2⟩⟩

end BilinQ
end PP
