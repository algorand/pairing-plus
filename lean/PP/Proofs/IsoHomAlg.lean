/-
C16, homomorphism law of the 3-isogeny, layer 0: the rational-function identities.

Everything is written with the abscissa shifted by the kernel abscissa: `ξ = x − 6s`.  For a
parameter `s` of a field `F` (characteristic not 2, 3) consider

    E'_s : y² = x³ − 120 s² x + 506 s³      i.e.   y² = fS(ξ),  fS(ξ) = ξ³ + 18sξ² − 12s²ξ + 2s³
    E_s  : y² = x³ + 2 s³

and the map (Vélu's 3-isogeny with kernel `{O, (6s, ±√(2s³))}` followed by `(x, y) ↦ (x/9, −y/27)`)

    φ(x, y) = ( nS(ξ) / (9 ξ²),  −y · mS(ξ) / (27 ξ³) ).

(For `F = Fq2`, `s = −1 + u` these are the curves `E₂'`, `E₂` and the map `iso_map` of RFC 9380
appendix E.3; that is checked in `PP/Proofs/IsoHomInst.lean`.)

This file proves, by `ring` / `linear_combination` on SMALL expressions only (the chord identity has
total degree 23 when expanded; it is split so that no step expands more than degree 15 in three
variables):

* `phi_onCurve`    : `φ` sends `E'_s` to `E_s`;
* `phiX_sub`       : `X(ξ₁) − X(ξ₂) = (ξ₁ − ξ₂)·G(ξ₁,ξ₂) / (9ξ₁²ξ₂²)`;
* `sum_mul_diff`   : `ξ(P₁+P₂) · ξ(P₁−P₂) · (ξ₁−ξ₂)² = G(ξ₁,ξ₂)` — so `G` vanishes only if `P₁ ± P₂` is a
                     kernel point;
* `add_x`          : the abscissa of `φ(P₁ + P₂)` is the abscissa of `φ(P₁) + φ(P₂)` (chord case);
* `dbl_shift`, `dbl_x` : same for the tangent case, and `ξ(2P) = ξ·mS(ξ)/(4y²)`.
-/
import Mathlib.Tactic.LinearCombination
import Mathlib.Tactic.FieldSimp
import Mathlib.Tactic.Ring
import Mathlib.Tactic.NormNum
import Mathlib.Algebra.Field.Basic

namespace PP
namespace IsoHom

variable {F : Type} [Field F]

/-- right-hand side of `E'_s` in the shifted abscissa `ξ = x − 6s` -/
def fS (s ξ : F) : F := ξ^3 + 18*s*ξ^2 - 12*s^2*ξ + 2*s^3
/-- numerator of the `x`-map (shifted abscissa); the denominator is `9ξ²` -/
def nS (s ξ : F) : F := ξ^3 + 6*s*ξ^2 - 24*s^2*ξ + 8*s^3
/-- numerator of the `y`-map (shifted abscissa), up to the sign; the denominator is `27ξ³` -/
def mS (s ξ : F) : F := ξ^3 + 24*s^2*ξ - 16*s^3
/-- `(N(ξ₁)ξ₂² − N(ξ₂)ξ₁²) / (ξ₁ − ξ₂)` -/
def gS (s ξ₁ ξ₂ : F) : F := ξ₁^2*ξ₂^2 + 24*s^2*ξ₁*ξ₂ - 8*s^3*(ξ₁+ξ₂)

/-- the isogeny, `x`-coordinate, as a function of the shifted abscissa -/
def phiX (s ξ : F) : F := nS s ξ / (9 * ξ^2)
/-- the isogeny: the factor of `y` in the `y`-coordinate -/
def phiY (s ξ : F) : F := -(mS s ξ) / (27 * ξ^3)

theorem nine_ne (h3 : (3:F) ≠ 0) : (9:F) ≠ 0 := by
  have : (9:F) = 3*3 := by norm_num
  rw [this]; exact mul_ne_zero h3 h3

theorem twentyseven_ne (h3 : (3:F) ≠ 0) : (27:F) ≠ 0 := by
  have : (27:F) = 3*3*3 := by norm_num
  rw [this]; exact mul_ne_zero (mul_ne_zero h3 h3) h3

theorem four_ne (h2 : (2:F) ≠ 0) : (4:F) ≠ 0 := by
  have : (4:F) = 2*2 := by norm_num
  rw [this]; exact mul_ne_zero h2 h2

/-- the isogeny identity `f·M² = N³ + 1458 s³ ξ⁶` -/
theorem onCurve_id (s ξ : F) : fS s ξ * (mS s ξ)^2 = (nS s ξ)^3 + 1458*s^3*ξ^6 := by
  unfold fS mS nS; ring

theorem phi_onCurve (s ξ y : F) (h3 : (3:F) ≠ 0) (hξ : ξ ≠ 0) (h : y^2 = fS s ξ) :
    (y * phiY s ξ)^2 = (phiX s ξ)^3 + 2*s^3 := by
  have h9 := nine_ne h3
  have h27 := twentyseven_ne h3
  have hid := onCurve_id s ξ
  unfold phiX phiY
  generalize fS s ξ = f at *
  generalize mS s ξ = m at *
  generalize nS s ξ = n at *
  field_simp
  linear_combination (729 * m^2) * h + 729 * hid

/-- The source curve `y² = x³ − 120s²x + 506s³` has no point `(x, 0)`: `φ` would send it to a point
    `(X, 0)` of the target curve `y² = x³ + 2s³` (the abscissa `x = 6s` of the kernel gives `2s³ = 0`). -/
theorem src_no_root (s : F) (h3 : (3:F) ≠ 0) (hb : 2*s^3 ≠ 0) (no2 : ∀ x : F, x^3 + 2*s^3 ≠ 0) (x : F) :
    x^3 + (-120*s^2)*x + 506*s^3 ≠ 0 := by
  intro h
  by_cases hξ : x - 6*s = 0
  · apply hb
    rw [sub_eq_zero.mp hξ] at h
    linear_combination h
  · have e := phi_onCurve s (x - 6*s) 0 h3 hξ (by unfold fS; linear_combination -h)
    rw [zero_mul, zero_pow two_ne_zero] at e
    exact no2 _ e.symm

theorem phiX_sub (s ξ₁ ξ₂ : F) (h1 : ξ₁ ≠ 0) (h2 : ξ₂ ≠ 0) (h3 : (3:F) ≠ 0) :
    phiX s ξ₁ - phiX s ξ₂ = (ξ₁ - ξ₂) * gS s ξ₁ ξ₂ / (9 * ξ₁^2 * ξ₂^2) := by
  have h9 := nine_ne h3
  unfold phiX nS gS
  field_simp
  ring

/-- `X(ξ)` in terms of `w = 1/ξ` -/
theorem phiX_inv (s ξ w : F) (h3 : (3:F) ≠ 0) (h : ξ * w = 1) :
    phiX s ξ = (ξ + 6*s - 24*s^2*w + 8*s^3*w^2) / 9 := by
  have hξ : ξ ≠ 0 := left_ne_zero_of_mul_eq_one h
  have h9 := nine_ne h3
  unfold phiX nS
  rw [div_eq_div_iff (mul_ne_zero h9 (pow_ne_zero 2 hξ)) h9]
  linear_combination (9 * (24*s^2*ξ - 8*s^3*(ξ*w + 1))) * h

/-- the chord identity with `p = y₁y₂`, denominators cleared -/
theorem core_x (s ξ₁ ξ₂ p : F) (hp : p^2 = fS s ξ₁ * fS s ξ₂) :
    ξ₁^2*ξ₂^2*(gS s ξ₁ ξ₂)^2*((fS s ξ₁ + fS s ξ₂ - (ξ₁ + ξ₂ + 18*s) * (ξ₁ - ξ₂)^2) - 2*p)
      + 6*s*ξ₁^2*ξ₂^2*(ξ₁ - ξ₂)^2*(gS s ξ₁ ξ₂)^2
      - 24*s^2*ξ₁^2*ξ₂^2*(ξ₁ - ξ₂)^2*(gS s ξ₁ ξ₂)
          *((fS s ξ₁ + fS s ξ₂ - (ξ₁ + ξ₂ + 18*s) * (ξ₁ - ξ₂)^2) + 2*p)
      + 8*s^3*ξ₁^2*ξ₂^2*(ξ₁ - ξ₂)^2
          *((fS s ξ₁ + fS s ξ₂ - (ξ₁ + ξ₂ + 18*s) * (ξ₁ - ξ₂)^2) + 2*p)^2
      + (nS s ξ₁*ξ₂^2 + nS s ξ₂*ξ₁^2)*(ξ₁ - ξ₂)^2*(gS s ξ₁ ξ₂)^2
    = fS s ξ₁*(mS s ξ₁)^2*ξ₂^6 + fS s ξ₂*(mS s ξ₂)^2*ξ₁^6 - 2*p*mS s ξ₁*mS s ξ₂*ξ₁^3*ξ₂^3 := by
  simp only [fS, nS, mS, gS] at hp ⊢
  linear_combination (32*s^3*ξ₁^2*ξ₂^2*(ξ₁-ξ₂)^2) * hp

/-- `(a − 2p)(a + 2p) = G·(ξ₁−ξ₂)²`: the numerators of `ξ(P₁+P₂)` and `ξ(P₁−P₂)` -/
theorem uu' (s ξ₁ ξ₂ p : F) (hp : p^2 = fS s ξ₁ * fS s ξ₂) :
    ((fS s ξ₁ + fS s ξ₂ - (ξ₁ + ξ₂ + 18*s) * (ξ₁ - ξ₂)^2) - 2*p) *
      ((fS s ξ₁ + fS s ξ₂ - (ξ₁ + ξ₂ + 18*s) * (ξ₁ - ξ₂)^2) + 2*p)
      = gS s ξ₁ ξ₂ * (ξ₁ - ξ₂)^2 := by
  simp only [fS, gS] at hp ⊢
  linear_combination (-4) * hp

/-- shifted abscissa of `P₁ + P₂` (chord) -/
def xiAdd (s ξ₁ ξ₂ y₁ y₂ : F) : F := ((y₁ - y₂) / (ξ₁ - ξ₂))^2 - ξ₁ - ξ₂ - 18*s

theorem xiAdd_eq (s ξ₁ ξ₂ y₁ y₂ : F) (hδ : ξ₁ ≠ ξ₂) (h₁ : y₁^2 = fS s ξ₁) (h₂ : y₂^2 = fS s ξ₂) :
    xiAdd s ξ₁ ξ₂ y₁ y₂ =
      ((fS s ξ₁ + fS s ξ₂ - (ξ₁ + ξ₂ + 18*s) * (ξ₁ - ξ₂)^2) - 2*(y₁*y₂)) / (ξ₁ - ξ₂)^2 := by
  have hδ' : ξ₁ - ξ₂ ≠ 0 := sub_ne_zero.mpr hδ
  unfold xiAdd
  rw [← h₁, ← h₂]
  field_simp
  ring

/-- `ξ(P₁+P₂)·ξ(P₁−P₂)·(ξ₁−ξ₂)² = G(ξ₁, ξ₂)` -/
theorem sum_mul_diff (s ξ₁ ξ₂ y₁ y₂ : F) (hδ : ξ₁ ≠ ξ₂) (h₁ : y₁^2 = fS s ξ₁)
    (h₂ : y₂^2 = fS s ξ₂) :
    xiAdd s ξ₁ ξ₂ y₁ y₂ * xiAdd s ξ₁ ξ₂ y₁ (-y₂) * (ξ₁ - ξ₂)^2 = gS s ξ₁ ξ₂ := by
  have hδ' : ξ₁ - ξ₂ ≠ 0 := sub_ne_zero.mpr hδ
  have h₂' : (-y₂)^2 = fS s ξ₂ := by rw [neg_sq]; exact h₂
  have hp : (y₁*y₂)^2 = fS s ξ₁ * fS s ξ₂ := by rw [mul_pow, h₁, h₂]
  have huu := uu' s ξ₁ ξ₂ (y₁*y₂) hp
  rw [xiAdd_eq s ξ₁ ξ₂ y₁ y₂ hδ h₁ h₂, xiAdd_eq s ξ₁ ξ₂ y₁ (-y₂) hδ h₁ h₂']
  generalize fS s ξ₁ + fS s ξ₂ - (ξ₁ + ξ₂ + 18*s) * (ξ₁ - ξ₂)^2 = a at *
  generalize gS s ξ₁ ξ₂ = G at *
  field_simp
  linear_combination huu

theorem slope_img (s ξ₁ ξ₂ y₁ y₂ : F) (h3 : (3:F) ≠ 0) (h1 : ξ₁ ≠ 0) (h2 : ξ₂ ≠ 0) (hδ : ξ₁ ≠ ξ₂)
    (hG : gS s ξ₁ ξ₂ ≠ 0) :
    (y₁ * phiY s ξ₁ - y₂ * phiY s ξ₂) / (phiX s ξ₁ - phiX s ξ₂) =
      -(y₁ * mS s ξ₁ * ξ₂^3 - y₂ * mS s ξ₂ * ξ₁^3) / (3 * ξ₁ * ξ₂ * (ξ₁ - ξ₂) * gS s ξ₁ ξ₂) := by
  have hδ' : ξ₁ - ξ₂ ≠ 0 := sub_ne_zero.mpr hδ
  have h9 := nine_ne h3
  have h27 := twentyseven_ne h3
  rw [phiX_sub s ξ₁ ξ₂ h1 h2 h3]
  unfold phiY
  generalize gS s ξ₁ ξ₂ = G at *
  generalize mS s ξ₁ = M₁
  generalize mS s ξ₂ = M₂
  field_simp
  ring

/-- chord case: the abscissa of `φ(P₁ + P₂)` is that of `φ(P₁) + φ(P₂)` -/
theorem add_x (s ξ₁ ξ₂ y₁ y₂ : F) (h3 : (3:F) ≠ 0) (h1 : ξ₁ ≠ 0) (h2 : ξ₂ ≠ 0) (hδ : ξ₁ ≠ ξ₂)
    (hG : gS s ξ₁ ξ₂ ≠ 0) (h₁ : y₁^2 = fS s ξ₁) (h₂ : y₂^2 = fS s ξ₂) :
    phiX s (xiAdd s ξ₁ ξ₂ y₁ y₂) =
      ((y₁ * phiY s ξ₁ - y₂ * phiY s ξ₂) / (phiX s ξ₁ - phiX s ξ₂))^2
        - phiX s ξ₁ - phiX s ξ₂ := by
  have hδ' : ξ₁ - ξ₂ ≠ 0 := sub_ne_zero.mpr hδ
  have h9 := nine_ne h3
  have hp : (y₁*y₂)^2 = fS s ξ₁ * fS s ξ₂ := by rw [mul_pow, h₁, h₂]
  have huu := uu' s ξ₁ ξ₂ (y₁*y₂) hp
  have core := core_x s ξ₁ ξ₂ (y₁*y₂) hp
  have hS : (y₁ * mS s ξ₁ * ξ₂^3 - y₂ * mS s ξ₂ * ξ₁^3)^2 =
      fS s ξ₁*(mS s ξ₁)^2*ξ₂^6 + fS s ξ₂*(mS s ξ₂)^2*ξ₁^6
        - 2*(y₁*y₂)*mS s ξ₁*mS s ξ₂*ξ₁^3*ξ₂^3 := by
    linear_combination ((mS s ξ₁)^2*ξ₂^6) * h₁ + ((mS s ξ₂)^2*ξ₁^6) * h₂
  rw [slope_img s ξ₁ ξ₂ y₁ y₂ h3 h1 h2 hδ hG, neg_div, neg_sq, div_pow, hS]
  have hu := xiAdd_eq s ξ₁ ξ₂ y₁ y₂ hδ h₁ h₂
  have hw : xiAdd s ξ₁ ξ₂ y₁ y₂ *
      (((fS s ξ₁ + fS s ξ₂ - (ξ₁ + ξ₂ + 18*s) * (ξ₁ - ξ₂)^2) + 2*(y₁*y₂)) / gS s ξ₁ ξ₂) = 1 := by
    rw [hu]
    generalize fS s ξ₁ + fS s ξ₂ - (ξ₁ + ξ₂ + 18*s) * (ξ₁ - ξ₂)^2 = a at *
    generalize gS s ξ₁ ξ₂ = G at *
    field_simp
    linear_combination huu
  rw [phiX_inv s _ _ h3 hw, hu]
  unfold phiX
  generalize fS s ξ₁ + fS s ξ₂ - (ξ₁ + ξ₂ + 18*s) * (ξ₁ - ξ₂)^2 = a at *
  generalize gS s ξ₁ ξ₂ = G at *
  generalize y₁ * y₂ = p at *
  generalize fS s ξ₁ = F₁ at *
  generalize fS s ξ₂ = F₂ at *
  generalize mS s ξ₁ = M₁ at *
  generalize mS s ξ₂ = M₂ at *
  generalize nS s ξ₁ = N₁ at *
  generalize nS s ξ₂ = N₂ at *
  field_simp
  linear_combination 9 * core

/-- shifted abscissa of `2P` (tangent); `3ξ² + 36sξ − 12s²` is `3x² − 120s²` at `x = ξ + 6s` -/
def xiDbl (s ξ y : F) : F := ((3*ξ^2 + 36*s*ξ - 12*s^2) / (2*y))^2 - 2*ξ - 18*s

/-- `ξ(2P) = ξ·M(ξ) / (4y²)` -/
theorem dbl_shift (s ξ y : F) (h2 : (2:F) ≠ 0) (hy : y ≠ 0) (h : y^2 = fS s ξ) :
    xiDbl s ξ y = ξ * mS s ξ / (4 * y^2) := by
  have h4 := four_ne h2
  unfold xiDbl
  rw [div_pow, mul_pow, h]
  have hf : fS s ξ ≠ 0 := by rw [← h]; exact pow_ne_zero 2 hy
  field_simp
  unfold fS mS
  ring

/-- tangent case: the abscissa of `φ(2P)` is that of `2φ(P)` -/
theorem dbl_x (s ξ y : F) (h2 : (2:F) ≠ 0) (h3 : (3:F) ≠ 0) (hξ : ξ ≠ 0) (hy : y ≠ 0)
    (hm : mS s ξ ≠ 0) (h : y^2 = fS s ξ) :
    phiX s (xiDbl s ξ y) =
      (3 * (phiX s ξ)^2 / (2 * (y * phiY s ξ)))^2 - 2 * phiX s ξ := by
  have h4 := four_ne h2
  have h9 := nine_ne h3
  have h27 := twentyseven_ne h3
  have hf : fS s ξ ≠ 0 := by rw [← h]; exact pow_ne_zero 2 hy
  have hR : (3 * (phiX s ξ)^2 / (2 * (y * phiY s ξ)))^2 =
      9 * (phiX s ξ)^4 / (4 * (fS s ξ * (phiY s ξ)^2)) := by
    rw [div_pow, mul_pow, mul_pow, mul_pow, h]; ring
  rw [dbl_shift s ξ y h2 hy h, hR, h]
  unfold phiX phiY nS
  field_simp
  unfold fS mS
  ring

end IsoHom
end PP
