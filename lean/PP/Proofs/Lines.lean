/-
C03, the line coefficients: `doubling_step` / `addition_step` of the model (`PP/Model/Pairing.lean`)
against the textbook tangent and chord lines of `PP/Spec/Ate.lean`, and the model's Miller loop
against the textbook Miller loop.  Pure algebra: no curve equation and no group law is used in this
file; the exceptional cases of the affine chord-and-tangent formulas are excluded by the explicit
predicate `Regular` (discharged from a hypothesis on the order of `Q` in `PP/Proofs/Lines2.lean`).

* `doublingStep_eq`, `additionStep_eq`: closed forms of the two steps (point and coefficients).
* `doublingStep_aff`, `additionStep_aff`: the new accumulator is a Jacobian representative of the affine
  double / sum (formulas of `Ate.affDouble`, `Ate.affAdd`).
* `line_eq`: the dense element of `ell` is `c₂ + c₁ x_P w² + c₀ y_P w³`.
* `doublingStep_line`: `line c p = ι(4 Y Z³) · w³ · (tangent at ψ(T) evaluated at P)`, `T = (X/Z², Y/Z³)`;
  `additionStep_line`: `line c p = ι(4 Z H) · w³ · (chord through ψ(T), ψ(Q) evaluated at P)`,
  `H = x_Q Z² - X`.
* `Unitish c`: `c = ι a · (w³)ⁿ` with `a ∈ Fq2ˣ` - the only factors by which model and textbook differ;
  `w³` lies in the subfield `Fq4` (`(w³)² = ξ`), so these are killed by the final exponentiation
  (`Unitish.fe`).
* `millerLoop_eq_textbook_of_regular`: the model's Miller loop is `conj(c · textbookMiller)`, `c` unitish.
-/
import PP.Spec.Ate
import PP.Proofs.Miller
import PP.Proofs.GroupModelInst
import PP.Proofs.CoordMap

namespace PP
namespace Lines

open Ate Miller

/-! ## the Jacobian formulas at `Z = 1`

With the slope `l` of the tangent or chord as a variable and its defining equation as the only
hypothesis (`tangentSlope_mul`, `chordSlope_mul`) these are polynomial identities; `Z` and the untwist
come in afterwards by the change of coordinates `cmap`. -/

section generic
variable {K : Type} [Field K]

/-- Jacobian doubling (dbl-2009-l): the numerators of `2A`, `A = (X, Y)`, over `(2Y)²`, `(2Y)³` -/
theorem affDouble_jac (X Y : K) (hY : Y ≠ 0) (h2 : (2 : K) ≠ 0) :
    affDouble (X, Y) = cmap (RingHom.id K) (2 * Y)⁻¹
      (9 * X ^ 4 - 8 * X * Y ^ 2, 3 * X ^ 2 * (12 * X * Y ^ 2 - 9 * X ^ 4) - 8 * Y ^ 4) := by
  have hl := tangentSlope_mul (A := (X, Y)) h2 hY
  apply eq_cmap_inv (mul_ne_zero h2 hY)
  · simp only [affDouble, sumOfSlope] at hl ⊢
    generalize tangentSlope (X, Y) = l at hl ⊢
    linear_combination (l * (2 * Y) + 3 * X ^ 2) * hl
  · simp only [affDouble, sumOfSlope] at hl ⊢
    generalize tangentSlope (X, Y) = l at hl ⊢
    linear_combination
      (12 * X * Y ^ 2 - ((l * (2 * Y)) ^ 2 + 3 * X ^ 2 * (l * (2 * Y)) + 9 * X ^ 4)) * hl

/-- Jacobian mixed addition (madd-2007-bl): the numerators of `A + B`, `A = (X, Y)`, `B = (U, S)`, over
    `(2H)²`, `(2H)³`, `H = U - X` -/
theorem affAdd_jac (X Y U S : K) (hH : U - X ≠ 0) (h2 : (2 : K) ≠ 0) :
    affAdd (X, Y) (U, S) = cmap (RingHom.id K) (2 * (U - X))⁻¹
      ((2 * (S - Y)) ^ 2 - 4 * (U - X) ^ 3 - 8 * X * (U - X) ^ 2,
       (4 * X * (U - X) ^ 2 - ((2 * (S - Y)) ^ 2 - 4 * (U - X) ^ 3 - 8 * X * (U - X) ^ 2))
          * (2 * (S - Y)) - 8 * Y * (U - X) ^ 3) := by
  have hl := chordSlope_mul (A := (X, Y)) (B := (U, S)) (fun e => hH (sub_eq_zero.mpr e.symm))
  apply eq_cmap_inv (mul_ne_zero h2 hH)
  · simp only [affAdd, sumOfSlope] at hl ⊢
    generalize chordSlope (X, Y) (U, S) = l at hl ⊢
    linear_combination (4 * ((U - X) * l + (S - Y))) * hl
  · simp only [affAdd, sumOfSlope] at hl ⊢
    generalize chordSlope (X, Y) (U, S) = l at hl ⊢
    linear_combination (8 * (U - X) ^ 2 * (X - (l ^ 2 - X - U))
      - 8 * (S - Y) * (l * (U - X) + (S - Y))) * hl

/-- the three coefficients of `doubling_step`, combined as `c₂ + c₁ x_P W² + c₀ y_P W³`, are
    `4YZ³ · W³` times the tangent at `(X, Y)` scaled by `(ZW)⁻¹`, evaluated at `P`: at `Z = W = 1`
    they are `(4Y, -6X², 6X³ - 4Y²)`, the tangent with its denominator `2Y` cleared -/
theorem tangent_identity (X Y Z xP yP W : K) (hY : Y ≠ 0) (hZ : Z ≠ 0) (hW : W ≠ 0)
    (h2 : (2 : K) ≠ 0) :
    (6 * X ^ 3 - 4 * Y ^ 2) + (-(6 * X ^ 2 * Z ^ 2)) * xP * W ^ 2 + (4 * Y * Z ^ 3) * yP * W ^ 3 =
      (4 * Y * Z ^ 3) * W ^ 3 * tangentAt (cmap (RingHom.id K) (Z * W)⁻¹ (X, Y)) (xP, yP) := by
  have hu : Z * W ≠ 0 := mul_ne_zero hZ hW
  have hl := tangentSlope_mul (A := (X, Y)) h2 hY
  have h3 : (Z * W) ^ 3 * ((Z * W)⁻¹) ^ 3 = 1 := by rw [← mul_pow, mul_inv_cancel₀ hu, one_pow]
  conv_rhs => rw [← cmap_inv_cmap hu (xP, yP), tangentAt_cmap _ (inv_ne_zero hu)]
  simp only [tangentAt, lineAt, cmap, RingHom.id_apply] at hl ⊢
  generalize tangentSlope (X, Y) = l at hl ⊢
  linear_combination (2 * ((Z * W) ^ 2 * xP - X)) * hl
    - (4 * Y * ((Z * W) ^ 3 * yP - Y - l * ((Z * W) ^ 2 * xP - X))) * h3

/-- the same for `addition_step` and the chord through `A = (X, Y)` and `B = (x_Q Z², y_Q Z³)`; the
    factor is `4ZH · W³`, `H = x_Q Z² - X`.  At `Z = W = 1` the coefficients are
    `(4H, -4(y_B - Y), 4(y_B - Y) x_B - 4 y_B H)`; `addition_step` has the third divided by `Z²`. -/
theorem chord_identity (X Y Z xQ yQ xP yP W : K) (hZ : Z ≠ 0) (hW : W ≠ 0)
    (hH : xQ * Z ^ 2 - X ≠ 0) :
    (4 * (yQ * Z ^ 3 - Y) * xQ - 4 * yQ * Z * (xQ * Z ^ 2 - X))
      + (-(4 * (yQ * Z ^ 3 - Y))) * xP * W ^ 2 + (4 * Z * (xQ * Z ^ 2 - X)) * yP * W ^ 3 =
      (4 * Z * (xQ * Z ^ 2 - X)) * W ^ 3 *
        chordAt (cmap (RingHom.id K) (Z * W)⁻¹ (X, Y))
          (cmap (RingHom.id K) (Z * W)⁻¹ (xQ * Z ^ 2, yQ * Z ^ 3)) (xP, yP) := by
  have hu : Z * W ≠ 0 := mul_ne_zero hZ hW
  have hl := chordSlope_mul (A := (X, Y)) (B := (xQ * Z ^ 2, yQ * Z ^ 3))
    (fun e => hH (sub_eq_zero.mpr e.symm))
  have h3 : (Z * W) ^ 3 * ((Z * W)⁻¹) ^ 3 = 1 := by rw [← mul_pow, mul_inv_cancel₀ hu, one_pow]
  conv_rhs => rw [← cmap_inv_cmap hu (xP, yP), chordAt_cmap _ (inv_ne_zero hu)]
  apply mul_left_cancel₀ (pow_ne_zero 2 hZ)
  simp only [chordAt, lineAt, cmap, RingHom.id_apply] at hl ⊢
  generalize chordSlope (X, Y) (xQ * Z ^ 2, yQ * Z ^ 3) = l at hl ⊢
  linear_combination (4 * ((Z * W) ^ 2 * xP - X)) * hl
    - (4 * (xQ * Z ^ 2 - X) * ((Z * W) ^ 3 * yP - Y - l * ((Z * W) ^ 2 * xP - X))) * h3

end generic

/-! ## `Fq2 ⊂ Fq12`, `w` -/

theorem w_ne_zero : Fq12.w ≠ 0 := fun h => by
  have : (1 : Fq6) = 0 := congrArg Fq12.c1 h
  exact one_ne_zero this

theorem ι_injective : Function.Injective ι :=
  Fq12.ofFq6_injective.comp Fq6.ofFq2_injective

theorem ι_ne_zero {a : Fq2} (h : a ≠ 0) : ι a ≠ 0 := fun e =>
  h (ι_injective (by rw [e, map_zero]))

theorem fq12_two_ne_zero : (2 : Fq12) ≠ 0 := by
  have : (2 : Fq12) = ι 2 := (map_ofNat ι 2).symm
  rw [this]; exact ι_ne_zero fq2_two_ne_zero

theorem w_pow_three : Fq12.w ^ 3 = ⟨0, Fq6.v⟩ := by
  rw [pow_succ, Fq12.w_pow_two]
  ext1 <;> simp [Fq12.mul_c0, Fq12.mul_c1, Fq12.w]

/-- `w⁶ = ξ`: the tower realises `Fq12 = Fq2[w]/(w⁶ - ξ)` -/
theorem w_pow_six : Fq12.w ^ 6 = ι Fq2.xi := by
  have : Fq12.w ^ 6 = (Fq12.w ^ 2) ^ 3 := by ring
  rw [this, Fq12.w_pow_two, ← map_pow, Fq6.v_pow_three]; rfl

theorem Fq2.mul_ofFq_eq (c : Fq2) (x : Fq) : c * Fq2.ofFq x = ⟨c.c0 * x, c.c1 * x⟩ := by
  ext <;> simp [Fq2.mul_c0, Fq2.mul_c1]

/-! ## the dense element of `ell` -/

/-- `line c p = c₂ + c₁ x_P · w² + c₀ y_P · w³` -/
theorem line_eq (c : Coeff) (p : Aff Fq) :
    line c p = ι c.2.2 + ι c.2.1 * κ p.x * Fq12.w ^ 2 + ι c.1 * κ p.y * Fq12.w ^ 3 := by
  have h1 : ι c.2.1 * κ p.x = ι ⟨c.2.1.c0 * p.x, c.2.1.c1 * p.x⟩ := by
    rw [κ, RingHom.comp_apply, ← map_mul, Fq2.mul_ofFq_eq]
  have h2 : ι c.1 * κ p.y = ι ⟨c.1.c0 * p.y, c.1.c1 * p.y⟩ := by
    rw [κ, RingHom.comp_apply, ← map_mul, Fq2.mul_ofFq_eq]
  rw [h1, h2, w_pow_three, Fq12.w_pow_two]
  unfold line
  generalize (⟨c.2.1.c0 * p.x, c.2.1.c1 * p.x⟩ : Fq2) = a
  generalize (⟨c.1.c0 * p.y, c.1.c1 * p.y⟩ : Fq2) = b
  simp only [ι, RingHom.comp_apply]
  ext1
  · simp only [Fq12.add_c0, Fq12.mul_c0, Fq12.ofFq6_c0, Fq12.ofFq6_c1]
    ext1 <;> simp [Fq6.mul_c0, Fq6.mul_c1, Fq6.mul_c2, Fq6.v]
  · simp only [Fq12.add_c1, Fq12.mul_c1, Fq12.ofFq6_c0, Fq12.ofFq6_c1]
    ext1 <;> simp [Fq6.mul_c0, Fq6.mul_c1, Fq6.mul_c2, Fq6.v]

/-! ## closed forms of the two steps -/

/-- `doubling_step`: the point is the dbl-2009-l double (with `Z₃ = 2YZ` computed as
    `(Y+Z)² - Y² - Z²`), the coefficients are `(4YZ³, -6X²Z², 6X³ - 4Y²)` -/
theorem doublingStep_eq (r : Jac Fq2) :
    doublingStep r =
      (⟨9 * r.x ^ 4 - 8 * r.x * r.y ^ 2,
        3 * r.x ^ 2 * (12 * r.x * r.y ^ 2 - 9 * r.x ^ 4) - 8 * r.y ^ 4, 2 * (r.y * r.z)⟩,
       (4 * r.y * r.z ^ 3, -(6 * r.x ^ 2 * r.z ^ 2), 6 * r.x ^ 3 - 4 * r.y ^ 2)) := by
  simp only [doublingStep, LawfulFieldOps.sq_eq, LawfulFieldOps.dbl_eq, Prod.mk.injEq, Jac.mk.injEq]
  refine ⟨⟨?_, ?_, ?_⟩, ?_, ?_, ?_⟩ <;> ring

/-- `addition_step`: with `H = x_Q Z² - X`, `R = 2(y_Q Z³ - Y)` the point is the madd-2007-bl sum
    `(R² - 4H³ - 8XH², (4XH² - X₃)R - 8YH³, 2ZH)`, the coefficients are
    `(4ZH, -4(y_Q Z³ - Y), 4(y_Q Z³ - Y) x_Q - 4 y_Q Z H)` -/
theorem additionStep_eq (r : Jac Fq2) (q : Aff Fq2) :
    additionStep r q =
      (⟨(2 * (q.y * r.z ^ 3 - r.y)) ^ 2 - 4 * (q.x * r.z ^ 2 - r.x) ^ 3
          - 8 * r.x * (q.x * r.z ^ 2 - r.x) ^ 2,
        (4 * r.x * (q.x * r.z ^ 2 - r.x) ^ 2 - ((2 * (q.y * r.z ^ 3 - r.y)) ^ 2
          - 4 * (q.x * r.z ^ 2 - r.x) ^ 3 - 8 * r.x * (q.x * r.z ^ 2 - r.x) ^ 2))
            * (2 * (q.y * r.z ^ 3 - r.y)) - 8 * r.y * (q.x * r.z ^ 2 - r.x) ^ 3,
        2 * (r.z * (q.x * r.z ^ 2 - r.x))⟩,
       (4 * r.z * (q.x * r.z ^ 2 - r.x), -(4 * (q.y * r.z ^ 3 - r.y)),
        4 * (q.y * r.z ^ 3 - r.y) * q.x - 4 * q.y * r.z * (q.x * r.z ^ 2 - r.x))) := by
  simp only [additionStep, LawfulFieldOps.sq_eq, LawfulFieldOps.dbl_eq, Prod.mk.injEq, Jac.mk.injEq]
  refine ⟨⟨?_, ?_, ?_⟩, ?_, ?_, ?_⟩ <;> ring

theorem doublingStep_eq_double (r : Jac Fq2) (hz : r.z ≠ 0) : (doublingStep r).1 = r.double := by
  rw [doublingStep_eq, Jac.double_of_z_ne_zero hz]

theorem additionStep_eq_addMixed (r : Jac Fq2) (q : Aff Fq2) (hq : q.infinity = false)
    (hz : r.z ≠ 0) (hx : r.x ≠ q.x * r.z ^ 2) : (additionStep r q).1 = r.addMixed q := by
  have hz' : r.isZero = false := (Jac.isZero_eq_false_iff r).mpr hz
  have hne : ¬ (r.x = q.x * (r.z * r.z) ∧ r.y = q.y * r.z * (r.z * r.z)) := fun h =>
    hx (by rw [h.1]; ring)
  rw [additionStep_eq]
  simp only [Jac.addMixed, hq, hz', Bool.false_eq_true, if_false, LawfulFieldOps.sq_eq,
    LawfulFieldOps.dbl_eq, hne, Jac.mk.injEq]
  refine ⟨?_, ?_, ?_⟩ <;> ring

/-! ## the steps in affine coordinates -/

/-- the affine point denoted by a Jacobian triple (`z ≠ 0`) -/
def aff (r : Jac Fq2) : Fq2 × Fq2 := (r.x / r.z ^ 2, r.y / r.z ^ 3)

/-- the finite affine point of the model as a pair -/
def pair {F : Type} (q : Aff F) : F × F := (q.x, q.y)

theorem aff_toJac (q : Aff Fq2) (hq : q.infinity = false) :
    q.toJac.z ≠ 0 ∧ aff q.toJac = pair q := by
  simp [Aff.toJac, hq, aff, pair]

theorem aff_y_ne {r : Jac Fq2} (h : (aff r).2 ≠ 0) : r.y ≠ 0 := by
  rintro e; apply h; simp [aff, e]

theorem aff_x_ne {r : Jac Fq2} {x : Fq2} (hz : r.z ≠ 0) (h : (aff r).1 ≠ x) :
    x * r.z ^ 2 - r.x ≠ 0 := by
  intro e
  apply h
  simp only [aff]
  rw [div_eq_iff (pow_ne_zero _ hz)]
  linear_combination -e

theorem aff_eq_cmap (r : Jac Fq2) : aff r = cmap (RingHom.id Fq2) r.z⁻¹ (r.x, r.y) := by
  simp only [aff, cmap, RingHom.id_apply, inv_pow, div_eq_inv_mul]

theorem doublingStep_aff (r : Jac Fq2) (hy : r.y ≠ 0) (hz : r.z ≠ 0) :
    (doublingStep r).1.z ≠ 0 ∧ aff (doublingStep r).1 = affDouble (aff r) := by
  rw [doublingStep_eq]
  refine ⟨mul_ne_zero fq2_two_ne_zero (mul_ne_zero hy hz), ?_⟩
  simp only [aff_eq_cmap]
  rw [affDouble_cmap _ (inv_ne_zero hz), affDouble_jac r.x r.y hy fq2_two_ne_zero, cmap_inv_inv,
    mul_assoc 2 r.y r.z]

theorem additionStep_aff (r : Jac Fq2) (q : Aff Fq2) (hz : r.z ≠ 0)
    (hH : q.x * r.z ^ 2 - r.x ≠ 0) :
    (additionStep r q).1.z ≠ 0 ∧ aff (additionStep r q).1 = affAdd (aff r) (pair q) := by
  rw [additionStep_eq]
  refine ⟨mul_ne_zero fq2_two_ne_zero (mul_ne_zero hz hH), ?_⟩
  have hq : pair q = cmap (RingHom.id Fq2) r.z⁻¹ (q.x * r.z ^ 2, q.y * r.z ^ 3) := by
    simp only [pair, cmap, RingHom.id_apply, inv_pow, inv_mul_eq_div,
      mul_div_cancel_right₀ _ (pow_ne_zero _ hz)]
  simp only [aff_eq_cmap]
  rw [hq, affAdd_cmap _ (inv_ne_zero hz), affAdd_jac r.x r.y _ _ hH fq2_two_ne_zero, cmap_inv_inv,
    mul_assoc 2 _ r.z, mul_comm _ r.z]

/-! ## the coefficients are the tangent and chord lines -/

theorem untwist_aff (r : Jac Fq2) :
    untwist (aff r) = cmap (RingHom.id Fq12) (ι r.z * Fq12.w)⁻¹ (ι r.x, ι r.y) := by
  simp only [cmap, RingHom.id_apply, inv_pow, mul_pow, inv_mul_eq_div]
  simp only [untwist, aff, map_div₀, map_pow, div_div]

/-- **the coefficients of `doubling_step` are the tangent line**: the element by which `ell`
    multiplies is `ι(4YZ³) · w³` times the tangent to `E` at `ψ(T)`, `T = (X/Z², Y/Z³)`, evaluated at
    `P`; for every `P` -/
theorem doublingStep_line (r : Jac Fq2) (p : Aff Fq) (hy : r.y ≠ 0) (hz : r.z ≠ 0) :
    line (doublingStep r).2 p =
      ι (4 * r.y * r.z ^ 3) * Fq12.w ^ 3 * tangentAt (untwist (aff r)) (embed (pair p)) := by
  rw [line_eq, doublingStep_eq, untwist_aff]
  simp only [embed, pair, map_sub, map_mul, map_pow, map_neg, map_ofNat]
  exact tangent_identity _ _ _ _ _ _ (ι_ne_zero hy) (ι_ne_zero hz) w_ne_zero fq12_two_ne_zero

/-- **the coefficients of `addition_step` are the chord line** through `ψ(T)` and `ψ(Q)`, up to the
    factor `ι(4ZH) · w³`, `H = x_Q Z² - X` -/
theorem additionStep_line (r : Jac Fq2) (q : Aff Fq2) (p : Aff Fq) (hz : r.z ≠ 0)
    (hH : q.x * r.z ^ 2 - r.x ≠ 0) :
    line (additionStep r q).2 p =
      ι (4 * r.z * (q.x * r.z ^ 2 - r.x)) * Fq12.w ^ 3 *
        chordAt (untwist (aff r)) (untwist (pair q)) (embed (pair p)) := by
  have hz' := ι_ne_zero hz
  have hq : untwist (pair q) =
      cmap (RingHom.id Fq12) (ι r.z * Fq12.w)⁻¹ (ι q.x * ι r.z ^ 2, ι q.y * ι r.z ^ 3) := by
    simp only [untwist, pair, cmap, RingHom.id_apply, inv_pow, mul_pow, inv_mul_eq_div]
    rw [mul_comm (ι r.z ^ 2), mul_comm (ι r.z ^ 3), mul_div_mul_right _ _ (pow_ne_zero 2 hz'),
      mul_div_mul_right _ _ (pow_ne_zero 3 hz')]
  rw [line_eq, additionStep_eq, untwist_aff, hq]
  simp only [embed, pair, map_sub, map_mul, map_pow, map_neg, map_ofNat]
  refine chord_identity _ _ _ _ _ _ _ _ hz' w_ne_zero ?_
  have := ι_ne_zero hH
  simpa only [map_sub, map_mul, map_pow] using this

/-! ## the factors by which model and textbook differ -/

/-- `c = ι a · (w³)ⁿ` with `a ∈ Fq2ˣ` -/
def Unitish (c : Fq12) : Prop := ∃ (a : Fq2) (n : ℕ), a ≠ 0 ∧ c = ι a * (Fq12.w ^ 3) ^ n

theorem Unitish.one : Unitish 1 := ⟨1, 0, one_ne_zero, by simp⟩

theorem Unitish.mul {c d : Fq12} (hc : Unitish c) (hd : Unitish d) : Unitish (c * d) := by
  obtain ⟨a, n, ha, rfl⟩ := hc
  obtain ⟨b, m, hb, rfl⟩ := hd
  exact ⟨a * b, n + m, mul_ne_zero ha hb, by rw [map_mul, pow_add]; ring⟩

theorem Unitish.sq {c : Fq12} (hc : Unitish c) : Unitish (c ^ 2) := by
  rw [pow_two]; exact hc.mul hc

theorem Unitish.line_factor {a : Fq2} (ha : a ≠ 0) : Unitish (ι a * Fq12.w ^ 3) :=
  ⟨a, 1, ha, by rw [pow_one]⟩

theorem fq2_four_ne_zero : (4 : Fq2) ≠ 0 := by
  have : (4 : Fq2) = 2 * 2 := by norm_num
  rw [this]; exact mul_ne_zero fq2_two_ne_zero fq2_two_ne_zero

/-- the factor of `doublingStep_line` -/
theorem Unitish.doubling {r : Jac Fq2} (hy : r.y ≠ 0) (hz : r.z ≠ 0) :
    Unitish (ι (4 * r.y * r.z ^ 3) * Fq12.w ^ 3) :=
  Unitish.line_factor (mul_ne_zero (mul_ne_zero fq2_four_ne_zero hy) (pow_ne_zero _ hz))

/-- the factor of `additionStep_line` -/
theorem Unitish.addition {r : Jac Fq2} {q : Aff Fq2} (hz : r.z ≠ 0)
    (hH : q.x * r.z ^ 2 - r.x ≠ 0) :
    Unitish (ι (4 * r.z * (q.x * r.z ^ 2 - r.x)) * Fq12.w ^ 3) :=
  Unitish.line_factor (mul_ne_zero (mul_ne_zero fq2_four_ne_zero hz) hH)

theorem Unitish.ne_zero {c : Fq12} (hc : Unitish c) : c ≠ 0 := by
  obtain ⟨a, n, ha, rfl⟩ := hc
  exact mul_ne_zero (ι_ne_zero ha) (pow_ne_zero _ (pow_ne_zero _ w_ne_zero))

theorem ι_pow_q (a : Fq2) : ι a ^ Gen.q = ι (Fq2.conj a) := by
  rw [← map_pow, ← Fq2.conj_eq_pow_q]

/-- `w³` lies in the subfield with `q⁴` elements: `(w³)² = ξ ∈ Fq2` -/
theorem fe_w_cube : finalExponentiation (Fq12.w ^ 3) = some 1 := by
  apply FinalExp.fe_of_sq_fixed (pow_ne_zero _ w_ne_zero)
  have h : (Fq12.w ^ 3) ^ 2 = ι Fq2.xi := by rw [← pow_mul]; exact w_pow_six
  rw [h, pow_two Gen.q, pow_mul, ι_pow_q, ι_pow_q, Fq2.conj_conj]

theorem Unitish.fe {c : Fq12} (hc : Unitish c) : finalExponentiation c = some 1 := by
  obtain ⟨a, n, ha, rfl⟩ := hc
  have hw : Fq12.w ^ 3 ≠ 0 := pow_ne_zero _ w_ne_zero
  rw [FinalExp.fe_mul (ι_ne_zero ha) (pow_ne_zero _ hw), FinalExp.fe_pow hw, fe_w_cube]
  have : finalExponentiation (ι a) = some 1 := FinalExp.fe_ofFq2 ha
  rw [this]
  simp

/-! ## the loops of the model, in lemma-friendly form -/

/-- the accumulator of `prepareLoop` -/
def pointFrom (q : Aff Fq2) : List Bool → Jac Fq2 → Jac Fq2
  | [], r => r
  | i :: bs, r =>
    if i then pointFrom q bs (additionStep (doublingStep r).1 q).1
    else pointFrom q bs (doublingStep r).1

/-- the coefficients appended by `prepareLoop` -/
def coeffsFrom (q : Aff Fq2) : List Bool → Jac Fq2 → List Coeff
  | [], _ => []
  | i :: bs, r =>
    if i then
      (doublingStep r).2 :: (additionStep (doublingStep r).1 q).2 ::
        coeffsFrom q bs (additionStep (doublingStep r).1 q).1
    else (doublingStep r).2 :: coeffsFrom q bs (doublingStep r).1

theorem prepareLoop_eq (q : Aff Fq2) (bs : List Bool) (r : Jac Fq2) (acc : List Coeff) :
    prepareLoop q bs r acc = (pointFrom q bs r, acc ++ coeffsFrom q bs r) := by
  induction bs generalizing r acc with
  | nil => simp [prepareLoop, pointFrom, coeffsFrom]
  | cons i bs ih =>
    cases i with
    | false => simp [prepareLoop, pointFrom, coeffsFrom, ih]
    | true => simp [prepareLoop, pointFrom, coeffsFrom, ih]

theorem fromAffine_coeffs (q : Aff Fq2) (hq : q.infinity = false) :
    (G2Prepared.fromAffine q).coeffs =
      coeffsFrom q blsXBits q.toJac ++ [(doublingStep (pointFrom q blsXBits q.toJac)).2] := by
  unfold G2Prepared.fromAffine
  simp [hq, prepareLoop_eq]

/-- the value accumulated by the loop of `miller_loop` over the coefficients `coeffsFrom` -/
def modelF (p : Aff Fq) (q : Aff Fq2) : List Bool → Jac Fq2 → Fq12 → Fq12
  | [], _, f => f
  | i :: bs, r, f =>
    if i then
      modelF p q bs (additionStep (doublingStep r).1 q).1
        ((f * line (doublingStep r).2 p * line (additionStep (doublingStep r).1 q).2 p) ^ 2)
    else modelF p q bs (doublingStep r).1 ((f * line (doublingStep r).2 p) ^ 2)

theorem mlb1_coeffsFrom (p : Aff Fq) (q : Aff Fq2) (bs : List Bool) (r : Jac Fq2) (f : Fq12)
    (rest : List Coeff) :
    mlb1 p bs (coeffsFrom q bs r ++ rest) f = some (modelF p q bs r f, rest) := by
  induction bs generalizing r f with
  | nil => simp [mlb1, coeffsFrom, modelF]
  | cons i bs ih =>
    cases i with
    | false => simp [mlb1, coeffsFrom, modelF, step1, ell1, ih, pow_two]
    | true => simp [mlb1, coeffsFrom, modelF, step1, ell1, ih, pow_two]

/-- the Miller loop of the model on `(p, from_affine q)`, finite `p`, `q`, unfolded -/
theorem millerLoop_eq_modelF (p : Aff Fq) (q : Aff Fq2) (hp : p.infinity = false)
    (hq : q.infinity = false) :
    millerLoop [(p, G2Prepared.fromAffine q)] =
      some (Fq12.conjugate (modelF p q blsXBits q.toJac 1 *
        line (doublingStep (pointFrom q blsXBits q.toJac)).2 p)) := by
  rw [millerLoop_single, single, fromAffine_infinity, hp, hq]
  simp only [Bool.or_self, Bool.false_eq_true, if_false]
  unfold core1
  rw [fromAffine_coeffs q hq, mlb1_coeffsFrom]
  simp [ell1]

/-! ## model loop against textbook loop -/

/-- no exceptional case in the textbook affine loop over `bits` from the accumulator `T`:
    `y_T ≠ 0` at every doubling, `x_T ≠ x_Q` at every addition -/
def Regular (Q : Fq2 × Fq2) : List Bool → Fq2 × Fq2 → Prop
  | [], _ => True
  | b :: bs, T =>
    T.2 ≠ 0 ∧
      if b then (affDouble T).1 ≠ Q.1 ∧ Regular Q bs (affAdd (affDouble T) Q)
      else Regular Q bs (affDouble T)

theorem regular_append (Q : Fq2 × Fq2) (bs cs : List Bool) (T : Fq2 × Fq2) (F : Fq12)
    (P : Fq × Fq) (h : Regular Q (bs ++ cs) T) :
    Regular Q bs T ∧ Regular Q cs (bs.foldl (millerStep P Q) (F, T)).2 := by
  induction bs generalizing T F with
  | nil => exact ⟨trivial, h⟩
  | cons b bs ih =>
    cases b with
    | false =>
      simp only [List.cons_append, Regular, Bool.false_eq_true, if_false] at h ⊢
      have := ih _ (F ^ 2 * tangentAt (untwist T) (embed P)) h.2
      exact ⟨⟨h.1, this.1⟩, by simpa [millerStep] using this.2⟩
    | true =>
      simp only [List.cons_append, Regular, if_true] at h ⊢
      have := ih _ (F ^ 2 * tangentAt (untwist T) (embed P) *
        chordAt (untwist (affDouble T)) (untwist Q) (embed P)) h.2.2
      exact ⟨⟨h.1, h.2.1, this.1⟩, by simpa [millerStep] using this.2⟩

/-- **invariant of the two loops**: if the model's accumulator `r` represents the textbook `T` and
    the model's `f` is `c · F²` (`c` unitish), the same holds after any list of bits -/
theorem loops_agree (p : Aff Fq) (q : Aff Fq2) (bs : List Bool) (r : Jac Fq2) (f F c : Fq12)
    (T : Fq2 × Fq2) (hreg : Regular (pair q) bs T) (hz : r.z ≠ 0) (hT : aff r = T)
    (hc : Unitish c) (hf : f = c * F ^ 2) :
    (pointFrom q bs r).z ≠ 0 ∧
      aff (pointFrom q bs r) = (bs.foldl (millerStep (pair p) (pair q)) (F, T)).2 ∧
      ∃ c', Unitish c' ∧
        modelF p q bs r f = c' * (bs.foldl (millerStep (pair p) (pair q)) (F, T)).1 ^ 2 := by
  induction bs generalizing r f F c T with
  | nil => exact ⟨hz, hT, c, hc, hf⟩
  | cons b bs ih =>
    subst hT
    have hy : r.y ≠ 0 := aff_y_ne hreg.1
    obtain ⟨hdz, hda⟩ := doublingStep_aff r hy hz
    have hdl := doublingStep_line r p hy hz
    have hs := Unitish.doubling hy hz
    cases b with
    | false =>
      simp only [Regular, Bool.false_eq_true, if_false] at hreg
      simp only [pointFrom, modelF, List.foldl_cons, millerStep, Bool.false_eq_true, if_false]
      refine ih (doublingStep r).1 _ (F ^ 2 * tangentAt (untwist (aff r)) (embed (pair p)))
        ((c * (ι (4 * r.y * r.z ^ 3) * Fq12.w ^ 3)) ^ 2) _ hreg.2 hdz hda
        (hc.mul hs).sq ?_
      rw [hf, hdl]; ring
    | true =>
      simp only [Regular, if_true] at hreg
      have hH : q.x * (doublingStep r).1.z ^ 2 - (doublingStep r).1.x ≠ 0 :=
        aff_x_ne hdz (by rw [hda]; exact hreg.2.1)
      obtain ⟨haz, haa⟩ := additionStep_aff (doublingStep r).1 q hdz hH
      have hal := additionStep_line (doublingStep r).1 q p hdz hH
      have hs' := Unitish.addition hdz hH
      simp only [pointFrom, modelF, List.foldl_cons, millerStep, if_true]
      rw [hda] at haa hal
      refine ih (additionStep (doublingStep r).1 q).1 _
        (F ^ 2 * tangentAt (untwist (aff r)) (embed (pair p)) *
          chordAt (untwist (affDouble (aff r))) (untwist (pair q)) (embed (pair p)))
        ((c * (ι (4 * r.y * r.z ^ 3) * Fq12.w ^ 3) *
          (ι (4 * (doublingStep r).1.z *
            (q.x * (doublingStep r).1.z ^ 2 - (doublingStep r).1.x)) * Fq12.w ^ 3)) ^ 2) _
        hreg.2.2 haz haa
        ((hc.mul hs).mul hs').sq ?_
      rw [hf, hdl, hal]; ring

/-- the bits of the model's loop followed by the final doubling are the bits of `|x|` below its
    leading one -/
theorem bitsBelowTop_eq : bitsBelowTop Gen.BLS_X = blsXBits ++ [false] := by decide +kernel

/-- **the model's Miller loop is the textbook Miller loop** up to a unitish factor, provided the
    textbook loop meets no exceptional case -/
theorem millerLoop_eq_textbook_of_regular (p : Aff Fq) (q : Aff Fq2) (hp : p.infinity = false)
    (hq : q.infinity = false) (hreg : Regular (pair q) (bitsBelowTop Gen.BLS_X) (pair q)) :
    ∃ c, Unitish c ∧
      millerLoop [(p, G2Prepared.fromAffine q)] =
        some (Fq12.conjugate (c * textbookMiller (pair p) (pair q))) := by
  rw [millerLoop_eq_modelF p q hp hq]
  rw [bitsBelowTop_eq] at hreg
  obtain ⟨hreg1, hreg2⟩ := regular_append (pair q) blsXBits [false] (pair q) 1 (pair p) hreg
  obtain ⟨hz0, ha0⟩ := aff_toJac q hq
  obtain ⟨hz, ha, c, hc, hF⟩ := loops_agree p q blsXBits q.toJac 1 1 1 (pair q) hreg1 hz0 ha0
    Unitish.one (by simp)
  set R := pointFrom q blsXBits q.toJac with hR
  set S := blsXBits.foldl (millerStep (pair p) (pair q)) (1, pair q) with hS
  have hy : R.y ≠ 0 := aff_y_ne (by rw [ha]; exact hreg2.1)
  refine ⟨c * (ι (4 * R.y * R.z ^ 3) * Fq12.w ^ 3), hc.mul (Unitish.doubling hy hz), ?_⟩
  rw [hF, doublingStep_line R p hy hz, ha]
  have htb : textbookMiller (pair p) (pair q) =
      S.1 ^ 2 * tangentAt (untwist S.2) (embed (pair p)) := by
    unfold textbookMiller millerBits
    rw [bitsBelowTop_eq, List.foldl_append]
    simp [millerStep, hS]
  rw [htb]
  exact congrArg (fun x => some (Fq12.conjugate x)) (by ring)

end Lines
end PP
