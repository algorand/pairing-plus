/-
Curve orders, abstract part (no curves here).

In a finite abelian group `G` with an endomorphism `ω`, a point `P` of order `b` and a divisor
`a ∣ b` such that, for every prime `p ∣ a`, `ω ((b/p) • P) ∉ ⟨P⟩`:  modulo `⟨P⟩` the point
`ω ((b/a) • P)` has order `a`, so `a * b` divides `#G`.  If moreover `#G < 2 * (a * b)` then
`#G = a * b`, the quotient is generated by that point, `b` kills `G` and `G = ⟨P⟩ ⊕ ⟨ω ((b/a) • P)⟩`
(`card_exponent_structure`; `card_and_exponent` is its first two clauses).

The condition `ω Y ∉ ⟨P⟩` (`Y = (b/p) • P`, of prime order `p`) is reduced to `ω Y ≠ m • Y` for all
`m`  (`omega_notMem_zmultiples`), and, when `ω² + ω + 1 = 0`, this holds
* for free if `p ≡ 2 (mod 3)` (`x² + x + 1` has no root modulo `p`), and
* after two checks `ω Y ≠ m₁ • Y`, `ω Y ≠ m₂ • Y` if `x² + x + 1 = (x - m₁)(x - m₂)` modulo `p`.
-/
import Mathlib.GroupTheory.OrderOfElement
import Mathlib.GroupTheory.Coset.Card
import Mathlib.GroupTheory.QuotientGroup.Basic
import Mathlib.FieldTheory.Finite.Basic
import Mathlib.Data.ZMod.Basic
import Mathlib.Algebra.BigOperators.Associated
import Mathlib.Tactic.LinearCombination
import Mathlib.Tactic.Ring

namespace PP.CurveOrder

/-! ## `x² + x + 1` modulo a prime -/

theorem no_root_of_mod_three {p : ℕ} [hp : Fact p.Prime] (h3 : p % 3 = 2) (m : ZMod p) :
    m ^ 2 + m + 1 ≠ 0 := by
  intro h
  have hm3 : m ^ 3 = 1 := by linear_combination (m - 1) * h
  have hm0 : m ≠ 0 := by
    rintro rfl
    simp at h
  have hfer : m ^ (p - 1) = 1 := ZMod.pow_card_sub_one_eq_one hm0
  have hk : p - 1 = 3 * (p / 3) + 1 := by omega
  rw [hk, pow_succ, pow_mul, hm3, one_pow, one_mul] at hfer
  subst hfer
  have h3z : ((3 : ℕ) : ZMod p) = 0 := by
    have : (1 : ZMod p) ^ 2 + 1 + 1 = 0 := h
    push_cast
    linear_combination this
  rw [ZMod.natCast_eq_zero_iff] at h3z
  rcases (Nat.dvd_prime Nat.prime_three).mp h3z with h1 | h1
  · exact hp.out.one_lt.ne' h1
  · omega

/-- if `x² + x + 1 = (x - m₁)(x - m₂)` modulo `p`, its roots are `m₁` and `m₂` -/
theorem root_of_factor {p : ℕ} [hp : Fact p.Prime] {m₁ m₂ : ℕ} (hs : (m₁ + m₂ + 1) % p = 0)
    (hpr : (m₁ * m₂) % p = 1) {m : ZMod p} (h : m ^ 2 + m + 1 = 0) :
    m = (m₁ : ZMod p) ∨ m = (m₂ : ZMod p) := by
  have h1 : ((m₁ + m₂ + 1 : ℕ) : ZMod p) = 0 := by
    rw [ZMod.natCast_eq_zero_iff]; exact Nat.dvd_of_mod_eq_zero hs
  have h2 : ((m₁ * m₂ : ℕ) : ZMod p) = ((1 : ℕ) : ZMod p) := by
    rw [ZMod.natCast_eq_natCast_iff']
    rw [hpr, Nat.mod_eq_of_lt hp.out.one_lt]
  push_cast at h1 h2
  have : (m - m₁) * (m - m₂) = 0 := by
    linear_combination h - m * h1 + h2
  rcases mul_eq_zero.mp this with e | e
  · exact Or.inl (sub_eq_zero.mp e)
  · exact Or.inr (sub_eq_zero.mp e)

/-! ## the endomorphism `ω` -/

section group
variable {G : Type} [AddCommGroup G]

/-- `ω Y = m • Y` and `ω² + ω + 1 = 0` give `m² + m + 1 ≡ 0` modulo the order of `Y` -/
theorem quad_of_omega_eq {ω : G →+ G} (hω : ∀ g, ω (ω g) + ω g + g = 0) {p : ℕ} {Y : G}
    (hY : addOrderOf Y = p) {m : ℤ} (h : ω Y = m • Y) : ((m : ZMod p)) ^ 2 + m + 1 = 0 := by
  have h2 : ω (ω Y) = (m * m) • Y := by
    rw [h, map_zsmul, h, mul_zsmul]
  have h3 : (m * m + m + 1) • Y = 0 := by
    rw [add_zsmul, add_zsmul, one_zsmul, ← h2, ← h]
    exact hω Y
  have h4 : ((m * m + m + 1 : ℤ) : ZMod p) = 0 := by
    rw [ZMod.intCast_zmod_eq_zero_iff_dvd, ← hY]
    exact addOrderOf_dvd_iff_zsmul_eq_zero.mpr h3
  push_cast at h4
  linear_combination h4

/-- case `p ≡ 2 (mod 3)`: `ω` has no eigenvector of order `p` -/
theorem omega_ne_zsmul_of_mod_three {ω : G →+ G} (hω : ∀ g, ω (ω g) + ω g + g = 0) {p : ℕ}
    (hp : p.Prime) (h3 : p % 3 = 2) {Y : G} (hY : addOrderOf Y = p) (m : ℤ) : ω Y ≠ m • Y := by
  intro h
  have := Fact.mk hp
  exact no_root_of_mod_three h3 _ (quad_of_omega_eq hω hY h)

/-- case `x² + x + 1 = (x - m₁)(x - m₂)` modulo `p`: two checks suffice -/
theorem omega_ne_zsmul_of_factor {ω : G →+ G} (hω : ∀ g, ω (ω g) + ω g + g = 0) {p : ℕ}
    (hp : p.Prime) {m₁ m₂ : ℕ} (hs : (m₁ + m₂ + 1) % p = 0) (hpr : (m₁ * m₂) % p = 1) {Y : G}
    (hY : addOrderOf Y = p) (h1 : ω Y ≠ m₁ • Y) (h2 : ω Y ≠ m₂ • Y) (m : ℤ) : ω Y ≠ m • Y := by
  intro h
  have := Fact.mk hp
  have key : ∀ k : ℕ, (m : ZMod p) = (k : ZMod p) → m • Y = k • Y := by
    intro k hk
    have : ((m : ZMod p)) = ((k : ℤ) : ZMod p) := by simpa using hk
    rw [ZMod.intCast_eq_intCast_iff_dvd_sub, ← hY, addOrderOf_dvd_iff_zsmul_eq_zero, sub_zsmul,
      natCast_zsmul] at this
    exact (add_neg_eq_zero.mp this).symm
  rcases root_of_factor hs hpr (quad_of_omega_eq hω hY h) with e | e
  · exact h1 (h.trans (key _ e))
  · exact h2 (h.trans (key _ e))

/-- `ω Y ∈ ⟨P⟩` for `Y = (b/p) • P`, `P` of order `b`, forces `ω Y ∈ ⟨Y⟩` -/
theorem omega_notMem_zmultiples {ω : G →+ G} {P : G} {b p : ℕ} (hP : addOrderOf P = b)
    (hpb : p ∣ b) (hp0 : 0 < p) (h : ∀ m : ℤ, ω ((b / p) • P) ≠ m • ((b / p) • P)) :
    ω ((b / p) • P) ∉ AddSubgroup.zmultiples P := by
  rintro ⟨k, hk⟩
  have hk : k • P = ω ((b / p) • P) := hk
  have h0 : p • ω ((b / p) • P) = 0 := by
    rw [← map_nsmul, ← mul_nsmul, Nat.div_mul_cancel hpb, ← hP, addOrderOf_nsmul_eq_zero, map_zero]
  have h1 : ((p : ℤ) * k) • P = 0 := by
    rw [mul_zsmul, hk, natCast_zsmul, h0]
  have h2 : (b : ℤ) ∣ (p : ℤ) * k := by
    rw [← hP]; exact addOrderOf_dvd_iff_zsmul_eq_zero.mpr h1
  have hb : (b : ℤ) = (p : ℤ) * ((b / p : ℕ) : ℤ) := by
    rw [← Nat.cast_mul, Nat.mul_div_cancel' hpb]
  rw [hb] at h2
  obtain ⟨m, hm⟩ := Int.dvd_of_mul_dvd_mul_left (by exact_mod_cast hp0.ne') h2
  apply h m
  rw [← hk, hm, mul_comm, mul_zsmul, natCast_zsmul]

/-- modulo `⟨P⟩`, the point `ω ((b/a) • P)` has order `a` -/
theorem addOrderOf_mk_omega {ω : G →+ G} {P : G} {a b : ℕ} (hP : addOrderOf P = b)
    (hb : 0 < b) (hab : a ∣ b)
    (hind : ∀ p : ℕ, p.Prime → p ∣ a → ω ((b / p) • P) ∉ AddSubgroup.zmultiples P) :
    addOrderOf (ω ((b / a) • P) : G ⧸ AddSubgroup.zmultiples P) = a := by
  have ha : 0 < a := Nat.pos_of_dvd_of_pos hab hb
  refine addOrderOf_eq_of_nsmul_and_div_prime_nsmul ha ?_ fun p hp hpa h0 => hind p hp hpa ?_
  · rw [← QuotientAddGroup.mk_nsmul, ← map_nsmul, ← mul_nsmul, Nat.div_mul_cancel hab, ← hP,
      addOrderOf_nsmul_eq_zero, map_zero, QuotientAddGroup.mk_zero]
  · -- `(a / p) • ω ((b/a) • P) = ω ((b/p) • P)`
    rwa [← QuotientAddGroup.mk_nsmul, QuotientAddGroup.eq_zero_iff, ← map_nsmul, ← mul_nsmul,
      Nat.div_mul_div_comm hab hpa, mul_comm b a, Nat.mul_div_mul_left _ _ ha] at h0

/-- **Two independent cyclic subgroups fill the group**: `G = ⟨P⟩ ⊕ ⟨ω ((b/a) • P)⟩ ≅ Z/b × Z/a`. -/
theorem card_exponent_structure [Finite G] {ω : G →+ G} {P : G} {a b : ℕ} (hP : addOrderOf P = b)
    (hb : 0 < b) (hab : a ∣ b)
    (hind : ∀ p : ℕ, p.Prime → p ∣ a → ω ((b / p) • P) ∉ AddSubgroup.zmultiples P)
    (hcard : Nat.card G < 2 * (a * b)) :
    Nat.card G = a * b ∧ (∀ g : G, b • g = 0) ∧ addOrderOf (ω ((b / a) • P)) = a ∧
      ∀ g : G, ∃ i j : ℤ, g = i • P + j • ω ((b / a) • P) := by
  have hbP : b • P = 0 := by rw [← hP]; exact addOrderOf_nsmul_eq_zero P
  have ha2 : a • ω ((b / a) • P) = 0 := by
    rw [← map_nsmul, ← mul_nsmul, Nat.div_mul_cancel hab, hbP, map_zero]
  have hq := addOrderOf_mk_omega hP hb hab hind
  have hord2 : addOrderOf (ω ((b / a) • P)) = a :=
    Nat.dvd_antisymm (addOrderOf_dvd_of_nsmul_eq_zero ha2)
      ((dvd_of_eq hq.symm).trans (addOrderOf_map_dvd (QuotientAddGroup.mk' _) _))
  -- Lagrange: `#G = #(G/⟨P⟩) * b` and `a ∣ #(G/⟨P⟩)`
  obtain ⟨k, hk⟩ : a ∣ Nat.card (G ⧸ AddSubgroup.zmultiples P) :=
    (dvd_of_eq hq.symm).trans (addOrderOf_dvd_natCard _)
  have hcardG := AddSubgroup.card_eq_card_quotient_mul_card_addSubgroup (AddSubgroup.zmultiples P)
  rw [Nat.card_zmultiples, hP, hk] at hcardG
  have hk1 : k = 1 := by
    rcases k with _ | _ | k
    · rw [mul_zero, zero_mul] at hcardG
      exact absurd hcardG Nat.card_pos.ne'
    · rfl
    · rw [hcardG, mul_assoc, mul_comm a, mul_assoc, mul_comm b] at hcard
      exact absurd (Nat.mul_le_mul_right (a * b) (Nat.le_add_left 2 k)) (not_le.mpr hcard)
  rw [hk1, mul_one] at hk hcardG
  -- the class of `ω ((b/a) • P)` generates the quotient
  have htop := AddSubgroup.eq_top_of_card_eq
    (AddSubgroup.zmultiples (ω ((b / a) • P) : G ⧸ AddSubgroup.zmultiples P))
    (by rw [Nat.card_zmultiples, hq, hk])
  have hgen : ∀ g : G, ∃ i j : ℤ, g = i • P + j • ω ((b / a) • P) := by
    intro g
    obtain ⟨j, hj⟩ := AddSubgroup.mem_zmultiples_iff.mp
      (htop ▸ AddSubgroup.mem_top (g : G ⧸ AddSubgroup.zmultiples P))
    rw [← QuotientAddGroup.mk_zsmul, QuotientAddGroup.eq, AddSubgroup.mem_zmultiples_iff] at hj
    obtain ⟨i, hi⟩ := hj
    exact ⟨i, j, by rw [hi, add_comm, add_neg_cancel_left]⟩
  refine ⟨hcardG, ?_, hord2, hgen⟩
  intro g
  obtain ⟨i, j, rfl⟩ := hgen g
  rw [nsmul_add, smul_comm, hbP, smul_comm,
    addOrderOf_dvd_iff_nsmul_eq_zero.mp (hord2.symm ▸ hab), smul_zero, smul_zero, add_zero]

theorem card_and_exponent [Finite G] {ω : G →+ G} {P : G} {a b : ℕ} (hP : addOrderOf P = b)
    (hb : 0 < b) (hab : a ∣ b)
    (hind : ∀ p : ℕ, p.Prime → p ∣ a → ω ((b / p) • P) ∉ AddSubgroup.zmultiples P)
    (hcard : Nat.card G < 2 * (a * b)) :
    Nat.card G = a * b ∧ ∀ g : G, b • g = 0 :=
  let h := card_exponent_structure hP hb hab hind hcard
  ⟨h.1, h.2.1⟩

theorem addOrderOf_div_nsmul {P : G} {b p : ℕ} (hP : addOrderOf P = b) (hb : 0 < b) (hpb : p ∣ b) :
    addOrderOf ((b / p) • P) = p := by
  subst hP
  exact addOrderOf_nsmul_addOrderOf_sub hb.ne' hpb

/-- independence at a prime `p ≡ 2 (mod 3)`: no computation needed -/
theorem omega_notMem_of_mod_three {ω : G →+ G} (hω : ∀ g, ω (ω g) + ω g + g = 0) {P : G} {b p : ℕ}
    (hP : addOrderOf P = b) (hb : 0 < b) (hp : p.Prime) (hpb : p ∣ b) (h3 : p % 3 = 2) :
    ω ((b / p) • P) ∉ AddSubgroup.zmultiples P :=
  omega_notMem_zmultiples hP hpb hp.pos
    (omega_ne_zsmul_of_mod_three hω hp h3 (addOrderOf_div_nsmul hP hb hpb))

/-- independence at a prime `p ≡ 1 (mod 3)`: two computations -/
theorem omega_notMem_of_factor {ω : G →+ G} (hω : ∀ g, ω (ω g) + ω g + g = 0) {P : G} {b p : ℕ}
    (hP : addOrderOf P = b) (hb : 0 < b) (hp : p.Prime) (hpb : p ∣ b) {m₁ m₂ : ℕ}
    (hs : (m₁ + m₂ + 1) % p = 0) (hpr : (m₁ * m₂) % p = 1)
    (h1 : ω ((b / p) • P) ≠ m₁ • ((b / p) • P)) (h2 : ω ((b / p) • P) ≠ m₂ • ((b / p) • P)) :
    ω ((b / p) • P) ∉ AddSubgroup.zmultiples P :=
  omega_notMem_zmultiples hP hpb hp.pos
    (omega_ne_zsmul_of_factor hω hp hs hpr (addOrderOf_div_nsmul hP hb hpb) h1 h2)

end group

/-- what holds of the members of a list of primes holds of the prime divisors of its product -/
theorem forall_prime_dvd_prod {l : List ℕ} (hl : l.Forall Nat.Prime) {a : ℕ} (ha : a = l.prod)
    {C : ℕ → Prop} (h : l.Forall C) : ∀ p : ℕ, p.Prime → p ∣ a → C p := by
  intro p hp hpa
  rw [List.forall_iff_forall_mem] at hl h
  obtain ⟨q, hq, hpq⟩ := (hp.prime.dvd_prod_iff).mp (ha ▸ hpa)
  rw [(Nat.prime_dvd_prime_iff_eq hp (hl q hq)).mp hpq]
  exact h q hq

/-- `P` has order `b = ∏ l`, `l` a list of primes, when `b` kills `P` and no `b / q` does -/
theorem addOrderOf_eq_of_primes {G : Type} [AddMonoid G] {P : G} {l : List ℕ}
    (hl : l.Forall Nat.Prime) {b : ℕ} (hb : b = l.prod) (h0 : b • P = 0)
    (h : l.Forall fun q => (b / q) • P ≠ 0) : addOrderOf P = b :=
  addOrderOf_eq_of_nsmul_and_div_prime_nsmul
    (hb ▸ List.prod_pos fun q hq => ((List.forall_iff_forall_mem.mp hl) q hq).pos) h0
    (forall_prime_dvd_prod hl hb h)

/-- the multiples `(b / q) • P` read off `T = m • P`, for `b = n * m` and `q ∣ n` -/
theorem div_nsmul_eq {G : Type} [AddMonoid G] {P T : G} {b n m q : ℕ} (hb : b = n * m)
    (hT : m • P = T) (hq : q ∣ n) : (b / q) • P = (n / q) • T := by
  rw [hb, ← Nat.div_mul_right_comm hq, mul_nsmul', hT]

end PP.CurveOrder
