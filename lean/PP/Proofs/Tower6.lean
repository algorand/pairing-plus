/-
C09, layer 2: the model type `Fq6` with the model's own `+ - * neg 0 1` is the commutative ring
`Fq2[v]/(v³ - ξ)`, `ξ = 1 + u`.  (Field structure: `PP.Proofs.TowerField`.)
-/
import PP.Proofs.Tower2

namespace PP
namespace Fq6

open Fq2 (xi)

@[ext] theorem ext {a b : Fq6} (h0 : a.c0 = b.c0) (h1 : a.c1 = b.c1) (h2 : a.c2 = b.c2) : a = b := by
  cases a; cases b; simp_all

@[simp] theorem zero_c0 : (0 : Fq6).c0 = 0 := rfl
@[simp] theorem zero_c1 : (0 : Fq6).c1 = 0 := rfl
@[simp] theorem zero_c2 : (0 : Fq6).c2 = 0 := rfl
@[simp] theorem one_c0 : (1 : Fq6).c0 = 1 := rfl
@[simp] theorem one_c1 : (1 : Fq6).c1 = 0 := rfl
@[simp] theorem one_c2 : (1 : Fq6).c2 = 0 := rfl
@[simp] theorem add_c0 (a b : Fq6) : (a + b).c0 = a.c0 + b.c0 := rfl
@[simp] theorem add_c1 (a b : Fq6) : (a + b).c1 = a.c1 + b.c1 := rfl
@[simp] theorem add_c2 (a b : Fq6) : (a + b).c2 = a.c2 + b.c2 := rfl
@[simp] theorem sub_c0 (a b : Fq6) : (a - b).c0 = a.c0 - b.c0 := rfl
@[simp] theorem sub_c1 (a b : Fq6) : (a - b).c1 = a.c1 - b.c1 := rfl
@[simp] theorem sub_c2 (a b : Fq6) : (a - b).c2 = a.c2 - b.c2 := rfl
@[simp] theorem neg_c0 (a : Fq6) : (-a).c0 = -a.c0 := rfl
@[simp] theorem neg_c1 (a : Fq6) : (-a).c1 = -a.c1 := rfl
@[simp] theorem neg_c2 (a : Fq6) : (-a).c2 = -a.c2 := rfl

/-! ### the (Toom/Karatsuba style) product is the schoolbook product modulo `v³ = ξ` -/

theorem mul_c0 (a b : Fq6) :
    (a * b).c0 = a.c0 * b.c0 + xi * (a.c1 * b.c2 + a.c2 * b.c1) := by
  show ((b.c1 + b.c2) * (a.c1 + a.c2) - a.c1 * b.c1 - a.c2 * b.c2).mulByNonresidue
    + a.c0 * b.c0 = _
  rw [Fq2.mulByNonresidue_eq]; ring

theorem mul_c1 (a b : Fq6) :
    (a * b).c1 = a.c0 * b.c1 + a.c1 * b.c0 + xi * (a.c2 * b.c2) := by
  show (b.c0 + b.c1) * (a.c0 + a.c1) - a.c0 * b.c0 - a.c1 * b.c1
    + (a.c2 * b.c2).mulByNonresidue = _
  rw [Fq2.mulByNonresidue_eq]; ring

theorem mul_c2 (a b : Fq6) :
    (a * b).c2 = a.c0 * b.c2 + a.c1 * b.c1 + a.c2 * b.c0 := by
  show (b.c0 + b.c2) * (a.c0 + a.c2) - a.c0 * b.c0 + a.c1 * b.c1 - a.c2 * b.c2 = _
  ring

theorem mul_spec (a b : Fq6) :
    (a * b).c0 = a.c0 * b.c0 + xi * (a.c1 * b.c2 + a.c2 * b.c1) ∧
    (a * b).c1 = a.c0 * b.c1 + a.c1 * b.c0 + xi * (a.c2 * b.c2) ∧
    (a * b).c2 = a.c0 * b.c2 + a.c1 * b.c1 + a.c2 * b.c0 :=
  ⟨mul_c0 a b, mul_c1 a b, mul_c2 a b⟩

/-! ### the ring structure on the model's operations -/

instance : NatCast Fq6 := ⟨fun n => ⟨(n : Fq2), 0, 0⟩⟩
instance : IntCast Fq6 := ⟨fun z => ⟨(z : Fq2), 0, 0⟩⟩
instance : SMul ℕ Fq6 := ⟨fun n a => ⟨n • a.c0, n • a.c1, n • a.c2⟩⟩
instance : SMul ℤ Fq6 := ⟨fun z a => ⟨z • a.c0, z • a.c1, z • a.c2⟩⟩

@[simp] theorem natCast_c0 (n : ℕ) : ((n : Fq6)).c0 = (n : Fq2) := rfl
@[simp] theorem natCast_c1 (n : ℕ) : ((n : Fq6)).c1 = 0 := rfl
@[simp] theorem natCast_c2 (n : ℕ) : ((n : Fq6)).c2 = 0 := rfl
@[simp] theorem intCast_c0 (n : ℤ) : ((n : Fq6)).c0 = (n : Fq2) := rfl
@[simp] theorem intCast_c1 (n : ℤ) : ((n : Fq6)).c1 = 0 := rfl
@[simp] theorem intCast_c2 (n : ℤ) : ((n : Fq6)).c2 = 0 := rfl
@[simp] theorem nsmul_c0 (n : ℕ) (a : Fq6) : (n • a).c0 = n • a.c0 := rfl
@[simp] theorem nsmul_c1 (n : ℕ) (a : Fq6) : (n • a).c1 = n • a.c1 := rfl
@[simp] theorem nsmul_c2 (n : ℕ) (a : Fq6) : (n • a).c2 = n • a.c2 := rfl
@[simp] theorem zsmul_c0 (n : ℤ) (a : Fq6) : (n • a).c0 = n • a.c0 := rfl
@[simp] theorem zsmul_c1 (n : ℤ) (a : Fq6) : (n • a).c1 = n • a.c1 := rfl
@[simp] theorem zsmul_c2 (n : ℤ) (a : Fq6) : (n • a).c2 = n • a.c2 := rfl

instance instCommRing : CommRing Fq6 where
  add := (· + ·)
  mul := (· * ·)
  neg := Neg.neg
  sub := (· - ·)
  zero := 0
  one := 1
  add_assoc a b c := ext (add_assoc _ _ _) (add_assoc _ _ _) (add_assoc _ _ _)
  zero_add a := ext (zero_add _) (zero_add _) (zero_add _)
  add_zero a := ext (add_zero _) (add_zero _) (add_zero _)
  add_comm a b := ext (add_comm _ _) (add_comm _ _) (add_comm _ _)
  neg_add_cancel a := ext (neg_add_cancel _) (neg_add_cancel _) (neg_add_cancel _)
  sub_eq_add_neg a b := ext (sub_eq_add_neg _ _) (sub_eq_add_neg _ _) (sub_eq_add_neg _ _)
  mul_assoc a b c := by ext1 <;> simp only [mul_c0, mul_c1, mul_c2] <;> ring
  one_mul a := by ext1 <;> simp only [mul_c0, mul_c1, mul_c2, one_c0, one_c1, one_c2] <;> ring
  mul_one a := by ext1 <;> simp only [mul_c0, mul_c1, mul_c2, one_c0, one_c1, one_c2] <;> ring
  left_distrib a b c := by
    ext1 <;> simp only [mul_c0, mul_c1, mul_c2, add_c0, add_c1, add_c2] <;> ring
  right_distrib a b c := by
    ext1 <;> simp only [mul_c0, mul_c1, mul_c2, add_c0, add_c1, add_c2] <;> ring
  mul_comm a b := by ext1 <;> simp only [mul_c0, mul_c1, mul_c2] <;> ring
  zero_mul a := by ext1 <;> simp only [mul_c0, mul_c1, mul_c2, zero_c0, zero_c1, zero_c2] <;> ring
  mul_zero a := by ext1 <;> simp only [mul_c0, mul_c1, mul_c2, zero_c0, zero_c1, zero_c2] <;> ring
  nsmul := (· • ·)
  nsmul_zero a := ext (AddMonoid.nsmul_zero _) (AddMonoid.nsmul_zero _) (AddMonoid.nsmul_zero _)
  nsmul_succ n a :=
    ext (AddMonoid.nsmul_succ n _) (AddMonoid.nsmul_succ n _) (AddMonoid.nsmul_succ n _)
  zsmul := (· • ·)
  zsmul_zero' a :=
    ext (SubNegMonoid.zsmul_zero' _) (SubNegMonoid.zsmul_zero' _) (SubNegMonoid.zsmul_zero' _)
  zsmul_succ' n a :=
    ext (SubNegMonoid.zsmul_succ' n _) (SubNegMonoid.zsmul_succ' n _) (SubNegMonoid.zsmul_succ' n _)
  zsmul_neg' n a :=
    ext (SubNegMonoid.zsmul_neg' n _) (SubNegMonoid.zsmul_neg' n _) (SubNegMonoid.zsmul_neg' n _)
  natCast := Nat.cast
  natCast_zero := ext Nat.cast_zero rfl rfl
  natCast_succ n := ext (Nat.cast_succ n) (add_zero _).symm (add_zero _).symm
  intCast := Int.cast
  intCast_ofNat n := ext (Int.cast_natCast n) rfl rfl
  intCast_negSucc n := ext (Int.cast_negSucc n) neg_zero.symm neg_zero.symm

/-! ### distinguished elements, embedding of `Fq2` -/

/-- the generator `v` (`v³ = ξ`) -/
def v : Fq6 := ⟨0, 1, 0⟩

/-- `Fq2 → Fq6`, `c ↦ c + 0·v + 0·v²` -/
def ofFq2 : Fq2 →+* Fq6 where
  toFun c := ⟨c, 0, 0⟩
  map_one' := rfl
  map_zero' := rfl
  map_mul' a b := by ext1 <;> simp [mul_c0, mul_c1, mul_c2]
  map_add' a b := by ext1 <;> simp

@[simp] theorem ofFq2_c0 (c : Fq2) : (ofFq2 c).c0 = c := rfl
@[simp] theorem ofFq2_c1 (c : Fq2) : (ofFq2 c).c1 = 0 := rfl
@[simp] theorem ofFq2_c2 (c : Fq2) : (ofFq2 c).c2 = 0 := rfl

theorem ofFq2_injective : Function.Injective ofFq2 := fun a b h => by
  simpa using congrArg Fq6.c0 h

theorem v_mul_v : v * v = ⟨0, 0, 1⟩ := by ext1 <;> simp [mul_c0, mul_c1, mul_c2, v]
theorem v_cube : v * v * v = ofFq2 xi := by
  rw [v_mul_v]; ext1 <;> simp [mul_c0, mul_c1, mul_c2, v]
theorem v_pow_three : v ^ 3 = ofFq2 xi := by rw [← v_cube]; ring

/-- every element is `c0 + c1·v + c2·v²` -/
theorem eq_add_mul_v (a : Fq6) : a = ofFq2 a.c0 + ofFq2 a.c1 * v + ofFq2 a.c2 * (v * v) := by
  rw [v_mul_v]; ext1 <;> simp [mul_c0, mul_c1, mul_c2, v]

/-- multiplication by an `Fq2` scalar is componentwise -/
theorem mul_ofFq2 (a : Fq6) (c : Fq2) : a * ofFq2 c = ⟨a.c0 * c, a.c1 * c, a.c2 * c⟩ := by
  ext1 <;> simp [mul_c0, mul_c1, mul_c2]
theorem ofFq2_mul (c : Fq2) (a : Fq6) : ofFq2 c * a = ⟨c * a.c0, c * a.c1, c * a.c2⟩ := by
  ext1 <;> simp [mul_c0, mul_c1, mul_c2]

/-! ### the remaining model operations against the ring operations -/

theorem add_eq (a b : Fq6) : Fq6.add a b = a + b := rfl
theorem sub_eq (a b : Fq6) : Fq6.sub a b = a - b := rfl
theorem neg_eq (a : Fq6) : Fq6.neg a = -a := rfl
theorem mul_eq (a b : Fq6) : Fq6.mul a b = a * b := rfl

theorem double_eq (a : Fq6) : double a = a + a := rfl
theorem dbl_eq (a : Fq6) : dbl a = a + a := rfl

theorem square_eq (a : Fq6) : square a = a * a := by
  ext1
  · rw [mul_c0]
    show (dbl (a.c1 * a.c2)).mulByNonresidue + sq a.c0 = _
    rw [Fq2.mulByNonresidue_eq, Fq2.sq_eq, Fq2.dbl_eq]; ring
  · rw [mul_c1]
    show (sq a.c2).mulByNonresidue + dbl (a.c0 * a.c1) = _
    rw [Fq2.mulByNonresidue_eq, Fq2.sq_eq, Fq2.dbl_eq]; ring
  · rw [mul_c2]
    show dbl (a.c0 * a.c1) + sq (a.c0 - a.c1 + a.c2) + dbl (a.c1 * a.c2) - sq a.c0 - sq a.c2 = _
    simp only [Fq2.sq_eq, Fq2.dbl_eq]; ring

theorem sq_eq (a : Fq6) : sq a = a * a := square_eq a

/-- `mul_by_nonresidue` on `Fq6` is multiplication by `v` -/
theorem mulByNonresidue_eq (a : Fq6) : mulByNonresidue a = a * v := by
  ext1
  · rw [mul_c0]; show a.c2.mulByNonresidue = _; rw [Fq2.mulByNonresidue_eq]; simp [v]; ring
  · rw [mul_c1]; show a.c0 = _; simp [v]
  · rw [mul_c2]; show a.c1 = _; simp [v]

/-- sparse product `mul_by_1` = dense product with `(0, c1, 0)` -/
theorem mulBy1_eq (a : Fq6) (c1 : Fq2) : mulBy1 a c1 = a * ⟨0, c1, 0⟩ := by
  ext1
  · rw [mul_c0]
    show (c1 * (a.c1 + a.c2) - a.c1 * c1).mulByNonresidue = _
    rw [Fq2.mulByNonresidue_eq]; simp only []; ring
  · rw [mul_c1]
    show c1 * (a.c0 + a.c1) - a.c1 * c1 = _
    simp only []; ring
  · rw [mul_c2]
    show a.c1 * c1 = _
    simp only []; ring

/-- sparse product `mul_by_01` = dense product with `(c0, c1, 0)` -/
theorem mulBy01_eq (a : Fq6) (c0 c1 : Fq2) : mulBy01 a c0 c1 = a * ⟨c0, c1, 0⟩ := by
  ext1
  · rw [mul_c0]
    show (c1 * (a.c1 + a.c2) - a.c1 * c1).mulByNonresidue + a.c0 * c0 = _
    rw [Fq2.mulByNonresidue_eq]; simp only []; ring
  · rw [mul_c1]
    show (c0 + c1) * (a.c0 + a.c1) - a.c0 * c0 - a.c1 * c1 = _
    simp only []; ring
  · rw [mul_c2]
    show c0 * (a.c0 + a.c2) - a.c0 * c0 + a.c1 * c1 = _
    simp only []; ring

theorem isZero_iff (a : Fq6) : isZero a = true ↔ a = 0 := by
  unfold isZero
  rw [Bool.and_eq_true, Bool.and_eq_true, Fq2.isZero_iff, Fq2.isZero_iff, Fq2.isZero_iff]
  constructor
  · rintro ⟨⟨h0, h1⟩, h2⟩; ext1 <;> simp [h0, h1, h2]
  · rintro rfl; exact ⟨⟨rfl, rfl⟩, rfl⟩

end Fq6
end PP
