/-
Limb-level Montgomery multiplication, part 1: weighted sums, the state invariant of the interpreter
`PP.MontLimb`, the generic "row of `mac`s" lemma, and the schoolbook product `genMulProg n`.

Route (see `PP/Model/MontLimb.lean`): the extracted programs are syntactically equal to the output of
the Lean generators `gen…Prog n` (`n = 6, 4`; kernel-checked), and for EVERY `n` the interpretation of
`gen…Prog n` is proved to compute the integer-level model `Mont.mul / square / montReduce`.
-/
import Mathlib.Tactic.Ring
import Mathlib.Tactic.NormNum
import Mathlib.Tactic.SplitIfs
import Mathlib.Tactic.LinearCombination
import PP.Model.MontLimb
import PP.Proofs.Limbs

namespace PP.MontLimb
open PP PP.Mont PP.Limbs

/-! ## 1. weighted sums `Σ_{j<m} f j · 2^(64 j)` -/

def wsum (f : Nat → Nat) : Nat → Nat
  | 0 => 0
  | m + 1 => wsum f m + f m * 2 ^ (64 * m)

@[simp] theorem wsum_zero (f : Nat → Nat) : wsum f 0 = 0 := rfl
theorem wsum_succ (f : Nat → Nat) (m : Nat) : wsum f (m + 1) = wsum f m + f m * 2 ^ (64 * m) := rfl

theorem wsum_congr {f g : Nat → Nat} {m : Nat} (h : ∀ j, j < m → f j = g j) : wsum f m = wsum g m := by
  induction m with
  | zero => rfl
  | succ m ih =>
    rw [wsum_succ, wsum_succ, ih (fun j hj => h j (by omega)), h m (by omega)]

theorem wsum_add (f : Nat → Nat) (a b : Nat) :
    wsum f (a + b) = wsum f a + 2 ^ (64 * a) * wsum (fun j => f (a + j)) b := by
  induction b with
  | zero => simp
  | succ b ih =>
    rw [← Nat.add_assoc, wsum_succ, wsum_succ, ih]
    ring

theorem wsum_succ' (f : Nat → Nat) (m : Nat) :
    wsum f (m + 1) = f 0 + 2 ^ 64 * wsum (fun j => f (1 + j)) m := by
  rw [Nat.add_comm m 1, wsum_add]
  simp [wsum_succ]

theorem wsum_lt {f : Nat → Nat} {m : Nat} (h : ∀ j, j < m → f j < 2 ^ 64) : wsum f m < 2 ^ (64 * m) := by
  induction m with
  | zero => exact Nat.one_pos
  | succ m ih =>
    rw [wsum_succ, pow64_succ, Nat.mul_comm (f m), Nat.mul_comm (2 ^ 64)]
    exact digit_lt (ih (fun j hj => h j (Nat.lt_succ_of_lt hj))) (h m (Nat.lt_succ_self m))

theorem wsum_mul_left (x : Nat) (f : Nat → Nat) (m : Nat) :
    x * wsum f m = wsum (fun j => x * f j) m := by
  induction m with
  | zero => simp
  | succ m ih => rw [wsum_succ, wsum_succ, ← ih]; ring

theorem wsum_add_fun (f g : Nat → Nat) (m : Nat) :
    wsum (fun j => f j + g j) m = wsum f m + wsum g m := by
  induction m with
  | zero => simp
  | succ m ih => rw [wsum_succ, wsum_succ, wsum_succ, ih]; ring

theorem wsum_zero_fun (m : Nat) : wsum (fun _ => 0) m = 0 := by
  induction m with
  | zero => rfl
  | succ m ih => rw [wsum_succ, ih]; simp

/-- `limbsToNat` of a tabulated list -/
theorem limbsToNat_map_range (f : Nat → Nat) (m : Nat) :
    limbsToNat ((List.range m).map f) = wsum f m := by
  induction m with
  | zero => rfl
  | succ m ih =>
    rw [List.range_succ, List.map_append, limbsToNat_append, ih, wsum_succ]
    simp [Nat.mul_comm]

theorem wsum_limbFn (l : List Nat) : wsum (limbFn l) l.length = limbsToNat l := by
  induction l using List.reverseRecOn with
  | nil => rfl
  | append_singleton l a ih =>
    rw [List.length_append, List.length_singleton, wsum_succ, limbsToNat_append]
    have h1 : wsum (limbFn (l ++ [a])) l.length = wsum (limbFn l) l.length := by
      apply wsum_congr; intro j hj
      simp [limbFn, List.getD_eq_getElem?_getD, List.getElem?_append_left hj]
    have h2 : limbFn (l ++ [a]) l.length = a := by
      simp [limbFn, List.getD_eq_getElem?_getD]
    rw [h1, h2, ih]; simp [Nat.mul_comm]

theorem limbFn_lt {l : List Nat} (h : LimbsOK l) (i : Nat) : limbFn l i < 2 ^ 64 := by
  unfold limbFn
  rw [List.getD_eq_getElem?_getD]
  cases hi : l[i]? with
  | none => simp
  | some v => simpa using h v (List.mem_of_getElem? hi)

theorem map_range_limbFn (l : List Nat) : (List.range l.length).map (limbFn l) = l := by
  apply List.ext_getElem
  · simp
  · intro i h1 h2
    simp [limbFn, List.getD_eq_getElem?_getD] at h1 h2 ⊢
    rw [List.getElem?_eq_getElem h2]; rfl

/-! ## 2. machine-word arithmetic -/

/-- a `u128` below `W²` splits into its two `u64` halves -/
theorem split_u128 {t : Nat} (h : t < 2 ^ 64 * 2 ^ 64) :
    t % 2 ^ 128 % 2 ^ 64 + 2 ^ 64 * (t % 2 ^ 128 / 2 ^ 64 % 2 ^ 64) = t := by
  rw [Nat.mod_eq_of_lt (show t < 2 ^ 128 from h), Nat.mod_eq_of_lt (Nat.div_lt_of_lt_mul h)]
  exact Nat.mod_add_div t _

/-- `a + b·c + cy` of four digits below `W` is below `W²`: `(W-1) + (W-1)² + (W-1) = W² - 1` -/
theorem mac_lt {W a b c cy : Nat} (ha : a < W) (hb : b < W) (hc : c < W) (hcy : cy < W) :
    a + b * c + cy < W * W := by
  obtain ⟨w, rfl⟩ : ∃ w, W = w + 1 := ⟨W - 1, by omega⟩
  have h : b * c ≤ w * w := Nat.mul_le_mul (Nat.le_of_lt_succ hb) (Nat.le_of_lt_succ hc)
  have e : (w + 1) * (w + 1) = w * w + w + w + 1 := by ring
  omega

/-! ## 3. the state invariant: every local and every limb is a `u64` -/

structure State.OK (s : State) : Prop where
  r : ∀ i, s.r i < 2 ^ 64
  k : s.k < 2 ^ 64
  carry : s.carry < 2 ^ 64
  carry2 : s.carry2 < 2 ^ 64
  self : ∀ i, s.self i < 2 ^ 64
  other : ∀ i, s.other i < 2 ^ 64

theorem modLimb_lt (P : Params) (i : Nat) : modLimb P i < 2 ^ 64 := by
  unfold modLimb
  exact limbFn_lt (limbsOf_ok _ _) i

theorem State.OK.get {s : State} (h : s.OK) (x : Reg) : s.get x < 2 ^ 64 := by
  cases x with
  | r i => exact h.r i
  | k => exact h.k
  | carry => exact h.carry
  | carry2 => exact h.carry2

theorem evalOpd_lt (P : Params) {s : State} (h : s.OK) (o : Opd) : evalOpd P s o < 2 ^ 64 := by
  cases o with
  | reg x => exact h.get x
  | lit n => exact Nat.mod_lt _ (by norm_num)
  | selfL i => exact h.self i
  | otherL i => exact h.other i
  | modL i => exact modLimb_lt P i
  | inv => exact Nat.mod_lt _ (by norm_num)

theorem State.OK.set {s : State} (h : s.OK) (x : Reg) {v : Nat} (hv : v < 2 ^ 64) : (s.set x v).OK := by
  cases x with
  | r i =>
    refine ⟨fun j => ?_, h.k, h.carry, h.carry2, h.self, h.other⟩
    show (if j = i then v else s.r j) < 2 ^ 64
    split_ifs
    · exact hv
    · exact h.r j
  | k => exact ⟨h.r, hv, h.carry, h.carry2, h.self, h.other⟩
  | carry => exact ⟨h.r, h.k, hv, h.carry2, h.self, h.other⟩
  | carry2 => exact ⟨h.r, h.k, h.carry, hv, h.self, h.other⟩

theorem State.OK.setCarry {s : State} (h : s.OK) {v : Nat} (hv : v < 2 ^ 64) :
    ({ s with carry := v } : State).OK := ⟨h.r, h.k, hv, h.carry2, h.self, h.other⟩

/-! ### projections of `set` (all by `rfl`) -/

@[simp] theorem set_r_r (s : State) (i v j : Nat) : (s.set (.r i) v).r j = if j = i then v else s.r j := rfl
@[simp] theorem set_r_k (s : State) (i v : Nat) : (s.set (.r i) v).k = s.k := rfl
@[simp] theorem set_r_carry (s : State) (i v : Nat) : (s.set (.r i) v).carry = s.carry := rfl
@[simp] theorem set_r_carry2 (s : State) (i v : Nat) : (s.set (.r i) v).carry2 = s.carry2 := rfl
@[simp] theorem set_r_self (s : State) (i v : Nat) : (s.set (.r i) v).self = s.self := rfl
@[simp] theorem set_r_other (s : State) (i v : Nat) : (s.set (.r i) v).other = s.other := rfl
@[simp] theorem set_carry_r (s : State) (v : Nat) : (s.set .carry v).r = s.r := rfl
@[simp] theorem set_carry_k (s : State) (v : Nat) : (s.set .carry v).k = s.k := rfl
@[simp] theorem set_carry_carry (s : State) (v : Nat) : (s.set .carry v).carry = v := rfl
@[simp] theorem set_carry_carry2 (s : State) (v : Nat) : (s.set .carry v).carry2 = s.carry2 := rfl
@[simp] theorem set_carry_self (s : State) (v : Nat) : (s.set .carry v).self = s.self := rfl
@[simp] theorem set_carry_other (s : State) (v : Nat) : (s.set .carry v).other = s.other := rfl
@[simp] theorem set_carry2_r (s : State) (v : Nat) : (s.set .carry2 v).r = s.r := rfl
@[simp] theorem set_carry2_k (s : State) (v : Nat) : (s.set .carry2 v).k = s.k := rfl
@[simp] theorem set_carry2_carry (s : State) (v : Nat) : (s.set .carry2 v).carry = s.carry := rfl
@[simp] theorem set_carry2_carry2 (s : State) (v : Nat) : (s.set .carry2 v).carry2 = v := rfl
@[simp] theorem set_carry2_self (s : State) (v : Nat) : (s.set .carry2 v).self = s.self := rfl
@[simp] theorem set_carry2_other (s : State) (v : Nat) : (s.set .carry2 v).other = s.other := rfl
@[simp] theorem set_k_r (s : State) (v : Nat) : (s.set .k v).r = s.r := rfl
@[simp] theorem set_k_k (s : State) (v : Nat) : (s.set .k v).k = v := rfl
@[simp] theorem set_k_carry (s : State) (v : Nat) : (s.set .k v).carry = s.carry := rfl
@[simp] theorem set_k_carry2 (s : State) (v : Nat) : (s.set .k v).carry2 = s.carry2 := rfl
@[simp] theorem set_k_self (s : State) (v : Nat) : (s.set .k v).self = s.self := rfl
@[simp] theorem set_k_other (s : State) (v : Nat) : (s.set .k v).other = s.other := rfl

/-- every instruction keeps all words in range -/
theorem step_ok (P : Params) (i : Instr) {s : State} (h : s.OK) : (step P i s).OK := by
  have h64 : (0 : Nat) < 2 ^ 64 := by norm_num
  cases i with
  | mov d a => exact h.set d (evalOpd_lt P h a)
  | mac d a b c =>
    cases d with
    | none => exact State.OK.setCarry h (Nat.mod_lt _ h64)
    | some d => exact State.OK.setCarry (h.set d (Nat.mod_lt _ h64)) (Nat.mod_lt _ h64)
  | adc d a b => exact State.OK.setCarry (h.set d (Nat.mod_lt _ h64)) (Nat.mod_lt _ h64)
  | wmul d a b => exact h.set d (Nat.mod_lt _ h64)
  | shr d a n =>
    exact h.set d (lt_of_le_of_lt (by rw [Nat.shiftRight_eq_div_pow]; exact Nat.div_le_self _ _)
      (evalOpd_lt P h a))
  | shl d a n => exact h.set d (Nat.mod_lt _ h64)
  | shlOr d a n b m =>
    refine h.set d (Nat.or_lt_two_pow (Nat.mod_lt _ h64) ?_)
    exact lt_of_le_of_lt (by rw [Nat.shiftRight_eq_div_pow]; exact Nat.div_le_self _ _)
      (evalOpd_lt P h b)
  | store i x =>
    refine ⟨h.r, h.k, h.carry, h.carry2, fun j => ?_, h.other⟩
    show (if j = i then s.get x else s.self j) < 2 ^ 64
    split_ifs
    · exact h.get x
    · exact h.self j
  | call args => exact h
  | reduce =>
    refine ⟨h.r, h.k, h.carry, h.carry2, fun j => ?_, h.other⟩
    show limbFn (reduceLimbs P ((List.range P.limbs).map s.self)) j < 2 ^ 64
    apply limbFn_lt
    have hl : LimbsOK ((List.range P.limbs).map s.self) := by
      intro l hl; simp only [List.mem_map] at hl; obtain ⟨i, _, rfl⟩ := hl; exact h.self i
    unfold reduceLimbs
    simp only
    split_ifs
    · exact hl
    · exact subNoborrow_ok _ _ _

theorem runBody_nil (P : Params) (s : State) : runBody P [] s = s := rfl
theorem runBody_cons (P : Params) (i : Instr) (is : List Instr) (s : State) :
    runBody P (i :: is) s = runBody P is (step P i s) := rfl
theorem runBody_append (P : Params) (is js : List Instr) (s : State) :
    runBody P (is ++ js) s = runBody P js (runBody P is s) := by
  simp [runBody, List.foldl_append]
theorem runBody_singleton (P : Params) (i : Instr) (s : State) : runBody P [i] s = step P i s := rfl

theorem runBody_ok (P : Params) (is : List Instr) {s : State} (h : s.OK) : (runBody P is s).OK := by
  induction is generalizing s with
  | nil => exact h
  | cons i is ih => exact ih (step_ok P i h)

/-! ## 4. a row of `mac`s -/

/-- `s'` has the same `k`, `carry2`, `self`, `other` as `s` (only `r` and `carry` may differ) -/
def SameEnv (s s' : State) : Prop :=
  s'.k = s.k ∧ s'.carry2 = s.carry2 ∧ s'.self = s.self ∧ s'.other = s.other

theorem SameEnv.refl (s : State) : SameEnv s s := ⟨rfl, rfl, rfl, rfl⟩
theorem SameEnv.trans {s t u : State} (h1 : SameEnv s t) (h2 : SameEnv t u) : SameEnv s u :=
  ⟨h2.1.trans h1.1, h2.2.1.trans h1.2.1, h2.2.2.1.trans h1.2.2.1, h2.2.2.2.trans h1.2.2.2⟩

/-- operands that do not read `r<i>` or `carry` -/
def Stable (P : Params) (o : Opd) : Prop := ∀ s s', SameEnv s s' → evalOpd P s' o = evalOpd P s o

theorem stable_k (P : Params) : Stable P (.reg .k) := fun _ _ h => h.1
theorem stable_selfL (P : Params) (i : Nat) : Stable P (.selfL i) := fun _ _ h => by
  show _ = _; simp only [evalOpd]; rw [h.2.2.1]
theorem stable_otherL (P : Params) (i : Nat) : Stable P (.otherL i) := fun _ _ h => by
  show _ = _; simp only [evalOpd]; rw [h.2.2.2]
theorem stable_modL (P : Params) (i : Nat) : Stable P (.modL i) := fun _ _ _ => rfl

/-- `mac` into `r_d` (`mac_with_carry` on `u64` values: no overflow in `u128`): limb and carry out
    hold `a + b·c + carry`; nothing else changes -/
theorem step_mac (P : Params) (d : Nat) (a b c : Opd) {s s' : State} (hs : s.OK)
    (e : step P (.mac (some (.r d)) a b c) s = s') :
    SameEnv s s' ∧ (∀ j, j ≠ d → s'.r j = s.r j) ∧
      s'.r d + 2 ^ 64 * s'.carry = evalOpd P s a + evalOpd P s b * evalOpd P s c + s.carry := by
  subst e
  refine ⟨⟨rfl, rfl, rfl, rfl⟩, fun j hj => if_neg hj, ?_⟩
  show (if d = d then _ else _) + _ = _
  rw [if_pos rfl]
  exact split_u128 (mac_lt (evalOpd_lt P hs a) (evalOpd_lt P hs b) (evalOpd_lt P hs c) hs.carry)

/-- `mac` whose low word is discarded -/
theorem step_mac_none (P : Params) (a b c : Opd) {s s' : State} (hs : s.OK)
    (e : step P (.mac none a b c) s = s') :
    SameEnv s s' ∧ s'.r = s.r ∧
      s'.carry = (evalOpd P s a + evalOpd P s b * evalOpd P s c + s.carry) / 2 ^ 64 := by
  subst e
  have h := mac_lt (evalOpd_lt P hs a) (evalOpd_lt P hs b) (evalOpd_lt P hs c) hs.carry
  refine ⟨⟨rfl, rfl, rfl, rfl⟩, rfl, ?_⟩
  show _ % 2 ^ 128 / 2 ^ 64 % 2 ^ 64 = _
  rw [Nat.mod_eq_of_lt (show _ < 2 ^ 128 from h), Nat.mod_eq_of_lt (Nat.div_lt_of_lt_mul h)]

theorem step_adc (P : Params) (d : Nat) (a b : Opd) {s s' : State} (hs : s.OK)
    (e : step P (.adc (.r d) a b) s = s') :
    SameEnv s s' ∧ (∀ j, j ≠ d → s'.r j = s.r j) ∧
      s'.r d + 2 ^ 64 * s'.carry = evalOpd P s a + evalOpd P s b + s.carry := by
  subst e
  refine ⟨⟨rfl, rfl, rfl, rfl⟩, fun j hj => if_neg hj, ?_⟩
  show (if d = d then _ else _) + _ = _
  rw [if_pos rfl]
  exact split_u128 (Nat.mul_one (evalOpd P s b) ▸
    mac_lt (evalOpd_lt P hs a) (evalOpd_lt P hs b) (Nat.one_lt_two_pow (by decide)) hs.carry)

theorem step_mov_r (P : Params) (d : Nat) (a : Opd) (s : State) (j : Nat) :
    (step P (.mov (.r d) a) s).r j = if j = d then evalOpd P s a else s.r j := rfl

/-- the accumulator operands of a row of `mac`s: the generators emit the literal `0` in the first row
    of a product (`c`) and the registers `r_{base+j}` in the others -/
theorem wsum_acc (c : Prop) [Decidable c] (P : Params) (s : State) (base m : Nat) :
    wsum (fun j => evalOpd P s (if c then .lit 0 else rr (base + j))) m
      = if c then 0 else wsum (fun j => s.r (base + j)) m := by
  by_cases hc : c
  · simp only [if_pos hc]; exact wsum_zero_fun m
  · simp only [if_neg hc]; rfl

/-- A row `r_{base+j} := mac(acc_j, X, C_j)` for `j < m`, where `acc_j` is the literal `0` (if `c`) or
    `r_{base+j}` itself:
    `Σ_j r'_{base+j}·2^(64j) + carry'·2^(64m) = Σ_j acc_j·2^(64j) + X·Σ_j C_j·2^(64j) + carry`. -/
theorem macChain (P : Params) (base : Nat) (c : Prop) [Decidable c] (X : Opd) (C : Nat → Opd)
    (hX : Stable P X) (hC : ∀ j, Stable P (C j)) (s : State) (hs : s.OK) (m : Nat) :
    ∃ s', runBody P ((List.range m).map (fun j =>
        Instr.mac (some (.r (base + j))) (if c then .lit 0 else rr (base + j)) X (C j))) s = s' ∧
      s'.OK ∧ SameEnv s s' ∧ (∀ i, (i < base ∨ base + m ≤ i) → s'.r i = s.r i) ∧
      wsum (fun j => s'.r (base + j)) m + s'.carry * 2 ^ (64 * m)
        = wsum (fun j => evalOpd P s (if c then .lit 0 else rr (base + j))) m
          + evalOpd P s X * wsum (fun j => evalOpd P s (C j)) m + s.carry := by
  induction m with
  | zero => exact ⟨s, rfl, hs, SameEnv.refl s, fun _ _ => rfl, by simp⟩
  | succ m ih =>
    obtain ⟨s1, e1, ok1, env1, fr1, sum1⟩ := ih
    refine ⟨_, rfl, ?_⟩
    rw [List.range_succ, List.map_append, List.map_singleton, runBody_append, runBody_singleton, e1]
    have ok2 := step_ok P (.mac (some (.r (base + m))) (if c then .lit 0 else rr (base + m)) X (C m)) ok1
    obtain ⟨env2, fr2, sum2⟩ := step_mac P (base + m) _ X (C m) ok1 rfl
    generalize step P _ s1 = s2 at ok2 env2 fr2 sum2 ⊢
    -- the operands read nothing the earlier `mac`s wrote
    have hacc : evalOpd P s1 (if c then .lit 0 else rr (base + m))
        = evalOpd P s (if c then .lit 0 else rr (base + m)) := by
      split_ifs
      · rfl
      · exact fr1 _ (Or.inr (le_refl _))
    rw [hX s s1 env1, hC m s s1 env1, hacc] at sum2
    refine ⟨ok2, env1.trans env2, fun i hi => ?_, ?_⟩
    · rw [fr2 i (by omega)]
      exact fr1 i (by omega)
    · have low : wsum (fun j => s2.r (base + j)) m = wsum (fun j => s1.r (base + j)) m :=
        wsum_congr (fun j hj => fr2 _ (by omega))
      rw [wsum_succ, wsum_succ, wsum_succ, low, pow64_succ]
      linear_combination sum1 + 2 ^ (64 * m) * sum2

/-- A complete row: `carry := 0`, the `mac`s, `r_{base+m} := carry`:
    `(r_base … r_{base+m}) := (acc_0 … acc_{m-1}) + X·(C_0 … C_{m-1})`. -/
theorem macRow (P : Params) (base : Nat) (c : Prop) [Decidable c] (X : Opd) (C : Nat → Opd)
    (hX : Stable P X) (hC : ∀ j, Stable P (C j)) (s : State) (hs : s.OK) (m : Nat) :
    ∃ s', runBody P ([.mov .carry (.lit 0)] ++ (List.range m).map (fun j =>
        Instr.mac (some (.r (base + j))) (if c then .lit 0 else rr (base + j)) X (C j))
        ++ [.mov (.r (base + m)) (.reg .carry)]) s = s' ∧
      s'.OK ∧ s'.self = s.self ∧ s'.other = s.other ∧
      (∀ j, (j < base ∨ base + m < j) → s'.r j = s.r j) ∧
      wsum (fun j => s'.r (base + j)) (m + 1)
        = (if c then 0 else wsum (fun j => s.r (base + j)) m)
          + evalOpd P s X * wsum (fun j => evalOpd P s (C j)) m := by
  refine ⟨_, rfl, ?_⟩
  rw [runBody_append, runBody_append, runBody_singleton, runBody_singleton]
  have env0 : SameEnv s (step P (.mov .carry (.lit 0)) s) := ⟨rfl, rfl, rfl, rfl⟩
  obtain ⟨s1, e1, ok1, env1, fr1, sum1⟩ := macChain P base c X C hX hC _ (step_ok P (.mov .carry (.lit 0)) hs) m
  rw [e1]
  rw [wsum_acc, hX s _ env0, wsum_congr (fun j _ => hC j s _ env0)] at sum1
  refine ⟨step_ok P _ ok1, env1.2.2.1, env1.2.2.2, fun j hj => ?_, ?_⟩
  · rw [step_mov_r, if_neg (by omega)]
    exact fr1 j (by omega)
  · have low : wsum (fun j => (step P (.mov (.r (base + m)) (.reg .carry)) s1).r (base + j)) m
        = wsum (fun j => s1.r (base + j)) m :=
      wsum_congr (fun j hj => by rw [step_mov_r, if_neg (by omega)])
    rw [wsum_succ, low, step_mov_r, if_pos rfl]
    exact sum1

/-! ## 5. callers: `run` versus `runBody`, parameter passing -/

def isCall : Instr → Bool
  | .call _ => true
  | _ => false

theorem stepTop_of_not_call (P : Params) (mr : List Instr) {i : Instr} (h : isCall i = false) (s : State) :
    stepTop P mr i s = step P i s := by
  cases i <;> first | rfl | simp [isCall] at h

theorem run_append (P : Params) (mr is js : List Instr) (s : State) :
    run P mr (is ++ js) s = run P mr js (run P mr is s) := by
  simp [run, List.foldl_append]

theorem run_eq_runBody (P : Params) (mr is : List Instr) (h : ∀ i ∈ is, isCall i = false) (s : State) :
    run P mr is s = runBody P is s := by
  induction is generalizing s with
  | nil => rfl
  | cons i is ih =>
    show run P mr is (stepTop P mr i s) = runBody P is (step P i s)
    rw [stepTop_of_not_call P mr (h i (by simp)), ih (fun j hj => h j (by simp [hj]))]

theorem run_call (P : Params) (mr : List Instr) (args : List Opd) (s : State) :
    run P mr [.call args] s = runBody P mr (bindArgs P args s) := rfl

theorem bindArgs_ok (P : Params) (args : List Opd) {s : State} (h : s.OK) : (bindArgs P args s).OK := by
  refine ⟨fun i => ?_, by show (0 : Nat) < _; norm_num, by show (0 : Nat) < _; norm_num,
    by show (0 : Nat) < _; norm_num, h.self, h.other⟩
  show ((args[i]?.map (evalOpd P s)).getD 0) < 2 ^ 64
  cases args[i]? with
  | none => simp
  | some a => simpa using evalOpd_lt P h a

theorem bindArgs_callArgs_r (P : Params) (n : Nat) (s : State) {i : Nat} (hi : i < 2 * n) :
    (bindArgs P (callArgs n) s).r i = s.r i := by
  show (((callArgs n)[i]?.map (evalOpd P s)).getD 0) = s.r i
  have : (callArgs n)[i]? = some (rr i) := by
    simp [callArgs, List.getElem?_map, List.getElem?_range hi]
  rw [this]; rfl

theorem run_ok (P : Params) (mr is : List Instr) {s : State} (h : s.OK) : (run P mr is s).OK := by
  induction is generalizing s with
  | nil => exact h
  | cons i is ih =>
    apply ih
    show (stepTop P mr i s).OK
    cases i with
    | call args => exact runBody_ok P mr (bindArgs_ok P args h)
    | _ => rw [stepTop_of_not_call P mr rfl]; exact step_ok P _ h

theorem out_length (P : Params) (s : State) : (s.out P).length = P.limbs := by simp [State.out]

theorem out_ok (P : Params) {s : State} (h : s.OK) : LimbsOK (s.out P) := by
  intro l hl
  simp only [State.out, List.mem_map] at hl
  obtain ⟨i, _, rfl⟩ := hl
  exact h.self i

/-! ## 6. the schoolbook product -/

/-- row `i`: `(r_i … r_{i+n}) := (r_i … r_{i+n-1}) + self_i · other` (the accumulator is `0` in row 0) -/
theorem mulRow (P : Params) (n i : Nat) (s : State) (hs : s.OK) :
    ∃ s', runBody P (genMulRow n i) s = s' ∧ s'.OK ∧ s'.self = s.self ∧ s'.other = s.other ∧
      (∀ j, (j < i ∨ i + n < j) → s'.r j = s.r j) ∧
      wsum (fun j => s'.r (i + j)) (n + 1)
        = (if i = 0 then 0 else wsum (fun j => s.r (i + j)) n) + s.self i * wsum s.other n :=
  macRow P i (i = 0) (.selfL i) (fun j => .otherL j) (stable_selfL P i) (fun j => stable_otherL P j) s hs n

/-- the first `i` rows: `(r_0 … r_{n+i-1}) = (self_0 … self_{i-1}) · other` -/
theorem mulRows (P : Params) (n : Nat) (s : State) (hs : s.OK) (i : Nat) :
    ∃ s', runBody P ((List.range i).flatMap (genMulRow n)) s = s' ∧ s'.OK ∧
      s'.self = s.self ∧ s'.other = s.other ∧
      (i ≠ 0 → wsum s'.r (n + i) = wsum s.self i * wsum s.other n) := by
  induction i with
  | zero => exact ⟨s, rfl, hs, rfl, rfl, fun h => absurd rfl h⟩
  | succ i ih =>
    obtain ⟨s1, e1, ok1, self1, other1, sum1⟩ := ih
    obtain ⟨s2, e2, ok2, self2, other2, fr2, sum2⟩ := mulRow P n i s1 ok1
    refine ⟨s2, ?_, ok2, self2.trans self1, other2.trans other1, fun _ => ?_⟩
    · rw [List.range_succ, List.flatMap_append, runBody_append, e1]
      simpa using e2
    · rw [self1, other1] at sum2
      have hsplit : wsum s2.r (n + (i + 1)) = wsum s2.r i + 2 ^ (64 * i) * wsum (fun j => s2.r (i + j)) (n + 1) := by
        rw [show n + (i + 1) = i + (n + 1) by omega, wsum_add]
      have hlow : wsum s2.r i = wsum s1.r i := wsum_congr (fun j hj => fr2 j (Or.inl hj))
      rw [hsplit, hlow, sum2, wsum_succ]
      by_cases hi : i = 0
      · subst hi; simp
      · rw [if_neg hi]
        have h1 := sum1 hi
        rw [show n + i = i + n by omega, wsum_add] at h1
        linear_combination h1

theorem genMulRows_noCall (n : Nat) : ∀ i ∈ (List.range n).flatMap (genMulRow n), isCall i = false := by
  intro i hi
  simp only [List.mem_flatMap, genMulRow, List.mem_append, List.mem_singleton, List.mem_map] at hi
  obtain ⟨_, _, (rfl | ⟨_, _, rfl⟩) | rfl⟩ := hi <;> rfl

/-- `mul_assign` up to the call: the arguments passed to `mont_reduce` are the limbs of `self · other` -/
theorem genMul_run (P : Params) (n : Nat) (mr : List Instr) (s : State) (hs : s.OK) (hn : 0 < n) :
    ∃ s', s'.OK ∧ run P mr (genMulProg n) s = runBody P mr s' ∧
      wsum s'.r (2 * n) = wsum s.self n * wsum s.other n := by
  obtain ⟨s1, e1, ok1, _, _, sum1⟩ := mulRows P n s hs n
  refine ⟨bindArgs P (callArgs n) s1, bindArgs_ok P _ ok1, ?_, ?_⟩
  · unfold genMulProg
    rw [run_append, run_eq_runBody P mr _ (genMulRows_noCall n), e1, run_call]
  · rw [← sum1 (by omega), show n + n = 2 * n by omega]
    exact wsum_congr (fun j hj => bindArgs_callArgs_r P n s1 hj)

end PP.MontLimb
