/-
Linearity of the textbook reduced ate pairing in its second argument (assembly):

    reducedAte P (Q₁ + Q₂) = reducedAte P Q₁ · reducedAte P Q₂

for finite `P ∈ E(Fq)` and finite `Q₁, Q₂, Q₁ + Q₂ ∈ G2` (see `BilinQ4` for the plan).
-/
import PP.Proofs.BilinQ4

namespace PP
namespace BilinQ

open WeierstrassCurve.Affine Ate Lines NegPair BilinP

local notation "b₂" => g2Codec.b

-- `mst` is a `foldl` over the 63 bits of `|x|`; only `chain_facts` is used of it, and folded it is not
-- evaluated when the facts about the three chains are unified with each other
attribute [local irreducible] mst

/-- **additivity of the Miller values after the final exponentiation**:
    `pw(f_{Q₁+Q₂}(P)) = pw(f_{Q₁}(P)) · pw(f_{Q₂}(P))` -/
theorem textbookMiller_add_fe (P : Fq × Fq) (hP : P.2 ^ 2 = P.1 ^ 3 + g1Codec.b) (hy : P.2 ≠ 0)
    {q₁ q₂ q₃ : Aff Fq2} (h₁ : Aff.InSub b₂ q₁) (h₂ : Aff.InSub b₂ q₂) (h₃ : Aff.InSub b₂ q₃)
    (hi₁ : q₁.infinity = false) (hi₂ : q₂.infinity = false) (hi₃ : q₃.infinity = false)
    (hsum : Aff.abs b₂ q₃ = Aff.abs b₂ q₁ + Aff.abs b₂ q₂) :
    pw (textbookMiller P (pair q₃)) =
      pw (textbookMiller P (pair q₁)) * pw (textbookMiller P (pair q₂)) := by
  have hQ₁ := repr_aff h₁.1 hi₁
  have hQ₂ := repr_aff h₂.1 hi₂
  have hQ₃ := repr_aff h₃.1 hi₃
  obtain ⟨inv₁, hT₁, hev₁⟩ := chain_facts h₁ hi₁
  obtain ⟨inv₂, hT₂, hev₂⟩ := chain_facts h₂ hi₂
  obtain ⟨inv₃, hT₃, hev₃⟩ := chain_facts h₃ hi₃
  have hR₁ := repr_negFrob h₁ hi₁
  have hR₂ := repr_negFrob h₂ hi₂
  have hR₃ := repr_negFrob h₃ hi₃
  -- `Q₃ = Q₁ + Q₂` in coordinates
  have hno := CoordOf.notOpp hQ₁ hQ₂ (by rw [← hsum]; exact CoordOf.ne_zero hQ₃)
  have eQ₃ : pair q₃ = addAB b₂ (pair q₁) (pair q₂) :=
    CoordOf.unique hQ₃ (hsum ▸ CoordOf.add hQ₁ hQ₂ hno)
  -- `[n]Q₃ = [n]Q₁ + [n]Q₂` in coordinates
  have hsumn : Gen.BLS_X • Aff.abs b₂ q₃ =
      Gen.BLS_X • Aff.abs b₂ q₁ + Gen.BLS_X • Aff.abs b₂ q₂ := by rw [hsum, nsmul_add]
  have hnoT := CoordOf.notOpp hR₁ hR₂ (by rw [← hsumn]; exact CoordOf.ne_zero hR₃)
  have eT₃ : negFrob (pair q₃) = addAB b₂ (negFrob (pair q₁)) (negFrob (pair q₂)) :=
    CoordOf.unique hR₃ (hsumn ▸ CoordOf.add hR₁ hR₂ hnoT)
  have on₁ := CoordOf.on hQ₁
  have on₂ := CoordOf.on hQ₂
  have onT₁ := CoordOf.on hR₁
  have onT₂ := CoordOf.on hR₂
  -- the constant
  have inv₃' : Inv (4 : Fq12) (addAB 4 (untwist (pair q₁)) (untwist (pair q₂))) Gen.BLS_X
      (mst (pair q₃)) := by
    rw [addAB_untwist on₁ on₂ hno, ← eQ₃]; exact inv₃
  have hnoT' : NotOpp (mst (pair q₁)).T (mst (pair q₂)).T := by
    rw [hT₁, hT₂]; exact notOpp_untwist hnoT
  have hT₃' : (mst (pair q₃)).T = addAB 4 (mst (pair q₁)).T (mst (pair q₂)).T := by
    rw [hT₁, hT₂, hT₃, addAB_untwist onT₁ onT₂ hnoT, ← eT₃]
  obtain ⟨c, hc, hmain⟩ := miller_additive (on_untwist on₁) (on_untwist on₂) (notOpp_untwist hno)
    (mst (pair q₁)) (mst (pair q₂)) (mst (pair q₃)) Gen.BLS_X inv₁ inv₂ inv₃' hnoT' hT₃'
  have hPe := on_embed hP
  have hm := hmain (embed P) hPe
  simp only [map_mul, map_pow, ev_vert, ev_lineR] at hm
  rw [(hev₁ P hPe).1, (hev₂ P hPe).1, (hev₃ P hPe).1, hT₁, hT₃,
    slopeAB_untwist on₁ on₂ hno, hT₂, slopeAB_untwist onT₁ onT₂ hnoT,
    addAB_untwist on₁ on₂ hno, ← eQ₃] at hm
  -- the slope of the line through `-Φ Q₁`, `-Φ Q₂`
  have hsl : slopeAB b₂ (negFrob (pair q₁)) (negFrob (pair q₂)) =
      -dInv * conjHom (slopeAB b₂ (pair q₁) (pair q₂)) :=
    slopeAB_cmap conjHom (neg_ne_zero.mpr dInv_ne_zero) on₁ on₂ hno
  rw [hsl, line_frob] at hm
  -- final exponent
  have hd₁ := pw_inFq6 (hev₁ P hPe).2
  have hd₂ := pw_inFq6 (hev₂ P hPe).2
  have hd₃ := pw_inFq6 (hev₃ P hPe).2
  have hv₃ := pw_inFq6 (inFq6_vertical (negFrob (pair q₃)) P
    (repr_x_ne_zero hR₃ (by rw [smul_comm, h₃.2]; exact nsmul_zero _)))
  have hv := pw_inFq6 (inFq6_vertical (pair q₃) P (repr_x_ne_zero hQ₃ h₃.2))
  have hl0 : lineAt (wInv * ι (slopeAB b₂ (pair q₁) (pair q₂))) (untwist (pair q₁)) (embed P) ≠ 0 :=
    lineAt_untwist_ne_zero _ _ P hy
  have hmE := congrArg pw hm
  simp only [pw_mul] at hmE
  rw [pw_frob_conj hl0, pw_pow, pw_pow, hd₁, hd₂, hd₃, hv₃, pw_root4 hc, hv, one_pow] at hmE
  simp only [mul_one, one_mul] at hmE
  exact mul_right_cancel₀ (pow_ne_zero _ (pw_ne_zero hl0)) hmE

/-- **linearity of the textbook reduced ate pairing in the second argument** -/
theorem reducedAte_add_right (P : Fq × Fq) (hP : P.2 ^ 2 = P.1 ^ 3 + g1Codec.b) (hy : P.2 ≠ 0)
    {q₁ q₂ q₃ : Aff Fq2} (h₁ : Aff.InSub b₂ q₁) (h₂ : Aff.InSub b₂ q₂) (h₃ : Aff.InSub b₂ q₃)
    (hi₁ : q₁.infinity = false) (hi₂ : q₂.infinity = false) (hi₃ : q₃.infinity = false)
    (hsum : Aff.abs b₂ q₃ = Aff.abs b₂ q₁ + Aff.abs b₂ q₂) :
    reducedAte P (pair q₃) = reducedAte P (pair q₁) * reducedAte P (pair q₂) := by
  rw [reducedAte_eq_inv, reducedAte_eq_inv, reducedAte_eq_inv,
    textbookMiller_add_fe P hP hy h₁ h₂ h₃ hi₁ hi₂ hi₃ hsum, mul_inv]

end BilinQ
end PP
