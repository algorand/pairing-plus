/-
C16, layer 0: list polynomials (constant term first).

* `addP`, `scaleP`, `mulP` are defined on the bare notation classes `Add/Mul/Zero`, so that they can
  be *run* by the kernel on the model's own field operations (`decide +kernel`), with no `Field`
  instance in sight;
* `evalP` (evaluation) and `hEval` (the homogenised evaluation `Σ cⱼ xʲ w^(d-j)` that the Rust
  `eval_iso` computes with `w = z²`) are defined over a commutative semiring, and the multiplier is
  verified once: `evalP (mulP p q) x = evalP p x * evalP q x`.
-/
import Mathlib.Algebra.BigOperators.Group.Finset.Basic
import Mathlib.Algebra.BigOperators.Ring.Finset
import Mathlib.Algebra.Field.Basic
import Mathlib.Tactic.Ring
import Mathlib.Tactic.FieldSimp

namespace PP
namespace IsoPoly

section raw
variable {F : Type} [Add F] [Mul F] [Zero F]

def addP : List F → List F → List F
  | [], q => q
  | a :: p, [] => a :: p
  | a :: p, b :: q => (a + b) :: addP p q

def scaleP (c : F) (p : List F) : List F := p.map (fun a => c * a)

/-- schoolbook product -/
def mulP : List F → List F → List F
  | [], _ => []
  | a :: p, q => addP (scaleP a q) (0 :: mulP p q)

def sqP (p : List F) : List F := mulP p p
def cubeP (p : List F) : List F := mulP p (mulP p p)

end raw

section eval
variable {R : Type} [CommSemiring R]

/-- `Σ cⱼ xʲ` by Horner, constant term first -/
def evalP : List R → R → R
  | [], _ => 0
  | a :: p, x => a + x * evalP p x

@[simp] theorem evalP_nil (x : R) : evalP ([] : List R) x = 0 := rfl
@[simp] theorem evalP_cons (a : R) (p : List R) (x : R) : evalP (a :: p) x = a + x * evalP p x := rfl

theorem evalP_eq_sum (cs : List R) (x : R) :
    evalP cs x = ∑ j ∈ Finset.range cs.length, cs.getD j 0 * x ^ j := by
  induction cs with
  | nil => simp
  | cons a p ih =>
    rw [evalP_cons, List.length_cons, Finset.sum_range_succ', ih, Finset.mul_sum]
    simp only [List.getD_cons_succ, List.getD_cons_zero, pow_zero, mul_one]
    rw [add_comm]
    congr 1
    apply Finset.sum_congr rfl
    intro j _
    ring

theorem evalP_append (p q : List R) (x : R) :
    evalP (p ++ q) x = evalP p x + x ^ p.length * evalP q x := by
  induction p with
  | nil => simp
  | cons a p ih => simp only [List.cons_append, evalP_cons, ih, List.length_cons]; ring

theorem evalP_addP (p q : List R) (x : R) : evalP (addP p q) x = evalP p x + evalP q x := by
  induction p generalizing q with
  | nil => simp [addP]
  | cons a p ih =>
    cases q with
    | nil => simp [addP]
    | cons b q => simp only [addP, evalP_cons, ih]; ring

theorem evalP_scaleP (c : R) (p : List R) (x : R) : evalP (scaleP c p) x = c * evalP p x := by
  induction p with
  | nil => simp [scaleP]
  | cons a p ih =>
    have : scaleP c (a :: p) = (c * a) :: scaleP c p := rfl
    rw [this, evalP_cons, evalP_cons, ih]; ring

/-- the list multiplier is correct -/
theorem evalP_mulP (p q : List R) (x : R) : evalP (mulP p q) x = evalP p x * evalP q x := by
  induction p with
  | nil => simp [mulP]
  | cons a p ih => simp only [mulP, evalP_addP, evalP_scaleP, evalP_cons, ih]; ring

theorem evalP_sqP (p : List R) (x : R) : evalP (sqP p) x = evalP p x ^ 2 := by
  rw [sqP, evalP_mulP]; ring

theorem evalP_cubeP (p : List R) (x : R) : evalP (cubeP p) x = evalP p x ^ 3 := by
  rw [cubeP, evalP_mulP, evalP_mulP]; ring

/-- `Σ_{j ≤ d} cⱼ xʲ w^(d-j)`, `d = length - 1`: the polynomial homogenised to degree `d` -/
def hEval : List R → R → R → R
  | [], _, _ => 0
  | a :: p, x, w => a * w ^ p.length + x * hEval p x w

@[simp] theorem hEval_nil (x w : R) : hEval ([] : List R) x w = 0 := rfl
@[simp] theorem hEval_cons (a : R) (p : List R) (x w : R) :
    hEval (a :: p) x w = a * w ^ p.length + x * hEval p x w := rfl

theorem hEval_eq_sum (cs : List R) (x w : R) :
    hEval cs x w = ∑ j ∈ Finset.range cs.length, cs.getD j 0 * x ^ j * w ^ (cs.length - 1 - j) := by
  induction cs with
  | nil => simp
  | cons a p ih =>
    rw [hEval_cons, List.length_cons, Finset.sum_range_succ', ih, Finset.mul_sum]
    simp only [List.getD_cons_succ, List.getD_cons_zero, pow_zero, mul_one]
    rw [add_comm]
    congr 1
    apply Finset.sum_congr rfl
    intro j _
    have : p.length + 1 - 1 - (j + 1) = p.length - 1 - j := by omega
    rw [this]; ring

/-- homogeneity: scaling `(x, w)` by `l` scales the value by `l ^ d` -/
theorem hEval_smul (cs : List R) (l x w : R) :
    hEval cs (l * x) (l * w) = l ^ (cs.length - 1) * hEval cs x w := by
  induction cs with
  | nil => simp
  | cons a p ih =>
    rw [hEval_cons, hEval_cons, ih, List.length_cons, Nat.add_sub_cancel]
    cases p with
    | nil => simp
    | cons b p =>
      rw [List.length_cons, Nat.add_sub_cancel]
      ring

theorem hEval_zero_right (cs : List R) (x : R) : hEval cs x 0 = cs.getLastD 0 * x ^ (cs.length - 1) := by
  induction cs with
  | nil => simp
  | cons a p ih =>
    rw [hEval_cons, ih]
    cases p with
    | nil => simp
    | cons b p => simp [pow_succ]; ring

end eval

section field
variable {K : Type} [Field K]

/-- for `w ≠ 0` the homogenised value is `w ^ d` times the value at `x / w` -/
theorem hEval_eq_evalP (cs : List K) (x : K) {w : K} (hw : w ≠ 0) :
    hEval cs x w = w ^ (cs.length - 1) * evalP cs (x / w) := by
  induction cs with
  | nil => simp
  | cons a p ih =>
    rw [hEval_cons, evalP_cons, ih, List.length_cons, Nat.add_sub_cancel]
    cases p with
    | nil => simp
    | cons b p =>
      rw [List.length_cons, Nat.add_sub_cancel]
      field_simp
      ring

/-- subtraction-free form of `hEval_eq_evalP` -/
theorem hEval_mul_eq (cs : List K) (x : K) {w : K} (hw : w ≠ 0) :
    hEval cs x w * w = w ^ cs.length * evalP cs (x / w) := by
  rw [hEval_eq_evalP cs x hw]
  cases cs with
  | nil => simp
  | cons a p => rw [List.length_cons, Nat.add_sub_cancel]; ring

end field

end IsoPoly
end PP
