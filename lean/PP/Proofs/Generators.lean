/-
The library's own subgroup test on the two extracted generators, evaluated by the kernel (a 255-bit
double-and-add over `Fq`, resp. over the model's `Fq2`).  The generator records that the property
files define (`C07.g1Generator`, `C11.g1`, `C04.Examples.gen1`, …) are these records by `rfl`.
-/
import PP.Model.Enc

namespace PP

theorem generatorG1_inSubgroup :
    Aff.inSubgroup g1Codec.b
      (⟨Fq.ofMont Gen.G1_GENERATOR_X, Fq.ofMont Gen.G1_GENERATOR_Y, false⟩ : Aff Fq) = true := by
  decide +kernel

theorem generatorG2_inSubgroup :
    Aff.inSubgroup g2Codec.b
      (⟨⟨Fq.ofMont Gen.G2_GENERATOR_X_C0, Fq.ofMont Gen.G2_GENERATOR_X_C1⟩,
        ⟨Fq.ofMont Gen.G2_GENERATOR_Y_C0, Fq.ofMont Gen.G2_GENERATOR_Y_C1⟩, false⟩ : Aff Fq2) = true := by
  decide +kernel

end PP
