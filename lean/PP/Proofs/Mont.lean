/-
C08, Montgomery level: the derive-generated prime-field arithmetic (`PP.Mont`, raw values in
Montgomery form `a·W mod p`, `W = 2^(64·limbs)`) computes integer arithmetic modulo `p`.

Everything is proved for abstract parameters satisfying `Params.WF` and instantiated for the
extracted parameters `fqP`, `frP` by kernel evaluation.
-/
import Mathlib.Data.ZMod.Basic
import Mathlib.Tactic.Ring
import PP.Model.Mont
import PP.Proofs.Limbs

namespace PP.Mont
open PP.Limbs

/-- Well-formedness of a parameter set: what the derive macro guarantees about its constants. -/
structure Params.WF (P : Params) : Prop where
  p_odd : P.p % 2 = 1
  p_gt : 1 < P.p
  /-- one spare bit: `2p ≤ 2^(64·limbs)` -/
  p_lt : 2 * P.p ≤ P.W
  /-- `INV = −p⁻¹ mod 2^64` -/
  inv_spec : (P.INV * P.p + 1) % 2 ^ 64 = 0
  R_spec : P.R = P.W % P.p
  R2_spec : P.R2 = P.W * P.W % P.p
  limbs_pos : 0 < P.limbs

theorem fqP_wf : fqP.WF where
  p_odd := by decide +kernel
  p_gt := by decide +kernel
  p_lt := by decide +kernel
  inv_spec := by decide +kernel
  R_spec := by decide +kernel
  R2_spec := by decide +kernel
  limbs_pos := by decide

theorem frP_wf : frP.WF where
  p_odd := by decide +kernel
  p_gt := by decide +kernel
  p_lt := by decide +kernel
  inv_spec := by decide +kernel
  R_spec := by decide +kernel
  R2_spec := by decide +kernel
  limbs_pos := by decide

/-- `W⁻¹ mod p`, written without any inverse: `((p+1)/2)^(64·limbs) mod p`. -/
def Winv (P : Params) : Nat := ((P.p + 1) / 2) ^ (64 * P.limbs) % P.p

/-- Decoding of a raw Montgomery value: `a·W⁻¹ mod p`. -/
def dec (P : Params) (a : Nat) : Nat := a * Winv P % P.p

/-- Encoding: `x·W mod p`. -/
def enc (P : Params) (x : Nat) : Nat := x * P.W % P.p

section generic
variable {P : Params}

theorem Params.WF.p_pos (h : P.WF) : 0 < P.p := by have := h.p_gt; omega

theorem Params.WF.p_lt_W (h : P.WF) : P.p < P.W := by have := h.p_gt; have := h.p_lt; omega

theorem W_pos (P : Params) : 0 < P.W := by unfold Params.W; positivity

theorem Params.WF.W_mul_Winv (h : P.WF) : P.W * Winv P % P.p = 1 := by
  have hp := h.p_gt
  have h2 : 2 * ((P.p + 1) / 2) = P.p + 1 := by have := h.p_odd; omega
  have key : P.W * ((P.p + 1) / 2) ^ (64 * P.limbs) = (P.p + 1) ^ (64 * P.limbs) := by
    unfold Params.W; rw [← mul_pow, h2]
  unfold Winv
  rw [Nat.mul_mod, Nat.mod_mod, ← Nat.mul_mod, key, Nat.pow_mod]
  have : (P.p + 1) % P.p = 1 := by
    rw [Nat.add_mod_left]; exact Nat.mod_eq_of_lt hp
  rw [this, one_pow]; exact Nat.mod_eq_of_lt hp

theorem Params.WF.W_mul_Winv_cast (h : P.WF) : (P.W : ZMod P.p) * (Winv P : ZMod P.p) = 1 := by
  have := h.W_mul_Winv
  have h1 : ((P.W * Winv P : ℕ) : ZMod P.p) = ((1 : ℕ) : ZMod P.p) := by
    rw [ZMod.natCast_eq_natCast_iff']; rw [this]; exact (Nat.mod_eq_of_lt h.p_gt).symm
  simpa using h1

theorem Params.WF.Winv_mul_W_cast (h : P.WF) : (Winv P : ZMod P.p) * (P.W : ZMod P.p) = 1 := by
  rw [mul_comm]; exact h.W_mul_Winv_cast

theorem Params.WF.R_cast (h : P.WF) : (P.R : ZMod P.p) = P.W := by
  rw [h.R_spec, ZMod.natCast_mod]

theorem Params.WF.R2_cast (h : P.WF) : (P.R2 : ZMod P.p) = (P.W : ZMod P.p) * P.W := by
  rw [h.R2_spec, ZMod.natCast_mod]; push_cast; rfl

theorem Params.WF.R_lt (h : P.WF) : P.R < P.p := by rw [h.R_spec]; exact Nat.mod_lt _ h.p_pos
theorem Params.WF.R2_lt (h : P.WF) : P.R2 < P.p := by rw [h.R2_spec]; exact Nat.mod_lt _ h.p_pos

theorem eq_of_cast_eq {p a b : ℕ} (ha : a < p) (hb : b < p) (h : (a : ZMod p) = (b : ZMod p)) :
    a = b := by
  rw [ZMod.natCast_eq_natCast_iff'] at h
  rwa [Nat.mod_eq_of_lt ha, Nat.mod_eq_of_lt hb] at h

theorem eq_mod_of_cast_eq {p a b : ℕ} (ha : a < p) (h : (a : ZMod p) = (b : ZMod p)) :
    a = b % p := by
  rw [ZMod.natCast_eq_natCast_iff'] at h
  rwa [Nat.mod_eq_of_lt ha] at h

theorem dec_lt (h : P.WF) (a : ℕ) : dec P a < P.p := Nat.mod_lt _ h.p_pos
theorem enc_lt (h : P.WF) (a : ℕ) : enc P a < P.p := Nat.mod_lt _ h.p_pos

theorem dec_cast (a : ℕ) : (dec P a : ZMod P.p) = (a : ZMod P.p) * Winv P := by
  unfold dec; rw [ZMod.natCast_mod]; push_cast; rfl

theorem enc_cast (a : ℕ) : (enc P a : ZMod P.p) = (a : ZMod P.p) * P.W := by
  unfold enc; rw [ZMod.natCast_mod]; push_cast; rfl

theorem Params.WF.cast_of_mul_W (h : P.WF) {r T : ZMod P.p} (hr : r * P.W = T) : r = T * Winv P := by
  rw [← hr, mul_assoc, h.W_mul_Winv_cast, mul_one]

theorem dec_enc (h : P.WF) (x : ℕ) : dec P (enc P x) = x % P.p := by
  apply eq_mod_of_cast_eq (dec_lt h _)
  rw [dec_cast, enc_cast, mul_assoc, h.W_mul_Winv_cast, mul_one]

theorem enc_dec (h : P.WF) (a : ℕ) : enc P (dec P a) = a % P.p := by
  apply eq_mod_of_cast_eq (enc_lt h _)
  rw [enc_cast, dec_cast, mul_assoc, h.Winv_mul_W_cast, mul_one]

/-- characterisation of decoding without inverses: `dec a = x` iff `a = x·W mod p`
    (for reduced `a`, `x`) -/
theorem dec_eq_iff (h : P.WF) {a x : ℕ} (ha : a < P.p) (hx : x < P.p) :
    dec P a = x ↔ a = x * P.W % P.p := by
  constructor
  · intro hd
    have := enc_dec h a
    rw [hd, Nat.mod_eq_of_lt ha] at this
    exact this.symm
  · intro he
    have := dec_enc h x
    rw [Nat.mod_eq_of_lt hx] at this
    rw [← this]; unfold enc; rw [← he]

/-- any other inverse of `W` decodes the same way (e.g. `PP.fqRinv`) -/
theorem dec_eq_of_inverse (h : P.WF) {wi : ℕ} (hwi : P.W * wi % P.p = 1) (a : ℕ) :
    a * wi % P.p = dec P a := by
  have h1 : (P.W : ZMod P.p) * (wi : ZMod P.p) = 1 := by
    have h1 : ((P.W * wi : ℕ) : ZMod P.p) = ((1 : ℕ) : ZMod P.p) := by
      rw [ZMod.natCast_eq_natCast_iff', hwi]; exact (Nat.mod_eq_of_lt h.p_gt).symm
    simpa using h1
  have h2 : (wi : ZMod P.p) = Winv P := by
    calc (wi : ZMod P.p) = (Winv P * P.W) * wi := by rw [h.Winv_mul_W_cast, one_mul]
      _ = Winv P * (P.W * wi) := by ring
      _ = Winv P := by rw [h1, mul_one]
  have : ((a * wi % P.p : ℕ) : ZMod P.p) = (dec P a : ZMod P.p) := by
    rw [dec_cast, ZMod.natCast_mod]; push_cast; rw [h2]
  exact eq_of_cast_eq (Nat.mod_lt _ h.p_pos) (dec_lt h _) this

theorem dec_inj (h : P.WF) {a b : ℕ} (ha : a < P.p) (hb : b < P.p) (hab : dec P a = dec P b) :
    a = b := by
  have := congrArg (enc P) hab
  rwa [enc_dec h, enc_dec h, Nat.mod_eq_of_lt ha, Nat.mod_eq_of_lt hb] at this

theorem dec_zero (P : Params) : dec P 0 = 0 := by simp [dec]

theorem eq_zero_iff_dec_eq_zero (h : P.WF) {a : ℕ} (ha : a < P.p) : a = 0 ↔ dec P a = 0 := by
  constructor
  · rintro rfl; exact dec_zero P
  · intro hd
    exact dec_inj h ha h.p_pos (by rw [hd, dec_zero])

theorem dec_add_mod (h : P.WF) (a b : ℕ) : dec P ((a + b) % P.p) = (dec P a + dec P b) % P.p := by
  apply eq_mod_of_cast_eq (dec_lt h _)
  rw [dec_cast, ZMod.natCast_mod]; push_cast; rw [dec_cast, dec_cast]; ring

/-! ### reduce, add, double, sub, neg -/

theorem reduce_spec (h : P.WF) {a : ℕ} (ha : a < 2 * P.p) :
    reduce P a < P.p ∧ reduce P a = a % P.p := by
  unfold reduce
  split
  · next hlt => exact ⟨hlt, (Nat.mod_eq_of_lt hlt).symm⟩
  · next hge =>
    have hle : P.p ≤ a := Nat.le_of_not_lt hge
    have hlt : a - P.p < P.p := by omega
    rw [add_sub_mod hle (Nat.lt_of_lt_of_le ha h.p_lt), Nat.mod_eq_sub_mod hle, Nat.mod_eq_of_lt hlt]
    exact ⟨hlt, rfl⟩

theorem add_spec (h : P.WF) {a b : ℕ} (ha : a < P.p) (hb : b < P.p) :
    add P a b < P.p ∧ add P a b = (a + b) % P.p := by
  have hW := h.p_lt
  unfold add
  rw [Nat.mod_eq_of_lt (by omega : a + b < P.W)]
  exact reduce_spec h (by omega)

theorem double_spec (h : P.WF) {a : ℕ} (ha : a < P.p) :
    double P a < P.p ∧ double P a = (2 * a) % P.p := by
  have hW := h.p_lt
  unfold double
  rw [Nat.mod_eq_of_lt (by omega : 2 * a < P.W)]
  exact reduce_spec h (by omega)

theorem sub_spec (h : P.WF) {a b : ℕ} (ha : a < P.p) (hb : b < P.p) :
    sub P a b < P.p ∧ sub P a b = (a + P.p - b) % P.p := by
  have hW := h.p_lt
  by_cases hba : b > a
  · have hlt : a + P.p - b < P.p := by omega
    simp only [sub, hba, if_true]
    rw [Nat.mod_eq_of_lt (by omega : a + P.p < P.W), add_sub_mod (by omega) (by omega),
      Nat.mod_eq_of_lt hlt]
    exact ⟨hlt, rfl⟩
  · have hle : b ≤ a := Nat.le_of_not_lt hba
    simp only [sub, hba, if_false]
    rw [add_sub_mod hle (by omega), Nat.sub_add_comm hle, Nat.add_mod_right,
      Nat.mod_eq_of_lt (by omega : a - b < P.p)]
    exact ⟨by omega, rfl⟩

theorem neg_spec (h : P.WF) {a : ℕ} (ha : a < P.p) :
    neg P a < P.p ∧ neg P a = (P.p - a) % P.p := by
  unfold neg
  split
  · next h0 => rw [h0, Nat.sub_zero, Nat.mod_self]; exact ⟨h.p_pos, rfl⟩
  · next h0 =>
    have hlt : P.p - a < P.p := by omega
    rw [add_sub_mod ha.le h.p_lt_W, Nat.mod_eq_of_lt hlt]
    exact ⟨hlt, rfl⟩

theorem sub_cast (h : P.WF) {a b : ℕ} (ha : a < P.p) (hb : b < P.p) :
    (sub P a b : ZMod P.p) = (a : ZMod P.p) - b := by
  rw [(sub_spec h ha hb).2, ZMod.natCast_mod, Nat.cast_sub (by omega)]
  push_cast; rw [ZMod.natCast_self]; ring

theorem add_cast (h : P.WF) {a b : ℕ} (ha : a < P.p) (hb : b < P.p) :
    (add P a b : ZMod P.p) = (a : ZMod P.p) + b := by
  rw [(add_spec h ha hb).2, ZMod.natCast_mod]; push_cast; rfl

theorem neg_cast (h : P.WF) {a : ℕ} (ha : a < P.p) :
    (neg P a : ZMod P.p) = - (a : ZMod P.p) := by
  rw [(neg_spec h ha).2, ZMod.natCast_mod, Nat.cast_sub (by omega), ZMod.natCast_self]; ring

theorem double_cast (h : P.WF) {a : ℕ} (ha : a < P.p) :
    (double P a : ZMod P.p) = 2 * (a : ZMod P.p) := by
  rw [(double_spec h ha).2, ZMod.natCast_mod]; push_cast; rfl

theorem dec_add (h : P.WF) {a b : ℕ} (ha : a < P.p) (hb : b < P.p) :
    dec P (add P a b) = (dec P a + dec P b) % P.p := by
  rw [(add_spec h ha hb).2]; exact dec_add_mod h a b

theorem dec_double (h : P.WF) {a : ℕ} (ha : a < P.p) :
    dec P (double P a) = (2 * dec P a) % P.p := by
  rw [(double_spec h ha).2, two_mul, two_mul]; exact dec_add_mod h a a

theorem dec_sub (h : P.WF) {a b : ℕ} (ha : a < P.p) (hb : b < P.p) :
    dec P (sub P a b) = (dec P a + P.p - dec P b) % P.p := by
  have hdb := dec_lt h b
  apply eq_mod_of_cast_eq (dec_lt h _)
  rw [dec_cast, sub_cast h ha hb, Nat.cast_sub (by omega)]
  push_cast; rw [dec_cast, dec_cast, ZMod.natCast_self]; ring

theorem dec_neg (h : P.WF) {a : ℕ} (ha : a < P.p) :
    dec P (neg P a) = (P.p - dec P a) % P.p := by
  have hdb := dec_lt h a
  apply eq_mod_of_cast_eq (dec_lt h _)
  rw [dec_cast, neg_cast h ha, Nat.cast_sub (by omega)]
  rw [dec_cast, ZMod.natCast_self]; ring

/-! ### Montgomery reduction -/

/-- `inv = −p⁻¹ mod W` makes the low digit of `t + k·p` vanish for `k = t·inv mod W`; only the
    residues of `k` and `p` modulo `W` matter -/
theorem inv_kills_low {W inv p k m t : ℕ} (h : (inv * p + 1) % W = 0) (hk : k ≡ t * inv [MOD W])
    (hm : m ≡ p [MOD W]) : (t + k * m) % W = 0 := by
  have h1 : t + k * m ≡ t * (inv * p + 1) [MOD W] := by
    rw [Nat.mul_add, Nat.mul_one, Nat.add_comm (t * _), ← Nat.mul_assoc]
    exact Nat.ModEq.add_left _ (hk.mul hm)
  exact h1.trans (Nat.ModEq.mul_left t (show inv * p + 1 ≡ 0 [MOD W] from h))

theorem redc_round_dvd (h : P.WF) {i T : ℕ} (hd : 2 ^ (64 * i) ∣ T) :
    2 ^ (64 * (i + 1)) ∣
      T + (((T >>> (64 * i)) % W64) * P.INV) % W64 * P.p * 2 ^ (64 * i) := by
  obtain ⟨t, rfl⟩ := hd
  rw [Nat.shiftRight_eq_div_pow, Nat.mul_div_cancel_left _ (Nat.two_pow_pos _), W64_eq_pow, pow64_succ,
    Nat.mul_comm (_ * P.p), ← Nat.mul_add, Nat.mul_comm (2 ^ 64)]
  exact Nat.mul_dvd_mul_left _ (Nat.dvd_of_mod_eq_zero (inv_kills_low h.inv_spec
    ((Nat.mod_modEq _ _).trans ((Nat.mod_modEq t _).mul_right _)) (Nat.ModEq.refl _)))

theorem redcRounds_succ (P : Params) (n i T : ℕ) : redcRounds P (n + 1) i T
    = redcRounds P n (i + 1) (T + (((T >>> (64 * i)) % W64) * P.INV) % W64 * P.p * 2 ^ (64 * i)) :=
  rfl

/-- `n` rounds starting at limb `i` add a multiple `m·p·2^(64i)` with `m < 2^(64n)` and clear
    limbs `i … i+n−1` -/
theorem redcRounds_spec (h : P.WF) (n : ℕ) : ∀ (i T : ℕ), 2 ^ (64 * i) ∣ T →
    ∃ m, redcRounds P n i T = T + m * P.p * 2 ^ (64 * i) ∧ m < 2 ^ (64 * n) ∧
      2 ^ (64 * (i + n)) ∣ redcRounds P n i T := by
  induction n with
  | zero =>
    intro i T hd
    exact ⟨0, by rw [Nat.zero_mul, Nat.zero_mul, Nat.add_zero]; rfl, Nat.one_pos, hd⟩
  | succ n ih =>
    intro i T hd
    rw [redcRounds_succ]
    have hklt : T >>> (64 * i) % W64 * P.INV % W64 < 2 ^ 64 := Nat.mod_lt _ (Nat.two_pow_pos 64)
    have hd1 := redc_round_dvd h hd
    generalize T >>> (64 * i) % W64 * P.INV % W64 = k at hklt hd1 ⊢
    obtain ⟨m', hm1, hm2, hm3⟩ := ih (i + 1) _ hd1
    refine ⟨k + 2 ^ 64 * m', ?_, ?_, ?_⟩
    · rw [hm1, pow64_succ]; ring
    · rw [pow64_succ]; exact digit_lt hklt hm2
    · rwa [Nat.add_right_comm] at hm3

/-- REDC: for `T < p·W`, `montReduce T` is reduced and `montReduce T · W ≡ T (mod p)` -/
theorem montReduce_spec (h : P.WF) {T : ℕ} (hT : T < P.p * P.W) :
    montReduce P T < P.p ∧ montReduce P T * P.W % P.p = T % P.p := by
  obtain ⟨m, hm1, hm2, s, hs⟩ := redcRounds_spec h P.limbs 0 T (one_dvd T)
  rw [Nat.mul_zero, Nat.pow_zero, Nat.mul_one] at hm1
  rw [Nat.zero_add] at hs
  change m < P.W at hm2
  change _ = P.W * s at hs
  -- `W·s = T + m·p < p·W + W·p`
  have hlt : s < 2 * P.p := by
    refine Nat.lt_of_mul_lt_mul_left (a := P.W) ?_
    rw [← hs, hm1, Nat.two_mul, Nat.mul_add]
    exact Nat.add_lt_add (Nat.mul_comm P.p P.W ▸ hT) (Nat.mul_lt_mul_of_pos_right hm2 h.p_pos)
  unfold montReduce
  rw [hs, Nat.mul_div_cancel_left _ (W_pos P), Nat.mod_eq_of_lt (Nat.lt_of_lt_of_le hlt h.p_lt)]
  obtain ⟨r1, r2⟩ := reduce_spec h hlt
  refine ⟨r1, ?_⟩
  rw [r2, Nat.mod_mul_mod, Nat.mul_comm s, ← hs, hm1, Nat.add_mod, Nat.mul_mod_left, Nat.add_zero,
    Nat.mod_mod]

theorem montReduce_cast (h : P.WF) {T : ℕ} (hT : T < P.p * P.W) :
    (montReduce P T : ZMod P.p) * P.W = T := by
  have := (montReduce_spec h hT).2
  rw [← ZMod.natCast_eq_natCast_iff'] at this
  simpa using this

theorem mul_lt_pW (h : P.WF) {a b : ℕ} (ha : a < P.p) (hb : b < P.p) : a * b < P.p * P.W := by
  have := h.p_lt_W
  calc a * b < P.p * P.p := Nat.mul_lt_mul'' ha hb
    _ ≤ P.p * P.W := Nat.mul_le_mul_left _ (by omega)

theorem mul_spec (h : P.WF) {a b : ℕ} (ha : a < P.p) (hb : b < P.p) :
    mul P a b < P.p ∧ mul P a b * P.W % P.p = a * b % P.p :=
  montReduce_spec h (mul_lt_pW h ha hb)

theorem square_spec (h : P.WF) {a : ℕ} (ha : a < P.p) :
    square P a < P.p ∧ square P a * P.W % P.p = a * a % P.p :=
  montReduce_spec h (mul_lt_pW h ha ha)

theorem square_eq_mul (P : Params) (a : ℕ) : square P a = mul P a a := rfl

theorem mul_cast (h : P.WF) {a b : ℕ} (ha : a < P.p) (hb : b < P.p) :
    (mul P a b : ZMod P.p) * P.W = (a : ZMod P.p) * b := by
  have := montReduce_cast h (mul_lt_pW h ha hb)
  simpa [mul] using this

theorem dec_mul (h : P.WF) {a b : ℕ} (ha : a < P.p) (hb : b < P.p) :
    dec P (mul P a b) = dec P a * dec P b % P.p := by
  apply eq_mod_of_cast_eq (dec_lt h _)
  rw [dec_cast, h.cast_of_mul_W (mul_cast h ha hb)]
  push_cast; rw [dec_cast, dec_cast]; ring

theorem dec_square (h : P.WF) {a : ℕ} (ha : a < P.p) :
    dec P (square P a) = dec P a * dec P a % P.p := dec_mul h ha ha

/-! ### conversions -/

theorem fromRepr_eq_none_iff (P : Params) (x : ℕ) : fromRepr P x = none ↔ P.p ≤ x := by
  unfold fromRepr; split <;> simp <;> omega

theorem fromRepr_isSome_iff (P : Params) (x : ℕ) : (fromRepr P x).isSome ↔ x < P.p := by
  unfold fromRepr; split <;> simp <;> omega

/-- `from_repr` produces the Montgomery encoding `x·W mod p` -/
theorem fromRepr_spec (h : P.WF) {x a : ℕ} (hx : fromRepr P x = some a) :
    x < P.p ∧ a < P.p ∧ a = x * P.W % P.p ∧ dec P a = x := by
  unfold fromRepr at hx
  split at hx
  · next hlt =>
    simp only [Option.some.injEq] at hx
    subst hx
    have hm := mul_spec h hlt h.R2_lt
    have hc := mul_cast h hlt h.R2_lt
    have hc2 : (mul P x P.R2 : ZMod P.p) = (x : ZMod P.p) * P.W := by
      rw [h.cast_of_mul_W hc, h.R2_cast]
      calc (x : ZMod P.p) * (P.W * P.W) * Winv P = x * P.W * (P.W * Winv P) := by ring
        _ = x * P.W := by rw [h.W_mul_Winv_cast, mul_one]
    have he : mul P x P.R2 = x * P.W % P.p := by
      apply eq_mod_of_cast_eq hm.1; rw [hc2]; push_cast; rfl
    refine ⟨hlt, hm.1, he, ?_⟩
    rw [he]; have := dec_enc h x; unfold enc at this; rw [this, Nat.mod_eq_of_lt hlt]
  · simp at hx

theorem fromRepr_of_lt (h : P.WF) {x : ℕ} (hx : x < P.p) : fromRepr P x = some (x * P.W % P.p) := by
  cases hf : fromRepr P x with
  | none => rw [fromRepr_eq_none_iff] at hf; omega
  | some a => rw [(fromRepr_spec h hf).2.2.1]

theorem intoRepr_spec (h : P.WF) {a : ℕ} (ha : a < P.p) :
    intoRepr P a < P.p ∧ intoRepr P a * P.W % P.p = a ∧ intoRepr P a = dec P a := by
  have hT : a < P.p * P.W := by
    calc a < P.p := ha
      _ ≤ P.p * P.W := Nat.le_mul_of_pos_right _ (W_pos P)
  have hm := montReduce_spec h hT
  have hc := montReduce_cast h hT
  refine ⟨hm.1, by have := hm.2; rwa [Nat.mod_eq_of_lt ha] at this, ?_⟩
  apply eq_of_cast_eq hm.1 (dec_lt h _)
  rw [dec_cast]; exact h.cast_of_mul_W hc

theorem intoRepr_fromRepr (h : P.WF) {x a : ℕ} (hx : fromRepr P x = some a) :
    intoRepr P a = x := by
  obtain ⟨_, h2, _, h4⟩ := fromRepr_spec h hx
  rw [(intoRepr_spec h h2).2.2, h4]

theorem fromRepr_intoRepr (h : P.WF) {a : ℕ} (ha : a < P.p) :
    fromRepr P (intoRepr P a) = some a := by
  obtain ⟨h1, h2, _⟩ := intoRepr_spec h ha
  rw [fromRepr_of_lt h h1, h2]

/-- `into_repr` is injective on reduced values (so `Eq`/`Ord` on `into_repr()` are `Eq`/`Ord`
    on decoded integers) -/
theorem intoRepr_inj (h : P.WF) {a b : ℕ} (ha : a < P.p) (hb : b < P.p)
    (hab : intoRepr P a = intoRepr P b) : a = b := by
  rw [(intoRepr_spec h ha).2.2, (intoRepr_spec h hb).2.2] at hab
  exact dec_inj h ha hb hab

/-! ### exponentiation -/

/-- The invariant of the `found_one` loop of `pow` on raw Montgomery values: the accumulator encodes
    `(dec a) ^ e`, and `found = false` only while `e = 0`.  (`PowLoop.powLoop_fst` is the same
    invariant for the generic `Field::pow` over a monoid.) -/
theorem powLoop_spec (h : P.WF) {a : ℕ} (ha : a < P.p) :
    ∀ (bs : List Bool) (res : ℕ) (found : Bool) (e : ℕ),
      res < P.p → (found = false → e = 0) →
      (res : ZMod P.p) = (dec P a : ZMod P.p) ^ e * P.W →
      (powLoop P a bs (res, found)).1 < P.p ∧
        ((powLoop P a bs (res, found)).1 : ZMod P.p)
          = (dec P a : ZMod P.p) ^ (ofBitsMSBAux e bs) * P.W := by
  intro bs
  induction bs with
  | nil => intro res found e hr _ hc; exact ⟨hr, by simpa [powLoop] using hc⟩
  | cons i bs ih =>
    intro res found e hr hf hc
    have hsq : (if found then square P res else res) < P.p ∧
        (((if found then square P res else res : ℕ)) : ZMod P.p)
          = (dec P a : ZMod P.p) ^ (2 * e) * P.W := by
      cases found with
      | false =>
        have := hf rfl; subst this
        simpa using And.intro hr hc
      | true =>
        simp only [if_true]
        refine ⟨(square_spec h hr).1, ?_⟩
        have hm := mul_cast h hr hr
        rw [square_eq_mul, h.cast_of_mul_W hm, hc]
        calc (dec P a : ZMod P.p) ^ e * P.W * ((dec P a : ZMod P.p) ^ e * P.W) * Winv P
            = (dec P a : ZMod P.p) ^ (2 * e) * P.W * (P.W * Winv P) := by ring
          _ = _ := by rw [h.W_mul_Winv_cast, mul_one]
    obtain ⟨hs1, hs2⟩ := hsq
    set res1 := (if found then square P res else res) with hres1
    have hmu : (if i then mul P res1 a else res1) < P.p ∧
        (((if i then mul P res1 a else res1 : ℕ)) : ZMod P.p)
          = (dec P a : ZMod P.p) ^ (2 * e + i.toNat) * P.W := by
      cases i with
      | false => simpa using And.intro hs1 hs2
      | true =>
        simp only [if_true, Bool.toNat_true]
        refine ⟨(mul_spec h hs1 ha).1, ?_⟩
        have hm := mul_cast h hs1 ha
        rw [h.cast_of_mul_W hm, hs2, dec_cast]; ring
    obtain ⟨hm1, hm2⟩ := hmu
    have hf' : (if found then found else i) = false → 2 * e + i.toNat = 0 := by
      cases found with
      | false => intro hi; simp only [Bool.false_eq_true, if_false] at hi; subst hi; simp [hf rfl]
      | true => intro hi; simp at hi
    have := ih _ _ _ hm1 hf' hm2
    simpa [powLoop] using this

/-- `pow` by an exponent given as ANY list of 64-bit limbs -/
theorem pow_spec (h : P.WF) {a : ℕ} (ha : a < P.p) (ls : List ℕ) (hok : ∀ l ∈ ls, l < 2 ^ 64) :
    pow P a ls < P.p ∧ dec P (pow P a ls) = (dec P a) ^ (limbsToNat ls) % P.p := by
  have h0 : (P.R : ZMod P.p) = (dec P a : ZMod P.p) ^ 0 * P.W := by rw [h.R_cast]; ring
  obtain ⟨h1, h2⟩ := powLoop_spec h ha (bitsMSB ls) P.R false 0 h.R_lt (fun _ => rfl) h0
  rw [show ofBitsMSBAux 0 (bitsMSB ls) = limbsToNat ls from ofBitsMSB_bitsMSB ls hok] at h2
  refine ⟨h1, ?_⟩
  apply eq_mod_of_cast_eq (dec_lt h _)
  rw [dec_cast]; unfold pow; rw [h2]; push_cast
  rw [mul_assoc, h.W_mul_Winv_cast, mul_one]

end generic

end PP.Mont
