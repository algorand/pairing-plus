/-
Bilinearity of the pairing in its first argument: from the textbook statement
(`BilinP.reducedAte_add_left`) to the model's `pairing` and Mathlib's group `E(Fq) = (W g1Codec.b).Point`.

* `exists_line`: two finite points of `E(Fq)` whose sum is not `0` lie on a line with slope in `Fq`
  (chord, or tangent when they coincide: `E(Fq)` has no 2-torsion), whose Vieta relations
  (`LineZeros`) hold, and the sum is the reflected third point.
* `pairing_add`: `e(P₁ + P₂, Q) = e(P₁, Q) · e(P₂, Q)` for all `P₁, P₂ ∈ E(Fq)`, `Q ∈ G2`, identity
  included everywhere.
* `pairing_nsmul`, `pairing_zsmul`: `e([k]P, Q) = e(P, Q)^k`.
-/
import PP.Proofs.BilinP2
import PP.Props.C11Neg

namespace PP.BilinP

open Ate Miller Lines NegPair WeierstrassCurve.Affine

local notation "b₁" => g1Codec.b

/-- the group `E(Fq)` -/
abbrev E1 := (W b₁).Point

theorem g1_eqn {x y : Fq} (h : (W b₁).Nonsingular x y) : y ^ 2 = x ^ 3 + 4 := by
  have := (W_nonsingular_iff b₁ x y).mp h
  rwa [g1Codec_b] at this

/-- **the line through two points of `E(Fq)`** with `P₁ + P₂ ≠ 0` -/
theorem exists_line {x₁ y₁ x₂ y₂ : Fq} (h₁ : (W b₁).Nonsingular x₁ y₁)
    (h₂ : (W b₁).Nonsingular x₂ y₂) (hne : Point.some x₁ y₁ h₁ + Point.some x₂ y₂ h₂ ≠ 0) :
    ∃ lam : Fq, LineZeros (4 : Fq) lam (x₁, y₁) (x₂, y₂) ∧
      ∃ h₃, Point.some x₁ y₁ h₁ + Point.some x₂ y₂ h₂ =
        Point.some (sumOfSlope lam (x₁, y₁) (x₂, y₂)).1 (sumOfSlope lam (x₁, y₁) (x₂, y₂)).2 h₃ := by
  have e₁ := g1_eqn h₁
  have e₂ := g1_eqn h₂
  have hP : CoordOf b₁ (x₁, y₁) (Point.some x₁ y₁ h₁) := ⟨h₁, rfl⟩
  have hQ : CoordOf b₁ (x₂, y₂) (Point.some x₂ y₂ h₂) := ⟨h₂, rfl⟩
  by_cases hx : x₁ = x₂
  · obtain ⟨e, hy⟩ := BilinQ.eq_of_x_eq hP.on hQ.on (hP.notOpp hQ hne) hx
    obtain ⟨rfl, rfl⟩ := Prod.mk.inj e
    exact ⟨_, lineZeros_tangent fq_two_ne_zero e₁ hy, hP.double hy⟩
  · exact ⟨_, lineZeros_chord e₁ e₂ hx, hP.chord hQ hx⟩

/-! ## the pairing of the model -/

/-- the pairing only depends on the point denoted by its first argument -/
theorem pairing_congr {p p' : Aff Fq} (q : Aff Fq2) (hp : Aff.OnCurve b₁ p) (hp' : Aff.OnCurve b₁ p')
    (h : Aff.abs b₁ p = Aff.abs b₁ p') : pairing p q = pairing p' q := by
  obtain ⟨hi, hxy⟩ := Aff.abs_injective hp hp' h
  cases hpi : p.infinity with
  | true =>
    rw [C11.pairing_identity p q (Or.inl hpi), C11.pairing_identity p' q (Or.inl (hi ▸ hpi))]
  | false =>
    obtain ⟨hx, hy⟩ := hxy hpi
    have : p = p' := by
      cases p; cases p'
      simp only at hx hy hi
      subst hx hy hi
      rfl
    rw [this]

/-- every point of `E(Fq)` is denoted by an affine record accepted by `is_on_curve` -/
theorem exists_aff (g : E1) : ∃ a : Aff Fq, a.isOnCurve b₁ = true ∧ Aff.abs b₁ a = g := by
  rcases g with _ | ⟨x, y, h⟩
  · refine ⟨⟨0, 1, true⟩, (Aff.isOnCurve_iff _ _).mpr (Or.inl rfl), ?_⟩
    exact Aff.abs_of_infinity rfl
  · have e := (W_nonsingular_iff b₁ x y).mp h
    exact ⟨⟨x, y, false⟩, (Aff.isOnCurve_iff _ _).mpr (Or.inr e), Aff.abs_mk_false e⟩

/-- **additivity, all points finite, sum finite** -/
theorem pairing_add_finite (p₁ p₂ p₃ : Aff Fq) (q : Aff Fq2) (hp₁ : p₁.isOnCurve b₁ = true)
    (hp₂ : p₂.isOnCurve b₁ = true) (hp₃ : p₃.isOnCurve b₁ = true)
    (hq : Aff.inSubgroup g2Codec.b q = true) (hi₁ : p₁.infinity = false) (hi₂ : p₂.infinity = false)
    (hi₃ : p₃.infinity = false) (hqi : q.infinity = false)
    (hsum : Aff.abs b₁ p₃ = Aff.abs b₁ p₁ + Aff.abs b₁ p₂) :
    pairing p₃ q = some (reducedAte (pair p₁) (pair q) * reducedAte (pair p₂) (pair q)) := by
  have hc₁ := (Aff.isOnCurve_iff _ p₁).mp hp₁
  have hc₂ := (Aff.isOnCurve_iff _ p₂).mp hp₂
  have hc₃ := (Aff.isOnCurve_iff _ p₃).mp hp₃
  have hq' := (Aff.inSubgroup_iff_inSub q).mp hq
  have h30 : Aff.abs b₁ p₃ ≠ 0 := fun h => by
    rw [Aff.abs_eq_zero_iff hc₃, hi₃] at h; cases h
  rw [Aff.abs_of_not_infinity hc₁ hi₁, Aff.abs_of_not_infinity hc₂ hi₂] at hsum
  obtain ⟨lam, hL, h₃, hadd⟩ := exists_line _ _ (hsum ▸ h30)
  rw [hadd, Aff.abs_of_not_infinity hc₃ hi₃] at hsum
  obtain ⟨ex, ey⟩ := PP.Point.some_eq_some.mp hsum
  have hp3 : pair p₃ = sumOfSlope lam (pair p₁) (pair p₂) := Prod.ext ex ey
  have hy₃ : (sumOfSlope lam (pair p₁) (pair p₂)).2 ≠ 0 := by
    rw [← hp3]; exact g1_y_ne_zero hc₃ hi₃
  rw [C03Lines.pairing_is_reduced_ate_checked p₃ q hp₃ hi₃ hq hqi]
  have := reducedAte_add_left lam (pair p₁) (pair p₂) hL hy₃ q hq' hqi
  rw [← hp3] at this
  exact congrArg some this

/-- **`e(P₁ + P₂, Q) = e(P₁, Q) · e(P₂, Q)`**: for all `P₁, P₂, P₃ ∈ E(Fq)` (accepted by
    `is_on_curve`, identity allowed) with `P₃ = P₁ + P₂` in the group, and all `Q ∈ G2` (accepted by
    `in_subgroup`, identity allowed); none of the three calls panics -/
theorem pairing_add (p₁ p₂ p₃ : Aff Fq) (q : Aff Fq2) (hp₁ : p₁.isOnCurve b₁ = true)
    (hp₂ : p₂.isOnCurve b₁ = true) (hp₃ : p₃.isOnCurve b₁ = true)
    (hq : Aff.inSubgroup g2Codec.b q = true)
    (hsum : Aff.abs b₁ p₃ = Aff.abs b₁ p₁ + Aff.abs b₁ p₂) :
    ∃ e₁ e₂ : Fq12, e₁ ≠ 0 ∧ e₂ ≠ 0 ∧ pairing p₁ q = some e₁ ∧ pairing p₂ q = some e₂ ∧
      pairing p₃ q = some (e₁ * e₂) := by
  have hc₁ := (Aff.isOnCurve_iff _ p₁).mp hp₁
  have hc₂ := (Aff.isOnCurve_iff _ p₂).mp hp₂
  have hc₃ := (Aff.isOnCurve_iff _ p₃).mp hp₃
  obtain ⟨e₁, h₁0, h₁⟩ := C11Neg.pairing_some p₁ q hp₁ hq
  obtain ⟨e₂, h₂0, h₂⟩ := C11Neg.pairing_some p₂ q hp₂ hq
  refine ⟨e₁, e₂, h₁0, h₂0, h₁, h₂, ?_⟩
  cases hqi : q.infinity with
  | true =>
    rw [C11.pairing_identity _ q (Or.inr hqi)] at h₁ h₂ ⊢
    rw [← Option.some.inj h₁, ← Option.some.inj h₂, one_mul]
  | false =>
  cases hi₁ : p₁.infinity with
  | true =>
    rw [C11.pairing_identity p₁ q (Or.inl hi₁)] at h₁
    rw [← Option.some.inj h₁, one_mul, ← h₂]
    apply pairing_congr q hc₃ hc₂
    rw [hsum, Aff.abs_of_infinity hi₁, zero_add]
  | false =>
  cases hi₂ : p₂.infinity with
  | true =>
    rw [C11.pairing_identity p₂ q (Or.inl hi₂)] at h₂
    rw [← Option.some.inj h₂, mul_one, ← h₁]
    apply pairing_congr q hc₃ hc₁
    rw [hsum, Aff.abs_of_infinity hi₂, add_zero]
  | false =>
  cases hi₃ : p₃.infinity with
  | true =>
    -- `P₂ = -P₁`
    have h0 : Aff.abs b₁ p₁ + Aff.abs b₁ p₂ = 0 := by rw [← hsum]; exact Aff.abs_of_infinity hi₃
    have hn : Aff.abs b₁ p₂ = Aff.abs b₁ p₁.neg := by
      rw [(Aff.neg_spec hc₁).2]; exact eq_neg_of_add_eq_zero_right h0
    have h₂' := C11Neg.pairing_neg_left_all p₁ q hp₁ hq e₁ h₁
    rw [← pairing_congr q hc₂ (Aff.neg_spec hc₁).1 hn, h₂] at h₂'
    rw [C11.pairing_identity p₃ q (Or.inl hi₃), Option.some.inj h₂', mul_inv_cancel₀ h₁0]
  | false =>
    rw [pairing_add_finite p₁ p₂ p₃ q hp₁ hp₂ hp₃ hq hi₁ hi₂ hi₃ hqi hsum]
    rw [C03Lines.pairing_is_reduced_ate_checked p₁ q hp₁ hi₁ hq hqi] at h₁
    rw [C03Lines.pairing_is_reduced_ate_checked p₂ q hp₂ hi₂ hq hqi] at h₂
    rw [← Option.some.inj h₁, ← Option.some.inj h₂]
    rfl

/-- **`e([k]P, Q) = e(P, Q)^k`**, `k : ℕ` -/
theorem pairing_nsmul (p : Aff Fq) (q : Aff Fq2) (hp : p.isOnCurve b₁ = true)
    (hq : Aff.inSubgroup g2Codec.b q = true) (e : Fq12) (he : pairing p q = some e) :
    ∀ (k : ℕ) (pk : Aff Fq), pk.isOnCurve b₁ = true → Aff.abs b₁ pk = k • Aff.abs b₁ p →
      pairing pk q = some (e ^ k) := by
  intro k
  induction k with
  | zero =>
    intro pk hpk hk
    rw [zero_nsmul, Aff.abs_eq_zero_iff ((Aff.isOnCurve_iff _ pk).mp hpk)] at hk
    rw [C11.pairing_identity pk q (Or.inl hk), pow_zero]
  | succ k ih =>
    intro pk hpk hk
    obtain ⟨pk', hpk', hk'⟩ := exists_aff (k • Aff.abs b₁ p)
    obtain ⟨e₁, e₂, -, -, h₁, h₂, h₃⟩ := pairing_add pk' p pk q hpk' hp hpk hq
      (by rw [hk, hk', succ_nsmul])
    rw [ih pk' hpk' hk'] at h₁
    rw [he] at h₂
    rw [h₃, ← Option.some.inj h₁, ← Option.some.inj h₂, pow_succ]

/-- **`e([z]P, Q) = e(P, Q)^z`**, `z : ℤ` -/
theorem pairing_zsmul (p : Aff Fq) (q : Aff Fq2) (hp : p.isOnCurve b₁ = true)
    (hq : Aff.inSubgroup g2Codec.b q = true) (e : Fq12) (he : pairing p q = some e) (z : ℤ)
    (pz : Aff Fq) (hpz : pz.isOnCurve b₁ = true) (hz : Aff.abs b₁ pz = z • Aff.abs b₁ p) :
    pairing pz q = some (e ^ z) := by
  cases z with
  | ofNat k =>
    rw [Int.ofNat_eq_natCast, natCast_zsmul] at hz
    rw [Int.ofNat_eq_natCast, zpow_natCast]
    exact pairing_nsmul p q hp hq e he k pz hpz hz
  | negSucc k =>
    rw [negSucc_zsmul] at hz
    have hcz := (Aff.isOnCurve_iff _ pz).mp hpz
    have hn : Aff.abs b₁ pz.neg = (k + 1) • Aff.abs b₁ p := by
      rw [(Aff.neg_spec hcz).2, hz, neg_neg]
    have h1 := pairing_nsmul p q hp hq e he (k + 1) pz.neg (C11Neg.neg_isOnCurve pz hpz) hn
    have h2 := C11Neg.pairing_neg_left_all pz.neg q (C11Neg.neg_isOnCurve pz hpz) hq _ h1
    have h3 : pairing pz.neg.neg q = pairing pz q :=
      pairing_congr q (Aff.neg_spec (Aff.neg_spec hcz).1).1 hcz
        (by rw [(Aff.neg_spec (Aff.neg_spec hcz).1).2, (Aff.neg_spec hcz).2, neg_neg])
    rw [← h3, h2, zpow_negSucc]

end PP.BilinP
