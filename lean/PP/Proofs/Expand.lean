/-
C13 lemmas: the model of `hash_to_field.rs` (`PP/Model/Map.lean`) against the RFC 9380 transcription
in `PP/Spec/Rfc9380.lean`.

* `xmdBlocks_eq`: the loop invariant of `ExpandMsgXmd::expand_message` against `Rfc.xmd_b`;
  `rfc_xmd_length`: the length of the RFC's output.
* `beToNat_eq_OS2IP`, `fromOkm_zp` (`from_okm` over any prime field) with its instances `fromOkm_fq`,
  `fromOkm_fr`, and `fromRo_fq2`.
* `splitBlocks_eq`, `hashToField_eq`, `hashToField_zp_rfc`: the block splitting of `hash_to_field`.
-/
import PP.Spec.Rfc9380
import PP.Proofs.ZpField
import PP.Proofs.ByteLemmas
import PP.Model.Map

namespace PP

theorem Zp.mk_eq_ofNat {p : Nat} [PosNat p] (n : Nat) (h : n < p) : (⟨n, h⟩ : Zp p) = Zp.ofNat n := by
  unfold Zp.ofNat; congr; exact (Nat.mod_eq_of_lt h).symm

theorem Zp.ofNat_mul_add {p : Nat} [PosNat p] (a b c : Nat) :
    (Zp.ofNat a * Zp.ofNat b + Zp.ofNat c : Zp p) = Zp.ofNat (a * b + c) := by
  apply Zp.toZ_injective
  rw [Zp.toZ_add, Zp.toZ_mul]
  simp

namespace Expand
open Rfc (I2OSP OS2IP strxor substr ceilDiv xmd_b)

/-! ### bytes -/

theorem I2OSP_one (n : Nat) : I2OSP n 1 = [u8 n] := by
  simp [I2OSP, u8]

theorem I2OSP_two (n : Nat) : I2OSP n 2 = [u8 (n >>> 8), u8 n] := by
  simp [I2OSP, u8, Nat.shiftRight_eq_div_pow]

theorem I2OSP_zero (k : Nat) : I2OSP 0 k = List.replicate k (0 : UInt8) := by
  induction k with
  | zero => rfl
  | succ k ih => rw [I2OSP, ih, List.replicate_succ']; rfl

theorem ceilDiv_eq (a b : Nat) (hb : 0 < b) : ceilDiv a b = (a + b - 1) / b := by
  unfold ceilDiv
  have h1 := Nat.div_add_mod a b
  have h2 := Nat.mod_lt a hb
  generalize a / b = q at *
  generalize a % b = r at *
  symm
  split
  · next h =>
    subst h
    rw [Nat.div_eq_iff hb, Nat.mul_comm q b]
    omega
  · next h =>
    rw [Nat.div_eq_iff hb, Nat.add_mul, Nat.mul_comm q b]
    omega

/-! ### expand_message_xmd -/

theorem xorBytes_eq (a b : Bytes) : xorBytes a b = strxor a b := rfl

/-- the model's block loop produces `b_(idx+1) || … || b_(idx+n)` -/
theorem xmdBlocks_eq (H : XmdHash) (msgP dstP : Bytes) :
    ∀ (n idx : Nat) (acc : Bytes), 1 ≤ idx →
      xmdBlocks H (xmd_b H.hash msgP dstP 0) dstP n idx (xmd_b H.hash msgP dstP idx) acc
        = acc ++ ((List.range n).map fun k => xmd_b H.hash msgP dstP (idx + 1 + k)).flatten := by
  intro n
  induction n with
  | zero => intro idx acc _; simp [xmdBlocks]
  | succ n ih =>
    intro idx acc hidx
    obtain ⟨i, rfl⟩ : ∃ i, idx = i + 1 := ⟨idx - 1, by omega⟩
    have hb : H.hash (xorBytes (xmd_b H.hash msgP dstP 0) (xmd_b H.hash msgP dstP (i + 1))
        ++ [u8 (i + 1 + 1)] ++ dstP) = xmd_b H.hash msgP dstP (i + 1 + 1) := by
      rw [xorBytes_eq, ← I2OSP_one]; rfl
    rw [xmdBlocks]
    simp only [hb]
    rw [ih (i + 1 + 1) _ (by omega), List.range_succ_eq_map]
    simp only [List.map_cons, List.map_map, List.flatten_cons, List.append_assoc]
    congr 2
    apply congrArg
    apply List.map_congr_left
    intro k _
    simp only [Function.comp]
    congr 1
    omega

theorem flatten_length_const {α : Type} (f : Nat → List α) (c : Nat) (hf : ∀ k, (f k).length = c) (n : Nat) :
    ((List.range n).map f).flatten.length = n * c := by
  induction n with
  | zero => simp
  | succ n ih =>
    rw [List.range_succ, List.map_append, List.flatten_append, List.length_append, ih]
    simp [hf, Nat.succ_mul]

theorem xmd_b_length (H : Bytes → Bytes) (c : Nat) (hH : ∀ x, (H x).length = c) (msgP dstP : Bytes) (i : Nat) :
    (xmd_b H msgP dstP i).length = c := by
  match i with
  | 0 => exact hH _
  | 1 => exact hH _
  | i + 2 => exact hH _

theorem rfc_xmd_length (H : Bytes → Bytes) (b s : Nat) (hb : 0 < b) (hH : ∀ x, (H x).length = b)
    (msg dst : Bytes) (len : Nat) (bytes : Bytes)
    (h : Rfc.expand_message_xmd H b s msg dst len = some bytes) : bytes.length = len := by
  unfold Rfc.expand_message_xmd at h
  simp only at h
  split at h
  · cases h
  · injection h with h
    subst h
    unfold substr
    rw [List.drop_zero, List.length_take,
      flatten_length_const _ b (fun k => xmd_b_length H b hH _ _ (k + 1)), ceilDiv_eq _ _ hb]
    apply Nat.min_eq_left
    have := Nat.lt_div_mul_add (a := len + b - 1) hb
    omega

/-! ### OS2IP -/

theorem beToNat_eq_OS2IP (bs : Bytes) : beToNat bs = OS2IP bs := by
  induction bs with
  | nil => rfl
  | cons b bs ih => rw [Limbs.beToNat_cons, OS2IP, ih]

theorem OS2IP_append (a b : Bytes) : OS2IP (a ++ b) = OS2IP a * 256 ^ b.length + OS2IP b := by
  simp only [← beToNat_eq_OS2IP, beToNat_append]

theorem OS2IP_lt (bs : Bytes) : OS2IP bs < 256 ^ bs.length :=
  beToNat_eq_OS2IP bs ▸ Limbs.beToNat_lt bs

theorem OS2IP_zero_extend (k : Nat) (bs : Bytes) :
    OS2IP (List.replicate k (0 : UInt8) ++ bs) = OS2IP bs := by
  induction k with
  | zero => rfl
  | succ k ih => rw [List.replicate_succ, List.cons_append, OS2IP, ih]; simp

theorem OS2IP_split (bs : Bytes) (k : Nat) :
    OS2IP bs = OS2IP (bs.take k) * 256 ^ (bs.length - k) + OS2IP (bs.drop k) := by
  conv_lhs => rw [← List.take_append_drop k bs]
  rw [OS2IP_append, List.length_drop]

/-! ### from_okm -/

/-- `from_okm` over any `Zp p`: the two `half`-byte halves of `okm`, each zero-extended by `pad`
bytes and read big-endian by `fromBytes` (which fails from `p` on), are combined as
`hi * 256^half + lo`.  Since `256^half < p` neither read fails, and the value is `OS2IP(okm) mod p`. -/
theorem fromOkm_zp {p : Nat} [PosNat p] (fromBytes : Bytes → Option (Zp p))
    (hfb : ∀ bs, OS2IP bs < p → fromBytes bs = some (Zp.ofNat (OS2IP bs)))
    (pad half : Nat) (hp : 256 ^ half < p) (okm : Bytes) (h : okm.length = half + half) :
    (do let e1 ← fromBytes (List.replicate pad (0 : UInt8) ++ okm.take half)
        let e2 ← fromBytes (List.replicate pad (0 : UInt8) ++ (okm.drop half).take half)
        pure (e1 * Zp.ofNat (256 ^ half) + e2)) = some (Zp.ofNat (OS2IP okm)) := by
  have hlt : ∀ bs : Bytes, bs.length = half → OS2IP (List.replicate pad (0 : UInt8) ++ bs) < p := by
    intro bs hbs
    rw [OS2IP_zero_extend]
    exact lt_trans (hbs ▸ OS2IP_lt bs) hp
  have h3 : (okm.drop half).take half = okm.drop half := List.take_of_length_le (by simp [h])
  rw [h3, hfb _ (hlt _ (by simp [h])), hfb _ (hlt _ (by simp [h]))]
  simp only [Option.bind_eq_bind, Option.bind_some, Option.pure_def, OS2IP_zero_extend]
  rw [Zp.ofNat_mul_add, OS2IP_split okm half, h, Nat.add_sub_cancel]

theorem fq_fromBytes_OS2IP (bs : Bytes) (h : OS2IP bs < Gen.q) : Fq.fromBytes bs = some (Zp.ofNat (OS2IP bs)) := by
  unfold Fq.fromBytes
  simp only [beToNat_eq_OS2IP, dif_pos h, Zp.mk_eq_ofNat]

theorem fr_fromBytes_OS2IP (bs : Bytes) (h : OS2IP bs < Gen.r) : Fr.fromBytes bs = some (Zp.ofNat (OS2IP bs)) := by
  unfold Fr.fromBytes
  simp only [beToNat_eq_OS2IP, dif_pos h, Zp.mk_eq_ofNat]

/-- the extracted Montgomery literal `F_2_256` of `Fq::from_okm` decodes to `2^256 mod q` -/
theorem fqF2_256_eq : fqF2_256 = Zp.ofNat (256 ^ 32) := by decide +kernel

/-- the extracted Montgomery literal `F_2_192` of `Fr::from_okm` decodes to `2^192 mod r` -/
theorem frF2_192_eq : frF2_192 = Zp.ofNat (256 ^ 24) := by decide +kernel

theorem q_gt : 256 ^ 32 < Gen.q := by decide +kernel
theorem r_gt : 256 ^ 24 < Gen.r := by decide +kernel

theorem fromOkm_fq (okm : Bytes) (h : okm.length = 64) :
    Fq.fromOkm okm = some (Zp.ofNat (OS2IP okm)) := by
  unfold Fq.fromOkm
  rw [fqF2_256_eq]
  exact fromOkm_zp Fq.fromBytes fq_fromBytes_OS2IP 16 32 q_gt okm h

theorem fromOkm_fr (okm : Bytes) (h : okm.length = 48) :
    Fr.fromOkm okm = some (Zp.ofNat (OS2IP okm)) := by
  unfold Fr.fromOkm
  rw [frF2_192_eq]
  exact fromOkm_zp Fr.fromBytes fr_fromBytes_OS2IP 8 24 r_gt okm h

theorem fromRo_fq2 (okm : Bytes) (h : okm.length = 128) :
    Fq2.fromRo okm = some ⟨Zp.ofNat (OS2IP (okm.take 64)), Zp.ofNat (OS2IP (okm.drop 64))⟩ := by
  have h3 : (okm.drop 64).take 64 = okm.drop 64 := List.take_of_length_le (by simp [h])
  unfold Fq2.fromRo
  rw [fromOkm_fq (okm.take 64) (by simp [h]), h3, fromOkm_fq (okm.drop 64) (by simp [h])]
  rfl

/-! ### hash_to_field -/

theorem splitBlocks_eq {T : Type} (L : Nat) (fromRo : Bytes → Option T) (g : Bytes → T)
    (hg : ∀ blk : Bytes, blk.length = L → fromRo blk = some (g blk)) (bytes : Bytes) :
    ∀ n idx : Nat, (idx + n) * L ≤ bytes.length →
      splitBlocks L fromRo bytes n idx
        = some ((List.range n).map fun k => g (substr bytes ((idx + k) * L) L)) := by
  intro n
  induction n with
  | zero => intro idx _; simp [splitBlocks]
  | succ n ih =>
    intro idx hlen
    have hblk : ((bytes.drop (idx * L)).take L).length = L := by
      rw [List.length_take, List.length_drop]
      have : (idx + (n + 1)) * L = idx * L + L + n * L := by ring
      omega
    rw [splitBlocks]
    simp only [Option.bind_eq_bind, Option.pure_def, ne_eq, hblk, not_true_eq_false, if_false]
    rw [hg _ hblk, ih (idx + 1) (by rw [show idx + 1 + n = idx + (n + 1) by omega]; exact hlen)]
    simp only [Option.bind_some, List.range_succ_eq_map, List.map_cons, List.map_map]
    congr 2
    apply List.map_congr_left
    intro k _
    simp only [Function.comp]
    congr 2
    rw [Nat.succ_eq_add_one]
    ring

theorem hashToField_eq {T : Type} (expand : Bytes → Bytes → Nat → Option Bytes) (L : Nat)
    (fromRo : Bytes → Option T) (g : Bytes → T)
    (hg : ∀ blk : Bytes, blk.length = L → fromRo blk = some (g blk))
    (msg dst : Bytes) (count : Nat) (bytes : Bytes)
    (h : expand msg dst (count * L) = some bytes) (hl : count * L ≤ bytes.length) :
    hashToField expand L fromRo msg dst count
      = some ((List.range count).map fun i => g (substr bytes (i * L) L)) := by
  unfold hashToField
  rw [h]
  simp only [Option.bind_eq_bind, Option.bind_some]
  rw [splitBlocks_eq L fromRo g hg bytes count 0 (by simpa using hl)]
  simp

theorem hashToField_none {T : Type} (expand : Bytes → Bytes → Nat → Option Bytes) (L : Nat)
    (fromRo : Bytes → Option T) (msg dst : Bytes) (count : Nat)
    (h : expand msg dst (count * L) = none) :
    hashToField expand L fromRo msg dst count = none := by
  unfold hashToField; rw [h]; rfl

/-- the canonical integers of a prime-field element, as the one-element vector `(e_0)` -/
def Zp.coords {p : Nat} (x : Zp p) : List Nat := [x.v]
/-- `(e_0, e_1)`: real part first -/
def Fq2.coords (x : Fq2) : List Nat := [x.c0.v, x.c1.v]

/-- a prime field: one `L`-byte block per element, reduced modulo `p` (`m = 1`) -/
theorem hashToField_zp_rfc {p : Nat} [PosNat p] (L : Nat) (fromOkm : Bytes → Option (Zp p))
    (hf : ∀ okm : Bytes, okm.length = L → fromOkm okm = some (Zp.ofNat (OS2IP okm)))
    (expand : Bytes → Bytes → Nat → Option Bytes) (msg dst : Bytes) (count : Nat)
    (hl : ∀ bytes, expand msg dst (count * L) = some bytes → count * L ≤ bytes.length) :
    (hashToField expand L fromOkm msg dst count).map (List.map Zp.coords)
      = Rfc.hash_to_field expand p 1 L msg dst count := by
  unfold Rfc.hash_to_field
  simp only [Nat.mul_one]
  cases h : expand msg dst (count * L) with
  | none => rw [hashToField_none _ _ _ _ _ _ h]; rfl
  | some bytes =>
    rw [hashToField_eq expand L fromOkm _ hf msg dst count bytes h (hl _ h)]
    simp only [Option.map_some, List.map_map]
    congr 1
    apply List.map_congr_left
    intro i _
    simp [Zp.coords, Nat.mul_comm]

theorem substr_take (bytes : Bytes) (a m n : Nat) (h : m ≤ n) : (substr bytes a n).take m = substr bytes a m := by
  unfold substr; rw [List.take_take, Nat.min_eq_left h]

theorem substr_drop (bytes : Bytes) (a m k n : Nat) (h : n = m + k) :
    (substr bytes a n).drop m = substr bytes (a + m) k := by
  unfold substr; rw [List.drop_take, List.drop_drop, h, Nat.add_sub_cancel_left]

/-! ### hash_to_field on top of the two expanders -/

theorem rfc_hash_to_field_congr (e1 e2 : Bytes → Bytes → Nat → Option Bytes) (p m L : Nat)
    (msg dst : Bytes) (count : Nat) (h : e1 msg dst (count * m * L) = e2 msg dst (count * m * L)) :
    Rfc.hash_to_field e1 p m L msg dst count = Rfc.hash_to_field e2 p m L msg dst count := by
  unfold Rfc.hash_to_field; simp only [h]

/-- the XOF model as an `expand` argument of `hashToField` (it never aborts) -/
def xofExpand (xof : Bytes → Nat → Bytes) : Bytes → Bytes → Nat → Option Bytes :=
  fun msg dst len => some (expandMessageXof xof msg dst len)

end Expand
end PP
