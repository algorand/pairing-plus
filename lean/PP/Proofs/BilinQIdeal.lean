/-
Linearity of the pairing in its second argument, the function-field part (generic field `K`).

On `E : y² = x³ + b` over a field `K` (`(W b)`, Mathlib's `WeierstrassCurve.Affine`), with
`R = K[E] = (W b).CoordinateRing`:

* `unit_const`: the units of `R` are the non-zero constants (norm/degree argument).
* `ev h : R →+* K`: evaluation at a point `(x, y)` of the curve.
* `I A`: the maximal ideal of the finite point `A`; `vert A = X - x_A`, `lineR l A = Y - (l (X - x_A) + y_A)`
  and `I (-A) · I A = ⟨vert A⟩`, `⟨tangent/chord through A, B⟩ = I A · I B · I (-(A + B))`
  (from Mathlib's `XYIdeal_neg_mul`, `XYIdeal_mul_XYIdeal`, cancelling the invertible ideal `I (A+B)`).
* the norm to `K[X]` of a line has leading coefficient `-1`, that of a vertical is monic.
* the Miller chain in `R`: `stepR` (one double-and-add step on numerator, denominator, accumulator), the
  invariant `Inv` (`⟨N⟩ · I(T) = ⟨D⟩ · I(Q)^k`, kept by `Inv.fold`), and `miller_additive`: the chains of
  `Q₁`, `Q₂`, `Q₁ + Q₂` differ by lines, verticals and a constant `c` with `c⁴ = 1`.
* `stepV`, `evSt_fold`: evaluating the chain at a point is the same chain on values.
-/
import Mathlib.AlgebraicGeometry.EllipticCurve.Affine.Point
import Mathlib.RingTheory.Norm.Basic
import PP.Proofs.CoordMap

set_option linter.unusedSectionVars false

namespace PP
namespace BilinQ

open WeierstrassCurve.Affine Polynomial Ate
open scoped Polynomial.Bivariate

variable {K : Type} [Field K] [DecidableEq K] {b : K} [ShortW b]

/-- the coordinate ring of `y² = x³ + b` -/
abbrev CR (b : K) := (W b).CoordinateRing

/-! ## evaluation at a point of the curve -/

/-- evaluation `K[E] → K` at the point `P` of the curve -/
noncomputable def ev {P : K × K} (h : On b P) : CR b →+* K := AdjoinRoot.evalEval h

theorem ev_mk {P : K × K} (h : On b P) (g : K[X][Y]) :
    ev h (CoordinateRing.mk (W b) g) = g.evalEval P.1 P.2 := AdjoinRoot.evalEval_mk h g

/-- the vertical line through `A` -/
noncomputable def vert (b : K) (A : K × K) : CR b := CoordinateRing.XClass (W b) A.1

/-- the line through `A` with slope `l` -/
noncomputable def lineR (b : K) (l : K) (A : K × K) : CR b :=
  CoordinateRing.YClass (W b) (linePolynomial A.1 A.2 l)

theorem ev_vert {P : K × K} (h : On b P) (A : K × K) : ev h (vert b A) = verticalAt A P := by
  simp only [vert, CoordinateRing.XClass, ev_mk, verticalAt]
  simp [evalEval]

theorem ev_lineR {P : K × K} (h : On b P) (l : K) (A : K × K) :
    ev h (lineR b l A) = lineAt l A P := by
  simp only [lineR, CoordinateRing.YClass, ev_mk, lineAt, linePolynomial]
  simp [evalEval]
  ring

theorem vert_ne_zero (A : K × K) : vert b A ≠ 0 := CoordinateRing.XClass_ne_zero _

theorem lineR_ne_zero (l : K) (A : K × K) : lineR b l A ≠ 0 := CoordinateRing.YClass_ne_zero _

/-! ## the units of the coordinate ring are the constants -/

theorem unit_const (u : (CR b)ˣ) : ∃ c : K, c ≠ 0 ∧ (u : CR b) = algebraMap K[X] (CR b) (C c) := by
  obtain ⟨p, q, hpq⟩ := CoordinateRing.exists_smul_basis_eq (u : CR b)
  have hu : IsUnit (Algebra.norm K[X] (u : CR b)) := u.isUnit.map (Algebra.norm K[X])
  have hdeg := degree_eq_zero_of_isUnit hu
  rw [← hpq, CoordinateRing.degree_norm_smul_basis] at hdeg
  have hq : q = 0 := by
    by_contra hq
    have h1 : (2 • q.degree + 3 : WithBot ℕ) ≤ 0 := hdeg ▸ le_max_right _ _
    rw [degree_eq_natDegree hq, two_nsmul] at h1
    have h2 : ((q.natDegree + q.natDegree + 3 : ℕ) : WithBot ℕ) ≤ ((0 : ℕ) : WithBot ℕ) := by
      exact_mod_cast h1
    have h3 : q.natDegree + q.natDegree + 3 ≤ 0 := WithBot.coe_le_coe.mp h2
    omega
  subst hq
  have hp0 : p ≠ 0 := by
    rintro rfl
    simp at hdeg
  have hp : p.degree = 0 := by
    rw [degree_eq_natDegree hp0] at hdeg ⊢
    have h1 : (2 • (p.natDegree : WithBot ℕ)) ≤ 0 := hdeg ▸ le_max_left _ _
    rw [two_nsmul] at h1
    have h2 : ((p.natDegree + p.natDegree : ℕ) : WithBot ℕ) ≤ ((0 : ℕ) : WithBot ℕ) := by
      exact_mod_cast h1
    have h3 : p.natDegree + p.natDegree ≤ 0 := WithBot.coe_le_coe.mp h2
    have h0 : p.natDegree = 0 := by omega
    rw [h0]; rfl
  obtain ⟨c, hc⟩ : ∃ c, p = C c := ⟨_, eq_C_of_degree_eq_zero hp⟩
  refine ⟨c, ?_, ?_⟩
  · rintro rfl
    exact hp0 (by rw [hc, C_0])
  · rw [← hpq, hc, zero_smul, add_zero, Algebra.smul_def, mul_one]

/-! ## the ideals of points, lines and verticals -/

/-- the maximal ideal of the finite point `A` -/
noncomputable def I (b : K) (A : K × K) : Ideal (CR b) :=
  CoordinateRing.XYIdeal (W b) A.1 (C A.2)

/-- `I(-A) · I(A) = ⟨X - x_A⟩` -/
theorem I_neg_mul {A : K × K} (h : On b A) : I b (ngp A) * I b A = Ideal.span {vert b A} := by
  have := CoordinateRing.XYIdeal_neg_mul h.nonsingular
  rw [W_negY] at this
  exact this

/-- **`⟨line through A, B⟩ = I(A) · I(B) · I(-(A+B))`** (tangent if `A = B`), for `A ≠ -B` -/
theorem line_ideal {A B : K × K} (hA : On b A) (hB : On b B) (h : NotOpp A B) :
    Ideal.span {lineR b (slopeAB b A B) A} = I b A * I b B * I b (ngp (addAB b A B)) := by
  have hS := hA.addAB hB h
  have h1 := CoordinateRing.XYIdeal_mul_XYIdeal hA hB ((notOpp_iff A B).mp h)
  have h2 := I_neg_mul hS
  have e : addAB b A B =
      ((W b).addX A.1 B.1 ((W b).slope A.1 B.1 A.2 B.2),
        (W b).addY A.1 B.1 A.2 ((W b).slope A.1 B.1 A.2 B.2)) := addAB_eq A B
  have h1' : Ideal.span {vert b (addAB b A B)} * (I b A * I b B) =
      Ideal.span {lineR b (slopeAB b A B) A} * I b (addAB b A B) := by
    rw [e]; exact h1
  rw [← Ideal.span_singleton_mul_right_inj (vert_ne_zero (b := b) (addAB b A B))]
  calc Ideal.span {vert b (addAB b A B)} * Ideal.span {lineR b (slopeAB b A B) A}
      = Ideal.span {lineR b (slopeAB b A B) A} *
          (I b (ngp (addAB b A B)) * I b (addAB b A B)) := by rw [h2, mul_comm]
    _ = (Ideal.span {lineR b (slopeAB b A B) A} * I b (addAB b A B)) *
          I b (ngp (addAB b A B)) := by ring
    _ = Ideal.span {vert b (addAB b A B)} * (I b A * I b B * I b (ngp (addAB b A B))) := by
        rw [← h1']; ring

/-- tangent: `⟨l_{A,A}⟩ = I(A)² · I(-2A)` -/
theorem tangent_ideal {A : K × K} (hA : On b A) (hy : A.2 ≠ 0) :
    Ideal.span {lineR b (tangentSlope A) A} = I b A * I b A * I b (ngp (affDouble A)) := by
  have := line_ideal hA hA (notOpp_self b hy)
  rwa [slopeAB_tangent hy, addAB_tangent hy] at this

/-- chord: `⟨l_{A,B}⟩ = I(A) · I(B) · I(-(A+B))` -/
theorem chord_ideal {A B : K × K} (hA : On b A) (hB : On b B) (hx : A.1 ≠ B.1) :
    Ideal.span {lineR b (chordSlope A B) A} = I b A * I b B * I b (ngp (affAdd A B)) := by
  have := line_ideal hA hB (notOpp_of_x_ne hx)
  rwa [slopeAB_chord hx, addAB_chord hx] at this

theorem On.affDouble {A : K × K} (hA : On b A) (hy : A.2 ≠ 0) : On b (affDouble A) := by
  rw [← addAB_tangent (b := b) hy]; exact hA.addAB hA (notOpp_self b hy)

theorem On.affAdd {A B : K × K} (hA : On b A) (hB : On b B) (hx : A.1 ≠ B.1) :
    On b (affAdd A B) := by
  rw [← addAB_chord (b := b) hx]; exact hA.addAB hB (notOpp_of_x_ne hx)

/-! ## norms to `K[X]`: leading coefficients `± 1` -/

/-- leading coefficient `1` or `-1` -/
def PM (p : K[X]) : Prop := p.leadingCoeff = 1 ∨ p.leadingCoeff = -1

theorem PM.one : PM (1 : K[X]) := Or.inl leadingCoeff_one

theorem PM.mul {p q : K[X]} (hp : PM p) (hq : PM q) : PM (p * q) := by
  unfold PM at *
  rw [leadingCoeff_mul]
  rcases hp with hp | hp <;> rcases hq with hq | hq <;> rw [hp, hq] <;> simp

theorem PM.pow {p : K[X]} (hp : PM p) (n : ℕ) : PM (p ^ n) := by
  induction n with
  | zero => rw [pow_zero]; exact PM.one
  | succ n ih => rw [pow_succ]; exact ih.mul hp

theorem PM.ne_zero {p : K[X]} (hp : PM p) : p ≠ 0 := by
  rintro rfl
  rcases hp with hp | hp <;> simp at hp

theorem norm_vert (A : K × K) : Algebra.norm K[X] (vert b A) = (X - C A.1) ^ 2 := by
  have e : vert b A = (X - C A.1 : K[X]) • (1 : CR b) + (0 : K[X]) • CoordinateRing.mk (W b) Y := by
    rw [zero_smul, add_zero, CoordinateRing.smul, mul_one]; rfl
  rw [e, CoordinateRing.norm_smul_basis]
  ring

theorem norm_lineR (l : K) (A : K × K) :
    Algebra.norm K[X] (lineR b l A) = linePolynomial A.1 A.2 l ^ 2 - (X ^ 3 + C b) := by
  have e : lineR b l A = (-linePolynomial A.1 A.2 l : K[X]) • (1 : CR b) +
      (1 : K[X]) • CoordinateRing.mk (W b) Y := by
    rw [one_smul, CoordinateRing.smul, mul_one, lineR, CoordinateRing.YClass, map_sub, C_neg,
      map_neg]
    ring
  rw [e, CoordinateRing.norm_smul_basis]
  simp only [W_a₁, W_a₂, W_a₃, W_a₄, W_a₆, map_zero, zero_mul, add_zero, mul_zero, sub_zero]
  ring

theorem pm_norm_vert (A : K × K) : PM (Algebra.norm K[X] (vert b A)) := by
  rw [norm_vert]; exact PM.pow (Or.inl (leadingCoeff_X_sub_C _)) 2

theorem pm_norm_lineR (l : K) (A : K × K) : PM (Algebra.norm K[X] (lineR b l A)) := by
  rw [norm_lineR]
  right
  have hd : (linePolynomial A.1 A.2 l ^ 2).degree < (X ^ 3 + C b : K[X]).degree := by
    rw [degree_X_pow_add_C (by norm_num) b]
    have h1 : (linePolynomial A.1 A.2 l).degree ≤ 1 := by
      have e : linePolynomial A.1 A.2 l = C l * X + C (A.2 - l * A.1) := by
        unfold linePolynomial; rw [C_sub, C_mul]; ring
      rw [e]; exact degree_linear_le
    calc (linePolynomial A.1 A.2 l ^ 2).degree ≤ 2 • (linePolynomial A.1 A.2 l).degree :=
          degree_pow_le _ _
      _ ≤ 2 • (1 : WithBot ℕ) := nsmul_le_nsmul_right h1 2
      _ < ((3 : ℕ) : WithBot ℕ) := by decide
  rw [leadingCoeff_sub_of_degree_lt' hd, leadingCoeff_X_pow_add_C (by norm_num)]

theorem ne_zero_of_pm_norm {x : CR b} (h : PM (Algebra.norm K[X] x)) : x ≠ 0 := by
  rintro rfl
  apply h.ne_zero
  have e : (0 : CR b) = (0 : K[X]) • (1 : CR b) + (0 : K[X]) • CoordinateRing.mk (W b) Y := by
    rw [zero_smul, zero_smul, add_zero]
  rw [e, CoordinateRing.norm_smul_basis]
  ring

/-! ## the bookkeeping of zeros, in any commutative semiring

The relations between the ideals of points, lines and verticals along the chain, with the ideals as
variables: `N`, `D` numerator and denominator, `T` the accumulator, `T'` its negative. -/

section bookkeeping
variable {S : Type*} [CommSemiring S]

/-- doubling: `l = T² · (-2T)` the tangent, `v = (-2T) · (2T)` the vertical -/
theorem dbl_zeros {N D Q T T₂ T₂' l v : S} {k : ℕ} (h : N * T = D * Q ^ k) (hl : l = T * T * T₂')
    (hv : T₂' * T₂ = v) : N ^ 2 * l * T₂ = D ^ 2 * v * Q ^ (2 * k) := by
  subst hl hv
  calc N ^ 2 * (T * T * T₂') * T₂ = (N * T) ^ 2 * (T₂' * T₂) := by ring
    _ = D ^ 2 * (T₂' * T₂) * Q ^ (2 * k) := by rw [h]; ring

/-- addition: `l = T · Q · (-(T+Q))` the chord, `v = (-(T+Q)) · (T+Q)` the vertical -/
theorem add_zeros {N D Q T A A' l v : S} {k : ℕ} (h : N * T = D * Q ^ k) (hl : l = T * Q * A')
    (hv : A' * A = v) : N * l * A = D * v * Q ^ (k + 1) := by
  subst hl hv
  calc N * (T * Q * A') * A = (N * T) * Q * (A' * A) := by ring
    _ = D * (A' * A) * Q ^ (k + 1) := by rw [h]; ring

/-- three chains with `Q₃ = Q₁ + Q₂`, `T₃ = T₁ + T₂`: `l`, `v` the line through `Q₁`, `Q₂` and the
    vertical at `Q₃`, `lₙ`, `vₙ` those for `T₁`, `T₂`, `T₃` -/
theorem sum_zeros {N₁ N₂ N₃ D₁ D₂ D₃ Q₁ Q₂ Q₃ Q₃' T₁ T₂ T₃ T₃' l v lₙ vₙ : S} {n : ℕ}
    (i₁ : N₁ * T₁ = D₁ * Q₁ ^ n) (i₂ : N₂ * T₂ = D₂ * Q₂ ^ n) (i₃ : N₃ * T₃ = D₃ * Q₃ ^ n)
    (hl : l = Q₁ * Q₂ * Q₃') (hv : Q₃' * Q₃ = v) (hlₙ : lₙ = T₁ * T₂ * T₃') (hvₙ : T₃' * T₃ = vₙ) :
    N₃ * l ^ n * vₙ * D₁ * D₂ * (T₁ * T₂) = D₃ * N₁ * N₂ * v ^ n * lₙ * (T₁ * T₂) := by
  subst hl hv hlₙ hvₙ
  calc N₃ * (Q₁ * Q₂ * Q₃') ^ n * (T₃' * T₃) * D₁ * D₂ * (T₁ * T₂)
      = (N₃ * T₃) * Q₃' ^ n * (D₁ * Q₁ ^ n) * (D₂ * Q₂ ^ n) * T₃' * (T₁ * T₂) := by ring
    _ = D₃ * (N₁ * T₁) * (N₂ * T₂) * (Q₃' * Q₃) ^ n * T₃' * (T₁ * T₂) := by rw [i₃, ← i₁, ← i₂]; ring
    _ = _ := by ring

/-- cancelling `T₁ T₂` after multiplication by the negatives: `wᵢ = Tᵢ' Tᵢ` the verticals -/
theorem cancel_zeros {A B T₁ T₂ T₁' T₂' w₁ w₂ : S} (h : A * (T₁ * T₂) = B * (T₁ * T₂))
    (h₁ : T₁' * T₁ = w₁) (h₂ : T₂' * T₂ = w₂) : A * (w₁ * w₂) = B * (w₁ * w₂) := by
  subst h₁ h₂
  calc A * (T₁' * T₁ * (T₂' * T₂)) = A * (T₁ * T₂) * (T₁' * T₂') := by ring
    _ = B * (T₁' * T₁ * (T₂' * T₂)) := by rw [h]; ring

end bookkeeping

/-! ## the Miller chain in the coordinate ring -/

/-- state of the double-and-add chain: numerator and denominator of the Miller function (elements of
    `K[E]`), accumulator `T` -/
abbrev St (b : K) : Type := CR b × CR b × (K × K)

/-- numerator -/
abbrev St.N (s : St b) : CR b := s.1
/-- denominator -/
abbrev St.D (s : St b) : CR b := s.2.1
/-- accumulator -/
abbrev St.T (s : St b) : K × K := s.2.2

/-- one iteration: `f ← f² · l_{T,T} / v_{2T}`, `T ← 2T`; if the bit is set `f ← f · l_{T,Q} / v_{T+Q}`,
    `T ← T + Q` -/
noncomputable def stepR (b : K) (Q : K × K) (s : St b) (bit : Bool) : St b :=
  let T2 := affDouble s.T
  let N := s.N ^ 2 * lineR b (tangentSlope s.T) s.T
  let D := s.D ^ 2 * vert b T2
  if bit then ⟨N * lineR b (chordSlope T2 Q) T2, D * vert b (affAdd T2 Q), affAdd T2 Q⟩
  else ⟨N, D, T2⟩

/-- no exceptional case along the chain: `Lines.Regular`, which is stated over `Fq2`, for any field
    (`reg_untwist` carries the one to the other) -/
def Reg (Q : K × K) : List Bool → K × K → Prop
  | [], _ => True
  | bit :: bs, T =>
    T.2 ≠ 0 ∧
      if bit then (affDouble T).1 ≠ Q.1 ∧ Reg Q bs (affAdd (affDouble T) Q)
      else Reg Q bs (affDouble T)

/-- `k` followed by the binary digits `bs`; the same `foldl` as `Lines.val`, which this file does not
    import -/
def bval (k : ℕ) (bs : List Bool) : ℕ := bs.foldl (fun k bit => 2 * k + bit.toNat) k

/-- invariant: `div(N/D) = k (Q) - (T) - (k-1) (O)`, as an identity of ideals of `K[E]`:
    `⟨N⟩ · I(T) = ⟨D⟩ · I(Q)^k` -/
structure Inv (b : K) [ShortW b] (Q : K × K) (k : ℕ) (s : St b) : Prop where
  on : On b s.T
  pmN : PM (Algebra.norm K[X] s.N)
  pmD : PM (Algebra.norm K[X] s.D)
  ideal : Ideal.span {s.N} * I b s.T = Ideal.span {s.D} * I b Q ^ k

theorem Inv.start {Q : K × K} (hQ : On b Q) : Inv b Q 1 ⟨1, 1, Q⟩ where
  on := hQ
  pmN := by rw [map_one]; exact PM.one
  pmD := by rw [map_one]; exact PM.one
  ideal := by rw [pow_one]

theorem Inv.step {Q : K × K} (hQ : On b Q) {k : ℕ} {s : St b} (hs : Inv b Q k s) (bit : Bool)
    (hy : s.T.2 ≠ 0) (hx : bit = true → (affDouble s.T).1 ≠ Q.1) :
    Inv b Q (2 * k + bit.toNat) (stepR b Q s bit) := by
  have hT2 : On b (affDouble s.T) := hs.on.affDouble hy
  have ht := tangent_ideal hs.on hy
  have hv := I_neg_mul hT2
  have hd : Inv b Q (2 * k) ⟨s.N ^ 2 * lineR b (tangentSlope s.T) s.T,
      s.D ^ 2 * vert b (affDouble s.T), affDouble s.T⟩ := by
    refine ⟨hT2, ?_, ?_, ?_⟩
    · rw [map_mul, map_pow]; exact (hs.pmN.pow 2).mul (pm_norm_lineR _ _)
    · rw [map_mul, map_pow]; exact (hs.pmD.pow 2).mul (pm_norm_vert _)
    · show Ideal.span {s.N ^ 2 * lineR b (tangentSlope s.T) s.T} * I b (affDouble s.T) =
        Ideal.span {s.D ^ 2 * vert b (affDouble s.T)} * I b Q ^ (2 * k)
      simp only [← Ideal.span_singleton_mul_span_singleton, ← Ideal.span_singleton_pow]
      exact dbl_zeros hs.ideal ht hv
  cases bit with
  | false =>
    simpa [stepR] using hd
  | true =>
    have hx' := hx rfl
    have hT3 : On b (affAdd (affDouble s.T) Q) := hT2.affAdd hQ hx'
    have hc := chord_ideal hT2 hQ hx'
    have hv' := I_neg_mul hT3
    simp only [stepR, if_true, Bool.toNat_true]
    refine ⟨hT3, ?_, ?_, ?_⟩
    · rw [map_mul]; exact hd.pmN.mul (pm_norm_lineR _ _)
    · rw [map_mul]; exact hd.pmD.mul (pm_norm_vert _)
    · have hi : Ideal.span {s.N ^ 2 * lineR b (tangentSlope s.T) s.T} * I b (affDouble s.T) =
        Ideal.span {s.D ^ 2 * vert b (affDouble s.T)} * I b Q ^ (2 * k) := hd.ideal
      show Ideal.span {s.N ^ 2 * lineR b (tangentSlope s.T) s.T *
            lineR b (chordSlope (affDouble s.T) Q) (affDouble s.T)} *
          I b (affAdd (affDouble s.T) Q) =
        Ideal.span {s.D ^ 2 * vert b (affDouble s.T) * vert b (affAdd (affDouble s.T) Q)} *
          I b Q ^ (2 * k + 1)
      rw [← Ideal.span_singleton_mul_span_singleton (s.N ^ 2 * lineR b (tangentSlope s.T) s.T),
        ← Ideal.span_singleton_mul_span_singleton (s.D ^ 2 * vert b (affDouble s.T))]
      exact add_zeros hi hc hv'

theorem Inv.fold {Q : K × K} (hQ : On b Q) (bs : List Bool) {k : ℕ} {s : St b} (hs : Inv b Q k s)
    (hreg : Reg Q bs s.T) : Inv b Q (bval k bs) (bs.foldl (stepR b Q) s) := by
  induction bs generalizing k s with
  | nil => exact hs
  | cons bit bs ih =>
    rw [List.foldl_cons]
    have hstep : Inv b Q (2 * k + bit.toNat) (stepR b Q s bit) := by
      refine hs.step hQ bit hreg.1 ?_
      rintro rfl
      have := hreg.2
      exact this.1
    refine ih hstep ?_
    have := hreg.2
    cases bit with
    | false => simpa [stepR] using this
    | true => simpa [stepR] using this.2

/-! ## the quotient of Miller functions is a constant -/

theorem ev_const {P : K × K} (h : On b P) (c : K) : ev h (algebraMap K[X] (CR b) (C c)) = c := by
  have e : algebraMap K[X] (CR b) (C c) = CoordinateRing.mk (W b) (C (C c)) := rfl
  rw [e, ev_mk]
  simp [evalEval]

theorem norm_const (c : K) : Algebra.norm K[X] (algebraMap K[X] (CR b) (C c)) = C c ^ 2 := by
  rw [Algebra.norm_algebraMap_of_basis (CoordinateRing.basis (W b))]
  simp

/-- **`F_{n,Q₁+Q₂} · l^n · v_n · D₁ D₂ = c · D₃ · N₁ N₂ · v^n · l_n`** with a constant `c`, `c⁴ = 1`:
    `l` the line through `Q₁`, `Q₂`, `v` the vertical at `Q₃ = Q₁ + Q₂`, `l_n` the line
    through `T₁ = [n]Q₁`, `T₂ = [n]Q₂`, `v_n` the vertical at `T₃ = T₁ + T₂`; `N_i / D_i` the Miller
    functions, `div(N_i/D_i) = n(Q_i) - (T_i) - (n-1)(O)`.  Both sides have the same (principal) ideal
    in `K[E]`, a domain whose units are constants; the norms to `K[X]` have leading coefficient `±1`. -/
theorem miller_additive {Q₁ Q₂ : K × K} (h₁ : On b Q₁) (h₂ : On b Q₂) (hno : NotOpp Q₁ Q₂)
    (s₁ s₂ s₃ : St b) (n : ℕ) (i₁ : Inv b Q₁ n s₁) (i₂ : Inv b Q₂ n s₂)
    (i₃ : Inv b (addAB b Q₁ Q₂) n s₃) (hnoT : NotOpp s₁.T s₂.T) (hT : s₃.T = addAB b s₁.T s₂.T) :
    ∃ c : K, c ^ 4 = 1 ∧ ∀ (P : K × K) (h : On b P),
      ev h (s₃.N * lineR b (slopeAB b Q₁ Q₂) Q₁ ^ n * vert b s₃.T * s₁.D * s₂.D) * c =
        ev h (s₃.D * s₁.N * s₂.N * vert b (addAB b Q₁ Q₂) ^ n *
          lineR b (slopeAB b s₁.T s₂.T) s₁.T) := by
  have h₃ : On b (addAB b Q₁ Q₂) := h₁.addAB h₂ hno
  have el0 := line_ideal h₁ h₂ hno
  have eln0 := line_ideal i₁.on i₂.on hnoT
  rw [← hT] at eln0
  have pml := pm_norm_lineR (b := b) (slopeAB b Q₁ Q₂) Q₁
  have pmln := pm_norm_lineR (b := b) (slopeAB b s₁.T s₂.T) s₁.T
  generalize addAB b Q₁ Q₂ = Q₃ at *
  generalize lineR b (slopeAB b Q₁ Q₂) Q₁ = l at *
  generalize lineR b (slopeAB b s₁.T s₂.T) s₁.T = ln at *
  obtain ⟨A, hA⟩ : ∃ A : CR b, A = s₃.N * l ^ n * vert b s₃.T * s₁.D * s₂.D := ⟨_, rfl⟩
  obtain ⟨B, hB⟩ : ∃ B : CR b, B = s₃.D * s₁.N * s₂.N * vert b Q₃ ^ n * ln := ⟨_, rfl⟩
  rw [← hA, ← hB]
  -- ideals
  have el : Ideal.span {l} = I b Q₁ * I b Q₂ * I b (ngp Q₃) := el0
  have ev' : I b (ngp Q₃) * I b Q₃ = Ideal.span {vert b Q₃} := I_neg_mul h₃
  have eln : Ideal.span {ln} = I b s₁.T * I b s₂.T * I b (ngp s₃.T) := eln0
  have evn : I b (ngp s₃.T) * I b s₃.T = Ideal.span {vert b s₃.T} := I_neg_mul i₃.on
  have ev1 : I b (ngp s₁.T) * I b s₁.T = Ideal.span {vert b s₁.T} := I_neg_mul i₁.on
  have ev2 : I b (ngp s₂.T) * I b s₂.T = Ideal.span {vert b s₂.T} := I_neg_mul i₂.on
  have key : Ideal.span {A} * (I b s₁.T * I b s₂.T) = Ideal.span {B} * (I b s₁.T * I b s₂.T) := by
    rw [hA, hB]
    simp only [← Ideal.span_singleton_mul_span_singleton, ← Ideal.span_singleton_pow]
    exact sum_zeros i₁.ideal i₂.ideal i₃.ideal el ev' eln evn
  have hw : vert b s₁.T * vert b s₂.T ≠ 0 := mul_ne_zero (vert_ne_zero _) (vert_ne_zero _)
  have hspan : Ideal.span {A} = Ideal.span {B} := by
    rw [← Ideal.span_singleton_mul_left_inj hw,
      ← Ideal.span_singleton_mul_span_singleton (vert b s₁.T) (vert b s₂.T)]
    exact cancel_zeros key ev1 ev2
  obtain ⟨u, hu⟩ := Ideal.span_singleton_eq_span_singleton.mp hspan
  obtain ⟨c, -, hc⟩ := unit_const u
  -- norms
  have pmA : PM (Algebra.norm K[X] A) := by
    rw [hA]; simp only [map_mul, map_pow]
    exact ((((i₃.pmN.mul (pml.pow n)).mul (pm_norm_vert _)).mul i₁.pmD).mul i₂.pmD)
  have pmB : PM (Algebra.norm K[X] B) := by
    rw [hB]; simp only [map_mul, map_pow]
    exact ((((i₃.pmD.mul i₁.pmN).mul i₂.pmN).mul ((pm_norm_vert _).pow n)).mul pmln)
  have hn : Algebra.norm K[X] A * C c ^ 2 = Algebra.norm K[X] B := by
    rw [← hu, map_mul, hc, norm_const]
  have hlc : (Algebra.norm K[X] A).leadingCoeff * c ^ 2 = (Algebra.norm K[X] B).leadingCoeff := by
    rw [← hn, leadingCoeff_mul, leadingCoeff_pow, leadingCoeff_C]
  have hc4 : c ^ 4 = 1 := by
    rcases pmA with ha | ha <;> rcases pmB with hb | hb <;> rw [ha, hb] at hlc
    · linear_combination (c ^ 2 + 1) * hlc
    · linear_combination (c ^ 2 - 1) * hlc
    · linear_combination (-c ^ 2 + 1) * hlc
    · linear_combination (-c ^ 2 - 1) * hlc
  refine ⟨c, hc4, fun P h => ?_⟩
  have := congrArg (ev h) hu
  rw [map_mul, hc, ev_const] at this
  exact this

/-! ## evaluation of the chain -/

/-- the value-level chain: numerator value, denominator value, accumulator -/
def stepV (P Q : K × K) (s : K × K × (K × K)) (bit : Bool) : K × K × (K × K) :=
  let T2 := affDouble s.2.2
  let f := s.1 ^ 2 * tangentAt s.2.2 P
  let d := s.2.1 ^ 2 * verticalAt T2 P
  if bit then (f * chordAt T2 Q P, d * verticalAt (affAdd T2 Q) P, affAdd T2 Q) else (f, d, T2)

/-- evaluation of a state at `P` -/
noncomputable def evSt {P : K × K} (h : On b P) (s : St b) : K × K × (K × K) :=
  (ev h s.N, ev h s.D, s.T)

theorem evSt_stepR {P : K × K} (h : On b P) (Q : K × K) (s : St b) (bit : Bool) :
    evSt h (stepR b Q s bit) = stepV P Q (evSt h s) bit := by
  cases bit <;>
    simp [evSt, stepR, stepV, St.N, St.D, St.T, map_mul, map_pow, ev_lineR, ev_vert, tangentAt,
      chordAt]

theorem evSt_fold {P : K × K} (h : On b P) (Q : K × K) (bs : List Bool) (s : St b) :
    evSt h (bs.foldl (stepR b Q) s) = bs.foldl (stepV P Q) (evSt h s) := by
  induction bs generalizing s with
  | nil => rfl
  | cons bit bs ih => rw [List.foldl_cons, List.foldl_cons, ih, evSt_stepR]

end BilinQ
end PP
