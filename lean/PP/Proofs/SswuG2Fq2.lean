/-
C15, layer 3 (G2): instantiation of `PP.Proofs.SswuG2` at the model field `Fq2`
(`Field Fq2` from `PP.Proofs.Tower2`, built on the model's own `+ - * neg`), with the extracted
constants `G2_ELLP_A`, `G2_ELLP_B`, `G2_XI`, `G2_ROOTS_OF_UNITY`, `G2_ETAS`.

Still hypotheses here (discharged in `PP/Props/C15Inst.lean`): `hcard : ∀ x ≠ 0, x^(q²−1) = 1` and
`hchain2 : chainP2m9div16 a = a^((q²−9)/16)`.
-/
import PP.Proofs.SswuG2
import PP.Proofs.SswuG1
import PP.Proofs.SswuUnfold
import PP.Proofs.Tower2
import PP.Proofs.Primes

set_option linter.unusedSectionVars false

namespace PP
namespace Sswu
open PP.Spec

theorem osswuG2Find_eq_findG (c d n : Fq2) :
    ∀ ms : List Fq2, osswuG2Find c d n ms = findG c d n ms := by
  intro ms
  induction ms with
  | nil => rfl
  | cons m ms ih =>
    unfold osswuG2Find findG
    rw [ih]

theorem osswuG2_eq_g2Map (u : Fq2) :
    osswuG2 u =
      g2Map chainP2m9div16 Fq2.sgn0 g2Xi g2EllpA g2EllpB g2RootsOfUnity g2Etas u := by
  refine (osswuG2_unfold u).trans ?_
  unfold g2Map
  generalize osswuHelp u g2Xi g2EllpA g2EllpB = h
  generalize chainP2m9div16 _ = c
  generalize g2RootsOfUnity = roots
  generalize g2Etas = etas
  as_aux_lemma =>
    simp only [osswuG2Find_eq_findG]
    unfold osswuG2Core
    generalize findG _ h.gx0_den h.gx0_num roots = o1
    cases o1 with
    | some y0 => rfl
    | none =>
      dsimp only
      generalize findG _ h.gx0_den _ etas = o2
      cases o2 <;> rfl

theorem Fq2.sgn0_neg (y : Fq2) (hy : y ≠ 0) : Fq2.sgn0 (-y) ≠ Fq2.sgn0 y := by
  unfold Fq2.sgn0
  by_cases h0 : y.c0 = 0
  · have h1 : y.c1 ≠ 0 := fun h1 => hy (Fq2.ext h0 h1)
    have h0' : (-y).c0 = 0 := by rw [Fq2.neg_c0, h0, neg_zero]
    rw [if_pos ((Zp.isZero_iff _).mpr h0'), if_pos ((Zp.isZero_iff _).mpr h0), Fq2.neg_c1]
    exact Fq.sgn0_neg _ h1
  · have h0' : (-y).c0 ≠ 0 := by rw [Fq2.neg_c0]; exact neg_ne_zero.mpr h0
    rw [if_neg (fun h => h0' ((Zp.isZero_iff _).mp h)), if_neg (fun h => h0 ((Zp.isZero_iff _).mp h)),
      Fq2.neg_c0]
    exact Fq.sgn0_neg _ h0

theorem g2EllpB_ne : g2EllpB ≠ 0 := by decide +kernel

theorem q_sq_mod_16 : Gen.q ^ 2 % 16 = 9 := by decide +kernel

/-- a square root of `g(B'/(ZA'))`, found outside Lean; `g2_consts` checks it -/
def g2ExcRoot : Fq2 :=
  ⟨Zp.ofNat 0x1776b5d3dd70bb2ac6e46be0849209c9c47853350da878bdc14a5042102f1f01cbc75043b8d13d709dd5ca27f92cb390,
   Zp.ofNat 0x2c094c100c4f8a157767045bc04279dd04f207fbddc4de6675911b512cddacc0061215698453b5b11125516029e4d21⟩

/-- what `g2Map_spec` asks of the constants, in one kernel evaluation: `A' ≠ 0`, `Z ≠ 0`, and
`g(B'/(ZA'))` is the square of `g2ExcRoot` -/
theorem g2_consts : g2EllpA ≠ 0 ∧ g2Xi ≠ 0 ∧
    sswuG g2EllpA g2EllpB (g2EllpB / (g2Xi * g2EllpA)) = g2ExcRoot * g2ExcRoot := by
  decide +kernel

theorem g2Exc_isSquare : IsSquare (sswuG g2EllpA g2EllpB (g2EllpB / (g2Xi * g2EllpA))) :=
  ⟨g2ExcRoot, g2_consts.2.2⟩

/-! ### the `ROOTS_OF_UNITY` cover the fourth roots of `1`, the `ETAS` those of `−1` -/

/-- `ROOTS_OF_UNITY[3]`, a square root of `Fq2.u` -/
def g2Om : Fq2 := g2RootsOfUnity.getD 3 0

/-- what is needed of the two tables, in one kernel evaluation (squares and cubes written as products:
these the kernel computes with the model's multiplication) -/
theorem g2_tables :
    g2Om * g2Om = Fq2.u ∧
    (∀ ζ ∈ [1, -1, Fq2.u, -Fq2.u], ∃ ρ ∈ g2RootsOfUnity, ρ * ρ * ζ = 1) ∧
    (∀ t ∈ [1, -1, Fq2.u, -Fq2.u], ∃ η ∈ g2Etas, η * η * (t * g2Om) = g2Xi * g2Xi * g2Xi) := by
  decide +kernel

theorem g2_hroots (ζ : Fq2) (h : ζ ^ 4 = 1) : ∃ ρ ∈ g2RootsOfUnity, ρ ^ 2 * ζ = 1 := by
  simp only [pow_two]
  exact g2_tables.2.1 ζ (mem_of_pow_four_eq_one Fq2.u_mul_u h)

theorem g2_hetas (ζ : Fq2) (h : ζ ^ 4 = -1) : ∃ η ∈ g2Etas, η ^ 2 * ζ = g2Xi ^ 3 := by
  obtain ⟨t, ht, rfl⟩ := mem_of_pow_four_eq_neg_one Fq2.u_mul_u g2_tables.1 h
  simp only [pow_succ, pow_zero, one_mul]
  exact g2_tables.2.2 t ht

section
variable (hcard : ∀ x : Fq2, x ≠ 0 → x ^ (Gen.q ^ 2 - 1) = 1)
include hcard

variable (hchain2 : ∀ a : Fq2, chainP2m9div16 a = a ^ ((Gen.q ^ 2 - 9) / 16))
include hchain2

theorem osswuG2_sswuOut (t : Fq2) :
    ∃ P, osswuG2 t = some P ∧ SswuOut Fq2.sgn0 g2Xi g2EllpA g2EllpB t P := by
  rw [osswuG2_eq_g2Map]
  exact g2Map_spec q_sq_mod_16 hcard g2_consts.1 g2_consts.2.1 g2Exc_isSquare Fq2.sgn0 Fq2.sgn0_neg
    chainP2m9div16 hchain2 g2RootsOfUnity g2Etas g2_hroots g2_hetas t

end

end Sswu
end PP
