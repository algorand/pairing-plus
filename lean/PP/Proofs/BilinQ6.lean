/-
The subgroups `G1 = E(Fq)[r]`, `G2 = E'(Fq2)[r]` are cyclic, generated by the library's generators
(`G1Affine::one()`, `G2Affine::one()`): from the structure theorems of `CurveOrder`
(`E = ⟨P⟩ ⊕ ⟨P₂⟩` with `h • P₂ = 0`, `gcd(h, r) = 1`) every point killed by `r` is a multiple of `h • P`,
and in a cyclic group of prime order every non-zero element is a generator.
-/
import PP.Proofs.CurveOrderG2
import PP.Props.C07

namespace PP
namespace BilinQ

open WeierstrassCurve.Affine

section generic
variable {G : Type} [AddCommGroup G]

/-- a point killed by `r` is a multiple of `c • P` when `G = ⟨P⟩ + ⟨P₂⟩`, `c • P₂ = 0`, `gcd(c, r) = 1` -/
theorem torsion_in_cyclic (P P₂ : G) (c r : ℕ) (hcop : Nat.Coprime c r) (hP₂ : c • P₂ = 0)
    (hspan : ∀ g : G, ∃ i j : ℤ, g = i • P + j • P₂) (S : G) (hS : r • S = 0) :
    ∃ i : ℤ, S = i • (c • P) := by
  obtain ⟨u, v, huv⟩ : IsCoprime (c : ℤ) (r : ℤ) := Nat.isCoprime_iff_coprime.mpr hcop
  have e : S = u • (c • S) := by
    have h1 : (1 : ℤ) • S = (u * c + v * r) • S := by rw [huv]
    rw [one_zsmul, add_zsmul, mul_zsmul, mul_zsmul, natCast_zsmul, natCast_zsmul, hS, zsmul_zero,
      add_zero] at h1
    exact h1
  obtain ⟨i, j, hij⟩ := hspan S
  have e2 : c • S = i • (c • P) := by
    rw [hij, nsmul_add, ← natCast_zsmul, ← natCast_zsmul (j • P₂), smul_comm, smul_comm _ j,
      natCast_zsmul, natCast_zsmul, hP₂, zsmul_zero, add_zero]
  exact ⟨u * i, by rw [mul_zsmul, ← e2]; exact e⟩

/-- in a cyclic group of prime order every non-zero element generates -/
theorem cyclic_prime (X G0 : G) (r : ℕ) (hr : r.Prime) (hX : r • X = 0) (a : ℤ) (hG0 : G0 = a • X)
    (hne : G0 ≠ 0) (k : ℤ) : ∃ m : ℕ, k • X = m • G0 := by
  have hcop : IsCoprime a (r : ℤ) := by
    rw [Int.isCoprime_iff_gcd_eq_one]
    rcases Nat.coprime_or_dvd_of_prime hr a.natAbs with h | h
    · rw [Int.gcd_comm]; exact h
    · exfalso
      apply hne
      obtain ⟨t, ht⟩ := Int.natCast_dvd.mpr h
      rw [hG0, ht, mul_zsmul', natCast_zsmul, hX, zsmul_zero]
  obtain ⟨u, v, huv⟩ := hcop
  have hXG : X = u • G0 := by
    have h1 : (1 : ℤ) • X = (u * a + v * r) • X := by rw [huv]
    rw [one_zsmul, add_zsmul, mul_zsmul, mul_zsmul, natCast_zsmul, hX, zsmul_zero, add_zero,
      ← hG0] at h1
    exact h1
  have hG0r : (r : ℤ) • G0 = 0 := by rw [hG0, smul_comm, natCast_zsmul, hX, zsmul_zero]
  have hr0 : (r : ℤ) ≠ 0 := by exact_mod_cast hr.ne_zero
  refine ⟨((k * u) % r).toNat, ?_⟩
  have hnn : 0 ≤ (k * u) % (r : ℤ) := Int.emod_nonneg _ hr0
  rw [← natCast_zsmul, Int.toNat_of_nonneg hnn]
  conv_lhs => rw [hXG, ← mul_zsmul, ← Int.mul_ediv_add_emod (k * u) r, add_zsmul, mul_zsmul', hG0r,
    zsmul_zero, zero_add]

/-- so the points killed by a prime `r` are the multiples of any one of them that is not zero -/
theorem torsion_cyclic (P P₂ : G) (c r : ℕ) (hr : r.Prime) (hcop : Nat.Coprime c r) (hP₂ : c • P₂ = 0)
    (hspan : ∀ g : G, ∃ i j : ℤ, g = i • P + j • P₂) (hX : r • (c • P) = 0) {G0 : G}
    (hG0 : r • G0 = 0) (hne : G0 ≠ 0) (S : G) (hS : r • S = 0) : ∃ m : ℕ, S = m • G0 := by
  obtain ⟨i, hi⟩ := torsion_in_cyclic P P₂ c r hcop hP₂ hspan S hS
  obtain ⟨a, ha⟩ := torsion_in_cyclic P P₂ c r hcop hP₂ hspan G0 hG0
  obtain ⟨m, hm⟩ := cyclic_prime _ _ r hr hX a ha hne i
  exact ⟨m, hi.trans hm⟩

end generic

local notation "b₁" => g1Codec.b
local notation "b₂" => g2Codec.b

theorem h1_P₂ : Gen.G1_COFACTOR • CurveOrder.G1.P₂ = 0 := by
  have hd : CurveOrder.G1.A ∣ Gen.G1_COFACTOR := by decide +kernel
  rw [← CurveOrder.G1.structure_thm.2.2.2.1] at hd
  exact addOrderOf_dvd_iff_nsmul_eq_zero.mp hd

theorem h2_P₂ : Gen.G2_COFACTOR • CurveOrder.G2.P₂ = 0 := by
  have hd : CurveOrder.G2.A ∣ Gen.G2_COFACTOR := by decide +kernel
  rw [← CurveOrder.G2.structure_thm.2.2.2.1] at hd
  exact addOrderOf_dvd_iff_nsmul_eq_zero.mp hd

/-- **`G2` is cyclic, generated by `G2Affine::one()`** -/
theorem g2_cyclic (S : (W b₂).Point) (hS : Gen.r • S = 0) :
    ∃ m : ℕ, S = m • Aff.abs b₂ C07.g2Generator := by
  have hX : Gen.r • (Gen.G2_COFACTOR • CurveOrder.G2.P) = 0 := by
    rw [← mul_nsmul, ← CurveOrder.G2.AB_eq, mul_nsmul, CurveOrder.G2.structure_thm.2.1]
  have hne : Aff.abs b₂ C07.g2Generator ≠ 0 := by
    rw [Ne, Aff.abs_eq_zero_iff C07.g2Generator_inSub.1]; exact Bool.false_ne_true
  exact torsion_cyclic _ _ _ _ Fact.out g2_cofactor_coprime h2_P₂ CurveOrder.G2.structure_thm.2.2.2.2
    hX C07.g2Generator_killed hne S hS

/-- **`G1` is cyclic, generated by `G1Affine::one()`** -/
theorem g1_cyclic (S : (W b₁).Point) (hS : Gen.r • S = 0) :
    ∃ m : ℕ, S = m • Aff.abs b₁ C07.g1Generator := by
  have hX : Gen.r • (Gen.G1_COFACTOR • CurveOrder.G1.P) = 0 := by
    rw [← mul_nsmul, ← CurveOrder.G1.AB_eq, mul_nsmul, CurveOrder.G1.structure_thm.2.1]
  have hne : Aff.abs b₁ C07.g1Generator ≠ 0 := by
    rw [Ne, Aff.abs_eq_zero_iff C07.g1Generator_inSub.1]; exact Bool.false_ne_true
  exact torsion_cyclic _ _ _ _ Fact.out g1_cofactor_coprime h1_P₂ CurveOrder.G1.structure_thm.2.2.2.2
    hX C07.g1Generator_killed hne S hS

end BilinQ
end PP
