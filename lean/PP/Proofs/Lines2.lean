/-
C03, point tracking: the accumulator of `G2Prepared::from_affine` (and the `T` of the textbook loop) is
`[k]Q` in Mathlib's group of points of `E' : y² = x³ + 4(1+u)`, `k` the integer whose binary expansion
is the processed prefix of the bits of `|x|`; consequently no exceptional case of the affine
chord-and-tangent formulas occurs (`Lines.Regular`) as soon as no multiple `[j]Q`, `0 < j ≤ |x| + 1`,
vanishes - in particular for `Q ≠ 0` of order `r`.

* `doublingStep_abs`, `additionStep_abs`: one step of the model, in the group.
* `Repr T R`: the pair `T` is the pair of affine coordinates of the (finite) point `R` (`CoordOf` of
  `PP/Proofs/CoordMap.lean` for `E'`); `step_coords`: one step of the textbook loop in the group.
* `regular_of_multiples`: `Regular` from the hypothesis on the multiples of `Q`.
* `prepareLoop_point`: the accumulator of `prepareLoop` is `[k]Q`.
* `millerLoop_eq_textbook`: model Miller loop = textbook Miller loop up to a unitish factor.
-/
import PP.Proofs.Lines
import PP.Props.C01

namespace PP
namespace Lines

open Ate Miller WeierstrassCurve.Affine

/-- the group `E'(Fq2)` -/
abbrev E2 := (W g2Codec.b).Point

/-! ## one step of the model, in the group -/

/-- `doubling_step` doubles: for every representative of every point (identity included) -/
theorem doublingStep_abs {r : Jac Fq2} (hr : Jac.OnCurve g2Codec.b r) :
    Jac.OnCurve g2Codec.b (doublingStep r).1 ∧
      Jac.abs g2Codec.b (doublingStep r).1 = 2 • Jac.abs g2Codec.b r := by
  by_cases hz : r.z = 0
  · have hz' : (doublingStep r).1.z = 0 := by rw [doublingStep_eq]; simp [hz]
    refine ⟨Or.inl hz', ?_⟩
    rw [Jac.abs_of_z_eq_zero hz', Jac.abs_of_z_eq_zero hz, smul_zero]
  · rw [doublingStep_eq_double r hz, two_smul]
    exact ⟨C01.double_onCurve hr, C01.double_correct hr⟩

/-- `addition_step` adds the affine point, outside the exceptional cases `r = 0`, `r = ±q`
    (`X = x_Q Z²`) -/
theorem additionStep_abs {r : Jac Fq2} {q : Aff Fq2} (hr : Jac.OnCurve g2Codec.b r)
    (hq : Aff.OnCurve g2Codec.b q) (hqi : q.infinity = false) (hz : r.z ≠ 0)
    (hx : r.x ≠ q.x * r.z ^ 2) :
    Jac.OnCurve g2Codec.b (additionStep r q).1 ∧
      Jac.abs g2Codec.b (additionStep r q).1 = Jac.abs g2Codec.b r + Aff.abs g2Codec.b q := by
  rw [additionStep_eq_addMixed r q hqi hz hx]
  exact ⟨C01.addMixed_onCurve hr hq, C01.addMixed_correct hr hq⟩

/-! ## affine pairs and points of the group -/

/-- `T` is the pair of affine coordinates of the finite point `R` of `E'`.  This is
    `CoordOf g2Codec.b T R` unfolded, and the `CoordOf.*` lemmas are applied to `Repr` hypotheses
    through that definitional equality. -/
def Repr (T : Fq2 × Fq2) (R : E2) : Prop :=
  ∃ h : (W g2Codec.b).Nonsingular T.1 T.2, R = Point.some T.1 T.2 h

theorem repr_aff {q : Aff Fq2} (hq : Aff.OnCurve g2Codec.b q) (hqi : q.infinity = false) :
    Repr (pair q) (Aff.abs g2Codec.b q) :=
  ⟨_, Aff.abs_of_not_infinity hq hqi⟩

/-- a point `S ≠ 0` with `[r]S = 0` has no vanishing multiple below `r` (`r` is prime) -/
theorem nsmul_ne_zero_of_lt {S : E2} (h0 : S ≠ 0) (hr : Gen.r • S = 0) {j : ℕ} (hj : 0 < j)
    (hj' : j < Gen.r) : j • S ≠ 0 := by
  have hprime : Nat.Prime Gen.r := Fact.out
  have hord : addOrderOf S = Gen.r := by
    rcases (Nat.dvd_prime hprime).mp (addOrderOf_dvd_of_nsmul_eq_zero hr) with h | h
    · exact absurd (AddMonoid.addOrderOf_eq_one_iff.mp h) h0
    · exact h
  intro e
  have hdvd : Gen.r ∣ j := hord ▸ addOrderOf_dvd_of_nsmul_eq_zero e
  have hle : Gen.r ≤ j := Nat.le_of_dvd hj hdvd
  omega

/-- **one step of the textbook loop in the group**: from `T = [k]Q`, if no multiple `[j]Q`,
    `0 < j ≤ 2k + 1`, vanishes, the tangent at `T` is not vertical, `2T = [2k]Q`, the chord through `2T`
    and `Q` is not vertical (`[2k]Q ≠ ±Q`) and `2T + Q = [2k+1]Q` -/
theorem step_coords {Q T : Fq2 × Fq2} {S : E2} (hQ : Repr Q S) {k : ℕ} (hk : 1 ≤ k)
    (hT : Repr T (k • S)) (hord : ∀ j : ℕ, 0 < j → j ≤ 2 * k + 1 → j • S ≠ 0) :
    T.2 ≠ 0 ∧ Repr (affDouble T) ((2 * k) • S) ∧ (affDouble T).1 ≠ Q.1 ∧
      Repr (affAdd (affDouble T) Q) ((2 * k + 1) • S) := by
  have h2k : k • S + k • S = (2 * k) • S := by rw [two_mul, add_smul]
  have hy : T.2 ≠ 0 := CoordOf.y_ne hT (by rw [h2k]; exact hord _ (by omega) (by omega))
  have hD : Repr (affDouble T) ((2 * k) • S) := h2k ▸ CoordOf.double hT hy
  have hne1 : (2 * k) • S ≠ S := by
    intro e
    have h0 : (2 * k - 1) • S = 0 := by
      have : (2 * k) • S = (2 * k - 1) • S + S := by
        rw [← succ_nsmul]; congr 1; omega
      rw [this] at e
      exact add_eq_right.mp e
    exact hord _ (by omega) (by omega) h0
  have hne2 : (2 * k) • S ≠ -S := by
    intro e
    have h0 : (2 * k + 1) • S = 0 := by rw [succ_nsmul, e, neg_add_cancel]
    exact hord _ (by omega) (by omega) h0
  have hx : (affDouble T).1 ≠ Q.1 := CoordOf.x_ne hD hQ hne1 hne2
  exact ⟨hy, hD, hx, by rw [succ_nsmul]; exact CoordOf.chord hD hQ hx⟩

/-! ## the integer represented by a list of bits -/

/-- `k` followed by the binary digits `bs` (most significant first) -/
def val (k : ℕ) (bs : List Bool) : ℕ := bs.foldl (fun k b => 2 * k + b.toNat) k

theorem val_nil (k : ℕ) : val k [] = k := rfl
theorem val_cons (k : ℕ) (b : Bool) (bs : List Bool) : val k (b :: bs) = val (2 * k + b.toNat) bs :=
  rfl

theorem le_val (k : ℕ) (bs : List Bool) : k ≤ val k bs := by
  induction bs generalizing k with
  | nil => exact le_refl _
  | cons b bs ih => rw [val_cons]; exact le_trans (by omega) (ih _)

/-- the bits of `|x|` below its leading one, with the leading one restored, are `|x|` -/
theorem val_bitsBelowTop : val 1 (bitsBelowTop Gen.BLS_X) = Gen.BLS_X := by decide +kernel

/-- the bits of the loop of `from_affine`, with the leading one restored, are `|x| / 2` -/
theorem val_blsXBits : val 1 blsXBits = Gen.BLS_X / 2 := by decide +kernel

/-! ## the accumulator of the textbook loop -/

/-- the `T` of the textbook loop alone -/
def pointLoop (Q : Fq2 × Fq2) (bs : List Bool) (T : Fq2 × Fq2) : Fq2 × Fq2 :=
  bs.foldl (fun T b => if b then affAdd (affDouble T) Q else affDouble T) T

theorem millerStep_snd (P : Fq × Fq) (Q : Fq2 × Fq2) (bs : List Bool) (F : Fq12) (T : Fq2 × Fq2) :
    (bs.foldl (millerStep P Q) (F, T)).2 = pointLoop Q bs T := by
  induction bs generalizing F T with
  | nil => rfl
  | cons b bs ih =>
    cases b with
    | false => simp only [List.foldl_cons, millerStep, pointLoop, Bool.false_eq_true, if_false]
               exact ih _ _
    | true => simp only [List.foldl_cons, millerStep, pointLoop, if_true]
              exact ih _ _

/-- **no exceptional case, and `T = [k]Q` throughout**: if `T = [k]Q`, `k ≥ 1`, and no multiple `[j]Q`
    with `0 < j ≤ K + 1` vanishes, `K` the integer `k` followed by the bits, then the textbook loop
    over these bits is regular and ends in `[K]Q` -/
theorem regular_of_multiples (Q : Fq2 × Fq2) (S : E2) (hQ : Repr Q S) (bs : List Bool) (k : ℕ)
    (T : Fq2 × Fq2) (hk : 1 ≤ k) (hT : Repr T (k • S))
    (hord : ∀ j : ℕ, 0 < j → j ≤ val k bs + 1 → j • S ≠ 0) :
    Regular Q bs T ∧ Repr (pointLoop Q bs T) (val k bs • S) := by
  induction bs generalizing k T with
  | nil => exact ⟨trivial, hT⟩
  | cons b bs ih =>
    have hge : 2 * k + b.toNat ≤ val k (b :: bs) := by rw [val_cons]; exact le_val _ _
    obtain ⟨hy, hD, hx, hA⟩ := step_coords hQ hk hT (fun j hj hj' => hord j hj (by omega))
    cases b with
    | false =>
      have := ih (2 * k) (affDouble T) (by omega) hD hord
      exact ⟨⟨hy, this.1⟩, this.2⟩
    | true =>
      have := ih (2 * k + 1) (affAdd (affDouble T) Q) (by omega) hA hord
      exact ⟨⟨hy, hx, this.1⟩, this.2⟩

/-- for `Q` on `E'` with no vanishing multiple `[j]Q`, `0 < j ≤ |x| + 1`, the textbook loop meets no
    exceptional case -/
theorem regular_of_order {q : Aff Fq2} (hq : Aff.OnCurve g2Codec.b q) (hqi : q.infinity = false)
    (hord : ∀ j : ℕ, 0 < j → j ≤ Gen.BLS_X + 1 → j • Aff.abs g2Codec.b q ≠ 0) :
    Regular (pair q) (bitsBelowTop Gen.BLS_X) (pair q) := by
  have hQ := repr_aff hq hqi
  exact (regular_of_multiples (pair q) _ hQ (bitsBelowTop Gen.BLS_X) 1 (pair q) (le_refl _)
    (by rw [one_smul]; exact hQ) (by rw [val_bitsBelowTop]; exact hord)).1

/-! ## the accumulator of `from_affine` is `[k]Q` -/

/-- **point tracking**: after the bits `bs` the accumulator of `prepareLoop` (started at `Q`) is on the
    curve and represents `[k]Q`, `k` = `1` followed by `bs`, provided no multiple `[j]Q`,
    `0 < j ≤ k + 1`, vanishes -/
theorem prepareLoop_point {q : Aff Fq2} (hq : Aff.OnCurve g2Codec.b q) (hqi : q.infinity = false)
    (bs : List Bool) (hord : ∀ j : ℕ, 0 < j → j ≤ val 1 bs + 1 → j • Aff.abs g2Codec.b q ≠ 0) :
    Jac.OnCurve g2Codec.b (prepareLoop q bs q.toJac []).1 ∧
      Jac.abs g2Codec.b (prepareLoop q bs q.toJac []).1 = val 1 bs • Aff.abs g2Codec.b q := by
  have hQ := repr_aff hq hqi
  obtain ⟨hreg, hrep⟩ := regular_of_multiples (pair q) _ hQ bs 1 (pair q) (le_refl _)
    (by rw [one_smul]; exact hQ) hord
  obtain ⟨hz0, ha0⟩ := aff_toJac q hqi
  -- only the accumulator is wanted, and it does not depend on the point of `G1` (`millerStep_snd`):
  -- any `p` serves
  obtain ⟨hz, ha, -⟩ := loops_agree ⟨0, 0, false⟩ q bs q.toJac 1 1 1 (pair q) hreg hz0 ha0
    Unitish.one (by simp)
  rw [millerStep_snd] at ha
  rw [prepareLoop_eq]
  obtain ⟨hns, e⟩ := hrep
  rw [e]
  simp only [aff] at ha
  exact Jac.abs_eq_some hz (congrArg Prod.fst ha) (congrArg Prod.snd ha) hns

/-! ## assembly -/

/-- **the model's Miller loop is the textbook Miller loop**, up to a factor `c = ι a · (w³)ⁿ`,
    `a ∈ Fq2ˣ`: for finite `P`, finite `Q` on `E'` with `[j]Q ≠ 0` for `0 < j ≤ |x| + 1` -/
theorem millerLoop_eq_textbook (p : Aff Fq) (q : Aff Fq2) (hp : p.infinity = false)
    (hqi : q.infinity = false) (hq : Aff.OnCurve g2Codec.b q)
    (hord : ∀ j : ℕ, 0 < j → j ≤ Gen.BLS_X + 1 → j • Aff.abs g2Codec.b q ≠ 0) :
    ∃ c, Unitish c ∧
      millerLoop [(p, G2Prepared.fromAffine q)] =
        some (Fq12.conjugate (c * textbookMiller (pair p) (pair q))) :=
  millerLoop_eq_textbook_of_regular p q hp hqi (regular_of_order hq hqi hord)

/-- a point `Q ≠ 0` with `[r]Q = 0` has no vanishing multiple up to `|x| + 1 < r` -/
theorem multiples_ne_zero_of_order_r {S : E2} (h0 : S ≠ 0) (hr : Gen.r • S = 0) (j : ℕ) (hj : 0 < j)
    (hj' : j ≤ Gen.BLS_X + 1) : j • S ≠ 0 := by
  have hlt : Gen.BLS_X + 1 < Gen.r := by decide +kernel
  exact nsmul_ne_zero_of_lt h0 hr hj (by omega)

end Lines
end PP
