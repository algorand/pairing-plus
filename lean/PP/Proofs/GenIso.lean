/-
The definitions generated from the Rust source by /verif/extract/extract_iso.py (`PP/Gen/Iso.lean`,
namespace `PP.Gen.I`: the generic isogeny evaluation `eval_iso` and its two callers `isogeny_map` for G1 and
G2) are equal to the hand-written model (`PP.evalIso`, `PP.iso11`, `PP.iso3` of `PP/Model/Map.lean`).

The generated `I.evalIso` is the imperative code: three fixed-size arrays (`tmp`, `mapvals`, `zpows`) as
lists, every read an `xs[i]?`, every write a checked `I.setIdx`, the `split_at_mut` views as index
shifts, the loops as `I.loop` over the mutated arrays, `none` = panic.  The model is functional (an `Array`
built by a fold, one `List.map` + Horner `foldl` per polynomial).  So the equality is a loop-invariant
proof:
  * `zpLoop_eq`     the loop that fills `zpows` never panics for `2 ≤ n ≤ 16` and yields the model's table
                    (`isoZpows_toList`): invariant "length 15, entry 0 is z²", one iteration = one step of
                    the model's fold (`zpBody_eq`);
  * `scaleLoop_inv` after `k` iterations of the scaling loop `tmp[j] = c[clen-1-j] * zpows[j]` for `j < k`;
  * `hornerLoop_eq` the Horner loop through `mapvals[idx]` is the model's `foldl`;
  * `outerBody_eq`  one iteration of `for idx in 0..4` stores the model's `isoMapval` in `mapvals[idx]`;
  * `tailPart_eq`   the straight-line recombination through the aliases `xx yy zz` of `tmp[0..3]`.
`evalIso_some` puts them together (the Rust does not panic and returns the model's value when every
coefficient slice has between 1 -- `ynum`: 2 -- and 16 entries); `evalIso_none` shows that the generated
code panics for all other lengths, so `evalIso_eq` is an unconditional characterisation.

The bodies of the loops are restated here (`zpBody`, `scaleBody`, `hornerBody`, `outerBody`, `tailPart`)
and `evalIso_struct` checks by `rfl` that the generated definition is built from exactly these: any edit
of the Rust (hence of the generated text) breaks that `rfl`.  Nothing here evaluates field arithmetic:
the proofs are generic in the coefficient type `F` (only `+ * 0 sq`), no ring law is used.

Core Lean only; axioms: `propext`, `Classical.choice`, `Quot.sound` (via `simp` / `omega` / `by_cases`).
-/
import PP.Gen.Iso
import PP.Proofs.GenArith

set_option linter.unusedSectionVars false

namespace PP.GenIsoLemmas
open PP PP.Gen PP.GenArithLemmas

section prim
variable {α σ : Type}

theorem setIdx_of_lt {xs : List α} {i : Nat} (h : i < xs.length) (v : α) :
    I.setIdx xs i v = some (xs.set i v) := by simp [I.setIdx, h]

theorem setIdx_of_ge {xs : List α} {i : Nat} (h : xs.length ≤ i) (v : α) :
    I.setIdx xs i v = none := by simp [I.setIdx]; omega

theorem usub_of_le {a b : Nat} (h : b ≤ a) : I.usub a b = some (a - b) := by simp [I.usub, h]

theorem usub_of_lt {a b : Nat} (h : a < b) : I.usub a b = none := by simp [I.usub]; omega

theorem ex_get {l : List α} {i : Nat} (h : i < l.length) : ∃ v, l[i]? = some v :=
  ⟨l[i], List.getElem?_eq_getElem h⟩

theorem loop_nil (s : σ) (f : σ → α → Option σ) : I.loop [] s f = some s := rfl

theorem loop_cons (x : α) (xs : List α) (s : σ) (f : σ → α → Option σ) :
    I.loop (x :: xs) s f = (f s x).bind (fun s' => I.loop xs s' f) := by
  cases h : f s x <;> simp [I.loop, h]

theorem loop_append (l1 l2 : List α) (s : σ) (f : σ → α → Option σ) :
    I.loop (l1 ++ l2) s f = (I.loop l1 s f).bind (fun s' => I.loop l2 s' f) := by
  induction l1 generalizing s with
  | nil => simp [I.loop]
  | cons x xs ih =>
    simp only [List.cons_append, loop_cons]
    cases f s x with
    | none => simp
    | some s' => simp [ih]

/-- a loop whose body panics at one element for every state panics -/
theorem loop_none_of_mem {l : List α} {x : α} (hx : x ∈ l) (f : σ → α → Option σ) (hf : ∀ s, f s x = none)
    (s : σ) : I.loop l s f = none := by
  obtain ⟨l1, l2, rfl⟩ := List.append_of_mem hx
  rw [loop_append]
  cases I.loop l1 s f with
  | none => rfl
  | some s' => simp [loop_cons, hf]

/-- invariants of a loop that does not panic -/
theorem loop_inv (P : σ → Prop) (f : σ → α → Option σ) (hf : ∀ s x s', P s → f s x = some s' → P s')
    (l : List α) (s s' : σ) (hs : P s) (h : I.loop l s f = some s') : P s' := by
  induction l generalizing s with
  | nil => simp [I.loop] at h; exact h ▸ hs
  | cons x xs ih =>
    rw [loop_cons] at h
    cases hx : f s x with
    | none => simp [hx] at h
    | some s1 => rw [hx] at h; exact ih s1 (hf s x s1 hs hx) h

end prim

section generic
variable {F : Type} [Add F] [Mul F] [Zero F] [FieldOps F]

/-- body of `for idx in 1..coeffs[2].len() - 2` (text of the generated lambda).  The numbers are
    those of `PP/Gen/Iso.lean`: `zpows = [F::zero(); 15]` is split by `split_at_mut(1)` into the views
    `z_squared = zpows[0..1]` (offset 0, length 1) and `rest = zpows[1..15]` (offset 1, length 14) -/
def zpBody (zpows : List F) (idx : Nat) : Option (List F) := do
  if idx % 2 = 0 then
    let x6 ← I.usub (idx / 2) 1
    let x7 ← I.viewGet zpows 1 14 x6
    let zpows ← I.viewSet zpows 1 14 idx x7
    let x8 ← I.viewGet zpows 1 14 idx
    let zpows := zpows.set (1 + idx) (sq x8)
    pure zpows
  else
    let x6 ← I.usub idx 1
    let x7 ← I.viewGet zpows 1 14 x6
    let zpows ← I.viewSet zpows 1 14 idx x7
    let x8 ← I.viewGet zpows 0 1 0
    let x9 ← I.viewGet zpows 1 14 idx
    let zpows := zpows.set (1 + idx) (x9 * x8)
    pure zpows

/-- one step of the model's fold (`isoZpows`), on lists, as a function of `idx = k + 1` -/
def gL (z2 : F) (l : List F) (idx : Nat) : List F :=
  if idx % 2 = 0 then l.set (idx + 1) (sq (l.getD (idx / 2 - 1 + 1) 0))
  else l.set (idx + 1) ((l.getD (idx - 1 + 1) 0) * z2)

theorem gL_length (z2 : F) (l : List F) (idx : Nat) : (gL z2 l idx).length = l.length := by
  unfold gL; split <;> simp

theorem gL_zero (z2 : F) (l : List F) (idx : Nat) : (gL z2 l idx)[0]? = l[0]? := by
  unfold gL; split <;> simp []

theorem zpBody_eq (z2 : F) (l : List F) (idx : Nat) (h1 : 1 ≤ idx) (h2 : idx < 14) (hl : l.length = 15)
    (h0 : l[0]? = some z2) : zpBody l idx = some (gL z2 l idx) := by
  unfold zpBody gL
  have e5 : idx + 1 < 15 := by omega
  obtain ⟨_, h0'⟩ := List.getElem?_eq_some_iff.mp h0
  split
  · next he =>
    have e1 : 1 ≤ idx / 2 := by omega
    have e2 : idx / 2 - 1 < 14 := by omega
    obtain ⟨v, hv⟩ := ex_get (l := l) (i := idx / 2) (by omega)
    simp [I.usub, I.viewGet, I.viewSet, I.setIdx, e1, e2, h2, hl, hv, e5, Nat.add_comm,
      List.set_set]
  · next he =>
    have e2 : idx - 1 < 14 := by omega
    obtain ⟨v, hv⟩ := ex_get (l := l) (i := idx) (by omega)
    simp [I.usub, I.viewGet, I.viewSet, I.setIdx, h1, e2, h2, hl, hv, e5, h0', Nat.add_comm,
      List.set_set]

/-- the loop never panics on indices `1 ≤ idx < 14` and is the fold of the model's step -/
theorem zpLoop_eq (z2 : F) (L : List Nat) (hL : ∀ i ∈ L, 1 ≤ i ∧ i < 14) (l : List F) (hl : l.length = 15)
    (h0 : l[0]? = some z2) : I.loop L l zpBody = some (L.foldl (gL z2) l) := by
  induction L generalizing l with
  | nil => rfl
  | cons i L ih =>
    have hi := hL i (by simp)
    rw [loop_cons, zpBody_eq z2 l i hi.1 hi.2 hl h0]
    simp only [Option.bind_some, List.foldl_cons]
    exact ih (fun j hj => hL j (by simp [hj])) _ (by rw [gL_length, hl]) (by rw [gL_zero, h0])

/-- the loop panics when it reaches `idx = 14` (`rest` has 14 entries) -/
theorem zpBody_14 (l : List F) : zpBody l 14 = none := by
  unfold zpBody
  simp [I.usub, I.viewGet, I.viewSet]

/-- an iteration that does not panic keeps the length of the table -/
theorem zpBody_length (l l' : List F) (idx : Nat) (h : zpBody l idx = some l') : l'.length = l.length := by
  unfold zpBody at h
  simp only [I.usub, I.viewGet, I.viewSet, I.setIdx, Option.bind_eq_bind, Option.pure_def] at h
  split at h
  all_goals
    simp only [Option.bind_eq_some_iff] at h
    obtain ⟨a, ha, h⟩ := h
    obtain ⟨b, hb, h⟩ := h
    obtain ⟨c, hc, h⟩ := h
    obtain ⟨d, hd, h⟩ := h
    have hc' : c.length = l.length := by
      split at hc
      · split at hc
        · simp at hc; rw [← hc]; simp
        · simp at hc
      · simp at hc
    first
      | (simp at h; rw [← h]; simpa using hc')
      | (obtain ⟨e, he, h⟩ := h; simp at h; rw [← h]; simpa using hc')

/-- the table after the two initial stores (`zpPrefix_eq`) -/
def zpInitL (z : F) : List F := ((List.replicate 15 (0 : F)).set 0 (sq z)).set 1 (sq (sq z))

theorem foldl_toList (z2 : F) (L : List Nat) (a : Array F) :
    (L.foldl (fun (zp : Array F) k =>
      let idx := k + 1
      if idx % 2 = 0 then zp.set! (idx + 1) (sq (zp.getD (idx / 2 - 1 + 1) 0))
      else zp.set! (idx + 1) ((zp.getD (idx - 1 + 1) 0) * z2)) a).toList =
    L.foldl (fun l k => gL z2 l (k + 1)) a.toList := by
  induction L generalizing a with
  | nil => rfl
  | cons k L ih =>
    simp only [List.foldl_cons]
    rw [ih]
    congr 1
    unfold gL
    split <;> simp [Array.set!_eq_setIfInBounds, Array.getD_eq_getD_getElem?, List.getD_eq_getElem?_getD]

theorem isoZpows_toList (z : F) (n : Nat) :
    (isoZpows z n).toList = (List.range' 1 (n - 2 - 1)).foldl (gL (sq z)) (zpInitL z) := by
  unfold isoZpows
  dsimp only
  rw [foldl_toList, List.range'_eq_map_range, List.foldl_map]
  simp only [Nat.add_comm 1, zpInitL, Array.set!_eq_setIfInBounds, Array.toList_setIfInBounds,
    Array.toList_replicate]

/-- body of `for jdx in 0..clen` (text of the generated lambda) -/
def scaleBody (coeffs : List (List F)) (zpows : List F) (idx clen : Nat) (tmp : List F) (jdx : Nat) :
    Option (List F) := do
  let x7 ← coeffs[idx]?
  let x8 ← I.usub clen 1
  let x9 ← I.usub x8 jdx
  let x10 ← x7[x9]?
  let tmp ← I.setIdx tmp jdx x10
  let x11 ← zpows[jdx]?
  let x12 ← tmp[jdx]?
  let tmp := tmp.set jdx (x12 * x11)
  pure tmp

/-- body of `for tmpval in &tmp[..clen]` (text of the generated lambda) -/
def hornerBody (x : F) (idx : Nat) (mapvals : List F) (tmpval : F) : Option (List F) := do
  let x10 ← mapvals[idx]?
  let mapvals := mapvals.set idx (x10 * x)
  let x11 ← mapvals[idx]?
  let mapvals := mapvals.set idx (x11 + tmpval)
  pure mapvals

/-- body of `for idx in 0..4` (text of the generated lambda) -/
def outerBody (coeffs : List (List F)) (zpows : List F) (x : F) :
    List F × List F → Nat → Option (List F × List F) :=
  fun (tmp, mapvals) idx => do
    let x6 ← coeffs[idx]?
    let clen ← I.usub x6.length 1
    let tmp ← I.loop (List.range clen) tmp (scaleBody coeffs zpows idx clen)
    let x7 ← coeffs[idx]?
    let x8 ← x7[clen]?
    let mapvals ← I.setIdx mapvals idx x8
    let x9 ← I.sliceTo tmp clen
    let mapvals ← I.loop x9 mapvals (hornerBody x idx)
    pure (tmp, mapvals)

/-- the scaled coefficient the model puts at position `j` -/
def scaled (cs zp : List F) (clen j : Nat) : F := cs.getD (clen - 1 - j) 0 * zp.getD j 0

theorem scaleBody_eq (coeffs : List (List F)) (zp cs : List F) (idx clen : Nat) (t : List F) (j : Nat)
    (hc : coeffs[idx]? = some cs) (hcs : cs.length = clen + 1) (hj : j < clen)
    (hzp : clen ≤ zp.length) (ht : clen ≤ t.length) :
    scaleBody coeffs zp idx clen t j = some (t.set j (scaled cs zp clen j)) := by
  unfold scaleBody scaled
  have e1 : 1 ≤ clen := by omega
  have e2 : j ≤ clen - 1 := by omega
  obtain ⟨v, hv⟩ := ex_get (l := cs) (i := clen - 1 - j) (by omega)
  obtain ⟨w, hw⟩ := ex_get (l := zp) (i := j) (by omega)
  have e3 : j < t.length := by omega
  simp [I.usub, I.setIdx, hc, e1, e2, hv, hw, e3, List.set_set,
    List.getD_eq_getElem?_getD]

/-- loop invariant of the scaling loop: after `k` iterations the first `k` entries are the scaled
    coefficients (the other entries are not read afterwards) -/
theorem scaleLoop_inv (coeffs : List (List F)) (zp cs : List F) (idx clen : Nat)
    (hc : coeffs[idx]? = some cs) (hcs : cs.length = clen + 1) (hzp : clen ≤ zp.length)
    (t : List F) (ht : clen ≤ t.length) (k : Nat) (hk : k ≤ clen) :
    ∃ t', I.loop (List.range k) t (scaleBody coeffs zp idx clen) = some t' ∧ t'.length = t.length ∧
      ∀ j, j < k → t'[j]? = some (scaled cs zp clen j) := by
  induction k with
  | zero => exact ⟨t, rfl, rfl, fun j hj => absurd hj (Nat.not_lt_zero j)⟩
  | succ k ih =>
    obtain ⟨t1, h1, hl1, hv1⟩ := ih (by omega)
    refine ⟨t1.set k (scaled cs zp clen k), ?_, by simp [hl1], ?_⟩
    · rw [List.range_succ, loop_append, h1]
      simp only [Option.bind_some, loop_cons, loop_nil]
      rw [scaleBody_eq coeffs zp cs idx clen t1 k hc hcs (by omega) hzp (by omega)]
      rfl
    · intro j hj
      by_cases hjk : j = k
      · subst hjk; rw [List.getElem?_set_self (by omega)]
      · rw [List.getElem?_set_ne (fun h => hjk h.symm)]
        exact hv1 j (by omega)

theorem hornerLoop_eq (x : F) (idx : Nat) (L : List F) (m : List F) (v : F) (hv : m[idx]? = some v) :
    I.loop L m (hornerBody x idx) = some (m.set idx (L.foldl (fun acc t => acc * x + t) v)) := by
  induction L generalizing m v with
  | nil =>
    obtain ⟨h, rfl⟩ := List.getElem?_eq_some_iff.mp hv
    simp [loop_nil]
  | cons a L ih =>
    obtain ⟨h, hv'⟩ := List.getElem?_eq_some_iff.mp hv
    have hb : hornerBody x idx m a = some (m.set idx (v * x + a)) := by
      unfold hornerBody
      simp [h, hv', List.set_set]
    rw [loop_cons, hb]
    simp only [Option.bind_some, List.foldl_cons]
    rw [ih (m.set idx (v * x + a)) (v * x + a) (by simp [h])]
    simp [List.set_set]

theorem isoMapval_list (zpA : Array F) (x : F) (cs : List F) :
    isoMapval zpA x cs = ((List.range (cs.length - 1)).map (scaled cs zpA.toList (cs.length - 1))).foldl
      (fun acc t => acc * x + t) (cs.getD (cs.length - 1) 0) := by
  unfold isoMapval scaled
  simp [Array.getD_eq_getD_getElem?, List.getD_eq_getElem?_getD]

/-- one iteration of `for idx in 0..4`: `mapvals[idx]` receives the model's map value; `tmp` keeps its length -/
theorem outerBody_eq (coeffs : List (List F)) (zpA : Array F) (x : F) (cs t m : List F) (idx : Nat)
    (hc : coeffs[idx]? = some cs) (h1 : 1 ≤ cs.length) (h16 : cs.length ≤ 16) (hzp : zpA.toList.length = 15)
    (ht : t.length = 16) (hm : idx < m.length) :
    ∃ t', outerBody coeffs zpA.toList x (t, m) idx = some (t', m.set idx (isoMapval zpA x cs)) ∧
      t'.length = 16 := by
  obtain ⟨clen, hclen⟩ : ∃ clen, cs.length = clen + 1 := ⟨cs.length - 1, by omega⟩
  obtain ⟨t', hloop, hl', hv'⟩ := scaleLoop_inv coeffs zpA.toList cs idx clen hc hclen (by omega) t
    (by omega) clen (Nat.le_refl _)
  refine ⟨t', ?_, hl'.trans ht⟩
  obtain ⟨c, hcl⟩ := ex_get (l := cs) (i := clen) (by omega)
  have htake : t'.take clen = (List.range clen).map (scaled cs zpA.toList clen) := by
    apply List.ext_getElem?
    intro i
    by_cases hi : i < clen
    · simp [hi, hv' i hi]
    · simp [List.getElem?_take, hi]
  have hcle : clen ≤ t'.length := by omega
  unfold outerBody
  simp only [hc, Option.bind_eq_bind, Option.bind_some, Option.pure_def, hclen, usub_of_le (Nat.le_add_left 1 clen),
    Nat.add_sub_cancel, hloop, hcl, setIdx_of_lt hm, I.sliceTo, hcle, if_true, htake]
  rw [hornerLoop_eq x idx _ (m.set idx c) c (by simp [hm])]
  simp only [Option.bind_some, List.set_set, isoMapval_list, hclen, Nat.add_sub_cancel]
  simp [List.getD_eq_getElem?_getD, hcl]

/-- the straight-line code after the loops (text of the generated lines) -/
def tailPart (pt : Jac F) (y z : F) (zpows tmp mapvals : List F) : Option (Jac F) := do
  let x6 ← zpows[0]?
  let x7 ← mapvals[1]?
  let mapvals := mapvals.set 1 (x7 * x6)
  let x8 ← mapvals[2]?
  let mapvals := mapvals.set 2 (x8 * y)
  let x9 ← mapvals[3]?
  let mapvals := mapvals.set 3 (x9 * z)
  let x10 ← zpows[0]?
  let x11 ← mapvals[3]?
  let mapvals := mapvals.set 3 (x11 * x10)
  let x12 ← mapvals[1]?
  let tmp ← I.setIdx tmp 2 x12
  let x13 ← mapvals[3]?
  let x14 ← tmp[2]?
  let tmp := tmp.set 2 (x14 * x13)
  let x15 ← mapvals[0]?
  let tmp ← I.setIdx tmp 0 x15
  let x16 ← mapvals[3]?
  let x17 ← tmp[0]?
  let tmp := tmp.set 0 (x17 * x16)
  let x18 ← tmp[2]?
  let x19 ← tmp[0]?
  let tmp := tmp.set 0 (x19 * x18)
  let x20 ← tmp[2]?
  let tmp ← I.setIdx tmp 1 x20
  let x21 ← tmp[1]?
  let tmp := tmp.set 1 (sq x21)
  let x22 ← mapvals[2]?
  let x23 ← tmp[1]?
  let tmp := tmp.set 1 (x23 * x22)
  let x24 ← mapvals[1]?
  let x25 ← tmp[1]?
  let tmp := tmp.set 1 (x25 * x24)
  let x26 ← tmp[0]?
  let pt := { pt with x := x26 }
  let x27 ← tmp[1]?
  let pt := { pt with y := x27 }
  let x28 ← tmp[2]?
  let pt := { pt with z := x28 }
  pure pt

/-- the code after the first two entries of `zpows` have been set -/
def afterInit (pt : Jac F) (coeffs : List (List F)) (zpows : List F) : Option (Jac F) := do
  let x4 ← coeffs[2]?
  let x5 ← I.usub x4.length 2
  let zpows ← I.loop (List.range' 1 (x5 - 1)) zpows zpBody
  let (tmp, mapvals) ← I.loop (List.range 4) (List.replicate 16 (0 : F), List.replicate 4 (0 : F))
    (outerBody coeffs zpows pt.x)
  tailPart pt pt.y pt.z zpows tmp mapvals

/-- the generated definition consists of exactly the pieces restated in this file: after unfolding the
    names the two sides are the same term (up to beta / the `match` on the coordinate triple) -/
theorem evalIso_struct (pt : Jac F) (coeffs : List (List F)) : I.evalIso pt coeffs = (do
    let zpows := List.replicate 15 (0 : F)
    let zpows ← I.setIdx zpows 0 pt.z
    let x1 ← zpows[0]?
    let zpows := zpows.set 0 (sq x1)
    let x2 ← zpows[0]?
    let zpows ← I.setIdx zpows 1 x2
    let x3 ← zpows[1]?
    let zpows := zpows.set 1 (sq x3)
    afterInit pt coeffs zpows) := by
  delta I.evalIso afterInit tailPart outerBody scaleBody hornerBody zpBody
  with_reducible rfl

theorem tailPart_eq (pt : Jac F) (y z w : F) (zp tmp : List F) (m0 m1 m2 m3 : F) (hw : zp[0]? = some w)
    (ht : tmp.length = 16) :
    tailPart pt y z zp tmp [m0, m1, m2, m3] =
      some (let m1 := m1 * w
            let m2 := m2 * y
            let m3 := (m3 * z) * w
            let zz := m1 * m3
            let xx := (m0 * m3) * zz
            let yy := (sq zz * m2) * m1
            ⟨xx, yy, zz⟩) := by
  unfold tailPart
  simp [hw, I.setIdx, ht, List.getElem?_set]

theorem zpPrefix_eq (z : F) (k : List F → Option (Jac F)) :
    (do
      let zpows := List.replicate 15 (0 : F)
      let zpows ← I.setIdx zpows 0 z
      let x1 ← zpows[0]?
      let zpows := zpows.set 0 (sq x1)
      let x2 ← zpows[0]?
      let zpows ← I.setIdx zpows 1 x2
      let x3 ← zpows[1]?
      let zpows := zpows.set 1 (sq x3)
      k zpows) = k (zpInitL z) := by
  simp [I.setIdx, zpInitL, List.getElem?_set]

theorem zpInitL_length (z : F) : (zpInitL z).length = 15 := by simp [zpInitL]
theorem zpInitL_zero (z : F) : (zpInitL z)[0]? = some (sq z) := by simp [zpInitL]

theorem isoZpows_length (z : F) (n : Nat) : (isoZpows z n).toList.length = 15 := by
  rw [isoZpows_toList]
  generalize List.range' 1 (n - 2 - 1) = L
  suffices h : ∀ l : List F, l.length = 15 → (L.foldl (gL (sq z)) l).length = 15 from h _ (zpInitL_length z)
  induction L with
  | nil => intro l hl; exact hl
  | cons i L ih => intro l hl; exact ih _ (by rw [gL_length, hl])

theorem isoZpows_zero (z : F) (n : Nat) : (isoZpows z n).toList[0]? = some (sq z) := by
  rw [isoZpows_toList]
  generalize List.range' 1 (n - 2 - 1) = L
  suffices h : ∀ l : List F, l[0]? = some (sq z) → (L.foldl (gL (sq z)) l)[0]? = some (sq z) from
    h _ (zpInitL_zero z)
  induction L with
  | nil => intro l hl; exact hl
  | cons i L ih => intro l hl; exact ih _ (by rw [gL_zero, hl])

/-- the non-panicking half: when every coefficient slice has between 1 (`ynum`: 2) and 16
    entries, the Rust code does not panic and returns the model's value -/
theorem evalIso_some (p : Jac F) (a b c d : List F) (ha : 1 ≤ a.length ∧ a.length ≤ 16)
    (hb : 1 ≤ b.length ∧ b.length ≤ 16) (hc : 2 ≤ c.length ∧ c.length ≤ 16)
    (hd : 1 ≤ d.length ∧ d.length ≤ 16) :
    I.evalIso p [a, b, c, d] = some (PP.evalIso a b c d p) := by
  rw [evalIso_struct, zpPrefix_eq]
  unfold afterInit
  have hzl : I.loop (List.range' 1 (c.length - 2 - 1)) (zpInitL p.z) zpBody = some (isoZpows p.z c.length).toList := by
    rw [isoZpows_toList]
    apply zpLoop_eq (sq p.z) _ _ _ (zpInitL_length _) (zpInitL_zero _)
    intro i hi
    rw [List.mem_range'_1] at hi
    omega
  have hzp := isoZpows_length p.z c.length
  obtain ⟨t0, e0, l0⟩ := outerBody_eq [a, b, c, d] (isoZpows p.z c.length) p.x a (List.replicate 16 0)
    (List.replicate 4 0) 0 rfl ha.1 ha.2 hzp (by simp) (by simp)
  obtain ⟨t1, e1, l1⟩ := outerBody_eq [a, b, c, d] (isoZpows p.z c.length) p.x b t0
    ((List.replicate 4 0).set 0 (isoMapval (isoZpows p.z c.length) p.x a)) 1 rfl hb.1 hb.2 hzp l0 (by simp)
  obtain ⟨t2, e2, l2⟩ := outerBody_eq [a, b, c, d] (isoZpows p.z c.length) p.x c t1
    (((List.replicate 4 0).set 0 (isoMapval (isoZpows p.z c.length) p.x a)).set 1
      (isoMapval (isoZpows p.z c.length) p.x b)) 2 rfl (by omega) hc.2 hzp l1 (by simp)
  obtain ⟨t3, e3, l3⟩ := outerBody_eq [a, b, c, d] (isoZpows p.z c.length) p.x d t2
    ((((List.replicate 4 0).set 0 (isoMapval (isoZpows p.z c.length) p.x a)).set 1
      (isoMapval (isoZpows p.z c.length) p.x b)).set 2 (isoMapval (isoZpows p.z c.length) p.x c)) 3 rfl
    hd.1 hd.2 hzp l2 (by simp)
  have h4 : List.range 4 = [0, 1, 2, 3] := rfl
  simp only [List.getElem?_cons_succ, List.getElem?_cons_zero, Option.bind_eq_bind, Option.bind_some,
    usub_of_le hc.1, hzl, h4, loop_cons, loop_nil, e0, e1, e2, e3]
  have hm : ((((List.replicate 4 (0 : F)).set 0 (isoMapval (isoZpows p.z c.length) p.x a)).set 1
      (isoMapval (isoZpows p.z c.length) p.x b)).set 2 (isoMapval (isoZpows p.z c.length) p.x c)).set 3
      (isoMapval (isoZpows p.z c.length) p.x d) =
      [isoMapval (isoZpows p.z c.length) p.x a, isoMapval (isoZpows p.z c.length) p.x b,
       isoMapval (isoZpows p.z c.length) p.x c, isoMapval (isoZpows p.z c.length) p.x d] := rfl
  rw [hm, tailPart_eq p p.y p.z (sq p.z) _ t3 _ _ _ _ (isoZpows_zero _ _) l3]
  have hw : (isoZpows p.z c.length).getD 0 0 = sq p.z := by
    have := isoZpows_zero p.z c.length
    simp [Array.getD_eq_getD_getElem?] at this ⊢
    simp [this]
  unfold PP.evalIso
  simp only [hw]

/-! ## the panicking half: for all other lengths the Rust code panics -/

theorem scaleBody_15 (coeffs : List (List F)) (zp : List F) (idx clen : Nat) (t : List F)
    (hzp : zp.length = 15) : scaleBody coeffs zp idx clen t 15 = none := by
  have h : zp[15]? = none := by simp [hzp]
  unfold scaleBody
  simp [h]

theorem outerBody_none (coeffs : List (List F)) (zp : List F) (x : F) (cs : List F) (idx : Nat)
    (hc : coeffs[idx]? = some cs) (hzp : zp.length = 15) (hcs : cs.length = 0 ∨ 17 ≤ cs.length)
    (s : List F × List F) : outerBody coeffs zp x s idx = none := by
  obtain ⟨t, m⟩ := s
  unfold outerBody
  rcases hcs with h0 | h17
  · simp [hc, h0, I.usub]
  · have hl : I.loop (List.range (cs.length - 1)) t (scaleBody coeffs zp idx (cs.length - 1)) = none :=
      loop_none_of_mem (x := 15) (by simp; omega) _ (fun t' => scaleBody_15 coeffs zp idx _ t' hzp) t
    simp [hc, usub_of_le (show 1 ≤ cs.length by omega), hl]

theorem evalIso_none (p : Jac F) (a b c d : List F)
    (h : ¬ ((1 ≤ a.length ∧ a.length ≤ 16) ∧ (1 ≤ b.length ∧ b.length ≤ 16) ∧ (2 ≤ c.length ∧ c.length ≤ 16) ∧
      (1 ≤ d.length ∧ d.length ≤ 16))) :
    I.evalIso p [a, b, c, d] = none := by
  rw [evalIso_struct, zpPrefix_eq]
  unfold afterInit
  simp only [List.getElem?_cons_succ, List.getElem?_cons_zero, Option.bind_eq_bind, Option.bind_some]
  by_cases hc2 : c.length < 2
  · simp [usub_of_lt hc2]
  · rw [usub_of_le (by omega)]
    simp only [Option.bind_some]
    by_cases hc16 : 16 < c.length
    · have : I.loop (List.range' 1 (c.length - 2 - 1)) (zpInitL p.z) zpBody = none :=
        loop_none_of_mem (x := 14) (by rw [List.mem_range'_1]; omega) _ zpBody_14 _
      simp [this]
    · cases hz : I.loop (List.range' 1 (c.length - 2 - 1)) (zpInitL p.z) zpBody with
      | none => rfl
      | some zp =>
        have hzp : zp.length = 15 :=
          loop_inv (fun l : List F => l.length = 15) zpBody
            (fun l i l' hl hl' => by rw [zpBody_length l l' i hl', hl]) _ _ _ (zpInitL_length p.z) hz
        simp only [Option.bind_some]
        have hbad : ∃ idx cs, idx ∈ List.range 4 ∧ [a, b, c, d][idx]? = some cs ∧
            (cs.length = 0 ∨ 17 ≤ cs.length) := by
          by_cases h0 : 1 ≤ a.length ∧ a.length ≤ 16
          · by_cases h1 : 1 ≤ b.length ∧ b.length ≤ 16
            · have h3 : ¬ (1 ≤ d.length ∧ d.length ≤ 16) := fun h3 => h ⟨h0, h1, ⟨by omega, by omega⟩, h3⟩
              exact ⟨3, d, by simp, rfl, by omega⟩
            · exact ⟨1, b, by simp, rfl, by omega⟩
          · exact ⟨0, a, by simp, rfl, by omega⟩
        obtain ⟨idx, cs, hmem, hget, hlen⟩ := hbad
        rw [loop_none_of_mem hmem _ (outerBody_none [a, b, c, d] zp p.x cs idx hget hzp hlen)]
        rfl

/-- the generated `eval_iso` is the model's `evalIso` wherever the Rust code does not
    panic, and it panics exactly when a coefficient slice is empty or longer than 16 (`ynum`: shorter than 2) -/
theorem evalIso_eq (p : Jac F) (a b c d : List F) :
    I.evalIso p [a, b, c, d] =
      if (1 ≤ a.length ∧ a.length ≤ 16) ∧ (1 ≤ b.length ∧ b.length ≤ 16) ∧ (2 ≤ c.length ∧ c.length ≤ 16) ∧
        (1 ≤ d.length ∧ d.length ≤ 16) then some (PP.evalIso a b c d p) else none := by
  split
  · next h => exact evalIso_some p a b c d h.1 h.2.1 h.2.2.1 h.2.2.2
  · next h => exact evalIso_none p a b c d h

/-- whatever the generated `eval_iso` returns is the model's value -/
theorem evalIso_of_some_eq (p r : Jac F) (a b c d : List F) (h : I.evalIso p [a, b, c, d] = some r) :
    r = PP.evalIso a b c d p := by
  rw [evalIso_eq] at h
  split at h
  · exact (Option.some.inj h).symm
  · exact absurd h (by simp)

end generic

/-! ## the two callers: `IsogenyMap for G1`, `IsogenyMap for G2` -/

theorem iso11_table_lengths : (Gen.ISO11_XNUM.map Fq.ofMont).length = 12 ∧ (Gen.ISO11_XDEN.map Fq.ofMont).length = 11 ∧
    (Gen.ISO11_YNUM.map Fq.ofMont).length = 16 ∧ (Gen.ISO11_YDEN.map Fq.ofMont).length = 16 := by
  simp only [List.length_map]; exact ⟨rfl, rfl, rfl, rfl⟩

theorem iso3_table_lengths : (Gen.ISO3_XNUM.map Fq2.ofMont).length = 4 ∧ (Gen.ISO3_XDEN.map Fq2.ofMont).length = 3 ∧
    (Gen.ISO3_YNUM.map Fq2.ofMont).length = 4 ∧ (Gen.ISO3_YDEN.map Fq2.ofMont).length = 4 := by
  simp only [List.length_map]; exact ⟨rfl, rfl, rfl, rfl⟩

/-- `isogeny_map` for G1 never panics and is the model's `iso11` -/
theorem G1_isogenyMap_eq : I.G1.isogenyMap = fun p => some (PP.iso11 p) := by
  funext p
  obtain ⟨h0, h1, h2, h3⟩ := iso11_table_lengths
  unfold I.G1.isogenyMap
  rw [evalIso_some p _ _ _ _ (by rw [h0]; omega) (by rw [h1]; omega) (by rw [h2]; omega) (by rw [h3]; omega)]
  rfl

/-- `isogeny_map` for G2 never panics and is the model's `iso3` -/
theorem G2_isogenyMap_eq : I.G2.isogenyMap = fun p => some (PP.iso3 p) := by
  funext p
  obtain ⟨h0, h1, h2, h3⟩ := iso3_table_lengths
  unfold I.G2.isogenyMap
  rw [@evalIso_some Fq2 A.Fq2.instAdd A.Fq2.instMul A.Fq2.instZero A.Fq2.instFieldOps p _ _ _ _
    (by rw [h0]; omega) (by rw [h1]; omega) (by rw [h2]; omega) (by rw [h3]; omega)]
  rw [Fq2_instAdd_eq', Fq2_instMul_eq', Fq2_instZero_eq', Fq2_instFieldOps_eq']
  rfl

end PP.GenIsoLemmas
