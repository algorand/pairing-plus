/-
The definitions generated from the Rust source by /verif/extract/extract_arith.py
(`PP/Gen/Arith.lean`, namespace `PP.Gen.A`, one `let` per Rust statement) are equal to the
hand-written model (`PP/Model/Tower.lean`, `Curve.lean`, `Map.lean`, `Pairing.lean`).

Proof method.  To keep each theorem LOCAL (an edit of Rust `Fq2::mul_assign` must break `Fq2_mul_eq`
and nothing else), a proof first rewrites the calls of generated lower-layer functions into the
model's with the equalities already proved (`lower2`, `lower6`, `lower12`, `lowerEC0`, `lowerInst2`:
`simp -zeta only` or `rewrite` with closed equations between constants, nothing else), and then
compares the two sides.  The hand model was written statement by statement, so on the code as it is the
two sides are the same term up to unfolding of `let`s and structure projections: `rfl`.

ROBUSTNESS against semantics-preserving rewrites of the Rust code (`gen_eq`, `gen_eq_ring` of
PP/Proofs/GenArithTactic.lean, which see).  Reordering independent statements, introducing or removing
temporaries, computing a subexpression twice leave the term the same up to `let`s: `rfl` still works,
and it is what `gen_eq` tries first.  ALGEBRAIC rewrites (`t1 + t0` for `t0 + t1`, `a.double()` for
`a + a`, `mul_assign(&self)` for `square()`, another association, a schoolbook product for a Karatsuba
one, ...) change the term; there the second alternative of `gen_eq` compares the two sides
extensionally, componentwise, up to the commutative-ring laws of the base field (core solver `grobner`;
`Fq` and `Fq2` with the model's own operations are `Lean.Grind.CommRing`s, proved in GenArithTactic.lean
from `Nat` lemmas), after identifying the conditions of `if`s / discriminants of `match`es of the two
sides.  A call `by gen_eq ..` does not show which alternative closed it; the second one says so when it
is used (`info: .. gen_eq: generated code is not syntactically the model ..`), and the build prints no
such message.  A change of the MEANING (wrong sign, operand, constant, missing term) makes both
alternatives fail.

  `gen_eq`:                every `Fq2`, `Fq6`, `Fq12` function with arithmetic (all but `zero one
                           is_zero`), incl. the three `inverse`s (a `match`); `doubling_step`,
                           `addition_step`, `ell`
  `gen_eq_ring`:           the theorems `*_eq_of_ring` for the arithmetic-carrying functions that are
                           generic in the coefficient field (`is_on_curve`, `PartialEq::eq`, `double`,
                           `add_assign`, `add_assign_mixed`, `into_affine`, `osswu_help`; for
                           `get_point_from_x` the same two alternatives are written out, as its `match`
                           on `sqrt` is not covered by the macro) over `[Lean.Grind.CommRing F] [LawfulSqDbl F]`, and their
                           instances `*_eq_Fq`, `*_eq_Fq2` (here the ones used below, all of them in
                           PP/Props/GenArith.lean).  The theorems about the concrete G1 / G2 functions
                           below use these.
  `rfl` only, by necessity: the SAME functions as stated over bare notation classes `[Add F] [Mul F] ..
                           [FieldOps F]` (no laws: `x + y` and `y + x` are different there, and the
                           statement is false after an algebraic rewrite)
  `rfl` or a case split, no arithmetic of their own (constructors, `is_zero`, `negate`, conversions,
                           trait plumbing that only calls the functions above): `zero one is_zero`,
                           `sgn0`, `BitXor`, `negate_if`, `mul_bits`, `mul`, `sub_assign*`,
                           `in_subgroup`, `clear_h`, `map_to_curve`
  by an argument of their own: `Ord::cmp` for `Fq2` (`Fq2_cmp_lt`: trichotomy of the integers compared)
                           and the loops, see below
  `rfl` only, NOT robust:  `Fq2::sqrt`, `exp_by_x`, `final_exponentiation` (products of `Fq12` / `Fq2`
                           values between calls of the generic `pow` loop, which is not a ring
                           expression: a commuted product there is not recognised), and `osswu_map` for
                           G1, G2 (concrete-field code with decidable branches, proved through
                           `derive_unfold`, see below)

In `final_exponentiation` the `match` on the inverse would make `whnf` unfold the whole tower; there the
lower-layer functions are generalised to variables first, so that the `rfl` is purely structural.  The
two `negate`s have their branches the other way round in the model (`if is_zero then p else ..` for the
Rust `if !is_zero { .. }`): case split.

Loops.  `mul_bits`, `mul_assign` are `List.foldl`s in the generated code: `mul_bits` is literally the
model's fold; for `mul_assign` the step function is shown equal to one step of the model's recursive
`Jac.mulLoop` (`Jac_mulLoop_foldl`, induction on the bit list).  The two table searches of `osswu_map`
for G2 are `List.findSome?` in the generated code and the recursive `osswuG2Find` in the model:
`loop_bridge` (induction on the table).

Functions over the concrete fields that branch on decidable equalities (`osswu_map` for G1, G2,
`map_to_curve` on them) need care: see the comment before `G1_osswuMap_eq`.

Core Lean (plus `PP.Proofs.SswuUnfold`: `derive_unfold`, and `PP.Proofs.GenArithTactic`: `gen_eq`); no
Mathlib.  Axioms: `propext`, `Quot.sound` (via `simp`/`rw`/`funext`), `Classical.choice` (via `grind`'s
ring solver, in `GenArithTactic`) at most.
-/
import PP.Gen.Arith
import PP.Proofs.SswuUnfold
import PP.Proofs.GenArithTactic

set_option linter.unusedSimpArgs false

namespace PP.GenArithLemmas
open PP PP.Gen PP.GenArithTactic

/-! ## Fq2 (src/bls12_381/fq2.rs) -/

theorem Fq2_mulByNonresidue_eq : A.Fq2.mulByNonresidue = PP.Fq2.mulByNonresidue := by gen_eq A.Fq2.mulByNonresidue PP.Fq2.mulByNonresidue by skip
theorem Fq2_norm_eq : A.Fq2.norm = PP.Fq2.norm := by gen_eq A.Fq2.norm PP.Fq2.norm by skip
theorem Fq2_zero_eq : A.Fq2.zero = (0 : Fq2) := rfl
theorem Fq2_one_eq : A.Fq2.one = (1 : Fq2) := rfl
theorem Fq2_isZero_eq : A.Fq2.isZero = PP.Fq2.isZero := rfl
theorem Fq2_square_eq : A.Fq2.square = PP.Fq2.square := by gen_eq A.Fq2.square PP.Fq2.square by skip
theorem Fq2_double_eq : A.Fq2.double = PP.Fq2.double := by gen_eq A.Fq2.double PP.Fq2.double by skip
theorem Fq2_neg_eq : A.Fq2.neg = PP.Fq2.neg := by gen_eq A.Fq2.neg PP.Fq2.neg by skip
theorem Fq2_add_eq : A.Fq2.add = PP.Fq2.add := by gen_eq A.Fq2.add PP.Fq2.add by skip
theorem Fq2_sub_eq : A.Fq2.sub = PP.Fq2.sub := by gen_eq A.Fq2.sub PP.Fq2.sub by skip
theorem Fq2_mul_eq : A.Fq2.mul = PP.Fq2.mul := by gen_eq A.Fq2.mul PP.Fq2.mul by skip
theorem Fq2_inverse_eq : A.Fq2.inverse = PP.Fq2.inverse := by gen_eq A.Fq2.inverse PP.Fq2.inverse by skip
theorem Fq2_frobeniusMap_eq : A.Fq2.frobeniusMap = PP.Fq2.frobeniusMap := by gen_eq A.Fq2.frobeniusMap PP.Fq2.frobeniusMap by skip

local macro "lower2" : tactic => `(tactic| try simp -zeta only [Fq2_mulByNonresidue_eq, Fq2_norm_eq, Fq2_zero_eq, Fq2_one_eq, Fq2_isZero_eq, Fq2_square_eq, Fq2_double_eq, Fq2_neg_eq, Fq2_add_eq, Fq2_sub_eq, Fq2_mul_eq, Fq2_inverse_eq, Fq2_frobeniusMap_eq])

/-! ## Fq6 (src/bls12_381/fq6.rs) -/

theorem Fq6_mulByNonresidue_eq : A.Fq6.mulByNonresidue = PP.Fq6.mulByNonresidue := by gen_eq A.Fq6.mulByNonresidue PP.Fq6.mulByNonresidue by lower2
theorem Fq6_mulBy1_eq : A.Fq6.mulBy1 = PP.Fq6.mulBy1 := by gen_eq A.Fq6.mulBy1 PP.Fq6.mulBy1 by lower2
theorem Fq6_mulBy01_eq : A.Fq6.mulBy01 = PP.Fq6.mulBy01 := by gen_eq A.Fq6.mulBy01 PP.Fq6.mulBy01 by lower2
theorem Fq6_zero_eq : A.Fq6.zero = (0 : Fq6) := by unfold A.Fq6.zero; lower2; all_goals rfl
theorem Fq6_one_eq : A.Fq6.one = (1 : Fq6) := by unfold A.Fq6.one; lower2; all_goals rfl
theorem Fq6_isZero_eq : A.Fq6.isZero = PP.Fq6.isZero := by unfold A.Fq6.isZero; lower2; all_goals rfl
theorem Fq6_double_eq : A.Fq6.double = PP.Fq6.double := by gen_eq A.Fq6.double PP.Fq6.double by lower2
theorem Fq6_neg_eq : A.Fq6.neg = PP.Fq6.neg := by gen_eq A.Fq6.neg PP.Fq6.neg by lower2
theorem Fq6_add_eq : A.Fq6.add = PP.Fq6.add := by gen_eq A.Fq6.add PP.Fq6.add by lower2
theorem Fq6_sub_eq : A.Fq6.sub = PP.Fq6.sub := by gen_eq A.Fq6.sub PP.Fq6.sub by lower2
theorem Fq6_frobeniusMap_eq : A.Fq6.frobeniusMap = PP.Fq6.frobeniusMap := by gen_eq A.Fq6.frobeniusMap PP.Fq6.frobeniusMap by lower2
theorem Fq6_square_eq : A.Fq6.square = PP.Fq6.square := by gen_eq A.Fq6.square PP.Fq6.square by lower2
theorem Fq6_mul_eq : A.Fq6.mul = PP.Fq6.mul := by gen_eq A.Fq6.mul PP.Fq6.mul by lower2
theorem Fq6_inverse_eq : A.Fq6.inverse = PP.Fq6.inverse := by gen_eq A.Fq6.inverse PP.Fq6.inverse by lower2

local macro "lower6" : tactic => `(tactic| (
  (try simp -zeta only [Fq6_mulByNonresidue_eq, Fq6_mulBy1_eq, Fq6_mulBy01_eq, Fq6_zero_eq, Fq6_one_eq, Fq6_isZero_eq, Fq6_double_eq, Fq6_neg_eq, Fq6_add_eq, Fq6_sub_eq, Fq6_frobeniusMap_eq, Fq6_square_eq, Fq6_mul_eq, Fq6_inverse_eq])
  lower2))

/-! ## Fq12 (src/bls12_381/fq12.rs) -/

theorem Fq12_conjugate_eq : A.Fq12.conjugate = PP.Fq12.conjugate := by gen_eq A.Fq12.conjugate PP.Fq12.conjugate by lower6
theorem Fq12_mulBy014_eq : A.Fq12.mulBy014 = PP.Fq12.mulBy014 := by gen_eq A.Fq12.mulBy014 PP.Fq12.mulBy014 by lower6
theorem Fq12_zero_eq : A.Fq12.zero = (0 : Fq12) := by unfold A.Fq12.zero; lower6; all_goals rfl
theorem Fq12_one_eq : A.Fq12.one = (1 : Fq12) := by unfold A.Fq12.one; lower6; all_goals rfl
theorem Fq12_isZero_eq : A.Fq12.isZero = PP.Fq12.isZero := by unfold A.Fq12.isZero; lower6; all_goals rfl
theorem Fq12_double_eq : A.Fq12.double = PP.Fq12.double := by gen_eq A.Fq12.double PP.Fq12.double by lower6
theorem Fq12_neg_eq : A.Fq12.neg = PP.Fq12.neg := by gen_eq A.Fq12.neg PP.Fq12.neg by lower6
theorem Fq12_add_eq : A.Fq12.add = PP.Fq12.add := by gen_eq A.Fq12.add PP.Fq12.add by lower6
theorem Fq12_sub_eq : A.Fq12.sub = PP.Fq12.sub := by gen_eq A.Fq12.sub PP.Fq12.sub by lower6
theorem Fq12_frobeniusMap_eq : A.Fq12.frobeniusMap = PP.Fq12.frobeniusMap := by gen_eq A.Fq12.frobeniusMap PP.Fq12.frobeniusMap by lower6
theorem Fq12_square_eq : A.Fq12.square = PP.Fq12.square := by gen_eq A.Fq12.square PP.Fq12.square by lower6
theorem Fq12_mul_eq : A.Fq12.mul = PP.Fq12.mul := by gen_eq A.Fq12.mul PP.Fq12.mul by lower6

theorem Fq12_inverse_eq : A.Fq12.inverse = PP.Fq12.inverse := by
  gen_eq A.Fq12.inverse PP.Fq12.inverse by lower6

local macro "lower12" : tactic => `(tactic| (
  (try simp -zeta only [Fq12_conjugate_eq, Fq12_mulBy014_eq, Fq12_zero_eq, Fq12_one_eq, Fq12_isZero_eq, Fq12_double_eq, Fq12_neg_eq, Fq12_add_eq, Fq12_sub_eq, Fq12_frobeniusMap_eq, Fq12_square_eq, Fq12_mul_eq, Fq12_inverse_eq])
  lower6))

/-! the operation bundles handed to the generic `Field::pow` loop are the model's instances -/

theorem Fq2_instMul_eq : A.Fq2.instMul = (inferInstance : Mul Fq2) := congrArg Mul.mk Fq2_mul_eq
theorem Fq2_instOne_eq : A.Fq2.instOne = (inferInstance : One Fq2) := congrArg One.mk Fq2_one_eq
theorem Fq2_instFieldOps_eq : A.Fq2.instFieldOps = (inferInstance : FieldOps Fq2) := by
  unfold A.Fq2.instFieldOps; lower2; all_goals rfl
theorem Fq6_instMul_eq : A.Fq6.instMul = (inferInstance : Mul Fq6) := congrArg Mul.mk Fq6_mul_eq
theorem Fq6_instOne_eq : A.Fq6.instOne = (inferInstance : One Fq6) := congrArg One.mk Fq6_one_eq
theorem Fq6_instFieldOps_eq : A.Fq6.instFieldOps = (inferInstance : FieldOps Fq6) := by
  unfold A.Fq6.instFieldOps; lower6; all_goals rfl
theorem Fq12_instMul_eq : A.Fq12.instMul = (inferInstance : Mul Fq12) := congrArg Mul.mk Fq12_mul_eq
theorem Fq12_instOne_eq : A.Fq12.instOne = (inferInstance : One Fq12) := congrArg One.mk Fq12_one_eq
theorem Fq12_instFieldOps_eq : A.Fq12.instFieldOps = (inferInstance : FieldOps Fq12) := by
  unfold A.Fq12.instFieldOps; lower12; all_goals rfl

/-! ## `Signum0`, `Ord`, `SqrtField` for `Fq` / `Fq2` (src/bls12_381/fq.rs, src/signum.rs, src/bls12_381/fq2.rs) -/

/-- `self.into_repr().0[0] & 1 == 1` (lowest bit of the canonical representative) is translated as
    `self.v % 2 = 1`, which is how the model's `Zp.sgn0` states it -/
theorem Fq_sgn0_eq : A.Fq.sgn0 = (Zp.sgn0 : Fq → Sgn0) := rfl
theorem Sgn0_xor_eq : A.Sgn0.xor = PP.Sgn0.xor := rfl
theorem negateIf_eq {F : Type} [Neg F] : (A.negateIf : F → Sgn0 → F) = PP.negateIf := rfl
theorem Fq2_sgn0_eq : A.Fq2.sgn0 = PP.Fq2.sgn0 := by unfold A.Fq2.sgn0; rw [Fq_sgn0_eq]; rfl

/-- the two exponent literals of `Fq2::sqrt` are the limbs of the constants the model uses -/
theorem Fq2_sqrt_exp1 : [0xee7fbfffffffeaaa, 0x7aaffffac54ffff, 0xd9cc34a83dac3d89, 0xd91dd2e13ce144af,
    0x92c6e9ed90d2eb35, 0x680447a8e5ff9a6] = limbsOf 6 Gen.FQ2_SQRT_EXP1 := by decide +kernel
theorem Fq2_sqrt_exp2 : [0xdcff7fffffffd555, 0xf55ffff58a9ffff, 0xb39869507b587b12, 0xb23ba5c279c2895f,
    0x258dd3db21a5d66b, 0xd0088f51cbff34d] = limbsOf 6 Gen.FQ2_SQRT_EXP2 := by decide +kernel

theorem Fq2_sqrt_eq : A.Fq2.sqrt = PP.Fq2.sqrt := by
  funext a
  unfold A.Fq2.sqrt PP.Fq2.sqrt powNat
  rw [Fq2_sqrt_exp1, Fq2_sqrt_exp2, Fq2_instMul_eq, Fq2_instOne_eq, Fq2_instFieldOps_eq]
  lower2
  all_goals rfl

/-- `Ord for Fq2` returns an `Ordering`; the model has the derived `<` only (`Fq2.lt`).  The `cmp` of
    `Fq` (derive-generated, compares the canonical integers) is `compare a.v b.v` in the generated code. -/
theorem Fq2_cmp_lt (a b : Fq2) : PP.Fq2.lt a b = decide (A.Fq2.cmp a b = Ordering.lt) := by
  unfold A.Fq2.cmp PP.Fq2.lt
  rcases Nat.lt_trichotomy a.c1.v b.c1.v with h | h | h
  · have hc : compare a.c1.v b.c1.v = .lt := Nat.compare_eq_lt.mpr h
    have h' : ¬ a.c1.v > b.c1.v := Nat.lt_asymm h
    simp [hc, h, h']
  · have hc : compare a.c1.v b.c1.v = .eq := Nat.compare_eq_eq.mpr h
    simp [hc, h, Nat.compare_eq_lt]
  · have hc : compare a.c1.v b.c1.v = .gt := Nat.compare_eq_gt.mpr h
    simp [hc, h]

/-! ## `curve_impl!` (src/bls12_381/ec/mod.rs), generic in the coefficient field -/

section
set_option linter.unusedSectionVars false
variable {F : Type} [Add F] [Sub F] [Mul F] [Neg F] [Zero F] [One F] [FieldOps F] [DecidableEq F]

theorem Aff_zero_eq : (A.Aff.zero : Aff F) = PP.Aff.zero := rfl
/-- the model inlines `$affine::is_zero` as `.infinity` -/
theorem Aff_isZero_eq : (A.Aff.isZero : Aff F → Bool) = fun p => p.infinity := rfl
theorem Jac_zero_eq : (A.Jac.zero : Jac F) = PP.Jac.zero := rfl
theorem Jac_isZero_eq : (A.Jac.isZero : Jac F → Bool) = PP.Jac.isZero := rfl

macro "lowerEC0" : tactic => `(tactic| try simp -zeta only [Aff_zero_eq, Aff_isZero_eq, Jac_zero_eq, Jac_isZero_eq])

theorem Aff_isOnCurve_eq : (A.Aff.isOnCurve : F → Aff F → Bool) = PP.Aff.isOnCurve := by
  unfold A.Aff.isOnCurve; lowerEC0; all_goals rfl
theorem Jac_isNormalized_eq : (A.Jac.isNormalized : Jac F → Bool) = PP.Jac.isNormalized := by
  unfold A.Jac.isNormalized; lowerEC0; all_goals rfl
theorem Jac_double_eq : (A.Jac.double : Jac F → Jac F) = PP.Jac.double := by
  unfold A.Jac.double; lowerEC0; all_goals rfl
theorem Jac_add_eq : (A.Jac.add : Jac F → Jac F → Jac F) = PP.Jac.add := by
  unfold A.Jac.add; lowerEC0; simp -zeta only [Jac_double_eq]; all_goals rfl
theorem Jac_addMixed_eq : (A.Jac.addMixed : Jac F → Aff F → Jac F) = PP.Jac.addMixed := by
  unfold A.Jac.addMixed; lowerEC0; simp -zeta only [Jac_double_eq]; all_goals rfl
theorem Aff_toJac_eq : (A.Aff.toJac : Aff F → Jac F) = PP.Aff.toJac := by
  unfold A.Aff.toJac; lowerEC0; all_goals rfl
theorem Jac_toAffine_eq : (A.Jac.toAffine : Jac F → Option (Aff F)) = PP.Jac.toAffine := by
  unfold A.Jac.toAffine; lowerEC0; all_goals rfl

/-- Rust: `if !self.is_zero() { self.y.negate(); }`; model: `if p.infinity then p else ⟨x, -y, false⟩` -/
theorem Aff_neg_eq : (A.Aff.neg : Aff F → Aff F) = PP.Aff.neg := by
  funext p
  obtain ⟨x, y, inf⟩ := p
  cases inf <;> rfl

/-- Rust: `if !self.is_zero() { self.y.negate() }`; model: `if p.isZero then p else ⟨x, -y, z⟩` -/
theorem Jac_neg_eq : (A.Jac.neg : Jac F → Jac F) = PP.Jac.neg := by
  funext p
  unfold A.Jac.neg PP.Jac.neg
  rw [Jac_isZero_eq]
  cases PP.Jac.isZero p <;> rfl

/-! scalar multiplication, subgroup test, `get_point_from_x`, `sub_assign` (the `for` loops are
    `List.foldl`s over the bit list in the generated code) -/

theorem Aff_mulBits_eq : (A.Aff.mulBits : Aff F → List Bool → Jac F) = PP.Aff.mulBits := by
  funext p bits
  unfold A.Aff.mulBits PP.Aff.mulBits
  simp -zeta only [Jac_zero_eq, Jac_double_eq, Jac_addMixed_eq]
  rfl

theorem Aff_mul_eq : (A.Aff.mul : Aff F → Nat → Jac F) = PP.Aff.mul := by
  unfold A.Aff.mul; simp -zeta only [Aff_mulBits_eq]; rfl

/-- one iteration of the loop of `mul_assign` is one step of the model's `Jac.mulLoop` -/
theorem Jac_mulLoop_foldl (p : Jac F) (bits : List Bool) (st : Jac F × Bool) :
    List.foldl (fun (st : Jac F × Bool) i =>
      ((if i then (if st.2 then st.1.double else st.1).add p else (if st.2 then st.1.double else st.1)),
       (if st.2 then st.2 else i))) st bits = PP.Jac.mulLoop p bits st := by
  induction bits generalizing st with
  | nil => rfl
  | cons i bs ih =>
    obtain ⟨res, found⟩ := st
    rw [List.foldl_cons, ih]
    cases found <;> cases i <;> rfl

/-- Rust `(y < negy) ^ greatest`, model `(lt y negy) != greatest` -/
theorem Aff_getPointFromX_eq [SqrtOps F] :
    (A.Aff.getPointFromX : F → F → Bool → Option (Aff F)) = PP.Aff.getPointFromX := by
  funext b x g
  unfold A.Aff.getPointFromX PP.Aff.getPointFromX
  simp only []
  cases SqrtOps.sqrt (sq x * x + b) with
  | none => rfl
  | some y => simp only []

/-- `$scalarfield::char()` is the leading parameter; at `Gen.r` this is the model's function -/
theorem Aff_isInCorrectSubgroupAssumingOnCurve_eq :
    (A.Aff.isInCorrectSubgroupAssumingOnCurve Gen.r : Aff F → Bool) = PP.Aff.inSubgroupAssumingOnCurve := by
  unfold A.Aff.isInCorrectSubgroupAssumingOnCurve; simp -zeta only [Aff_mul_eq, Jac_isZero_eq]; rfl

theorem Jac_sub_eq : (A.Jac.sub : Jac F → Jac F → Jac F) = PP.Jac.sub := by
  unfold A.Jac.sub; simp -zeta only [Jac_neg_eq, Jac_add_eq]; rfl

/-! ## `osswu_help` (src/bls12_381/osswu_map/mod.rs) -/

theorem osswuHelp_eq : (A.osswuHelp : F → F → F → F → OsswuHelp F) = PP.osswuHelp := rfl

end

/-! ## the same over a coefficient RING with laws: robust against algebraic rewrites of the Rust source

The statements above are over bare notation classes (`[Add F] [Mul F] .. [FieldOps F]`, no laws): there
`x + y` and `y + x` ARE different, the generated definition and the model are equal only if they are
the same term up to `let`s and projections, and `rfl` is all one can do.  Over a coefficient type with
ring laws (`Lean.Grind.CommRing`, a core class) and `sq a = a * a`, `dbl a = a + a` (`LawfulSqDbl`) the
functions that contain field arithmetic are proved equal by `gen_eq_ring` (`_of_ring`), hence also
after a semantics-preserving rewrite of the Rust formulas.  `_Fq`, `_Fq2` are the instances for the
model's own fields (no primality needed).  Every Mathlib `[Field F] [LawfulFieldOps F]` is an instance
as well (Mathlib/Algebra/Ring/GrindInstances.lean).
Of the theorems above these use only the four about `zero` / `is_zero` (`lowerEC0`), which have no
arithmetic. -/

section
set_option linter.unusedSectionVars false
variable {F : Type} [Lean.Grind.CommRing F] [FieldOps F] [LawfulSqDbl F] [DecidableEq F]

theorem Aff_isOnCurve_eq_of_ring : (A.Aff.isOnCurve : F → Aff F → Bool) = PP.Aff.isOnCurve := by
  gen_eq_ring A.Aff.isOnCurve PP.Aff.isOnCurve by lowerEC0
theorem Jac_beq_eq_of_ring : (A.Jac.beq : Jac F → Jac F → Bool) = PP.Jac.beq := by
  gen_eq_ring A.Jac.beq PP.Jac.beq by lowerEC0
theorem Jac_double_eq_of_ring : (A.Jac.double : Jac F → Jac F) = PP.Jac.double := by
  gen_eq_ring A.Jac.double PP.Jac.double by lowerEC0
theorem Jac_add_eq_of_ring : (A.Jac.add : Jac F → Jac F → Jac F) = PP.Jac.add := by
  gen_eq_ring A.Jac.add PP.Jac.add by (lowerEC0; simp -zeta only [Jac_double_eq_of_ring])
theorem Jac_addMixed_eq_of_ring : (A.Jac.addMixed : Jac F → Aff F → Jac F) = PP.Jac.addMixed := by
  gen_eq_ring A.Jac.addMixed PP.Jac.addMixed by (lowerEC0; simp -zeta only [Jac_double_eq_of_ring])
theorem Jac_toAffine_eq_of_ring : (A.Jac.toAffine : Jac F → Option (Aff F)) = PP.Jac.toAffine := by
  gen_eq_ring A.Jac.toAffine PP.Jac.toAffine by lowerEC0
theorem osswuHelp_eq_of_ring : (A.osswuHelp : F → F → F → F → OsswuHelp F) = PP.osswuHelp := by
  gen_eq_ring A.osswuHelp PP.osswuHelp by skip

/-- Rust `(y < negy) ^ greatest`, model `(lt y negy) != greatest`; the argument of `sqrt` up to ring laws -/
theorem Aff_getPointFromX_eq_of_ring [SqrtOps F] :
    (A.Aff.getPointFromX : F → F → Bool → Option (Aff F)) = PP.Aff.getPointFromX := by
  funext b x g
  unfold A.Aff.getPointFromX PP.Aff.getPointFromX
  simp only []
  first
  | (cases SqrtOps.sqrt (sq x * x + b) with
     | none => rfl
     | some y => simp only [])
  | (simp only [sq_eq]; gen_split; all_goals (first | done | rfl | simp only []))

end

/-! the instances for the model's fields -/

theorem Aff_isOnCurve_eq_Fq : (A.Aff.isOnCurve : Fq → Aff Fq → Bool) = PP.Aff.isOnCurve := Aff_isOnCurve_eq_of_ring
theorem Jac_add_eq_Fq : (A.Jac.add : Jac Fq → Jac Fq → Jac Fq) = PP.Jac.add := Jac_add_eq_of_ring

theorem Aff_isOnCurve_eq_Fq2 : (A.Aff.isOnCurve : Fq2 → Aff Fq2 → Bool) = PP.Aff.isOnCurve := Aff_isOnCurve_eq_of_ring
theorem Jac_add_eq_Fq2 : (A.Jac.add : Jac Fq2 → Jac Fq2 → Jac Fq2) = PP.Jac.add := Jac_add_eq_of_ring

/-! ## `SubgroupCheck`, optimized SWU maps, cofactor clearing, `map_to_curve`
    (ec/g1.rs, ec/g2.rs, osswu_map/g1.rs, osswu_map/g2.rs, cofactor.rs, src/map_to_curve.rs) -/

/-- with the model's instance CONSTANTS on the right (no `inferInstance` wrapper): a `rewrite` with
    these leaves terms that are syntactically those of the model -/
theorem Fq2_instAdd_eq' : A.Fq2.instAdd = PP.Fq2.instAdd := congrArg Add.mk Fq2_add_eq
theorem Fq2_instSub_eq' : A.Fq2.instSub = PP.Fq2.instSub := congrArg Sub.mk Fq2_sub_eq
theorem Fq2_instMul_eq' : A.Fq2.instMul = PP.Fq2.instMul := Fq2_instMul_eq
theorem Fq2_instNeg_eq' : A.Fq2.instNeg = PP.Fq2.instNeg := congrArg Neg.mk Fq2_neg_eq
theorem Fq2_instZero_eq' : A.Fq2.instZero = PP.Fq2.instZero := congrArg Zero.mk Fq2_zero_eq
theorem Fq2_instOne_eq' : A.Fq2.instOne = PP.Fq2.instOne := Fq2_instOne_eq
theorem Fq2_instFieldOps_eq' : A.Fq2.instFieldOps = PP.Fq2.instFieldOps := Fq2_instFieldOps_eq

/-- the generated `Fq2` operation bundles (local instances of the generic code applied at `Fq2`) are
    the model's instances -/
macro "lowerInst2" : tactic => `(tactic| (
  (try rewrite [Fq2_instAdd_eq']); (try rewrite [Fq2_instSub_eq']); (try rewrite [Fq2_instMul_eq'])
  (try rewrite [Fq2_instNeg_eq']); (try rewrite [Fq2_instZero_eq']); (try rewrite [Fq2_instOne_eq'])
  (try rewrite [Fq2_instFieldOps_eq'])))

theorem G1Affine_inSubgroup_eq (b : Fq) : A.G1Affine.inSubgroup b Gen.r = PP.Aff.inSubgroup b := by
  unfold A.G1Affine.inSubgroup; simp -zeta only [Aff_isOnCurve_eq_Fq, Aff_isInCorrectSubgroupAssumingOnCurve_eq]; all_goals rfl

theorem G2Affine_inSubgroup_eq (b : Fq2) : A.G2Affine.inSubgroup b Gen.r = PP.Aff.inSubgroup b := by
  unfold A.G2Affine.inSubgroup; lowerInst2
  simp -zeta only [Aff_isOnCurve_eq_Fq2, Aff_isInCorrectSubgroupAssumingOnCurve_eq]; all_goals rfl

theorem G1_clearH_eq : A.G1.clearH = PP.clearHG1 := by
  unfold A.G1.clearH; simp -zeta only [Jac_add_eq_Fq]; all_goals rfl

theorem G2_clearH_eq : A.G2.clearH = PP.clearHG2 := by
  unfold A.G2.clearH; lowerInst2; all_goals rfl

/-! `osswu_map` for G1 and G2.  These are functions over the CONCRETE fields whose bodies branch on
    decidable equalities: any definitional unfolding that makes the kernel (or `Meta.whnf`) look at an
    `if` or a matcher discriminant starts evaluating `Fq` arithmetic on symbolic input and does not
    terminate in practice (see PP/Proofs/SswuUnfold.lean).  Hence: unfold both sides with
    `derive_unfold` (an `Eq.refl` at the level of the constants), replace the generated lower-layer
    operations by the model's with `rewrite` (closed equations between constants, no `rfl` attempt),
    generalise what could be evaluated, and compare structurally in an auxiliary lemma. -/

open PP.Sswu in
derive_unfold PP.Gen.A.G1.osswuMap as G1_osswuMap_unfold

theorem G1_osswuMap_eq : A.G1.osswuMap = PP.osswuG1 := by
  funext u
  refine (G1_osswuMap_unfold u).trans (Eq.trans ?_ (Sswu.osswuG1_unfold u).symm)
  rewrite [osswuHelp_eq, Fq_sgn0_eq, Sgn0_xor_eq, negateIf_eq,
    show Fq.ofMont Gen.G1_XI = g1Xi from rfl, show Fq.ofMont Gen.G1_ELLP_A = g1EllpA from rfl,
    show Fq.ofMont Gen.G1_ELLP_B = g1EllpB from rfl, show Fq.ofMont Gen.G1_SQRT_M_XI_CUBED = g1SqrtMXiCubed from rfl]
  generalize osswuHelp u g1Xi g1EllpA g1EllpB = h
  generalize g1SqrtMXiCubed = κ
  as_aux_lemma => rfl

open PP.Sswu in
derive_unfold PP.Gen.A.G2.osswuMap as G2_osswuMap_unfold

/-- The two `for root in &TABLE[..] { ..; if c { ..; return V; } }` loops of `osswu_map` for G2 are
    `match List.findSome? (fun root => .. if c then some V else none) TABLE with | some ret => some ret | none => rest`
    in the generated code; the model searches with `osswuG2Find` (which returns the multiplied
    candidate) and post-processes the hit in the `some` branch of its own `match`.  All matcher arguments
    are variables here, so that applying the lemma is a first-order, syntactic instantiation. -/
theorem loop_bridge (f : Fq2 → Option (Jac Fq2)) (c d n : Fq2) (l : List Fq2)
    (kR : Fq2 → Option (Jac Fq2)) (RL RR : Unit → Option (Jac Fq2))
    (hf : ∀ m, f m = if sq (m * c) * d = n then kR (m * c) else none)
    (hk : ∀ y, ∃ v, kR y = some v) (hR : RL () = RR ()) :
    A.G2.osswuMap.match_1 (fun _ => Option (Jac Fq2)) (l.findSome? f) (fun ret => some ret) RL
    = osswuG2.match_1 (fun _ => Option (Jac Fq2)) (osswuG2Find c d n l) kR RR := by
  induction l with
  | nil => exact hR
  | cons m ms ih =>
    rw [List.findSome?_cons, hf m]
    unfold osswuG2Find
    by_cases hc : sq (m * c) * d = n
    · obtain ⟨v, hv⟩ := hk (m * c)
      simp only [hc, if_true, hv]
    · simp only [hc, if_false]
      exact ih

theorem G2_osswuMap_eq : A.G2.osswuMap = PP.osswuG2 := by
  funext u
  refine (G2_osswuMap_unfold u).trans (Eq.trans ?_ (Sswu.osswuG2_unfold u).symm)
  lowerInst2
  rewrite [osswuHelp_eq, Fq2_sgn0_eq, Sgn0_xor_eq, negateIf_eq, Fq2_mul_eq, Fq2_square_eq,
    show Fq2.ofMont Gen.G2_XI = g2Xi from rfl, show Fq2.ofMont Gen.G2_ELLP_A = g2EllpA from rfl,
    show Fq2.ofMont Gen.G2_ELLP_B = g2EllpB from rfl,
    show Gen.G2_ROOTS_OF_UNITY.map Fq2.ofMont = g2RootsOfUnity from rfl, show Gen.G2_ETAS.map Fq2.ofMont = g2Etas from rfl]
  generalize osswuHelp u g2Xi g2EllpA g2EllpB = h
  generalize g2RootsOfUnity = roots
  generalize g2Etas = etas
  refine loop_bridge _ _ _ _ _ _ _ _ ?hf1 ?hk1 ?hR
  case hf1 => intro m; rfl
  case hk1 => exact fun y => ⟨_, rfl⟩
  case hR =>
    refine loop_bridge _ _ _ _ _ _ _ _ ?hf2 ?hk2 rfl
    case hf2 => intro m; rfl
    case hk2 => exact fun y => ⟨_, rfl⟩

/-! `map_to_curve`, `map2_to_curve` (src/map_to_curve.rs) are generic over the traits `OSSWUMap +
    IsogenyMap + ClearH` (and `CurveProjective::add_assign`): the generated definitions take the trait
    methods as parameters; `osswu_map` is Option-valued (`none` = panic; the G1 map never panics).
    Instantiated with the methods of G1 / G2 they are the model's functions.  The model's `iso11` /
    `iso3` stand for `isogeny_map` here; the translation of `eval_iso` is compared with them
    separately (PP/Gen/Iso.lean, PP/Props/GenIso.lean), and no theorem composes the two. -/

theorem mapToCurve_G1_eq :
    A.mapToCurve (osswu_map := fun u => some (A.G1.osswuMap u)) (isogeny_map := PP.iso11) (clear_h := A.G1.clearH)
      = fun u => some (PP.mapToCurveG1 u) := by
  rw [G1_osswuMap_eq, G1_clearH_eq]; rfl

theorem map2ToCurve_G1_eq :
    A.map2ToCurve (osswu_map := fun u => some (A.G1.osswuMap u)) (isogeny_map := PP.iso11)
        (add_assign := A.Jac.add) (clear_h := A.G1.clearH)
      = fun u0 u1 => some (PP.map2ToCurveG1 u0 u1) := by
  rw [G1_osswuMap_eq, G1_clearH_eq, Jac_add_eq_Fq]; rfl

/-- for abstract trait methods (nothing to evaluate) -/
theorem mapToCurve_map {α β : Type} (osswu : α → Option β) (iso clear : β → β) (u : α) :
    A.mapToCurve (osswu_map := osswu) (isogeny_map := iso) (clear_h := clear) u
      = (osswu u).map (fun p => clear (iso p)) := by
  unfold A.mapToCurve; cases osswu u <;> rfl

theorem map2ToCurve_bind {α β : Type} (osswu : α → Option β) (iso clear : β → β) (add : β → β → β) (u0 u1 : α) :
    A.map2ToCurve (osswu_map := osswu) (isogeny_map := iso) (add_assign := add) (clear_h := clear) u0 u1
      = (osswu u0).bind (fun p0 => (osswu u1).bind (fun p1 => some (clear (add (iso p0) (iso p1))))) := by
  unfold A.map2ToCurve; cases osswu u0 <;> cases osswu u1 <;> rfl

theorem mapToCurve_G2_eq :
    A.mapToCurve (osswu_map := A.G2.osswuMap) (isogeny_map := PP.iso3) (clear_h := A.G2.clearH) = PP.mapToCurveG2 := by
  rw [G2_osswuMap_eq, G2_clearH_eq]
  funext u
  exact mapToCurve_map _ _ _ _

theorem map2ToCurve_G2_eq :
    A.map2ToCurve (osswu_map := A.G2.osswuMap) (isogeny_map := PP.iso3) (add_assign := A.Jac.add)
        (clear_h := A.G2.clearH) = PP.map2ToCurveG2 := by
  rw [G2_osswuMap_eq, G2_clearH_eq, Jac_add_eq_Fq2]
  funext u0 u1
  exact map2ToCurve_bind _ _ _ _ _ _

/-! ## pairing (src/bls12_381/mod.rs) -/

theorem doublingStep_eq : A.doublingStep = PP.doublingStep := by gen_eq A.doublingStep PP.doublingStep by lower2
theorem additionStep_eq : A.additionStep = PP.additionStep := by gen_eq A.additionStep PP.additionStep by lower2
theorem ell_eq : A.ell = PP.ell := by gen_eq A.ell PP.ell by lower12

/-- the Rust parameter `x : u64` is a `UInt64` in the generated code and a `Nat` reduced mod `2^64`
    in the model -/
theorem expByX_eq : A.expByX = fun f x => PP.expByX f x.toNat := by
  funext f x
  unfold A.expByX PP.expByX
  rw [Fq12_instMul_eq, Fq12_instOne_eq, Fq12_instFieldOps_eq, Fq12_conjugate_eq,
    Nat.mod_eq_of_lt x.toNat_lt]

theorem finalExponentiation_eq : A.finalExponentiation = PP.finalExponentiation := by
  unfold A.finalExponentiation PP.finalExponentiation
  rw [Fq12_conjugate_eq, Fq12_inverse_eq, Fq12_mul_eq, Fq12_frobeniusMap_eq, Fq12_square_eq, expByX_eq,
    show @FieldOps.inv Fq12 _ = PP.Fq12.inverse from rfl,
    show @FieldOps.frob Fq12 _ = PP.Fq12.frobeniusMap from rfl,
    show @FieldOps.sq Fq12 _ = PP.Fq12.square from rfl,
    show @HMul.hMul Fq12 Fq12 Fq12 _ = PP.Fq12.mul from rfl]
  generalize PP.Fq12.inverse = inv12
  generalize PP.Fq12.mul = mul12
  generalize PP.Fq12.square = sq12
  generalize PP.Fq12.frobeniusMap = frob12
  generalize PP.Fq12.conjugate = conj12
  generalize PP.expByX = ebx
  rfl

end PP.GenArithLemmas
