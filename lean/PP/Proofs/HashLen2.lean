/-
Output lengths of the truncated SHA-2 members of `PP/Spec/Hash2.lean`, for every input.

Core Lean only.  Method as in `PP/Proofs/HashLen.lean`: the untruncated serialisation of the chaining
value (`sha2_out_size`: 8 words of 4 / 8 bytes = 32 / 64 bytes, whatever the initial value) and then
`List.length_take` with `min 28 32 = 28`, `min 48 64 = 48`.
-/
import PP.Spec.Hash2
import PP.Proofs.HashLen

namespace PP.Hash

theorem sha224_length (m : List UInt8) : (sha224 m).length = 28 := by
  unfold sha224
  simp only [Std.Legacy.Range.forIn_eq_forIn_range', Std.Legacy.Range.size, Nat.sub_zero, Nat.add_one_sub_one,
    Nat.div_one, List.forIn_pure_yield_eq_foldl, Array.forIn_pure_yield_eq_foldl, bind_pure_comp, map_pure, Id.run_pure,
    List.length_take]
  rw [byteArray_toList_length, sha2_out_size _ (fun _ _ => sha256Block_size _ _ _) _ 4 _ (by decide)]
  rfl

theorem sha384_length (m : List UInt8) : (sha384 m).length = 48 := by
  unfold sha384
  simp only [Std.Legacy.Range.forIn_eq_forIn_range', Std.Legacy.Range.size, Nat.sub_zero, Nat.add_one_sub_one,
    Nat.div_one, List.forIn_pure_yield_eq_foldl, Array.forIn_pure_yield_eq_foldl, bind_pure_comp, map_pure, Id.run_pure,
    List.length_take]
  rw [byteArray_toList_length, sha2_out_size _ (fun _ _ => sha512Block_size _ _ _) _ 8 _ (by decide)]
  rfl

end PP.Hash
