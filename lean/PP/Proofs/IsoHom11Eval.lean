/-
C16, homomorphism law of the 11-isogeny, layer 0: polynomial identities by evaluation on a grid.

The identities needed for the degree-11 isogeny have degree ~55 in each of two variables, far beyond
`ring`.  They are proved as follows.  An identity is a term `e : Ex` of a small expression language
(variables `x₁ = var 0`, `x₂ = var 1`, a formal square root `p`, constants, `+ - *`, powers, Horner
evaluation `pol` and homogeneous Horner evaluation `hev` of constant coefficient lists), together with
a `p`-free term `De` for the radicand (`p² = De`).  One generic evaluator `eval` interprets terms in
any structure `Ops α`; the *fundamental lemma* `eval_rel` says that a relation preserved by the
operations is preserved by `eval`.  Instances:

* `fqOps`                       : the field `Fq` — what the identity means;
* `pairOps o D`                 : the quadratic algebra `α[p]/(p² − D)` on pairs `(u, v) = u + v·p`;
* `polyOps`                     : bivariate polynomials `Fq[X][Y]` (`x₁ ↦ C X`, `x₂ ↦ Y`);
* `degOps`                      : upper bounds for the two partial degrees;
* `quadOps (fnOps (natOps q)) D`: what `decide +kernel` runs — `natOps q` are canonical representatives
                                  with the kernel's GMP-accelerated `Nat.add/mul/mod`; `fnOps` lifts them to
                                  functions of the grid point; `quadOps` is `pairOps` with the scalars
                                  `u + 0·p` kept apart.

`var (2+2i)` / `var (3+2i)` stand for the `i`-th shared univariate sub-expression `defs[i]` at `x₁` / `x₂`
(`extEnv`).

`eval_eq_zero_of_grid`: if the two components of `e` in the quadratic algebra over `Fq` vanish on the grid
`{0..s-1} × {0..t-1}` (established by `gridCheck`, `gridCheck_sound`) whose sides exceed the degree bounds
computed by `degOps` (`degCheck`; `none` = the zero polynomial), then the two components of `e` over
`Fq[X][Y]` are the zero polynomial (`eq_zero_of_grid`), hence `e` evaluates to `0` in `Fq` at every
`(x₁, x₂, p)` with `p² = De(x₁, x₂)`.

What the kernel run costs is the number of reduction steps, not the size of the numbers.  Unfolding
`eval` (structural recursion) at a node of the term costs more than the arithmetic there, and the kernel
only remembers the weak head normal form of a closed term it has met before.  Hence `fnOps`: the values
are functions of the grid point wrapped in the structure `Fn`, the term is traversed once, and at a
grid point only the arithmetic is left; `quadOps` decides during that one traversal, not at every grid
point, which products involve `p`; the shared values `defs[i]` at `x₁` (at `x₂`) are closed terms that
do not mention `x₂` (`x₁`), so they are computed once per row (column).
-/
import Mathlib.Algebra.Polynomial.Bivariate
import Mathlib.Algebra.Polynomial.Roots
import Mathlib.Tactic.Ring
import PP.Proofs.ZpField
import PP.Proofs.Primes
import PP.Proofs.IsoPoly

set_option linter.unusedSectionVars false

namespace PP
namespace IsoHom11

open Polynomial
open scoped Polynomial.Bivariate

/-- a bare signature: what `eval` needs -/
structure Ops (α : Type) where
  add : α → α → α
  sub : α → α → α
  mul : α → α → α
  ofNat : Nat → α

inductive Ex where
  | var : Nat → Ex
  | p : Ex
  | c : Nat → Ex
  | add : Ex → Ex → Ex
  | sub : Ex → Ex → Ex
  | mul : Ex → Ex → Ex
  | pow : Ex → Nat → Ex
  /-- `pol cs e = Σ cs[j]·eʲ` -/
  | pol : List Nat → Ex → Ex
  /-- `hev cs n d = Σ cs[j]·nʲ·d^(len−1−j)` -/
  | hev : List Nat → Ex → Ex → Ex

section generic
variable {α β : Type}

def powG (o : Ops α) (x : α) : Nat → α
  | 0 => o.ofNat 1
  | k + 1 => o.mul x (powG o x k)

def polG (o : Ops α) (x : α) : List Nat → α
  | [] => o.ofNat 0
  | c :: cs => o.add (o.ofNat c) (o.mul x (polG o x cs))

/-- `(Σ cs[j]·nʲ·d^(len−1−j), d^len)` -/
def hevAux (o : Ops α) (n d : α) : List Nat → α × α
  | [] => (o.ofNat 0, o.ofNat 1)
  | c :: cs =>
    (o.add (o.mul (o.ofNat c) (hevAux o n d cs).2) (o.mul n (hevAux o n d cs).1),
     o.mul (hevAux o n d cs).2 d)

def eval (o : Ops α) (env : Nat → α) (p : α) : Ex → α
  | .var i => env i
  | .p => p
  | .c k => o.ofNat k
  | .add a b => o.add (eval o env p a) (eval o env p b)
  | .sub a b => o.sub (eval o env p a) (eval o env p b)
  | .mul a b => o.mul (eval o env p a) (eval o env p b)
  | .pow a k => powG o (eval o env p a) k
  | .pol cs a => polG o (eval o env p a) cs
  | .hev cs n d => (hevAux o (eval o env p n) (eval o env p d) cs).1

/-- a relation preserved by the operations -/
structure OpsRel (o : Ops α) (o' : Ops β) (R : α → β → Prop) : Prop where
  add : ∀ {a a' b b'}, R a a' → R b b' → R (o.add a b) (o'.add a' b')
  sub : ∀ {a a' b b'}, R a a' → R b b' → R (o.sub a b) (o'.sub a' b')
  mul : ∀ {a a' b b'}, R a a' → R b b' → R (o.mul a b) (o'.mul a' b')
  ofNat : ∀ k, R (o.ofNat k) (o'.ofNat k)

variable {o : Ops α} {o' : Ops β} {R : α → β → Prop}

theorem powG_rel (h : OpsRel o o' R) {x : α} {x' : β} (hx : R x x') (k : Nat) :
    R (powG o x k) (powG o' x' k) := by
  induction k with
  | zero => exact h.ofNat 1
  | succ k ih => exact h.mul hx ih

theorem polG_rel (h : OpsRel o o' R) {x : α} {x' : β} (hx : R x x') (cs : List Nat) :
    R (polG o x cs) (polG o' x' cs) := by
  induction cs with
  | nil => exact h.ofNat 0
  | cons c cs ih => exact h.add (h.ofNat c) (h.mul hx ih)

theorem hevAux_rel (h : OpsRel o o' R) {n d : α} {n' d' : β} (hn : R n n') (hd : R d d')
    (cs : List Nat) :
    R (hevAux o n d cs).1 (hevAux o' n' d' cs).1 ∧ R (hevAux o n d cs).2 (hevAux o' n' d' cs).2 := by
  induction cs with
  | nil => exact ⟨h.ofNat 0, h.ofNat 1⟩
  | cons c cs ih =>
    exact ⟨h.add (h.mul (h.ofNat c) ih.2) (h.mul hn ih.1), h.mul ih.2 hd⟩

theorem eval_rel (h : OpsRel o o' R) {env : Nat → α} {env' : Nat → β} (henv : ∀ i, R (env i) (env' i))
    {p : α} {p' : β} (hp : R p p') (e : Ex) : R (eval o env p e) (eval o' env' p' e) := by
  induction e with
  | var i => exact henv i
  | p => exact hp
  | c k => exact h.ofNat k
  | add a b iha ihb => exact h.add iha ihb
  | sub a b iha ihb => exact h.sub iha ihb
  | mul a b iha ihb => exact h.mul iha ihb
  | pow a k iha => exact powG_rel h iha k
  | pol cs a iha => exact polG_rel h iha cs
  | hev cs n d ihn ihd => exact (hevAux_rel h ihn ihd cs).1

/-- `(u, v) = u + v·p` with `p² = D` -/
def pairOps (o : Ops α) (D : α) : Ops (α × α) where
  add a b := (o.add a.1 b.1, o.add a.2 b.2)
  sub a b := (o.sub a.1 b.1, o.sub a.2 b.2)
  mul a b := (o.add (o.mul a.1 b.1) (o.mul (o.mul a.2 b.2) D), o.add (o.mul a.1 b.2) (o.mul a.2 b.1))
  ofNat k := (o.ofNat k, o.ofNat 0)

def PairRel (R : α → β → Prop) (a : α × α) (b : β × β) : Prop := R a.1 b.1 ∧ R a.2 b.2

theorem pairOps_rel (h : OpsRel o o' R) {D : α} {D' : β} (hD : R D D') :
    OpsRel (pairOps o D) (pairOps o' D') (PairRel R) where
  add ha hb := ⟨h.add ha.1 hb.1, h.add ha.2 hb.2⟩
  sub ha hb := ⟨h.sub ha.1 hb.1, h.sub ha.2 hb.2⟩
  mul ha hb := ⟨h.add (h.mul ha.1 hb.1) (h.mul (h.mul ha.2 hb.2) hD),
    h.add (h.mul ha.1 hb.2) (h.mul ha.2 hb.1)⟩
  ofNat k := ⟨h.ofNat k, h.ofNat 0⟩

/-- the two components of `e` in the quadratic algebra with radicand `De` -/
def evalPair (o : Ops α) (env : Nat → α) (e De : Ex) : α × α :=
  eval (pairOps o (eval o env (o.ofNat 0) De)) (fun i => (env i, o.ofNat 0))
    (o.ofNat 0, o.ofNat 1) e

theorem evalPair_rel (h : OpsRel o o' R) {env : Nat → α} {env' : Nat → β}
    (henv : ∀ i, R (env i) (env' i)) (e De : Ex) :
    PairRel R (evalPair o env e De) (evalPair o' env' e De) :=
  eval_rel (pairOps_rel h (eval_rel h henv (h.ofNat 0) De))
    (fun i => ⟨henv i, h.ofNat 0⟩) ⟨h.ofNat 0, h.ofNat 1⟩ e

/-- an element of the quadratic algebra: `base u = u`, `mix u v = u + v·p` -/
inductive Quad (α : Type) where
  | base : α → Quad α
  | mix : α → α → Quad α

/-- the operations of `pairOps o D`, without the products by the zero component of a `base` -/
def quadOps (o : Ops α) (D : α) : Ops (Quad α) where
  add
    | .base a, .base b => .base (o.add a b)
    | .base a, .mix b b' => .mix (o.add a b) b'
    | .mix a a', .base b => .mix (o.add a b) a'
    | .mix a a', .mix b b' => .mix (o.add a b) (o.add a' b')
  sub
    | .base a, .base b => .base (o.sub a b)
    | .base a, .mix b b' => .mix (o.sub a b) (o.sub (o.ofNat 0) b')
    | .mix a a', .base b => .mix (o.sub a b) a'
    | .mix a a', .mix b b' => .mix (o.sub a b) (o.sub a' b')
  mul
    | .base a, .base b => .base (o.mul a b)
    | .base a, .mix b b' => .mix (o.mul a b) (o.mul a b')
    | .mix a a', .base b => .mix (o.mul a b) (o.mul a' b)
    | .mix a a', .mix b b' =>
      .mix (o.add (o.mul a b) (o.mul (o.mul a' b') D)) (o.add (o.mul a b') (o.mul a' b))
  ofNat k := .base (o.ofNat k)

/-- `evalPair` with the variables and the constants as `base` -/
def evalQuad (o : Ops α) (env : Nat → α) (e De : Ex) : Quad α :=
  eval (quadOps o (eval o env (o.ofNat 0) De)) (fun i => .base (env i))
    (.mix (o.ofNat 0) (o.ofNat 1)) e

/-- a value depending on a parameter.  A structure, not a bare function: the kernel reduces `f.run i`
    through the weak head normal form of the closed term `f`, which it keeps, so that a term evaluated
    in `fnOps o` is traversed once, whatever the number of parameters `i` at which it is then run. -/
structure Fn (ι α : Type) where
  run : ι → α

def fnOps {ι : Type} (o : Ops α) : Ops (Fn ι α) where
  add f g := ⟨fun i => o.add (f.run i) (g.run i)⟩
  sub f g := ⟨fun i => o.sub (f.run i) (g.run i)⟩
  mul f g := ⟨fun i => o.mul (f.run i) (g.run i)⟩
  ofNat k := ⟨fun _ => o.ofNat k⟩

theorem fnOps_rel {ι : Type} (h : OpsRel o o' R) (i : ι) :
    OpsRel (fnOps o) o' (fun f b => R (f.run i) b) where
  add ha hb := h.add ha hb
  sub ha hb := h.sub ha hb
  mul ha hb := h.mul ha hb
  ofNat k := h.ofNat k

end generic

section ring
variable {A B : Type} [CommRing A] [CommRing B]

/-- the operations of a commutative ring, with a chosen image of the numerals -/
def ringOps (ι : Nat → A) : Ops A := ⟨(· + ·), (· - ·), (· * ·), ι⟩

/-- a ring homomorphism compatible with the numerals -/
theorem ringOps_hom (φ : A →+* B) {ι : Nat → A} {ι' : Nat → B} (hι : ∀ k, φ (ι k) = ι' k) :
    OpsRel (ringOps ι) (ringOps ι') (fun a b => φ a = b) where
  add ha hb := by subst ha hb; exact map_add φ _ _
  sub ha hb := by subst ha hb; exact map_sub φ _ _
  mul ha hb := by subst ha hb; exact map_mul φ _ _
  ofNat := hι

/-- the pair `(u, v)` denotes `u + v·p₀` when `p₀² = D` -/
theorem pair_scalar {ι : Nat → A} (h0 : ι 0 = 0) {D p₀ : A} (hp : p₀ * p₀ = D) :
    OpsRel (pairOps (ringOps ι) D) (ringOps ι) (fun a r => r = a.1 + a.2 * p₀) where
  add ha hb := by
    subst ha hb; show _ + _ = (_ + _) + (_ + _) * p₀; ring
  sub ha hb := by
    subst ha hb; show _ - _ = (_ - _) + (_ - _) * p₀; ring
  mul {a _ b _} ha hb := by
    subst ha hb
    show (a.1 + a.2 * p₀) * (b.1 + b.2 * p₀) = (a.1 * b.1 + a.2 * b.2 * D) + (a.1 * b.2 + a.2 * b.1) * p₀
    rw [← hp]; ring
  ofNat k := by show ι k = ι k + ι 0 * p₀; rw [h0]; ring

/-- the value of `e` is `u + v·p₀`, `(u, v)` its components in the quadratic algebra -/
theorem eval_eq_pair {ι : Nat → A} (h0 : ι 0 = 0) (h1 : ι 1 = 1) (env : Nat → A) (e De : Ex) (p₀ : A)
    (hp : p₀ * p₀ = eval (ringOps ι) env 0 De) :
    eval (ringOps ι) env p₀ e =
      (evalPair (ringOps ι) env e De).1 + (evalPair (ringOps ι) env e De).2 * p₀ := by
  have hp' : p₀ * p₀ = eval (ringOps ι) env ((ringOps ι).ofNat 0) De := by
    rw [hp]; show _ = eval (ringOps ι) env (ι 0) De; rw [h0]
  refine eval_rel (pair_scalar h0 hp') (fun i => ?_) ?_ e
  · show env i = env i + ι 0 * p₀; rw [h0]; ring
  · show p₀ = ι 0 + ι 1 * p₀; rw [h0, h1]; ring

variable {α : Type}

/-- `base x` denotes `(x, 0)`, `mix x y` denotes `(x, y)` -/
def QuadRel (R : α → B → Prop) : Quad α → B × B → Prop
  | .base x, b => R x b.1 ∧ b.2 = 0
  | .mix x y, b => R x b.1 ∧ R y b.2

theorem quadOps_rel {o : Ops α} {ι : Nat → B} {R : α → B → Prop} (h : OpsRel o (ringOps ι) R)
    (h0 : ι 0 = 0) {D : α} {D' : B} (hD : R D D') :
    OpsRel (quadOps o D) (pairOps (ringOps ι) D') (QuadRel R) where
  add {u a v b} hu hv := by
    cases u <;> cases v
    · exact ⟨h.add hu.1 hv.1, show a.2 + b.2 = 0 by rw [hu.2, hv.2, add_zero]⟩
    · refine ⟨h.add hu.1 hv.1, ?_⟩
      show R _ (a.2 + b.2)
      rw [hu.2, zero_add]; exact hv.2
    · refine ⟨h.add hu.1 hv.1, ?_⟩
      show R _ (a.2 + b.2)
      rw [hv.2, add_zero]; exact hu.2
    · exact ⟨h.add hu.1 hv.1, h.add hu.2 hv.2⟩
  sub {u a v b} hu hv := by
    cases u <;> cases v
    · exact ⟨h.sub hu.1 hv.1, show a.2 - b.2 = 0 by rw [hu.2, hv.2, sub_zero]⟩
    · refine ⟨h.sub hu.1 hv.1, ?_⟩
      show R _ (a.2 - b.2)
      rw [hu.2, ← h0]; exact h.sub (h.ofNat 0) hv.2
    · refine ⟨h.sub hu.1 hv.1, ?_⟩
      show R _ (a.2 - b.2)
      rw [hv.2, sub_zero]; exact hu.2
    · exact ⟨h.sub hu.1 hv.1, h.sub hu.2 hv.2⟩
  mul {u a v b} hu hv := by
    cases u <;> cases v
    · refine ⟨?_, show a.1 * b.2 + a.2 * b.1 = 0 by rw [hu.2, hv.2]; ring⟩
      show R _ (a.1 * b.1 + a.2 * b.2 * D')
      rw [hu.2, zero_mul, zero_mul, add_zero]; exact h.mul hu.1 hv.1
    · refine ⟨?_, ?_⟩
      · show R _ (a.1 * b.1 + a.2 * b.2 * D')
        rw [hu.2, zero_mul, zero_mul, add_zero]; exact h.mul hu.1 hv.1
      · show R _ (a.1 * b.2 + a.2 * b.1)
        rw [hu.2, zero_mul, add_zero]; exact h.mul hu.1 hv.2
    · refine ⟨?_, ?_⟩
      · show R _ (a.1 * b.1 + a.2 * b.2 * D')
        rw [hv.2, mul_zero, zero_mul, add_zero]; exact h.mul hu.1 hv.1
      · show R _ (a.1 * b.2 + a.2 * b.1)
        rw [hv.2, mul_zero, zero_add]; exact h.mul hu.2 hv.1
    · exact ⟨h.add (h.mul hu.1 hv.1) (h.mul (h.mul hu.2 hv.2) hD),
        h.add (h.mul hu.1 hv.2) (h.mul hu.2 hv.1)⟩
  ofNat k := ⟨h.ofNat k, h0⟩

theorem evalQuad_rel {o : Ops α} {ι : Nat → B} {R : α → B → Prop} (h : OpsRel o (ringOps ι) R)
    (h0 : ι 0 = 0) {env : Nat → α} {env' : Nat → B} (henv : ∀ i, R (env i) (env' i)) (e De : Ex) :
    QuadRel R (evalQuad o env e De) (evalPair (ringOps ι) env' e De) :=
  eval_rel (quadOps_rel h h0 (eval_rel h henv (h.ofNat 0) De))
    (env := fun i => .base (env i)) (env' := fun i => (env' i, ι 0)) (fun i => And.intro (henv i) h0)
    (p := .mix (o.ofNat 0) (o.ofNat 1)) (p' := (ι 0, ι 1)) (And.intro (h.ofNat 0) (h.ofNat 1)) e

end ring

section poly
variable {K : Type} [Field K]

/-- degree bounds: `none` for the zero polynomial -/
def toWB : Option Nat → WithBot ℕ
  | none => ⊥
  | some a => (a : WithBot ℕ)

def oadd : Option Nat → Option Nat → Option Nat
  | some a, some b => some (a + b)
  | _, _ => none

def omax : Option Nat → Option Nat → Option Nat
  | none, b => b
  | a, none => a
  | some a, some b => some (max a b)

/-- `d < n` (and `0 < n`) -/
def olt : Option Nat → Nat → Bool
  | none, n => decide (0 < n)
  | some a, n => decide (a < n)

theorem toWB_oadd (a b : Option Nat) : toWB (oadd a b) = toWB a + toWB b := by
  cases a <;> cases b <;> simp [toWB, oadd]

theorem toWB_omax (a b : Option Nat) : toWB (omax a b) = max (toWB a) (toWB b) := by
  cases a with
  | none => simp [toWB, omax]
  | some a =>
    cases b with
    | none => simp [toWB, omax]
    | some b => exact WithBot.coe_max a b

theorem natDegree_lt_of_olt {R : Type} [Semiring R] {p : R[X]} {d : Option Nat} {n : Nat} (h : p.degree ≤ toWB d)
    (hlt : olt d n = true) : p.natDegree < n := by
  cases d with
  | none =>
    have : p = 0 := by
      apply degree_eq_bot.mp
      exact le_bot_iff.mp h
    subst this
    simpa [olt] using hlt
  | some a =>
    have h1 : p.natDegree ≤ a := natDegree_le_of_degree_le h
    have h2 : a < n := by simpa [olt] using hlt
    exact lt_of_le_of_lt h1 h2

/-- bounds `(m, n)`: degree `≤ m` in the outer variable `Y`, `≤ n` in the inner variable `X` -/
def DegLe (P : K[X][Y]) (d : Option Nat × Option Nat) : Prop :=
  P.degree ≤ toWB d.1 ∧ ∀ i, (P.coeff i).degree ≤ toWB d.2

def degOps : Ops (Option Nat × Option Nat) where
  add a b := (omax a.1 b.1, omax a.2 b.2)
  sub a b := (omax a.1 b.1, omax a.2 b.2)
  mul a b := (oadd a.1 b.1, oadd a.2 b.2)
  ofNat k := if k = 0 then (none, none) else (some 0, some 0)

theorem degLe_rel (ι : Nat → K) (h0 : ι 0 = 0) :
    OpsRel (ringOps (fun k => (C (C (ι k)) : K[X][Y]))) degOps DegLe where
  add {P d Q d'} hP hQ := by
    refine ⟨?_, fun i => ?_⟩
    · show (P + Q).degree ≤ toWB (omax d.1 d'.1)
      rw [toWB_omax]
      exact (degree_add_le _ _).trans (max_le_max hP.1 hQ.1)
    · show ((P + Q).coeff i).degree ≤ toWB (omax d.2 d'.2)
      rw [coeff_add, toWB_omax]
      exact (degree_add_le _ _).trans (max_le_max (hP.2 i) (hQ.2 i))
  sub {P d Q d'} hP hQ := by
    refine ⟨?_, fun i => ?_⟩
    · show (P - Q).degree ≤ toWB (omax d.1 d'.1)
      rw [toWB_omax]
      exact (degree_sub_le _ _).trans (max_le_max hP.1 hQ.1)
    · show ((P - Q).coeff i).degree ≤ toWB (omax d.2 d'.2)
      rw [coeff_sub, toWB_omax]
      exact (degree_sub_le _ _).trans (max_le_max (hP.2 i) (hQ.2 i))
  mul {P d Q d'} hP hQ := by
    refine ⟨?_, fun i => ?_⟩
    · show (P * Q).degree ≤ toWB (oadd d.1 d'.1)
      rw [toWB_oadd]
      exact (degree_mul_le _ _).trans (add_le_add hP.1 hQ.1)
    · show ((P * Q).coeff i).degree ≤ toWB (oadd d.2 d'.2)
      rw [coeff_mul, toWB_oadd]
      refine (degree_sum_le _ _).trans (Finset.sup_le fun x _ => ?_)
      exact (degree_mul_le _ _).trans (add_le_add (hP.2 _) (hQ.2 _))
  ofNat k := by
    show DegLe (C (C (ι k))) (if k = 0 then (none, none) else (some 0, some 0))
    split
    · next hk =>
      subst hk
      rw [h0]
      exact ⟨by simp [toWB], fun i => by simp [toWB]⟩
    · refine ⟨degree_C_le, fun i => ?_⟩
      rw [coeff_C]
      split
      · exact degree_C_le
      · simp [toWB]

/-- a bivariate polynomial of degree `< |T|` in `Y` and `< |S|` in `X` that vanishes on `S × T` is
    zero -/
theorem eq_zero_of_grid (P : K[X][Y]) (S T : Finset K) (hT : P.natDegree < T.card)
    (hS : ∀ i, (P.coeff i).natDegree < S.card)
    (h : ∀ a ∈ S, ∀ b ∈ T, P.evalEval a b = 0) : P = 0 := by
  have hrow : ∀ a ∈ S, P.map (evalRingHom a) = 0 := by
    intro a ha
    apply eq_zero_of_natDegree_lt_card_of_eval_eq_zero' _ T
    · intro b hb
      rw [map_evalRingHom_eval]
      exact h a ha b hb
    · exact lt_of_le_of_lt natDegree_map_le hT
  ext1 i
  rw [coeff_zero]
  apply eq_zero_of_natDegree_lt_card_of_eval_eq_zero' _ S
  · intro a ha
    have := congrArg (fun Q => Q.coeff i) (hrow a ha)
    simpa [coeff_map] using this
  · exact hS i

end poly

/-- the field, with `k ↦ Zp.ofNat k` -/
def fqOps : Ops Fq := ringOps (fun k => (Zp.ofNat k : Fq))

/-- arithmetic on representatives `< q`, with the kernel's accelerated `Nat` primitives -/
def natOps (q : Nat) : Ops Nat where
  add a b := Nat.mod (Nat.add a b) q
  sub a b := Nat.mod (Nat.add a (Nat.sub q b)) q
  mul a b := Nat.mod (Nat.mul a b) q
  ofNat k := Nat.mod k q

theorem natOps_rel : OpsRel (natOps Gen.q) fqOps (fun n (a : Fq) => a.v = n) where
  add ha hb := by subst ha hb; rfl
  sub ha hb := by subst ha hb; rfl
  mul ha hb := by subst ha hb; rfl
  ofNat _ := rfl

noncomputable def polyOps : Ops Fq[X][Y] := ringOps (fun k => C (C (Zp.ofNat k : Fq)))

/-! ### environments: `var 0 = x₁`, `var 1 = x₂`, and shared univariate sub-expressions

`var (2 + 2i)` is `defs[i]` evaluated at `x₁` (its `var 0`), `var (3 + 2i)` is `defs[i]` at `x₂`. -/

section ext
variable {α β : Type}

/-- a univariate `p`-free expression at `x` -/
def evalU (o : Ops α) (x : α) (d : Ex) : α := eval o (fun _ => x) (o.ofNat 0) d

def extEnv (o : Ops α) (x₁ x₂ : α) (defs : List Ex) : Nat → α
  | 0 => x₁
  | 1 => x₂
  | i + 2 =>
    match defs[i / 2]? with
    | some d => if i % 2 = 0 then evalU o x₁ d else evalU o x₂ d
    | none => o.ofNat 0

theorem extEnv_rel {o : Ops α} {o' : Ops β} {R : α → β → Prop} (h : OpsRel o o' R) {x₁ x₂ : α}
    {x₁' x₂' : β} (h₁ : R x₁ x₁') (h₂ : R x₂ x₂') (defs : List Ex) (i : Nat) :
    R (extEnv o x₁ x₂ defs i) (extEnv o' x₁' x₂' defs i) := by
  match i with
  | 0 => exact h₁
  | 1 => exact h₂
  | i + 2 =>
    show R (match defs[i / 2]? with
        | some d => if i % 2 = 0 then evalU o x₁ d else evalU o x₂ d
        | none => o.ofNat 0)
      (match defs[i / 2]? with
        | some d => if i % 2 = 0 then evalU o' x₁' d else evalU o' x₂' d
        | none => o'.ofNat 0)
    cases defs[i / 2]? with
    | none => exact h.ofNat 0
    | some d =>
      dsimp only
      by_cases hi : i % 2 = 0
      · rw [if_pos hi, if_pos hi]
        exact eval_rel h (fun _ => h₁) (h.ofNat 0) d
      · rw [if_neg hi, if_neg hi]
        exact eval_rel h (fun _ => h₂) (h.ofNat 0) d

end ext

noncomputable def envPoly (defs : List Ex) : Nat → Fq[X][Y] := extEnv polyOps (C X) Y defs

def envFq (defs : List Ex) (x₁ x₂ : Fq) : Nat → Fq := extEnv fqOps x₁ x₂ defs

def envNat (defs : List Ex) (a b : Nat) : Nat → Nat :=
  extEnv (natOps Gen.q) (Nat.mod a Gen.q) (Nat.mod b Gen.q) defs

def envDeg (defs : List Ex) : Nat → Option Nat × Option Nat :=
  extEnv degOps (some 0, some 1) (some 1, some 0) defs

theorem polyOps_evalEval (x₁ x₂ : Fq) :
    OpsRel polyOps fqOps (fun P a => evalEvalRingHom x₁ x₂ P = a) :=
  ringOps_hom (evalEvalRingHom x₁ x₂) (fun k => by simp)

theorem envPoly_evalEval (defs : List Ex) (x₁ x₂ : Fq) (i : Nat) :
    evalEvalRingHom x₁ x₂ (envPoly defs i) = envFq defs x₁ x₂ i :=
  extEnv_rel (polyOps_evalEval x₁ x₂) (by simp) (by simp) defs i

theorem envPoly_deg (defs : List Ex) (i : Nat) : DegLe (envPoly defs i) (envDeg defs i) := by
  refine extEnv_rel (degLe_rel (fun k => (Zp.ofNat k : Fq)) rfl) ?_ ?_ defs i
  · refine ⟨degree_C_le, fun j => ?_⟩
    show ((C X : Fq[X][Y]).coeff j).degree ≤ ((1 : ℕ) : WithBot ℕ)
    rw [coeff_C]
    split
    · exact degree_X_le
    · simp
  · refine ⟨degree_X_le, fun j => ?_⟩
    show ((X : Fq[X][Y]).coeff j).degree ≤ ((0 : ℕ) : WithBot ℕ)
    rw [coeff_X]
    split
    · exact degree_one_le
    · simp

theorem envNat_fq (defs : List Ex) (a b : Nat) (i : Nat) :
    (envFq defs (Zp.ofNat a) (Zp.ofNat b) i).v = envNat defs a b i :=
  extEnv_rel natOps_rel rfl rfl defs i

/-- the two components, run at the parameter `i`, are `0` -/
def Quad.vanishes {ι : Type} (i : ι) : Quad (Fn ι Nat) → Bool
  | .base u => Nat.beq (u.run i) 0
  | .mix u v => Nat.beq (u.run i) 0 && Nat.beq (v.run i) 0

/-- the grid check that the kernel runs: the components of `e` as functions of the environment, at
    the environments of the points `(a, b)`, `a ∈ S`, `b ∈ T a` -/
def gridCheck (defs : List Ex) (e De : Ex) (S : List Nat) (T : Nat → List Nat) : Bool :=
  S.all fun a => (T a).all fun b =>
    (evalQuad (fnOps (natOps Gen.q)) (fun k => ⟨fun i => i k⟩) e De).vanishes (envNat defs a b)

theorem gridCheck_sound {defs : List Ex} {e De : Ex} {S : List Nat} {T : Nat → List Nat}
    (h : gridCheck defs e De S T = true) {a b : Nat} (ha : a ∈ S) (hb : b ∈ T a) :
    evalPair fqOps (envFq defs (Zp.ofNat a) (Zp.ofNat b)) e De = (0, 0) := by
  have hv := List.all_eq_true.mp (List.all_eq_true.mp h a ha) b hb
  have hr := evalQuad_rel (fnOps_rel natOps_rel (envNat defs a b)) rfl
    (env := fun k => ⟨fun i => i k⟩) (envNat_fq defs a b) e De
  revert hv hr
  generalize evalQuad _ _ e De = V
  intro hv hr
  cases V with
  | base u =>
    exact Prod.ext ((Zp.eq_zero_iff _).mpr (hr.1.trans (Nat.eq_of_beq_eq_true hv))) hr.2
  | mix u v =>
    have hv' := (Bool.and_eq_true _ _).mp hv
    exact Prod.ext ((Zp.eq_zero_iff _).mpr (hr.1.trans (Nat.eq_of_beq_eq_true hv'.1)))
      ((Zp.eq_zero_iff _).mpr (hr.2.trans (Nat.eq_of_beq_eq_true hv'.2)))

/-- the whole grid `{0..s-1} × {0..t-1}` -/
theorem grid_full {defs : List Ex} {e De : Ex} {s t : Nat}
    (h : gridCheck defs e De (List.range s) (fun _ => List.range t) = true) :
    ∀ i < s, ∀ j < t, evalPair fqOps (envFq defs (Zp.ofNat i) (Zp.ofNat j)) e De = (0, 0) :=
  fun _ hi _ hj => gridCheck_sound h (List.mem_range.mpr hi) (List.mem_range.mpr hj)

/-- the triangle `j ≤ i < s` -/
theorem grid_triangle {defs : List Ex} {e De : Ex} {s : Nat}
    (h : gridCheck defs e De (List.range s) (fun a => List.range (a + 1)) = true) :
    ∀ i < s, ∀ j ≤ i, evalPair fqOps (envFq defs (Zp.ofNat i) (Zp.ofNat j)) e De = (0, 0) :=
  fun _ hi _ hj => gridCheck_sound h (List.mem_range.mpr hi) (List.mem_range.mpr (Nat.lt_succ_of_le hj))

def degCheck (defs : List Ex) (e De : Ex) (s t : Nat) : Bool :=
  let d := evalPair degOps (envDeg defs) e De
  olt d.1.1 t && olt d.2.1 t && olt d.1.2 s && olt d.2.2 s

theorem ofNat_injOn_lt {a b : Nat} (ha : a < Gen.q) (hb : b < Gen.q)
    (h : (Zp.ofNat a : Fq) = Zp.ofNat b) : a = b := by
  have := congrArg Zp.v h
  rwa [Zp.ofNat_v, Zp.ofNat_v, Nat.mod_eq_of_lt ha, Nat.mod_eq_of_lt hb] at this

/-- the image of the grid in `Fq` -/
def gridFin (n : Nat) : Finset Fq := (Finset.range n).image (fun k => (Zp.ofNat k : Fq))

theorem gridFin_card {n : Nat} (hn : n ≤ Gen.q) : (gridFin n).card = n := by
  unfold gridFin
  rw [Finset.card_image_of_injOn, Finset.card_range]
  intro a ha b hb h
  exact ofNat_injOn_lt (lt_of_lt_of_le (Finset.mem_range.mp ha) hn)
    (lt_of_lt_of_le (Finset.mem_range.mp hb) hn) h

/-- an identity from its grid: if the degree bounds of the two components of `e` are below `s` in
    `x₁` and `t` in `x₂` (`hdeg`) and both components vanish on the `s × t` grid (`hgrid`), then `e`
    evaluates to `0` at every `(x₁, x₂, p₀)` with `p₀² = De(x₁, x₂)` -/
theorem eval_eq_zero_of_grid (defs : List Ex) (e De : Ex) (s t : Nat) (hs : s ≤ Gen.q) (ht : t ≤ Gen.q)
    (hdeg : degCheck defs e De s t = true)
    (hgrid : ∀ i < s, ∀ j < t,
      evalPair fqOps (envFq defs (Zp.ofNat i) (Zp.ofNat j)) e De = (0, 0))
    (x₁ x₂ p₀ : Fq) (hp : p₀ * p₀ = eval fqOps (envFq defs x₁ x₂) 0 De) :
    eval fqOps (envFq defs x₁ x₂) p₀ e = 0 := by
  -- the two polynomial components
  obtain ⟨hd1, hd2⟩ := evalPair_rel (degLe_rel (fun k => (Zp.ofNat k : Fq)) rfl) (envPoly_deg defs) e De
  unfold degCheck at hdeg
  simp only [Bool.and_eq_true] at hdeg
  obtain ⟨⟨⟨ht1, ht2⟩, hs1⟩, hs2⟩ := hdeg
  -- vanishing on the grid
  have hvan : ∀ a ∈ gridFin s, ∀ b ∈ gridFin t,
      (evalPair polyOps (envPoly defs) e De).1.evalEval a b = 0 ∧
      (evalPair polyOps (envPoly defs) e De).2.evalEval a b = 0 := by
    intro a ha b hb
    obtain ⟨i, hi, rfl⟩ := Finset.mem_image.mp ha
    obtain ⟨j, hj, rfl⟩ := Finset.mem_image.mp hb
    obtain ⟨q1, q2⟩ := evalPair_rel (polyOps_evalEval (Zp.ofNat i) (Zp.ofNat j))
      (envPoly_evalEval defs (Zp.ofNat i) (Zp.ofNat j)) e De
    rw [coe_evalEvalRingHom, hgrid i (Finset.mem_range.mp hi) j (Finset.mem_range.mp hj)] at q1 q2
    exact ⟨q1, q2⟩
  have cs := gridFin_card hs
  have ct := gridFin_card ht
  have z1 : (evalPair polyOps (envPoly defs) e De).1 = 0 :=
    eq_zero_of_grid _ (gridFin s) (gridFin t) (by rw [ct]; exact natDegree_lt_of_olt hd1.1 ht1)
      (fun i => by rw [cs]; exact natDegree_lt_of_olt (hd1.2 i) hs1)
      (fun a ha b hb => (hvan a ha b hb).1)
  have z2 : (evalPair polyOps (envPoly defs) e De).2 = 0 :=
    eq_zero_of_grid _ (gridFin s) (gridFin t) (by rw [ct]; exact natDegree_lt_of_olt hd2.1 ht2)
      (fun i => by rw [cs]; exact natDegree_lt_of_olt (hd2.2 i) hs2)
      (fun a ha b hb => (hvan a ha b hb).2)
  -- specialise at `(x₁, x₂)`
  obtain ⟨q1, q2⟩ := evalPair_rel (polyOps_evalEval x₁ x₂) (envPoly_evalEval defs x₁ x₂) e De
  rw [z1, map_zero] at q1
  rw [z2, map_zero] at q2
  have h0 : (Zp.ofNat 0 : Fq) = 0 := rfl
  have h1 : (Zp.ofNat 1 : Fq) = 1 := rfl
  have := eval_eq_pair (ι := fun k => (Zp.ofNat k : Fq)) h0 h1 (envFq defs x₁ x₂) e De p₀ hp
  show eval (ringOps _) _ _ _ = 0
  rw [this]
  show (evalPair fqOps _ _ _).1 + (evalPair fqOps _ _ _).2 * p₀ = 0
  rw [← q1, ← q2]; ring

open IsoPoly

theorem powG_fq (x : Fq) (k : Nat) : powG fqOps x k = x ^ k := by
  induction k with
  | zero => show (Zp.ofNat 1 : Fq) = _; rw [pow_zero]; rfl
  | succ k ih => show x * powG fqOps x k = _; rw [ih, pow_succ]; ring

theorem polG_fq (x : Fq) (cs : List Nat) : polG fqOps x cs = evalP (cs.map Zp.ofNat) x := by
  induction cs with
  | nil => rfl
  | cons c cs ih =>
    show Zp.ofNat c + x * polG fqOps x cs = _
    rw [ih]; rfl

theorem hevAux_fq (n d : Fq) (cs : List Nat) :
    hevAux fqOps n d cs = (hEval (cs.map Zp.ofNat) n d, d ^ cs.length) := by
  induction cs with
  | nil => show ((Zp.ofNat 0 : Fq), (Zp.ofNat 1 : Fq)) = _; simp; exact ⟨rfl, rfl⟩
  | cons c cs ih =>
    show (Zp.ofNat c * (hevAux fqOps n d cs).2 + n * (hevAux fqOps n d cs).1,
      (hevAux fqOps n d cs).2 * d) = _
    rw [ih]
    simp only [List.map_cons, hEval_cons, List.length_map, List.length_cons, pow_succ]

end IsoHom11
end PP
