/-
C16, homomorphism law of the 11-isogeny, layer 1: the rational-function identities over `Fq`, with
denominators cleared, as statements about `IsoPoly.evalP` / `IsoPoly.hEval` of the coefficient tables
of `isogeny/g1.rs`.  Each is obtained from `IsoHom11.eval_eq_zero_of_grid` (evaluation on a grid, run by the kernel
on canonical representatives; degree bounds computed on the same term) applied to the terms of
`PP/Proofs/IsoHom11Ast.lean`.  The two components of the chord identity are symmetric polynomials in
`x₁, x₂`, so on its 56 × 56 grid the kernel evaluates the points `(i, j)` with `j ≤ i` only.

Notation: `fq x = x³ + A'x + B'`, `K = iso11Ker`, `XN, XD, YN, YD` the four tables, `hEval cs n d =
d^deg · cs(n/d)`, `tq k, sq' k` the coordinates of the kernel points `k·T` (`k = 1..5`).

* `ker_factor` : `K(x) = Π (x − tₖ)`;                `iso_id` : `f·YN² = XN³ + 4K⁶`;
* `tan_id`     : abscissa of `φ(2P)` vs `2φ(P)`;      `chord_id` : abscissa of `φ(P₁+P₂)` vs `φP₁+φP₂`;
* `norm_id`    : `Kh(x(P₁+P₂))·Kh(x(P₁−P₂))·(x₁−x₂) = 121 (x₁−x₂)^10 (XN₁K₂² − XN₂K₁²)`;
* `tix_id`, `tiy_id` : the two coordinates of `φ(P + T) = φ(P)`, `T = (t₁, s₁)`.
-/
import Mathlib.Tactic.LinearCombination
import PP.Proofs.IsoHom11Ast

namespace PP
namespace IsoHom11

open IsoPoly Iso

theorem fqOps_add (a b : Fq) : fqOps.add a b = a + b := rfl
theorem fqOps_sub (a b : Fq) : fqOps.sub a b = a - b := rfl
theorem fqOps_mul (a b : Fq) : fqOps.mul a b = a * b := rfl
theorem fqOps_ofNat (k : Nat) : fqOps.ofNat k = Zp.ofNat k := rfl

theorem ofNat_cast (n : Nat) : (Zp.ofNat n : Fq) = (n : Fq) := rfl
theorem ofNat_mul (a b : Nat) : (Zp.ofNat (a * b) : Fq) = Zp.ofNat a * Zp.ofNat b := by
  simp only [ofNat_cast]; exact Nat.cast_mul a b
theorem ofNat_lit (n : Nat) [n.AtLeastTwo] : (Zp.ofNat n : Fq) = OfNat.ofNat n := by
  rw [ofNat_cast]; exact Nat.cast_ofNat
theorem ofNat_zero : (Zp.ofNat 0 : Fq) = 0 := rfl
theorem ofNat_one : (Zp.ofNat 1 : Fq) = 1 := rfl

/-- right-hand side of `E₁'` -/
def fq (x : Fq) : Fq := x ^ 3 + g1EllpA * x + g1EllpB

theorem evalP_f (x : Fq) : evalP ([bN, aN, 0, 1].map Zp.ofNat) x = fq x := by
  unfold fq
  rw [aN_eq, bN_eq]
  simp only [List.map_cons, List.map_nil, evalP_cons, evalP_nil]
  rw [ofNat_zero, ofNat_one]; ring

theorem env0 (x₁ x₂ : Fq) : envFq defs x₁ x₂ 0 = x₁ := rfl
theorem env1 (x₁ x₂ : Fq) : envFq defs x₁ x₂ 1 = x₂ := rfl
theorem env2 (x₁ x₂ : Fq) : envFq defs x₁ x₂ 2 = fq x₁ := by
  show polG fqOps x₁ [bN, aN, 0, 1] = _
  rw [polG_fq, evalP_f]
theorem env3 (x₁ x₂ : Fq) : envFq defs x₁ x₂ 3 = fq x₂ := by
  show polG fqOps x₂ [bN, aN, 0, 1] = _
  rw [polG_fq, evalP_f]
theorem env4 (x₁ x₂ : Fq) : envFq defs x₁ x₂ 4 = evalP iso11Ker x₁ := by
  show polG fqOps x₁ kerN = _
  rw [polG_fq, kerN_eq]
theorem env5 (x₁ x₂ : Fq) : envFq defs x₁ x₂ 5 = evalP iso11Ker x₂ := by
  show polG fqOps x₂ kerN = _
  rw [polG_fq, kerN_eq]
theorem env6 (x₁ x₂ : Fq) : envFq defs x₁ x₂ 6 = evalP iso11XNum x₁ := by
  show polG fqOps x₁ xnN = _
  rw [polG_fq, xnN_eq]
theorem env7 (x₁ x₂ : Fq) : envFq defs x₁ x₂ 7 = evalP iso11XNum x₂ := by
  show polG fqOps x₂ xnN = _
  rw [polG_fq, xnN_eq]
theorem env8 (x₁ x₂ : Fq) : envFq defs x₁ x₂ 8 = evalP iso11YNum x₁ := by
  show polG fqOps x₁ ynN = _
  rw [polG_fq, ynN_eq]
theorem env9 (x₁ x₂ : Fq) : envFq defs x₁ x₂ 9 = evalP iso11YNum x₂ := by
  show polG fqOps x₂ ynN = _
  rw [polG_fq, ynN_eq]

/-- coordinates of the kernel points `k·T` -/
def tq (k : Nat) : Fq := Zp.ofNat (tN k)
def sq' (k : Nat) : Fq := Zp.ofNat (sN k)

-- `iso11_unfold` has one list for all the terms, so each call leaves some entries unused
set_option linter.unusedSimpArgs false

/-- unfold `eval fqOps (envFq defs x₁ x₂) p e` for the terms of `IsoHom11Ast` -/
macro "iso11_unfold" " at " h:ident : tactic => `(tactic|
  simp only [chordE, chordNum, chordDen, normE, chordN, chordN', chordS, chordDd, chordD, gt, tanE, tanN,
    tanD, isoE, kerE, tixE, tiyE, tiM, tiN, tiD, x1, x2, f1, f2, k1, k2, xn1, xn2, yn1, yn2,
    eval, env0, env1, env2, env3, env4, env5, env6, env7, env8, env9, powG_fq, hevAux_fq,
    fqOps_add, fqOps_sub, fqOps_mul, fqOps_ofNat, ← kerN_eq, ← xnN_eq, ← xdN_eq, ← ynN_eq, ← ydN_eq,
    ← aN_eq, ← bN_eq, ofNat_mul, ofNat_lit, ofNat_zero, ofNat_one] at $h:ident)

/-- the grid sides (at most 85) are below `q`, so the grid points are distinct in `Fq` -/
theorem q_ge (n : Nat) (h : n ≤ 100 := by decide) : n ≤ Gen.q :=
  h.trans (by decide)

/- In a call `eval_eq_zero_of_grid defs e De s t _ _ hdeg hgrid x₁ x₂ p hp` the term `e` is a polynomial in `x₁`,
`x₂` and a square root `p` of the term `De`, with two components `e = e₀ + e₁·p`.  The first
`decide +kernel` is `hdeg`: the degree bounds that `degOps` computes from the term for both
components are `< s` in `x₁` and `< t` in `x₂`.  The second is `hgrid`: both components vanish at
the `s·t` points `(i, j)`, `i < s`, `j < t`.  So `s` and `t` are the degree bounds plus one:
`6 = deg K + 1`, `34 = deg (f·YN²) + 1 = 3 + 2·15 + 1`, and 85, 22, 56, 34, 50 in the same way from
`tanE`, `normE`, `chordE`, `tixE`, `tiyE`.  An identity in one variable has `t = 1` and `x₂ = 0`; one
without a square root has `De = 0` and `p = 0`.  The result `h` says that the term evaluates to `0`;
`iso11_unfold at h` turns that evaluation into the expression in `evalP`, `hEval`, `fq` it denotes, and
`linear_combination h` only rearranges it into the stated form. -/

/-- `K(x) = Π (x − tₖ)` -/
theorem ker_factor (x : Fq) :
    evalP iso11Ker x = (x - tq 1) * (x - tq 2) * (x - tq 3) * (x - tq 4) * (x - tq 5) := by
  have h := eval_eq_zero_of_grid defs kerE (.c 0) 6 1 (q_ge 6) (q_ge 1) (by decide +kernel)
    (grid_full (by decide +kernel)) x 0 0 (mul_zero 0)
  iso11_unfold at h
  unfold tq
  linear_combination h

/-- the isogeny identity with `XD = K²`, `YD = K³` divided out: `f·YN² = XN³ + 4K⁶` -/
theorem iso_id (x : Fq) :
    fq x * evalP iso11YNum x ^ 2 = evalP iso11XNum x ^ 3 + 4 * evalP iso11Ker x ^ 6 := by
  have h := eval_eq_zero_of_grid defs isoE (.c 0) 34 1 (q_ge 34) (q_ge 1) (by decide +kernel)
    (grid_full (by decide +kernel)) x 0 0 (mul_zero 0)
  iso11_unfold at h
  linear_combination h

/-- numerator of the abscissa of `2P` (denominator `4f`) -/
def tanNF (x : Fq) : Fq := (3 * x ^ 2 + g1EllpA) ^ 2 - 8 * x * fq x

theorem tan_id (x : Fq) :
    hEval iso11XNum (tanNF x) (4 * fq x) * (evalP iso11YNum x ^ 2 * evalP iso11Ker x ^ 2) =
      hEval iso11XDen (tanNF x) (4 * fq x) *
        (9 * evalP iso11XNum x ^ 4 - 8 * fq x * evalP iso11YNum x ^ 2 * evalP iso11XNum x) := by
  have h := eval_eq_zero_of_grid defs tanE (.c 0) 85 1 (q_ge 85) (q_ge 1) (by decide +kernel)
    (grid_full (by decide +kernel)) x 0 0 (mul_zero 0)
  iso11_unfold at h
  unfold tanNF
  linear_combination h

/-- `(x₁+x₂)(x₁x₂+A') + 2B'`: half the sum of the numerators of `x(P₁ ± P₂)` -/
def chordSF (x₁ x₂ : Fq) : Fq := (x₁ + x₂) * (x₁ * x₂ + g1EllpA) + 2 * g1EllpB

/-- `XN₁K₂² − XN₂K₁²`: the numerator of `X(x₁) − X(x₂)` -/
def gtF (x₁ x₂ : Fq) : Fq :=
  evalP iso11XNum x₁ * evalP iso11Ker x₂ ^ 2 - evalP iso11XNum x₂ * evalP iso11Ker x₁ ^ 2

/-- the kernel polynomial at the abscissae of `P₁ + P₂` and `P₁ − P₂` (`p = y₁y₂`) -/
theorem norm_id (x₁ x₂ p : Fq) (hp : p * p = fq x₁ * fq x₂) :
    hEval iso11Ker (chordSF x₁ x₂ - 2 * p) ((x₁ - x₂) ^ 2) *
        hEval iso11Ker (chordSF x₁ x₂ + 2 * p) ((x₁ - x₂) ^ 2) * (x₁ - x₂) =
      121 * (x₁ - x₂) ^ 10 * gtF x₁ x₂ := by
  have h := eval_eq_zero_of_grid defs normE chordD 22 22 (q_ge 22) (q_ge 22) (by decide +kernel)
    (grid_full (by decide +kernel)) x₁ x₂ p
    (by rw [hp]; show _ = envFq defs x₁ x₂ 2 * envFq defs x₁ x₂ 3; rw [env2, env3])
  iso11_unfold at h
  unfold chordSF gtF
  linear_combination h

theorem chord_triangle :
    gridCheck defs chordE chordD (List.range 56) (fun a => List.range (a + 1)) = true := by
  decide +kernel

/-- the two components of `chordE` are symmetric in `x₁, x₂`: `chordE` depends on them through the
    radicand `f₁f₂` and the four blocks `chordN`, `chordDd`, `chordDen`, `chordNum`, each of them symmetric
    (`gt` changes sign, and occurs squared) -/
theorem chord_sym (x₁ x₂ : Fq) :
    evalPair fqOps (envFq defs x₂ x₁) chordE chordD = evalPair fqOps (envFq defs x₁ x₂) chordE chordD := by
  have hD : eval fqOps (envFq defs x₂ x₁) (fqOps.ofNat 0) chordD =
      eval fqOps (envFq defs x₁ x₂) (fqOps.ofNat 0) chordD := by
    simp only [chordD, f1, f2, eval, env2, env3]
    exact mul_comm _ _
  unfold evalPair
  rw [hD]
  generalize eval fqOps (envFq defs x₁ x₂) (fqOps.ofNat 0) chordD = D
  have key : ∀ (env : Nat → Fq × Fq) (p : Fq × Fq), eval (pairOps fqOps D) env p chordE =
      (pairOps fqOps D).sub
        ((pairOps fqOps D).mul
          (hevAux (pairOps fqOps D) (eval (pairOps fqOps D) env p chordN)
            (eval (pairOps fqOps D) env p chordDd) xnN).1 (eval (pairOps fqOps D) env p chordDen))
        ((pairOps fqOps D).mul
          ((pairOps fqOps D).mul (eval (pairOps fqOps D) env p chordDd)
            (hevAux (pairOps fqOps D) (eval (pairOps fqOps D) env p chordN)
              (eval (pairOps fqOps D) env p chordDd) xdN).1) (eval (pairOps fqOps D) env p chordNum)) :=
    fun _ _ => rfl
  rw [key, key]
  have blk : ∀ b ∈ [chordN, chordDd, chordDen, chordNum],
      eval (pairOps fqOps D) (fun i => (envFq defs x₂ x₁ i, fqOps.ofNat 0)) (fqOps.ofNat 0, fqOps.ofNat 1) b =
      eval (pairOps fqOps D) (fun i => (envFq defs x₁ x₂ i, fqOps.ofNat 0)) (fqOps.ofNat 0, fqOps.ofNat 1) b := by
    -- the components of the four blocks, without the products by the zero component of a scalar
    simp only [List.forall_mem_cons, List.not_mem_nil, false_imp_iff, implies_true, and_true,
      chordNum, chordDen, chordN, chordS, chordDd, gt, x1, x2, f1, f2, k1, k2, xn1, xn2, yn1, yn2,
      eval, powG, pairOps, env0, env1, env2, env3, env4, env5, env6, env7, env8, env9,
      fqOps_add, fqOps_sub, fqOps_mul, fqOps_ofNat, ofNat_zero, ofNat_one, Prod.mk.injEq,
      mul_zero, zero_mul, add_zero, zero_add, sub_zero, mul_one]
    refine ⟨?_, ?_, ?_, ?_, ?_⟩
    all_goals ring
  rw [blk chordN (by simp), blk chordDd (by simp), blk chordDen (by simp), blk chordNum (by simp)]

/-- `chordE` vanishes on the 56 × 56 grid: on the triangle `j ≤ i` by evaluation, elsewhere by symmetry -/
theorem chord_grid (i : Nat) (hi : i < 56) (j : Nat) (hj : j < 56) :
    evalPair fqOps (envFq defs (Zp.ofNat i) (Zp.ofNat j)) chordE chordD = (0, 0) := by
  rcases Nat.le_total j i with h | h
  · exact grid_triangle chord_triangle i hi j h
  · rw [chord_sym (Zp.ofNat j) (Zp.ofNat i)]
    exact grid_triangle chord_triangle j hj i h

/-- the denominator of the abscissa of `φP₁ + φP₂` -/
def chordDenF (x₁ x₂ : Fq) : Fq := evalP iso11Ker x₁ ^ 2 * evalP iso11Ker x₂ ^ 2 * gtF x₁ x₂ ^ 2

/-- its numerator (`p = y₁y₂`) -/
def chordNumF (x₁ x₂ p : Fq) : Fq :=
  fq x₁ * evalP iso11YNum x₁ ^ 2 * evalP iso11Ker x₂ ^ 6
    + fq x₂ * evalP iso11YNum x₂ ^ 2 * evalP iso11Ker x₁ ^ 6
    - 2 * p * (evalP iso11YNum x₁ * evalP iso11YNum x₂ * (evalP iso11Ker x₁ ^ 3 * evalP iso11Ker x₂ ^ 3))
    - (evalP iso11XNum x₁ * evalP iso11Ker x₂ ^ 2 + evalP iso11XNum x₂ * evalP iso11Ker x₁ ^ 2)
        * gtF x₁ x₂ ^ 2

theorem chord_id (x₁ x₂ p : Fq) (hp : p * p = fq x₁ * fq x₂) :
    hEval iso11XNum (chordSF x₁ x₂ - 2 * p) ((x₁ - x₂) ^ 2) * chordDenF x₁ x₂ =
      (x₁ - x₂) ^ 2 * hEval iso11XDen (chordSF x₁ x₂ - 2 * p) ((x₁ - x₂) ^ 2) * chordNumF x₁ x₂ p := by
  have h := eval_eq_zero_of_grid defs chordE chordD 56 56 (q_ge 56) (q_ge 56) (by decide +kernel)
    chord_grid x₁ x₂ p
    (by rw [hp]; show _ = envFq defs x₁ x₂ 2 * envFq defs x₁ x₂ 3; rw [env2, env3])
  iso11_unfold at h
  unfold chordSF chordDenF chordNumF gtF
  linear_combination h

/-- numerator of the abscissa of `P + T` (denominator `(x − t₁)²`) -/
def tiNF (x y : Fq) : Fq :=
  (x + tq 1) * (x * tq 1 + g1EllpA) + 2 * g1EllpB - 2 * sq' 1 * y

theorem tix_id (x y : Fq) (hy : y * y = fq x) :
    hEval iso11XNum (tiNF x y) ((x - tq 1) ^ 2) * evalP iso11Ker x ^ 2 =
      (x - tq 1) ^ 2 * hEval iso11XDen (tiNF x y) ((x - tq 1) ^ 2) * evalP iso11XNum x := by
  have h := eval_eq_zero_of_grid defs (tixE (tN 1) (sN 1)) f1 34 1 (q_ge 34) (q_ge 1) (by decide +kernel)
    (grid_full (by decide +kernel)) x 0 y
    (by rw [hy]; show _ = envFq defs x 0 2; rw [env2])
  iso11_unfold at h
  unfold tiNF tq sq'
  linear_combination h

/-- `(x − t₁)³ ·` the ordinate of `P + T` -/
def tiMF (x y : Fq) : Fq :=
  -((y - sq' 1) * (tiNF x y - x * (x - tq 1) ^ 2)) - y * (x - tq 1) ^ 3

theorem tiy_id (x y : Fq) (hy : y * y = fq x) :
    tiMF x y * hEval iso11YNum (tiNF x y) ((x - tq 1) ^ 2) * evalP iso11Ker x ^ 3 =
      (x - tq 1) ^ 3 * hEval iso11YDen (tiNF x y) ((x - tq 1) ^ 2) * (y * evalP iso11YNum x) := by
  have h := eval_eq_zero_of_grid defs (tiyE (tN 1) (sN 1)) f1 50 1 (q_ge 50) (q_ge 1) (by decide +kernel)
    (grid_full (by decide +kernel)) x 0 y
    (by rw [hy]; show _ = envFq defs x 0 2; rw [env2])
  iso11_unfold at h
  unfold tiMF tiNF tq sq'
  linear_combination h

/-- the `tₖ` are not zeros of `XN` -/
theorem xnum_tq_ne (k : Nat) (hk : 1 ≤ k ∧ k ≤ 5) : evalP iso11XNum (tq k) ≠ 0 := by
  obtain ⟨h1, h5⟩ := hk
  interval_cases k <;> decide +kernel

/-- `(tₖ, sₖ)` is on `E₁'` -/
theorem sq_tq (k : Nat) (hk : 1 ≤ k ∧ k ≤ 5) : sq' k * sq' k = fq (tq k) := by
  obtain ⟨h1, h5⟩ := hk
  interval_cases k <;> decide +kernel

end IsoHom11
end PP
