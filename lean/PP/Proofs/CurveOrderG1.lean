/-
Curve orders, G1: the kernel computations on `E(Fq) : y² = x³ + 4` and the resulting structure
theorem.  The numbers below were computed outside Lean and none of them is trusted: each enters only
through a fact that the Lean kernel re-checks (`decide +kernel`) in the executable model of the Rust
arithmetic.  How to find them again: `beta` is a root of `β² + β + 1` in `Fq`; `P1` is the point with
`x = 5` (`y² = 129`) and happens to have full order `B`; `T = r·P1`, `Y10177`, `Y859267` are the
multiples that `k_10177`, `k_859267` and the `_spec` theorems say they are; for the primes `p ≡ 1 (mod 3)` of `A` (`10177`, `859267`) the residues refuted in
`k_p_m1`, `k_p_m2` are the two roots of `m² + m + 1` modulo `p`.

`A = (1 - x)/3 = 11·10177·859267·52437899`, `B = (1 - x)·r = 3·A·r`, `A·B = h₁·r`.
`P1 = (5, y)` has order `B`; `ω(x, y) = (β x, y)`; `E(Fq) = ⟨P1⟩ ⊕ ⟨ω((B/A)·P1)⟩ ≅ Z/B × Z/A`.
The multiples `(B/p)·P1`, `p ∣ 3·A`, are computed as `(3·A/p)·T` from `T = r·P1`.
-/
import PP.Proofs.CurveOrderCompute
import PP.Proofs.TowerField

namespace PP.CurveOrder.G1

open PP PP.CurveOrder WeierstrassCurve.Affine

local notation "b₁" => g1Codec.b

/-- `(1 - x)/3` -/
def A : ℕ := 5044125407647214251
/-- `(1 - x)·r`, written as in the hypothesis `hexp` of C17 -/
def B : ℕ := 0xd201000000010001 * Gen.r

/-- a primitive cube root of unity of `Fq` -/
def beta : Fq := Zp.ofNat 0x5f19672fdf76ce51ba69c6076a0f77eaddb3a93be6f89688de17d813620a00022e01fffffffefffe

/-- a point of order `B` -/
def P1 : Aff Fq :=
  ⟨Zp.ofNat 0x5,
   Zp.ofNat 0xd3c6da1211ebe797bc0790f1e6e7d669b180a8e59196825506d2bb2185f53715df092c8a7ceb64843ea7df67dbad60d, false⟩

/-- `r·P1` -/
def T : Aff Fq :=
  ⟨Zp.ofNat 0x178cf212a88384eeba278f88dc49d07e78bd6bc9e80907828aea86c2d89ab60fd47cb711c5c18403b3e2e70015106da,
   Zp.ofNat 0xa90c1976f6db32296cd1e2d10e4866f52bc6fc7576b9b5cb08db4ff0927e55ef98085ec024c8f2cca700e9ded6b1567, false⟩

/-- `(B/10177)·P1` -/
def Y10177 : Aff Fq :=
  ⟨Zp.ofNat 0xd1bbae3a1bd74ce9cd836e8bc17c673d72f51de5296d2b2a05f2e35e35a251c19a8db48146a30bbaf911d3447d1336e,
   Zp.ofNat 0x5356c4c2203d2e761b6c57cb03775a4cbfe4a63fd31967e4335e5a02f8decae32b535738fbb8ff0492fa5c1d4c04f42, false⟩

/-- `(B/859267)·P1` -/
def Y859267 : Aff Fq :=
  ⟨Zp.ofNat 0x145f495374323f27ef6e2af79d83d8972f444a7387a7bb706239b9a49d89811e247f39d57c1a4d9380805e90eb70ee44,
   Zp.ofNat 0xe6c73743af74050eca3d614e03d192aa5a9a849397615889c308c005f04aa7a3cd6c954b7122deaeb5aaf454b9bad7b, false⟩

/-! ### numbers -/

theorem B_pos : 0 < B := by decide +kernel
theorem B_eq : B = 3 * A * Gen.r := rfl
theorem B_factor : B = [3, 11, 10177, 859267, 52437899, Gen.r].prod := by decide +kernel
theorem A_factor : A = [11, 10177, 859267, 52437899].prod := by decide +kernel
theorem A_dvd_B : A ∣ B := ⟨3 * Gen.r, by decide +kernel⟩
theorem AB_eq : A * B = Gen.G1_COFACTOR * Gen.r := by decide +kernel
/-- the trace of Frobenius is negative: `2·h₁·r > 2q + 1` -/
theorem card_lt : 2 * Gen.q + 1 < 2 * (A * B) := by decide +kernel

theorem primesA : [11, 10177, 859267, 52437899].Forall Nat.Prime :=
  ⟨Primes.prime_11, Primes.prime_10177, Primes.prime_859267, Primes.prime_52437899⟩

theorem primesB : [3, 11, 10177, 859267, 52437899, Gen.r].Forall Nat.Prime :=
  ⟨Primes.prime_3, Primes.prime_11, Primes.prime_10177, Primes.prime_859267,
    Primes.prime_52437899, Primes.r_prime⟩

/-! ### kernel computations -/

theorem beta_quad : beta ^ 2 + beta + 1 = 0 := by decide +kernel

theorem P1_onCurve : Aff.OnCurve b₁ P1 := Or.inr (by decide +kernel)

theorem k_T : (smulJ P1 Gen.r).beq T.toJac = true := by decide +kernel
theorem k_r : (smulJ P1 (B / Gen.r)).isZero = false := by decide +kernel
theorem k_B : (smulJ T (3 * A)).isZero = true := by decide +kernel
theorem k_3 : (smulJ T (3 * A / 3)).isZero = false := by decide +kernel
theorem k_11 : (smulJ T (3 * A / 11)).isZero = false := by decide +kernel
theorem k_10177 : (smulJ T (3 * A / 10177)).beq Y10177.toJac = true := by decide +kernel
theorem k_859267 : (smulJ T (3 * A / 859267)).beq Y859267.toJac = true := by
  decide +kernel
theorem k_52437899 : (smulJ T (3 * A / 52437899)).isZero = false := by decide +kernel

theorem k_10177_m1 : (smulJ Y10177 4773).beq (omegaA beta Y10177).toJac = false := by
  decide +kernel
theorem k_10177_m2 : (smulJ Y10177 5403).beq (omegaA beta Y10177).toJac = false := by
  decide +kernel
theorem k_859267_m1 : (smulJ Y859267 119571).beq (omegaA beta Y859267).toJac = false := by
  decide +kernel
theorem k_859267_m2 : (smulJ Y859267 739695).beq (omegaA beta Y859267).toJac = false := by
  decide +kernel

/-! ### the structure of `E(Fq)` -/

/-- the point `P1` of Mathlib's group -/
noncomputable def P : (W b₁).Point := Aff.abs b₁ P1

theorem T_spec : Aff.OnCurve b₁ T ∧ Gen.r • P = Aff.abs b₁ T := nsmul_eq_record_of_beq P1_onCurve rfl k_T

theorem Y10177_spec : Aff.OnCurve b₁ Y10177 ∧ (B / 10177) • P = Aff.abs b₁ Y10177 :=
  div_nsmul_eq_record B_eq T_spec (by decide) rfl k_10177

theorem Y859267_spec : Aff.OnCurve b₁ Y859267 ∧ (B / 859267) • P = Aff.abs b₁ Y859267 :=
  div_nsmul_eq_record B_eq T_spec (by decide) rfl k_859267

theorem P_order : addOrderOf P = B := by
  have h0 : B • P = 0 := by
    rw [B_eq, mul_nsmul', T_spec.2]
    exact nsmul_eq_zero_of_isZero T_spec.1 k_B
  exact addOrderOf_eq_of_primes primesB B_factor h0
    ⟨div_nsmul_ne_zero B_eq T_spec (by decide) k_3, div_nsmul_ne_zero B_eq T_spec (by decide) k_11,
      ne_zero_of_record Y10177_spec rfl, ne_zero_of_record Y859267_spec rfl,
      div_nsmul_ne_zero B_eq T_spec (by decide) k_52437899, nsmul_ne_zero_of_isZero P1_onCurve k_r⟩

theorem indep : ∀ p : ℕ, p.Prime → p ∣ A →
    omega beta_quad ((B / p) • P) ∉ AddSubgroup.zmultiples P := by
  have hω := omega_quadratic (b := b₁) beta_quad
  exact forall_prime_dvd_prod primesA A_factor
    ⟨omega_notMem_of_mod_three hω P_order B_pos Primes.prime_11 (by decide +kernel) (by decide),
      omega_notMem_of_record beta_quad P_order B_pos Primes.prime_10177 (by decide +kernel)
        (m₁ := 4773) (m₂ := 5403) (by decide) (by decide) Y10177_spec k_10177_m1 k_10177_m2,
      omega_notMem_of_record beta_quad P_order B_pos Primes.prime_859267 (by decide +kernel)
        (m₁ := 119571) (m₂ := 739695) (by decide) (by decide) Y859267_spec k_859267_m1
        k_859267_m2,
      omega_notMem_of_mod_three hω P_order B_pos Primes.prime_52437899 (by decide +kernel)
        (by decide)⟩

/-- the second generator, of order `A` -/
noncomputable def P₂ : (W b₁).Point := omega beta_quad ((B / A) • P)

/-- **`#E(Fq) = A·B` and `B = (1 - x)·r` kills `E(Fq)`**; the group is
    `⟨P⟩ ⊕ ⟨P₂⟩ ≅ Z/B × Z/A` -/
theorem structure_thm :
    Nat.card (W b₁).Point = A * B ∧ (∀ g : (W b₁).Point, B • g = 0) ∧ addOrderOf P = B ∧
      addOrderOf P₂ = A ∧ ∀ g : (W b₁).Point, ∃ i j : ℤ, g = i • P + j • P₂ := by
  refine curve_structure beta_quad P_order B_pos A_dvd_B indep ?_
  rw [Nat.card_eq_fintype_card, Zp.card]
  exact card_lt

end PP.CurveOrder.G1
