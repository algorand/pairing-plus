/-
C09, layer 1: the model type `Fq2` with the model's own `+ - * neg 0 1` is the commutative ring
`Fq[u]/(u²+1)`; for prime `q` it is a field, `inverse` is the field inverse and fails exactly on zero.
-/
import Mathlib.Tactic.Ring
import Mathlib.Tactic.LinearCombination
import Mathlib.NumberTheory.SumTwoSquares
import PP.Model.Tower
import PP.Proofs.Lawful

namespace PP

/-! ### partial inverses; inversion through a norm -/

/-- `inv` fails at zero and returns the inverse everywhere else -/
structure IsInverse {A : Type} [CommRing A] (inv : A → Option A) : Prop where
  zero : inv 0 = none
  of_ne : ∀ a, a ≠ 0 → ∃ b, inv a = some b ∧ a * b = 1

namespace IsInverse
variable {A : Type} [CommRing A] {inv : A → Option A} (h : IsInverse inv)
include h

theorem eq_none_iff (a : A) : inv a = none ↔ a = 0 := by
  constructor
  · intro hn
    by_contra ha
    obtain ⟨b, hb, _⟩ := h.of_ne a ha
    rw [hb] at hn
    cases hn
  · rintro rfl
    exact h.zero

theorem some_mul {a b : A} (hab : inv a = some b) : a * b = 1 := by
  have ha : a ≠ 0 := fun h0 => by rw [h0, h.zero] at hab; cases hab
  obtain ⟨b', hb', hm⟩ := h.of_ne a ha
  rwa [← Option.some.inj (hab.symm.trans hb')] at hm

end IsInverse

theorem IsInverse.eq_some_inv {F : Type} [Field F] {inv : F → Option F} (h : IsInverse inv)
    (a : F) (ha : a ≠ 0) : inv a = some a⁻¹ := by
  obtain ⟨b, hb, hm⟩ := h.of_ne a ha
  rw [hb, eq_inv_of_mul_eq_one_right hm]

/-- Inversion through a norm.  `A` is a commutative ring over the field `K`, every `a` has an adjugate
    with `a * adj a = N a` in `K`, the norm form `N` vanishes only at `0`, and `inv` inverts the norm
    in `K` and multiplies by the adjugate.  All three layers of the tower invert this way. -/
theorem IsInverse.of_norm {K A : Type} [Field K] [FieldOps K] [LawfulFieldOps K] [CommRing A]
    (ι : K →+* A) {N : A → K} {adj : A → A} {inv : A → Option A}
    (hadj : ∀ a, a * adj a = ι (N a)) (hN : ∀ a, N a = 0 ↔ a = 0)
    (hinv : ∀ a, inv a = (FieldOps.inv (N a)).map (ι · * adj a)) : IsInverse inv where
  zero := by
    rw [hinv, (hN 0).mpr rfl, LawfulFieldOps.inv_zero]
    rfl
  of_ne a ha := by
    have hn : N a ≠ 0 := mt (hN a).mp ha
    refine ⟨ι (N a)⁻¹ * adj a, ?_, ?_⟩
    · rw [hinv, LawfulFieldOps.inv_ne _ hn]
      rfl
    · rw [mul_left_comm, hadj, ← map_mul, inv_mul_cancel₀ hn, map_one]

/-- if `β` is not a `k`-th power in a field, the form `x ^ k - β y ^ k` vanishes only at `(0, 0)`;
    the norm forms of `Fq2` and `Fq12` are of this kind, and that of `Fq6` (a ternary cubic) is reduced
    to it in two steps (`Fq6.norm_eq_zero_iff`) -/
theorem eq_zero_of_pow_eq_mul_pow {K : Type} [Field K] {k : ℕ} (hk : k ≠ 0) {β : K}
    (hβ : ∀ c : K, c ^ k ≠ β) {x y : K} (h : x ^ k = β * y ^ k) : x = 0 ∧ y = 0 := by
  have hy : y = 0 := by
    by_contra hy
    exact hβ (x / y) (by rw [div_pow, h, mul_div_assoc, div_self (pow_ne_zero k hy), mul_one])
  rw [hy, zero_pow hk, mul_zero] at h
  exact ⟨(pow_eq_zero_iff hk).mp h, hy⟩

/-- `-1` is not a square in `Fq`, since `q ≡ 3 mod 4` -/
theorem Fq.sq_ne_neg_one [Fact (Nat.Prime Gen.q)] (x : Fq) : x ^ 2 ≠ -1 := by
  intro h
  have h2 : (Zp.toZ x) ^ 2 = -1 := by
    rw [← Zp.toZ_pow, h, Zp.toZ_neg, Zp.toZ_one]
  exact ZMod.mod_four_ne_three_of_sq_eq_neg_one h2 (by decide : Gen.q % 4 = 3)

namespace Fq2

@[ext] theorem ext {a b : Fq2} (h0 : a.c0 = b.c0) (h1 : a.c1 = b.c1) : a = b := by
  cases a; cases b; simp_all

/-! ### projections of the model operations (all `rfl`) -/

@[simp] theorem zero_c0 : (0 : Fq2).c0 = 0 := rfl
@[simp] theorem zero_c1 : (0 : Fq2).c1 = 0 := rfl
@[simp] theorem one_c0 : (1 : Fq2).c0 = 1 := rfl
@[simp] theorem one_c1 : (1 : Fq2).c1 = 0 := rfl
@[simp] theorem add_c0 (a b : Fq2) : (a + b).c0 = a.c0 + b.c0 := rfl
@[simp] theorem add_c1 (a b : Fq2) : (a + b).c1 = a.c1 + b.c1 := rfl
@[simp] theorem sub_c0 (a b : Fq2) : (a - b).c0 = a.c0 - b.c0 := rfl
@[simp] theorem sub_c1 (a b : Fq2) : (a - b).c1 = a.c1 - b.c1 := rfl
@[simp] theorem neg_c0 (a : Fq2) : (-a).c0 = -a.c0 := rfl
@[simp] theorem neg_c1 (a : Fq2) : (-a).c1 = -a.c1 := rfl

theorem mul_c0 (a b : Fq2) : (a * b).c0 = a.c0 * b.c0 - a.c1 * b.c1 := rfl
theorem mul_c1 (a b : Fq2) : (a * b).c1 = a.c0 * b.c1 + a.c1 * b.c0 := by
  -- the model takes the cross term Karatsuba-fashion, with one product instead of two
  show (a.c1 + a.c0) * (b.c0 + b.c1) - a.c0 * b.c0 - a.c1 * b.c1 = _
  ring

theorem mul_spec (a b : Fq2) :
    (a * b).c0 = a.c0 * b.c0 - a.c1 * b.c1 ∧ (a * b).c1 = a.c0 * b.c1 + a.c1 * b.c0 :=
  ⟨mul_c0 a b, mul_c1 a b⟩

/-! ### the ring structure on the model's operations -/

instance : NatCast Fq2 := ⟨fun n => ⟨(n : Fq), 0⟩⟩
instance : IntCast Fq2 := ⟨fun z => ⟨(z : Fq), 0⟩⟩
instance : SMul ℕ Fq2 := ⟨fun n a => ⟨n • a.c0, n • a.c1⟩⟩
instance : SMul ℤ Fq2 := ⟨fun z a => ⟨z • a.c0, z • a.c1⟩⟩

@[simp] theorem natCast_c0 (n : ℕ) : ((n : Fq2)).c0 = (n : Fq) := rfl
@[simp] theorem natCast_c1 (n : ℕ) : ((n : Fq2)).c1 = 0 := rfl
@[simp] theorem intCast_c0 (n : ℤ) : ((n : Fq2)).c0 = (n : Fq) := rfl
@[simp] theorem intCast_c1 (n : ℤ) : ((n : Fq2)).c1 = 0 := rfl
@[simp] theorem nsmul_c0 (n : ℕ) (a : Fq2) : (n • a).c0 = n • a.c0 := rfl
@[simp] theorem nsmul_c1 (n : ℕ) (a : Fq2) : (n • a).c1 = n • a.c1 := rfl
@[simp] theorem zsmul_c0 (n : ℤ) (a : Fq2) : (n • a).c0 = n • a.c0 := rfl
@[simp] theorem zsmul_c1 (n : ℤ) (a : Fq2) : (n • a).c1 = n • a.c1 := rfl

instance instCommRing : CommRing Fq2 where
  add := (· + ·)
  mul := (· * ·)
  neg := Neg.neg
  sub := (· - ·)
  zero := 0
  one := 1
  add_assoc a b c := ext (add_assoc _ _ _) (add_assoc _ _ _)
  zero_add a := ext (zero_add _) (zero_add _)
  add_zero a := ext (add_zero _) (add_zero _)
  add_comm a b := ext (add_comm _ _) (add_comm _ _)
  neg_add_cancel a := ext (neg_add_cancel _) (neg_add_cancel _)
  sub_eq_add_neg a b := ext (sub_eq_add_neg _ _) (sub_eq_add_neg _ _)
  mul_assoc a b c := by ext <;> simp only [mul_c0, mul_c1] <;> ring
  one_mul a := by ext <;> simp only [mul_c0, mul_c1, one_c0, one_c1] <;> ring
  mul_one a := by ext <;> simp only [mul_c0, mul_c1, one_c0, one_c1] <;> ring
  left_distrib a b c := by ext <;> simp only [mul_c0, mul_c1, add_c0, add_c1] <;> ring
  right_distrib a b c := by ext <;> simp only [mul_c0, mul_c1, add_c0, add_c1] <;> ring
  mul_comm a b := by ext <;> simp only [mul_c0, mul_c1] <;> ring
  zero_mul a := by ext <;> simp only [mul_c0, mul_c1, zero_c0, zero_c1] <;> ring
  mul_zero a := by ext <;> simp only [mul_c0, mul_c1, zero_c0, zero_c1] <;> ring
  nsmul := (· • ·)
  nsmul_zero a := ext (AddMonoid.nsmul_zero _) (AddMonoid.nsmul_zero _)
  nsmul_succ n a := ext (AddMonoid.nsmul_succ n _) (AddMonoid.nsmul_succ n _)
  zsmul := (· • ·)
  zsmul_zero' a := ext (SubNegMonoid.zsmul_zero' _) (SubNegMonoid.zsmul_zero' _)
  zsmul_succ' n a := ext (SubNegMonoid.zsmul_succ' n _) (SubNegMonoid.zsmul_succ' n _)
  zsmul_neg' n a := ext (SubNegMonoid.zsmul_neg' n _) (SubNegMonoid.zsmul_neg' n _)
  natCast := Nat.cast
  natCast_zero := ext Nat.cast_zero rfl
  natCast_succ n := ext (Nat.cast_succ n) (add_zero _).symm
  intCast := Int.cast
  intCast_ofNat n := ext (Int.cast_natCast n) rfl
  intCast_negSucc n := ext (Int.cast_negSucc n) neg_zero.symm

/-! ### distinguished elements and the embedding of `Fq` -/

/-- the generator `u` (`u² = -1`) -/
def u : Fq2 := ⟨0, 1⟩
/-- the cubic/quadratic non-residue `ξ = 1 + u` used to build `Fq6` -/
def xi : Fq2 := ⟨1, 1⟩

theorem u_mul_u : u * u = -1 := by ext <;> simp [mul_c0, mul_c1, u]
theorem xi_eq : xi = 1 + u := by ext <;> simp [xi, u]

/-- `Fq → Fq2`, `c ↦ c + 0·u` -/
def ofFq : Fq →+* Fq2 where
  toFun c := ⟨c, 0⟩
  map_one' := rfl
  map_zero' := rfl
  map_mul' a b := by ext <;> simp [mul_c0, mul_c1]
  map_add' a b := by ext <;> simp

@[simp] theorem ofFq_c0 (c : Fq) : (ofFq c).c0 = c := rfl
@[simp] theorem ofFq_c1 (c : Fq) : (ofFq c).c1 = 0 := rfl

theorem ofFq_injective : Function.Injective ofFq := fun a b h => by
  simpa using congrArg Fq2.c0 h

/-- every element is `c0 + c1·u` -/
theorem eq_add_mul_u (a : Fq2) : a = ofFq a.c0 + ofFq a.c1 * u := by
  ext <;> simp [mul_c0, mul_c1, u]

/-- conjugation `c0 + c1 u ↦ c0 - c1 u` (not a model function; `frobeniusMap · 1` computes it) -/
def conj (a : Fq2) : Fq2 := ⟨a.c0, -a.c1⟩

@[simp] theorem conj_c0 (a : Fq2) : (conj a).c0 = a.c0 := rfl
@[simp] theorem conj_c1 (a : Fq2) : (conj a).c1 = -a.c1 := rfl

theorem conj_mul (a b : Fq2) : conj (a * b) = conj a * conj b := by
  ext <;> simp only [mul_c0, mul_c1, conj_c0, conj_c1] <;> ring
theorem conj_add (a b : Fq2) : conj (a + b) = conj a + conj b := by
  ext <;> simp only [add_c0, add_c1, conj_c0, conj_c1]; ring
theorem conj_one : conj 1 = 1 := by ext <;> simp
theorem conj_zero : conj 0 = 0 := by ext <;> simp
theorem conj_conj (a : Fq2) : conj (conj a) = a := by ext <;> simp

/-! ### the remaining model operations against the ring operations -/

theorem square_eq (a : Fq2) : square a = a * a := by
  ext
  · rw [mul_c0]; show (-a.c1 + a.c0) * (a.c0 + a.c1) - a.c0 * a.c1 + a.c0 * a.c1 = _; ring
  · rw [mul_c1]; show a.c0 * a.c1 + a.c0 * a.c1 = _; ring

theorem double_eq (a : Fq2) : double a = a + a := rfl

theorem sq_eq (a : Fq2) : sq a = a * a := square_eq a
theorem dbl_eq (a : Fq2) : dbl a = a + a := rfl

theorem sub_eq (a b : Fq2) : Fq2.sub a b = a - b := rfl
theorem add_eq (a b : Fq2) : Fq2.add a b = a + b := rfl
theorem neg_eq (a : Fq2) : Fq2.neg a = -a := rfl
theorem mul_eq (a b : Fq2) : Fq2.mul a b = a * b := rfl

theorem mulByNonresidue_eq (a : Fq2) : mulByNonresidue a = a * xi := by
  ext
  · rw [mul_c0]; show a.c0 - a.c1 = _; simp [xi]
  · rw [mul_c1]; show a.c1 + a.c0 = _; simp [xi]; ring

theorem norm_eq (a : Fq2) : norm a = a.c0 * a.c0 + a.c1 * a.c1 := by
  show a.c1 * a.c1 + a.c0 * a.c0 = _; ring

theorem mul_conj (a : Fq2) : a * conj a = ofFq (norm a) := by
  ext
  · rw [mul_c0, norm_eq]; show a.c0 * a.c0 - a.c1 * -a.c1 = a.c0 * a.c0 + a.c1 * a.c1; ring
  · rw [mul_c1]; show a.c0 * -a.c1 + a.c1 * a.c0 = 0; ring

theorem norm_mul (a b : Fq2) : norm (a * b) = norm a * norm b := by
  simp only [norm_eq, mul_c0, mul_c1]; ring

theorem norm_one : norm 1 = 1 := by simp [norm_eq]
theorem norm_zero : norm 0 = 0 := by simp [norm_eq]

theorem isZero_iff (a : Fq2) : isZero a = true ↔ a = 0 := by
  unfold isZero
  rw [Bool.and_eq_true, Zp.isZero_iff, Zp.isZero_iff]
  constructor
  · rintro ⟨h0, h1⟩; ext <;> simp [h0, h1]
  · rintro rfl; exact ⟨rfl, rfl⟩

theorem ofFq_mul_conj (t : Fq) (a : Fq2) : ofFq t * conj a = ⟨a.c0 * t, -(a.c1 * t)⟩ := by
  ext
  · rw [mul_c0, ofFq_c0, ofFq_c1, conj_c0, zero_mul, sub_zero, mul_comm]
  · rw [mul_c1, ofFq_c0, ofFq_c1, conj_c1, zero_mul, add_zero, mul_neg, mul_comm]

/-- the model's `inverse` inverts the norm in `Fq` and multiplies by the conjugate -/
theorem inverse_eq (a : Fq2) : inverse a = (FieldOps.inv (norm a)).map (ofFq · * conj a) := by
  show (match FieldOps.inv (a.c0 * a.c0 + a.c1 * a.c1) with
    | none => none
    | some t => some (⟨a.c0 * t, -(a.c1 * t)⟩ : Fq2)) = _
  rw [← norm_eq]
  cases FieldOps.inv (norm a) with
  | none => rfl
  | some t =>
    exact congrArg some (ofFq_mul_conj t a).symm

/-! ### `Fq2` is a field (needs `q` prime; `q ≡ 3 mod 4` makes `-1` a non-square) -/

section Prime
variable [hq : Fact (Nat.Prime Gen.q)]

theorem norm_eq_zero_iff (a : Fq2) : norm a = 0 ↔ a = 0 := by
  constructor
  · intro h
    rw [norm_eq] at h
    obtain ⟨h0, h1⟩ := eq_zero_of_pow_eq_mul_pow two_ne_zero Fq.sq_ne_neg_one
      (show a.c0 ^ 2 = -1 * a.c1 ^ 2 by linear_combination h)
    exact ext h0 h1
  · rintro rfl; exact norm_zero

theorem isInverse : IsInverse inverse := .of_norm ofFq mul_conj norm_eq_zero_iff inverse_eq

theorem inverse_zero : inverse (0 : Fq2) = none := isInverse.zero

theorem inverse_of_ne (a : Fq2) (h : a ≠ 0) :
    inverse a = some ⟨a.c0 * (norm a)⁻¹, -(a.c1 * (norm a)⁻¹)⟩ := by
  rw [inverse_eq, LawfulFieldOps.inv_ne _ (mt (norm_eq_zero_iff a).mp h), Option.map_some,
    ofFq_mul_conj]

theorem inverse_some_mul {a b : Fq2} (h : inverse a = some b) : a * b = 1 := isInverse.some_mul h

instance instField : Field Fq2 where
  __ := instCommRing
  inv a := (inverse a).getD 0
  exists_pair_ne := ⟨0, 1, fun h => by
    have : (0 : Fq) = 1 := congrArg Fq2.c0 h
    exact zero_ne_one this⟩
  mul_inv_cancel a h := by
    show a * (inverse a).getD 0 = 1
    have := inverse_of_ne a h
    exact inverse_some_mul (by rw [this]; rfl)
  inv_zero := by show (inverse 0).getD 0 = 0; rw [inverse_zero]; rfl
  nnqsmul := _
  nnqsmul_def := fun _ _ => rfl
  qsmul := _
  qsmul_def := fun _ _ => rfl

theorem inv_def (a : Fq2) : a⁻¹ = (inverse a).getD 0 := rfl

theorem inverse_eq_some (a : Fq2) (h : a ≠ 0) : inverse a = some a⁻¹ := isInverse.eq_some_inv a h

instance : LawfulFieldOps Fq2 where
  sq_eq := sq_eq
  dbl_eq := dbl_eq
  inv_zero := inverse_zero
  inv_ne := inverse_eq_some
  isZero_iff := isZero_iff

end Prime

end Fq2

theorem fq2_two_ne_zero : (2 : Fq2) ≠ 0 := by decide +kernel
theorem fq2_three_ne_zero : (3 : Fq2) ≠ 0 := by decide +kernel

end PP
