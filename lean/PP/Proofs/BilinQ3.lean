/-
Linearity of the pairing in its second argument: the chain of `BilinQIdeal` over `K = Fq12`,
`E : y² = x³ + 4`, at untwisted points of `E'(Fq2)`, against the textbook Miller loop of `PP.Spec.Ate`.
-/
import PP.Proofs.BilinQ2

namespace PP
namespace BilinQ

open WeierstrassCurve.Affine Ate Lines

local notation "b₂" => g2Codec.b

theorem fq12_three_ne_zero : (3 : Fq12) ≠ 0 := fun h =>
  fq_three_ne_zero (κ.injective (by rw [map_ofNat, map_zero]; exact h))

theorem fq12_four_ne_zero : (4 : Fq12) ≠ 0 := fun h =>
  fq_four_ne_zero (κ.injective (by rw [map_ofNat, map_zero]; exact h))

instance instShortW12 : ShortW (4 : Fq12) := ⟨fq12_two_ne_zero, fq12_three_ne_zero, fq12_four_ne_zero⟩

/-! ## the untwist on points of the curves -/

theorem on_untwist {T : Fq2 × Fq2} (h : On b₂ T) : On (4 : Fq12) (untwist T) :=
  (W_equation_iff _ _ _).mpr (untwist_onCurve ((W_equation_iff _ _ _).mp h))

theorem on_embed {P : Fq × Fq} (h : P.2 ^ 2 = P.1 ^ 3 + g1Codec.b) : On (4 : Fq12) (embed P) := by
  apply (W_equation_iff _ _ _).mpr
  have := congrArg κ h
  rw [g1Codec_b] at this
  simpa only [embed, map_pow, map_add, map_ofNat] using this

theorem notOpp_untwist {A B : Fq2 × Fq2} (h : NotOpp A B) : NotOpp (untwist A) (untwist B) := by
  rw [untwist_eq_cmap, untwist_eq_cmap]
  exact (notOpp_cmap ι wInv_ne_zero).mpr h

theorem slopeAB_untwist {A B : Fq2 × Fq2} (hA : On b₂ A) (hB : On b₂ B) (h : NotOpp A B) :
    slopeAB (4 : Fq12) (untwist A) (untwist B) = wInv * ι (slopeAB b₂ A B) := by
  rw [untwist_eq_cmap, untwist_eq_cmap, slopeAB_cmap ι wInv_ne_zero hA hB h]

theorem addAB_untwist {A B : Fq2 × Fq2} (hA : On b₂ A) (hB : On b₂ B) (h : NotOpp A B) :
    addAB (4 : Fq12) (untwist A) (untwist B) = untwist (addAB b₂ A B) := by
  rw [untwist_eq_cmap, untwist_eq_cmap, untwist_eq_cmap, addAB_cmap ι wInv_ne_zero hA hB h]

/-! ## the chain at untwisted points -/

theorem reg_untwist (Q : Fq2 × Fq2) (bs : List Bool) (T : Fq2 × Fq2) (h : Regular Q bs T) :
    Reg (untwist Q) bs (untwist T) := by
  induction bs generalizing T with
  | nil => trivial
  | cons bit bs ih =>
    refine ⟨untwist_snd_ne_zero h.1, ?_⟩
    have h2 := h.2
    cases bit with
    | false =>
      simp only [Bool.false_eq_true, if_false] at h2 ⊢
      rw [← untwist_affDouble]; exact ih _ h2
    | true =>
      simp only [if_true] at h2 ⊢
      rw [← untwist_affDouble, ← untwist_affAdd]
      exact ⟨untwist_fst_ne h2.1, ih _ h2.2⟩

theorem chain_T (Q : Fq2 × Fq2) (bs : List Bool) (N D : CR (4 : Fq12)) (T : Fq2 × Fq2) :
    St.T (bs.foldl (stepR 4 (untwist Q)) (N, D, untwist T)) = untwist (pointLoop Q bs T) := by
  induction bs generalizing N D T with
  | nil => rfl
  | cons bit bs ih =>
    cases bit with
    | false =>
      simp only [List.foldl_cons, stepR, pointLoop, Bool.false_eq_true, if_false, St.T, St.N, St.D,
        ← untwist_affDouble]
      exact ih _ _ _
    | true =>
      simp only [List.foldl_cons, stepR, pointLoop, if_true, St.T, St.N, St.D,
        ← untwist_affDouble, ← untwist_affAdd]
      exact ih _ _ _

/-- the numerator values are the textbook Miller values (no verticals) -/
theorem chain_val (P : Fq × Fq) (Q : Fq2 × Fq2) (bs : List Bool) (F d : Fq12) (T : Fq2 × Fq2) :
    (bs.foldl (stepV (embed P) (untwist Q)) (F, d, untwist T)).1 =
      (bs.foldl (millerStep P Q) (F, T)).1 := by
  induction bs generalizing F d T with
  | nil => rfl
  | cons bit bs ih =>
    cases bit with
    | false =>
      simp only [List.foldl_cons, stepV, millerStep, Bool.false_eq_true, if_false,
        ← untwist_affDouble]
      exact ih _ _ _
    | true =>
      simp only [List.foldl_cons, stepV, millerStep, if_true, ← untwist_affDouble,
        ← untwist_affAdd]
      exact ih _ _ _

/-- a vertical through an untwisted point with `x ≠ 0`, at a rational point: non-zero, in `Fq6` -/
theorem inFq6_vertical (T : Fq2 × Fq2) (P : Fq × Fq) (hT : T.1 ≠ 0) :
    InFq6 (verticalAt (untwist T) (embed P)) := by
  refine ⟨_, ?_, vertical_eq T P⟩
  intro h
  have h2 := congrArg Fq6.c2 h
  rw [Fq6.zero_c2] at h2
  change -(T.1 / Fq2.xi) = 0 at h2
  rw [neg_eq_zero, div_eq_zero_iff] at h2
  rcases h2 with h2 | h2
  · exact hT h2
  · exact Fq2.xi_ne_zero h2

/-- the denominator values are non-zero elements of `Fq6` -/
theorem chain_den (P : Fq × Fq) (Q : Fq2 × Fq2) (bs : List Bool) (F d : Fq12) (T : Fq2 × Fq2)
    (hd : InFq6 d) (hx : XNZ Q bs T) :
    InFq6 (bs.foldl (stepV (embed P) (untwist Q)) (F, d, untwist T)).2.1 := by
  induction bs generalizing F d T with
  | nil => exact hd
  | cons bit bs ih =>
    have h1 := inFq6_vertical (affDouble T) P hx.1
    have h2 := hx.2
    cases bit with
    | false =>
      simp only [Bool.false_eq_true, if_false] at h2
      simp only [List.foldl_cons, stepV, Bool.false_eq_true, if_false, ← untwist_affDouble]
      exact ih _ _ _ (hd.sq.mul h1) h2
    | true =>
      simp only [if_true] at h2
      simp only [List.foldl_cons, stepV, if_true, ← untwist_affDouble, ← untwist_affAdd]
      exact ih _ _ _ ((hd.sq.mul h1).mul (inFq6_vertical _ P h2.1)) h2.2

end BilinQ
end PP
