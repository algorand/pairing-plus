/-
Curve orders, the automorphism of order three.

On `y² = x³ + b` (any field, characteristic not 2 or 3, `b ≠ 0`) and for `β` with `β² + β + 1 = 0`
the map `ω : (x, y) ↦ (β x, y)` is an additive endomorphism of Mathlib's group `(W b).Point` (it is the
coordinate map `(x, y) ↦ (t² x, t³ y)` of `PP/Proofs/CoordMap.lean` with `t = β²`), and `ω² + ω + 1 = 0`.
-/
import PP.Proofs.CoordMap

set_option linter.unusedSectionVars false

namespace PP.CurveOrder

open WeierstrassCurve.Affine

variable {F : Type} [Field F] [DecidableEq F] {b : F} [ShortW b] {β : F}

theorem beta_cube (hβ : β ^ 2 + β + 1 = 0) : β ^ 3 = 1 := by
  linear_combination (β - 1) * hβ

theorem beta_ne_zero (hβ : β ^ 2 + β + 1 = 0) : β ≠ 0 := by
  rintro rfl
  simp at hβ

theorem beta_ne_one (b : F) [ShortW b] (hβ : β ^ 2 + β + 1 = 0) : β ≠ 1 := by
  rintro rfl
  apply ShortW.three_ne (b := b)
  linear_combination hβ

/-! ## the map -/

theorem omega_nonsingular (hβ : β ^ 2 + β + 1 = 0) {x y : F} (h : (W b).Nonsingular x y) :
    (W b).Nonsingular (β * x) y := by
  apply W_nonsingular b
  have := (W_nonsingular_iff b x y).mp h
  linear_combination this - x ^ 3 * beta_cube hβ

/-- `(x, y) ↦ (β x, y)` -/
def omegaFun (hβ : β ^ 2 + β + 1 = 0) : (W b).Point → (W b).Point
  | .zero => .zero
  | .some x y h => .some (β * x) y (omega_nonsingular hβ h)

theorem omegaFun_zero (hβ : β ^ 2 + β + 1 = 0) : omegaFun hβ (0 : (W b).Point) = 0 := rfl

theorem omegaFun_some (hβ : β ^ 2 + β + 1 = 0) {x y : F} (h : (W b).Nonsingular x y) :
    omegaFun hβ (Point.some x y h) = Point.some (β * x) y (omega_nonsingular hβ h) := rfl

/-- `ω` is the coordinate map with `σ = id`, `t = β²`: `t² = β`, `t³ = 1` -/
theorem omega_twFrob (hβ : β ^ 2 + β + 1 = 0) : BilinP.TwFrob b (RingHom.id F) (β ^ 2) :=
  ⟨pow_ne_zero 2 (beta_ne_zero hβ), by
    rw [RingHom.id_apply]
    linear_combination (b * (β ^ 9 + β ^ 6 + β ^ 3 + 1)) * beta_cube hβ⟩

theorem omegaFun_eq_twFun (hβ : β ^ 2 + β + 1 = 0) (P : (W b).Point) :
    omegaFun hβ P = BilinP.twFun (omega_twFrob hβ) P := by
  have h3 := beta_cube hβ
  rcases P with _ | ⟨x, y, h⟩
  · rfl
  · rw [omegaFun_some, BilinP.twFun_some, PP.Point.some_eq_some, RingHom.id_apply, RingHom.id_apply]
    exact ⟨by linear_combination (-(β * x)) * h3, by linear_combination (-(β ^ 3 + 1) * y) * h3⟩

theorem omegaFun_add (hβ : β ^ 2 + β + 1 = 0) (P Q : (W b).Point) :
    omegaFun hβ (P + Q) = omegaFun hβ P + omegaFun hβ Q := by
  rw [omegaFun_eq_twFun, omegaFun_eq_twFun, omegaFun_eq_twFun, BilinP.twFun_add]

/-- `ω` as an endomorphism of the group of points -/
def omega (hβ : β ^ 2 + β + 1 = 0) : (W b).Point →+ (W b).Point :=
  AddMonoidHom.mk' (omegaFun hβ) (omegaFun_add hβ)

theorem omega_some (hβ : β ^ 2 + β + 1 = 0) {x y : F} (h : (W b).Nonsingular x y) :
    omega hβ (Point.some x y h) = Point.some (β * x) y (omega_nonsingular hβ h) := rfl

theorem omega_injective (hβ : β ^ 2 + β + 1 = 0) :
    Function.Injective (omega (b := b) hβ) := by
  rw [injective_iff_map_eq_zero]
  rintro (_ | ⟨x, y, h⟩) e
  · rfl
  · rw [omega_some] at e
    exact absurd e (Point.some_ne_zero _)

/-- **`ω² + ω + 1 = 0`**: the points `(x, y)`, `(β x, y)`, `(β² x, y)` lie on the line `Y = y` -/
theorem omega_quadratic (hβ : β ^ 2 + β + 1 = 0) (P : (W b).Point) :
    omega hβ (omega hβ P) + omega hβ P + P = 0 := by
  rcases P with _ | ⟨x, y, h⟩
  · change omega hβ (omega hβ 0) + omega hβ 0 + 0 = 0
    rw [map_zero, map_zero, add_zero, add_zero]
  have hP : CoordOf b (x, y) (Point.some x y h) := ⟨h, rfl⟩
  rw [omega_some, omega_some]
  by_cases hx : x = 0
  · subst hx
    have h3 := hP.three_nsmul rfl
    rw [succ_nsmul, two_nsmul] at h3
    simp only [mul_zero]
    exact h3
  · have hne : β * (β * x) ≠ β * x := by
      intro hc
      have : (β - 1) * (β * x) = 0 := by linear_combination hc
      rcases mul_eq_zero.mp this with h1 | h1
      · exact beta_ne_one b hβ (sub_eq_zero.mp h1)
      · exact (mul_ne_zero (beta_ne_zero hβ) hx) h1
    have h1 : CoordOf b (β * x, y) _ := ⟨omega_nonsingular hβ h, rfl⟩
    have h2 : CoordOf b (β * (β * x), y) _ := ⟨omega_nonsingular hβ (omega_nonsingular hβ h), rfl⟩
    have hs := h2.chord h1 hne
    have e : Ate.affAdd (β * (β * x), y) (β * x, y) = BilinQ.ngp (x, y) := by
      simp only [Ate.affAdd, Ate.sumOfSlope, Ate.chordSlope, BilinQ.ngp, sub_self, zero_div,
        Prod.mk.injEq]
      exact ⟨by linear_combination (-x) * hβ, by ring⟩
    rw [e] at hs
    rw [hs.point_eq hP.neg, neg_add_cancel]

end PP.CurveOrder
