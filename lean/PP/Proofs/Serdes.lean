/-
C19 lemmas: stream (de)serialisation (`PP.Model.Enc`, section serdes.rs) over the byte-list reader.
What `PP.Props.C19` is proved from: `read_exact`; one round of `readFqs` and its consequences (success
exactly on canonical input, the two error classes, `eof` at every truncation point); the two branches of
the point reader as equations, and its success exactly when the checked decoder accepts the prefix.
-/
import PP.Proofs.Encoding

namespace PP

/-! ## `read_exact` -/

theorem readExact_append (n : Nat) (bs tail : Bytes) (h : bs.length = n) :
    readExact n (bs ++ tail) = .ok (bs, tail) := by
  unfold readExact
  rw [if_neg (by simp [h]), List.take_left' h, List.drop_left' h]

theorem readExact_eof (n : Nat) (rd : Bytes) (h : rd.length < n) : readExact n rd = .error .eof := by
  unfold readExact; rw [if_pos h]

theorem readExact_ok (n : Nat) (rd : Bytes) (h : n ≤ rd.length) :
    readExact n rd = .ok (rd.take n, rd.drop n) := by
  unfold readExact; rw [if_neg (by omega)]

/-! ## `Fr`

The facts about a serialised value are stated for any byte string with the two properties used
(`length`, `fromBytes`): with the concrete `beBytes 32 a.v` in the statement the kernel would unfold it
whenever it compares two terms that contain it. -/

theorem deserFr_append (bs tail : Bytes) (a : Fr) (hl : bs.length = 32) (hf : Fr.fromBytes bs = some a) :
    deserFr (bs ++ tail) = .ok (a, tail) := by
  unfold deserFr
  rw [readExact_append 32 _ _ hl]
  simp only [hf]

/-! ## `Fq12` -/

theorem readFqs_succ (n : Nat) (rd : Bytes) :
    readFqs (n + 1) rd =
      if rd.length < 48 then .error .eof
      else match Fq.fromBytes (rd.take 48) with
        | none => .error .notInField
        | some a =>
          match readFqs n (rd.drop 48) with
          | .error e => .error e
          | .ok (as, rest) => .ok (a :: as, rest) := by
  rw [readFqs, readExact]
  by_cases hl : rd.length < 48
  · rw [if_pos hl, if_pos hl]
  · rw [if_neg hl, if_neg hl]
    rfl

theorem readFqs_succ_append (n : Nat) (bs rd : Bytes) (hl : bs.length = 48) :
    readFqs (n + 1) (bs ++ rd) =
      match Fq.fromBytes bs with
      | none => .error .notInField
      | some a =>
        match readFqs n rd with
        | .error e => .error e
        | .ok (as, rest) => .ok (a :: as, rest) := by
  rw [readFqs_succ, if_neg (by rw [List.length_append, hl]; omega), List.take_left' hl, List.drop_left' hl]

theorem readFqs_append (as : List Fq) (tail : Bytes) :
    readFqs as.length ((as.map Fq.toBytes).flatten ++ tail) = .ok (as, tail) := by
  induction as with
  | nil => rfl
  | cons a as ih =>
    rw [List.length_cons, List.map_cons, List.flatten_cons, List.append_assoc,
      readFqs_succ_append _ _ _ (Fq.toBytes_length a), Fq.fromBytes_toBytes, ih]

theorem readFqs_ok (n : Nat) (rd : Bytes) (as : List Fq) (rest : Bytes) (h : readFqs n rd = .ok (as, rest)) :
    as.length = n ∧ rd = (as.map Fq.toBytes).flatten ++ rest := by
  induction n generalizing rd as rest with
  | zero =>
    unfold readFqs at h
    simp only [Except.ok.injEq, Prod.mk.injEq] at h
    obtain ⟨rfl, rfl⟩ := h
    exact ⟨rfl, rfl⟩
  | succ n ih =>
    rw [readFqs_succ] at h
    by_cases hl : rd.length < 48
    · rw [if_pos hl] at h; cases h
    rw [if_neg hl] at h
    cases hf : Fq.fromBytes (rd.take 48) with
    | none => rw [hf] at h; cases h
    | some a =>
      rw [hf] at h
      cases hr : readFqs n (rd.drop 48) with
      | error e => rw [hr] at h; cases h
      | ok p =>
        obtain ⟨as', rest'⟩ := p
        rw [hr] at h
        simp only [Except.ok.injEq, Prod.mk.injEq] at h
        obtain ⟨rfl, rfl⟩ := h
        obtain ⟨h1, h2⟩ := ih _ _ _ hr
        have := Fq.toBytes_of_fromBytes _ _ hf (by rw [List.length_take]; omega)
        refine ⟨by rw [List.length_cons, h1], ?_⟩
        rw [List.map_cons, List.flatten_cons, List.append_assoc, this, ← h2, List.take_append_drop]

theorem readFqs_ok_iff (n : Nat) (rd : Bytes) (as : List Fq) (rest : Bytes) :
    readFqs n rd = .ok (as, rest) ↔ as.length = n ∧ rd = (as.map Fq.toBytes).flatten ++ rest := by
  constructor
  · exact readFqs_ok n rd as rest
  · rintro ⟨rfl, rfl⟩; exact readFqs_append as rest

theorem readFqs_error (n : Nat) (rd : Bytes) (e : SerErr) (h : readFqs n rd = .error e) :
    e = .eof ∨ e = .notInField := by
  induction n generalizing rd with
  | zero => unfold readFqs at h; cases h
  | succ n ih =>
    rw [readFqs_succ] at h
    by_cases hl : rd.length < 48
    · rw [if_pos hl] at h; cases h; exact Or.inl rfl
    rw [if_neg hl] at h
    cases hf : Fq.fromBytes (rd.take 48) with
    | none => rw [hf] at h; cases h; exact Or.inr rfl
    | some a =>
      rw [hf] at h
      cases hr : readFqs n (rd.drop 48) with
      | error e' => rw [hr] at h; cases h; exact ih _ hr
      | ok p => rw [hr] at h; cases h

theorem flatten_toBytes_length (as : List Fq) : ((as.map Fq.toBytes).flatten).length = 48 * as.length := by
  induction as with
  | nil => rfl
  | cons a as ih =>
    rw [List.map_cons, List.flatten_cons, List.length_append, ih, Fq.toBytes_length, List.length_cons,
      Nat.mul_succ, Nat.add_comm]

theorem readFqs_truncated (as : List Fq) (k : Nat) (hk : k < 48 * as.length) :
    readFqs as.length (((as.map Fq.toBytes).flatten).take k) = .error .eof := by
  induction as generalizing k with
  | nil => exact absurd hk (Nat.not_lt_zero _)
  | cons a as ih =>
    rw [List.length_cons, List.map_cons, List.flatten_cons]
    by_cases h48 : k < 48
    · rw [readFqs_succ, if_pos]
      rw [List.length_take, List.length_append, Fq.toBytes_length]; omega
    · rw [List.take_append, List.take_of_length_le (by rw [Fq.toBytes_length]; omega), Fq.toBytes_length,
        readFqs_succ_append _ _ _ (Fq.toBytes_length a), Fq.fromBytes_toBytes,
        ih (k - 48) (by rw [List.length_cons] at hk; omega)]

theorem list12 {α : Type} (as : List α) (h : as.length = 12) :
    ∃ a b c d e f g h' i j k l, as = [a, b, c, d, e, f, g, h', i, j, k, l] := by
  match as, h with
  | [a, b, c, d, e, f, g, h', i, j, k, l], _ => exact ⟨a, b, c, d, e, f, g, h', i, j, k, l, rfl⟩

theorem Fq12.coeffs_length (a : Fq12) : a.coeffs.length = 12 := rfl

theorem deserFq12_of_readFqs (rd : Bytes) (a : Fq12) (rest : Bytes)
    (h : readFqs 12 rd = .ok (a.coeffs, rest)) : deserFq12 rd = .ok (a, rest) := by
  unfold deserFq12
  rw [h]
  rfl

theorem readFqs_notInField (n : Nat) (as : List Fq) (bad tail : Bytes) (hn : as.length < n)
    (hb : bad.length = 48) (hbad : ¬ beToNat bad < Gen.q) :
    readFqs n ((as.map Fq.toBytes).flatten ++ (bad ++ tail)) = .error .notInField := by
  obtain ⟨m, rfl⟩ : ∃ m, n = m + 1 := ⟨n - 1, by omega⟩
  induction as generalizing m with
  | nil =>
    rw [List.map_nil, List.flatten_nil, List.nil_append, readFqs_succ_append _ _ _ hb,
      (Fq.fromBytes_eq_none_iff _).mpr hbad]
  | cons a as ih =>
    obtain ⟨m', rfl⟩ : ∃ m', m = m' + 1 := ⟨m - 1, by rw [List.length_cons] at hn; omega⟩
    rw [List.map_cons, List.flatten_cons, List.append_assoc,
      readFqs_succ_append _ _ _ (Fq.toBytes_length a), Fq.fromBytes_toBytes,
      ih m' (by rw [List.length_cons] at hn; omega)]

/-! ## points

The reader's branches as equations (`deserAffine_compressed`, `deserAffine_uncompressed`) and the
characterisation of success; only `0 < cc.size` is used about the codec. -/

section points
variable {F : Type} [Add F] [Sub F] [Mul F] [Neg F] [Zero F] [One F] [FieldOps F] [DecidableEq F] [SqrtOps F]
variable {cc : Codec F}

theorem deserAffine_compressed (hp : 0 < cc.size) (rd : Bytes) (h : cc.size ≤ rd.length) :
    deserAffine cc rd true =
      if (rd.headD 0 &&& 0x80) = 0 then .error .compressness
      else match decodeCompressed cc (rd.take cc.size) with
        | .error e => .error (.decode e)
        | .ok a => .ok (a, rd.drop cc.size) := by
  unfold deserAffine
  rw [readExact_ok _ _ h]
  dsimp only
  rw [headD_take rd cc.size hp, byte_bit7]
  by_cases h7 : rd.headD 0 &&& 0x80 = 0
  · rw [if_pos h7, if_pos (by rw [decide_eq_false (not_not.mpr h7)]; rfl)]
  · rw [if_neg h7, if_neg (by rw [decide_eq_true h7]; exact Bool.false_ne_true)]
    rfl

/-- the model's uncompressed branch (two-stage read), as an equation -/
theorem deserAffine_uncompressed (hp : 0 < cc.size) (rd : Bytes) (h : cc.size ≤ rd.length) :
    deserAffine cc rd false =
      if (rd.headD 0 &&& 0x80) ≠ 0 then .error .compressness
      else if rd.length < 2 * cc.size then .error .eof
      else match decodeUncompressed cc (rd.take (2 * cc.size)) with
        | .error e => .error (.decode e)
        | .ok a => .ok (a, rd.drop (2 * cc.size)) := by
  unfold deserAffine
  rw [readExact_ok _ _ h]
  dsimp only
  rw [headD_take rd cc.size hp, byte_bit7]
  by_cases h7 : rd.headD 0 &&& 0x80 ≠ 0
  · rw [if_pos h7, if_pos (by rw [decide_eq_true h7]; rfl)]
  rw [if_neg h7, if_neg (by rw [decide_eq_false h7]; exact Bool.false_ne_true), if_neg Bool.false_ne_true]
  by_cases h2 : rd.length < 2 * cc.size
  · rw [if_pos h2, readExact_eof _ _ (by rw [List.length_drop]; omega)]
  · rw [if_neg h2, readExact_ok _ _ (by rw [List.length_drop]; omega)]
    dsimp only
    rw [← List.take_add, List.drop_drop, ← Nat.two_mul]
    rfl

theorem deserAffine_eof (rd : Bytes) (c : Bool) (h : rd.length < cc.size) :
    deserAffine cc rd c = .error .eof := by
  unfold deserAffine; rw [readExact_eof _ _ h]

theorem deserAffine_ok_iff_c (hp : 0 < cc.size) (rd : Bytes) (A : Aff F) (rest : Bytes) :
    deserAffine cc rd true = .ok (A, rest) ↔
      cc.size ≤ rd.length ∧ decodeCompressed cc (rd.take cc.size) = .ok A ∧ rest = rd.drop cc.size := by
  by_cases h : cc.size ≤ rd.length
  · rw [deserAffine_compressed hp rd h]
    constructor
    · intro hd
      by_cases h7 : rd.headD 0 &&& 0x80 = 0
      · rw [if_pos h7] at hd; cases hd
      rw [if_neg h7] at hd
      cases hdec : decodeCompressed cc (rd.take cc.size) with
      | error e => rw [hdec] at hd; cases hd
      | ok a => rw [hdec] at hd; cases hd; exact ⟨h, rfl, rfl⟩
    · rintro ⟨_, hdec, rfl⟩
      have hflag := decodeCompressedUnchecked_flag _ _ ((decodeCompressed_ok_iff_unchecked _ _).mp hdec).1
      rw [headD_take rd cc.size hp] at hflag
      rw [if_neg hflag, hdec]
  · rw [deserAffine_eof rd true (by omega)]
    exact ⟨nofun, fun h' => absurd h'.1 h⟩

theorem deserAffine_ok_iff_u (hp : 0 < cc.size) (rd : Bytes) (A : Aff F) (rest : Bytes) :
    deserAffine cc rd false = .ok (A, rest) ↔
      2 * cc.size ≤ rd.length ∧ decodeUncompressed cc (rd.take (2 * cc.size)) = .ok A ∧
        rest = rd.drop (2 * cc.size) := by
  by_cases h : cc.size ≤ rd.length
  · rw [deserAffine_uncompressed hp rd h]
    constructor
    · intro hd
      by_cases h7 : rd.headD 0 &&& 0x80 ≠ 0
      · rw [if_pos h7] at hd; cases hd
      rw [if_neg h7] at hd
      by_cases h2 : rd.length < 2 * cc.size
      · rw [if_pos h2] at hd; cases hd
      rw [if_neg h2] at hd
      cases hdec : decodeUncompressed cc (rd.take (2 * cc.size)) with
      | error e => rw [hdec] at hd; cases hd
      | ok a => rw [hdec] at hd; cases hd; exact ⟨by omega, rfl, rfl⟩
    · rintro ⟨h2, hdec, rfl⟩
      have hflag := decodeUncompressedUnchecked_flag _ _ ((decodeUncompressed_ok_iff_unchecked _ _).mp hdec).1
      rw [headD_take rd (2 * cc.size) (by omega)] at hflag
      rw [if_neg (not_not.mpr hflag), if_neg (by omega), hdec]
  · rw [deserAffine_eof rd false (by omega)]
    exact ⟨nofun, fun h' => absurd h'.1 (by omega)⟩

end points
end PP
