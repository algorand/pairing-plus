/-
Curve orders: the primes in the factorisation of the cofactor `h₂` of `E'(Fq2)`,
`h₂ = 13²·23²·2713·11953·262069·c` with `c` a 448-bit prime.  A Pratt certificate, evaluated by
`PP.Primes.prattCheck`.
-/
import PP.Proofs.Primes

namespace PP.CurveOrder.Primes

open PP.Primes

theorem prime_2713 : Nat.Prime 2713 := by norm_num
theorem prime_11953 : Nat.Prime 11953 := by norm_num
theorem prime_262069 : Nat.Prime 262069 := by norm_num

/-- the 448-bit prime factor of `h₂` -/
def c : ℕ := 402096035359507321594726366720466575392706800671181159425656785868777272553337714697862511267018014931937703598282857976535744623203249

/-- the primes below `2 ^ 20` in the certificate of `c` -/
def cSmallPrimes : List ℕ :=
  [2, 3, 5, 7, 11, 13, 17, 37, 83, 89, 103, 107, 149, 151, 233, 373, 541, 587, 631, 907, 1307,
    1373, 2011, 2731, 2969, 3539, 3833, 8329, 19759, 37501, 57697, 68059, 197539, 225493,
    349079, 661873]

theorem cSmallPrimes_prime : cSmallPrimes.Forall Nat.Prime := by
  norm_num [cSmallPrimes, List.Forall]

def cCert : List PrattNode := [
  ⟨c, 13, [(2, 4), (3, 1), (11, 1), (631, 1), (4920833, 1), (52872661, 1), (4638704574076146691498289350639807119782054683906549022985642612861209609656189848749536921852444848596916990932297, 1)]⟩,
  ⟨4638704574076146691498289350639807119782054683906549022985642612861209609656189848749536921852444848596916990932297, 3, [(2, 3), (373, 1), (8329, 1), (37501, 1), (661873, 1), (12211063, 1), (1402724681, 1), (16297965815447, 1), (26935696298915610574513298451669528361624243820491956655650666425177, 1)]⟩,
  ⟨26935696298915610574513298451669528361624243820491956655650666425177, 3, [(2, 3), (13, 1), (37, 1), (86246152412150184989, 1), (81162125843606155545104998607900118769099783, 1)]⟩,
  ⟨81162125843606155545104998607900118769099783, 5, [(2, 1), (3, 2), (2731, 1), (57697, 1), (1435735831703, 1), (19931107752921199754119, 1)]⟩,
  ⟨19931107752921199754119, 3, [(2, 1), (3, 1), (149, 1), (22294303974184787197, 1)]⟩,
  ⟨22294303974184787197, 14, [(2, 2), (3, 1), (1857858664515398933, 1)]⟩,
  ⟨1857858664515398933, 2, [(2, 2), (907, 1), (512088937297519, 1)]⟩,
  ⟨512088937297519, 6, [(2, 1), (3, 1), (7, 1), (12192593745179, 1)]⟩,
  ⟨12192593745179, 2, [(2, 1), (7, 1), (11, 1), (107, 1), (541, 1), (1367711, 1)]⟩,
  ⟨1367711, 7, [(2, 1), (5, 1), (233, 1), (587, 1)]⟩,
  ⟨1435735831703, 5, [(2, 1), (2969, 1), (241787779, 1)]⟩,
  ⟨241787779, 2, [(2, 1), (3, 1), (40297963, 1)]⟩,
  ⟨40297963, 2, [(2, 1), (3, 1), (6716327, 1)]⟩,
  ⟨6716327, 5, [(2, 1), (17, 1), (197539, 1)]⟩,
  ⟨86246152412150184989, 2, [(2, 2), (21561538103037546247, 1)]⟩,
  ⟨21561538103037546247, 5, [(2, 1), (3, 3), (225493, 1), (1770732318293, 1)]⟩,
  ⟨1770732318293, 2, [(2, 2), (7, 1), (63240439939, 1)]⟩,
  ⟨63240439939, 3, [(2, 1), (3, 1), (13, 1), (810774871, 1)]⟩,
  ⟨810774871, 11, [(2, 1), (3, 1), (5, 1), (89, 1), (151, 1), (2011, 1)]⟩,
  ⟨16297965815447, 5, [(2, 1), (7, 3), (68059, 1), (349079, 1)]⟩,
  ⟨12211063, 5, [(2, 1), (3, 1), (103, 1), (19759, 1)]⟩,
  ⟨1402724681, 3, [(2, 3), (5, 1), (7, 1), (1307, 1), (3833, 1)]⟩,
  ⟨52872661, 2, [(2, 2), (3, 2), (5, 1), (83, 1), (3539, 1)]⟩,
  ⟨4920833, 3, [(2, 9), (7, 1), (1373, 1)]⟩]

theorem c_prime : Nat.Prime c :=
  prime_of_prattCheck_head cSmallPrimes_prime
    (show prattCheck cSmallPrimes cCert = true by decide +kernel)

end PP.CurveOrder.Primes
