/-
C09, layer 3: the model type `Fq12` with the model's own `+ - * neg 0 1` is the commutative ring
`Fq6[w]/(w² - v)`.  (Field structure: `PP.Proofs.TowerField`.)
-/
import PP.Proofs.Tower6

namespace PP
namespace Fq12

open Fq6 (v)

@[ext] theorem ext {a b : Fq12} (h0 : a.c0 = b.c0) (h1 : a.c1 = b.c1) : a = b := by
  cases a; cases b; simp_all

@[simp] theorem zero_c0 : (0 : Fq12).c0 = 0 := rfl
@[simp] theorem zero_c1 : (0 : Fq12).c1 = 0 := rfl
@[simp] theorem one_c0 : (1 : Fq12).c0 = 1 := rfl
@[simp] theorem one_c1 : (1 : Fq12).c1 = 0 := rfl
@[simp] theorem add_c0 (a b : Fq12) : (a + b).c0 = a.c0 + b.c0 := rfl
@[simp] theorem add_c1 (a b : Fq12) : (a + b).c1 = a.c1 + b.c1 := rfl
@[simp] theorem sub_c0 (a b : Fq12) : (a - b).c0 = a.c0 - b.c0 := rfl
@[simp] theorem sub_c1 (a b : Fq12) : (a - b).c1 = a.c1 - b.c1 := rfl
@[simp] theorem neg_c0 (a : Fq12) : (-a).c0 = -a.c0 := rfl
@[simp] theorem neg_c1 (a : Fq12) : (-a).c1 = -a.c1 := rfl

/-! ### the Karatsuba product is the schoolbook product modulo `w² = v` -/

theorem mul_c0 (a b : Fq12) : (a * b).c0 = a.c0 * b.c0 + v * (a.c1 * b.c1) := by
  show (a.c1 * b.c1).mulByNonresidue + a.c0 * b.c0 = _
  rw [Fq6.mulByNonresidue_eq]; ring

theorem mul_c1 (a b : Fq12) : (a * b).c1 = a.c0 * b.c1 + a.c1 * b.c0 := by
  show (a.c1 + a.c0) * (b.c0 + b.c1) - a.c0 * b.c0 - a.c1 * b.c1 = _
  ring

theorem mul_spec (a b : Fq12) :
    (a * b).c0 = a.c0 * b.c0 + v * (a.c1 * b.c1) ∧ (a * b).c1 = a.c0 * b.c1 + a.c1 * b.c0 :=
  ⟨mul_c0 a b, mul_c1 a b⟩

/-! ### the ring structure on the model's operations -/

instance : NatCast Fq12 := ⟨fun n => ⟨(n : Fq6), 0⟩⟩
instance : IntCast Fq12 := ⟨fun z => ⟨(z : Fq6), 0⟩⟩
instance : SMul ℕ Fq12 := ⟨fun n a => ⟨n • a.c0, n • a.c1⟩⟩
instance : SMul ℤ Fq12 := ⟨fun z a => ⟨z • a.c0, z • a.c1⟩⟩

@[simp] theorem natCast_c0 (n : ℕ) : ((n : Fq12)).c0 = (n : Fq6) := rfl
@[simp] theorem natCast_c1 (n : ℕ) : ((n : Fq12)).c1 = 0 := rfl
@[simp] theorem intCast_c0 (n : ℤ) : ((n : Fq12)).c0 = (n : Fq6) := rfl
@[simp] theorem intCast_c1 (n : ℤ) : ((n : Fq12)).c1 = 0 := rfl
@[simp] theorem nsmul_c0 (n : ℕ) (a : Fq12) : (n • a).c0 = n • a.c0 := rfl
@[simp] theorem nsmul_c1 (n : ℕ) (a : Fq12) : (n • a).c1 = n • a.c1 := rfl
@[simp] theorem zsmul_c0 (n : ℤ) (a : Fq12) : (n • a).c0 = n • a.c0 := rfl
@[simp] theorem zsmul_c1 (n : ℤ) (a : Fq12) : (n • a).c1 = n • a.c1 := rfl

instance instCommRing : CommRing Fq12 where
  add := (· + ·)
  mul := (· * ·)
  neg := Neg.neg
  sub := (· - ·)
  zero := 0
  one := 1
  add_assoc a b c := ext (add_assoc _ _ _) (add_assoc _ _ _)
  zero_add a := ext (zero_add _) (zero_add _)
  add_zero a := ext (add_zero _) (add_zero _)
  add_comm a b := ext (add_comm _ _) (add_comm _ _)
  neg_add_cancel a := ext (neg_add_cancel _) (neg_add_cancel _)
  sub_eq_add_neg a b := ext (sub_eq_add_neg _ _) (sub_eq_add_neg _ _)
  mul_assoc a b c := by ext1 <;> simp only [mul_c0, mul_c1] <;> ring
  one_mul a := by ext1 <;> simp only [mul_c0, mul_c1, one_c0, one_c1] <;> ring
  mul_one a := by ext1 <;> simp only [mul_c0, mul_c1, one_c0, one_c1] <;> ring
  left_distrib a b c := by ext1 <;> simp only [mul_c0, mul_c1, add_c0, add_c1] <;> ring
  right_distrib a b c := by ext1 <;> simp only [mul_c0, mul_c1, add_c0, add_c1] <;> ring
  mul_comm a b := by ext1 <;> simp only [mul_c0, mul_c1] <;> ring
  zero_mul a := by ext1 <;> simp only [mul_c0, mul_c1, zero_c0, zero_c1] <;> ring
  mul_zero a := by ext1 <;> simp only [mul_c0, mul_c1, zero_c0, zero_c1] <;> ring
  nsmul := (· • ·)
  nsmul_zero a := ext (AddMonoid.nsmul_zero _) (AddMonoid.nsmul_zero _)
  nsmul_succ n a := ext (AddMonoid.nsmul_succ n _) (AddMonoid.nsmul_succ n _)
  zsmul := (· • ·)
  zsmul_zero' a := ext (SubNegMonoid.zsmul_zero' _) (SubNegMonoid.zsmul_zero' _)
  zsmul_succ' n a := ext (SubNegMonoid.zsmul_succ' n _) (SubNegMonoid.zsmul_succ' n _)
  zsmul_neg' n a := ext (SubNegMonoid.zsmul_neg' n _) (SubNegMonoid.zsmul_neg' n _)
  natCast := Nat.cast
  natCast_zero := ext Nat.cast_zero rfl
  natCast_succ n := ext (Nat.cast_succ n) (add_zero _).symm
  intCast := Int.cast
  intCast_ofNat n := ext (Int.cast_natCast n) rfl
  intCast_negSucc n := ext (Int.cast_negSucc n) neg_zero.symm

/-! ### distinguished elements, embedding of `Fq6` -/

/-- the generator `w` (`w² = v`) -/
def w : Fq12 := ⟨0, 1⟩

/-- `Fq6 → Fq12`, `c ↦ c + 0·w` -/
def ofFq6 : Fq6 →+* Fq12 where
  toFun c := ⟨c, 0⟩
  map_one' := rfl
  map_zero' := rfl
  map_mul' a b := by ext1 <;> simp [mul_c0, mul_c1]
  map_add' a b := by ext1 <;> simp

@[simp] theorem ofFq6_c0 (c : Fq6) : (ofFq6 c).c0 = c := rfl
@[simp] theorem ofFq6_c1 (c : Fq6) : (ofFq6 c).c1 = 0 := rfl

theorem ofFq6_injective : Function.Injective ofFq6 := fun a b h => by
  simpa using congrArg Fq12.c0 h

theorem w_mul_w : w * w = ofFq6 v := by ext1 <;> simp [mul_c0, mul_c1, w]
theorem w_pow_two : w ^ 2 = ofFq6 v := by rw [pow_two, w_mul_w]

/-- every element is `c0 + c1·w` -/
theorem eq_add_mul_w (a : Fq12) : a = ofFq6 a.c0 + ofFq6 a.c1 * w := by
  ext1 <;> simp [mul_c0, mul_c1, w]

theorem mul_ofFq6 (a : Fq12) (c : Fq6) : a * ofFq6 c = ⟨a.c0 * c, a.c1 * c⟩ := by
  ext1 <;> simp [mul_c0, mul_c1]
theorem ofFq6_mul (c : Fq6) (a : Fq12) : ofFq6 c * a = ⟨c * a.c0, c * a.c1⟩ := by
  ext1 <;> simp [mul_c0, mul_c1]

/-! ### the remaining model operations against the ring operations -/

theorem add_eq (a b : Fq12) : Fq12.add a b = a + b := rfl
theorem sub_eq (a b : Fq12) : Fq12.sub a b = a - b := rfl
theorem neg_eq (a : Fq12) : Fq12.neg a = -a := rfl
theorem mul_eq (a b : Fq12) : Fq12.mul a b = a * b := rfl

theorem double_eq (a : Fq12) : double a = a + a := rfl
theorem dbl_eq (a : Fq12) : dbl a = a + a := rfl

theorem square_eq (a : Fq12) : square a = a * a := by
  ext1
  · rw [mul_c0]
    show (a.c1.mulByNonresidue + a.c0) * (a.c0 + a.c1) - a.c0 * a.c1
      - (a.c0 * a.c1).mulByNonresidue = _
    simp only [Fq6.mulByNonresidue_eq]; ring
  · rw [mul_c1]
    show a.c0 * a.c1 + a.c0 * a.c1 = _
    ring

theorem sq_eq (a : Fq12) : sq a = a * a := square_eq a

/-! ### conjugation is the ring automorphism `c0 + c1 w ↦ c0 - c1 w` -/

theorem conjugate_c0 (a : Fq12) : (conjugate a).c0 = a.c0 := rfl
theorem conjugate_c1 (a : Fq12) : (conjugate a).c1 = -a.c1 := rfl

theorem conjugate_mul (a b : Fq12) : conjugate (a * b) = conjugate a * conjugate b := by
  ext1 <;> simp only [mul_c0, mul_c1, conjugate_c0, conjugate_c1] <;> ring
theorem conjugate_add (a b : Fq12) : conjugate (a + b) = conjugate a + conjugate b := by
  ext1 <;> simp only [add_c0, add_c1, conjugate_c0, conjugate_c1]; ring
theorem conjugate_one : conjugate 1 = 1 := by ext1 <;> simp [conjugate_c0, conjugate_c1]
theorem conjugate_zero : conjugate 0 = 0 := by ext1 <;> simp [conjugate_c0, conjugate_c1]
theorem conjugate_conjugate (a : Fq12) : conjugate (conjugate a) = a := by
  ext1 <;> simp [conjugate_c0, conjugate_c1]
theorem conjugate_ofFq6 (c : Fq6) : conjugate (ofFq6 c) = ofFq6 c := by
  ext1 <;> simp [conjugate_c0, conjugate_c1]
theorem conjugate_w : conjugate w = -w := by ext1 <;> simp [conjugate_c0, conjugate_c1, w]

/-- `conjugate` as a ring automorphism (an involution fixing `Fq6`, sending `w ↦ -w`) -/
def conjugateEquiv : Fq12 ≃+* Fq12 where
  toFun := conjugate
  invFun := conjugate
  left_inv := conjugate_conjugate
  right_inv := conjugate_conjugate
  map_mul' := conjugate_mul
  map_add' := conjugate_add

/-- the relative norm `Fq12 → Fq6`: `a · conj a = c0² - v c1²` -/
theorem mul_conjugate (a : Fq12) :
    a * conjugate a = ofFq6 (a.c0 * a.c0 - v * (a.c1 * a.c1)) := by
  ext1
  · rw [mul_c0, conjugate_c0, conjugate_c1, ofFq6_c0]; ring
  · rw [mul_c1, conjugate_c0, conjugate_c1, ofFq6_c1]; ring

/-- sparse product `mul_by_014` = dense product with `(c0 + c1 v) + (c4 v) w` -/
theorem mulBy014_eq (a : Fq12) (c0 c1 c4 : Fq2) :
    mulBy014 a c0 c1 c4 = a * ⟨⟨c0, c1, 0⟩, ⟨0, c4, 0⟩⟩ := by
  have hsplit : (⟨c0, c1 + c4, 0⟩ : Fq6) = ⟨c0, c1, 0⟩ + ⟨0, c4, 0⟩ := by
    ext1 <;> simp
  ext1
  · rw [mul_c0]
    show (a.c1.mulBy1 c4).mulByNonresidue + a.c0.mulBy01 c0 c1 = _
    rw [Fq6.mulByNonresidue_eq, Fq6.mulBy1_eq, Fq6.mulBy01_eq]; ring
  · rw [mul_c1]
    show (a.c1 + a.c0).mulBy01 c0 (c1 + c4) - a.c0.mulBy01 c0 c1 - a.c1.mulBy1 c4 = _
    rw [Fq6.mulBy1_eq, Fq6.mulBy01_eq, Fq6.mulBy01_eq, hsplit]; ring

theorem isZero_iff (a : Fq12) : isZero a = true ↔ a = 0 := by
  unfold isZero
  rw [Bool.and_eq_true, Fq6.isZero_iff, Fq6.isZero_iff]
  constructor
  · rintro ⟨h0, h1⟩; ext1 <;> simp [h0, h1]
  · rintro rfl; exact ⟨rfl, rfl⟩

end Fq12
end PP
