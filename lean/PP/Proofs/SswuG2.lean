/-
C15, layer 2: the control flow of the model's `osswuG2` (square-root candidate through an addition
chain, search through the `ROOTS_OF_UNITY` for a multiplier that makes it a root of `g(x0)`, then
through the `ETAS` for one that makes it a root of `g(x1)`, terminal `panic!`) is total and computes
`map_to_curve_simple_swu` of RFC 9380.

Proved for an abstract field `F` with `∀ x ≠ 0, x^(N−1) = 1` and `N − 1 = 2m·(2k+1)`.  With
`w/v = g(x0)` the candidate is `c = x^k·w·v^b` for `x = w·v^(2b+1)`, so `c²·v = ζ·w` with
`ζ = x^(2k+1)`; then `ζ^m = ±1`, and `ζ^m = 1` if `w/v` is a square.  The two lists are such that
  * `roots`: every `ζ` with `ζ^m = 1` has some `ρ ∈ roots` with `ρ²ζ = 1`,
  * `etas` : every `ζ` with `ζ^m = −1` has some `η ∈ etas` with `η²ζ = ξ³`.
`osswuG2` is the case `m = 4`, `b = 7` (instantiated at `F = Fq2` in `PP.Proofs.SswuG2Fq2`);
`osswuG1` is the case `m = 1`, `b = 1`, `roots = [1]`, `etas = [√(−ξ³)]` (`PP.Proofs.SswuG1`).
-/
import PP.Proofs.Sswu

set_option linter.unusedSectionVars false

namespace PP
namespace Sswu
open PP.Spec

variable {F : Type} [Field F] [DecidableEq F] [FieldOps F] [LawfulFieldOps F]

/-- the two `for` loops of `OSSWUMap for G2` over an abstract field (cf. `osswuG2Find`) -/
def findG (cand den num : F) : List F → Option F
  | [] => none
  | m :: ms => if sq (m * cand) * den = num then some (m * cand) else findG cand den num ms

theorem findG_some {cand den num : F} : ∀ {ms : List F} {y : F},
    findG cand den num ms = some y → y ^ 2 * den = num := by
  intro ms
  induction ms with
  | nil => intro y h; simp [findG] at h
  | cons m ms ih =>
    intro y h
    unfold findG at h
    split at h
    · next hc =>
      obtain rfl := Option.some.inj h
      rw [← hc, LawfulFieldOps.sq_eq, pow_two]
    · exact ih h

theorem findG_ne_none {cand den num : F} : ∀ {ms : List F} {m : F}, m ∈ ms →
    (m * cand) ^ 2 * den = num → findG cand den num ms ≠ none := by
  intro ms
  induction ms with
  | nil => intro m hm; simp at hm
  | cons m' ms ih =>
    intro m hm hc
    unfold findG
    split
    · simp
    · next hne =>
      rcases List.mem_cons.mp hm with rfl | hm
      · exfalso; apply hne; rw [← hc, LawfulFieldOps.sq_eq, pow_two]
      · exact ih hm hc

/-- `x^k · w·v^b` for `x = w·v^(2b+1)` -/
def cand (b k : ℕ) (w v : F) : F := (w * v ^ (2 * b + 1)) ^ k * (w * v ^ b)

theorem cand_sq (b k : ℕ) (w v : F) :
    cand b k w v ^ 2 * v = (w * v ^ (2 * b + 1)) ^ (2 * k + 1) * w := by
  unfold cand
  ring

/-- `N − 1 = 2m·(2k+1)` with `k = (N − (2m+1))/(4m)`, for `N ≡ 2m+1 (mod 4m)` -/
theorem card_pred_split {N m : ℕ} (hm : 0 < m) (hN : N % (4 * m) = 2 * m + 1) :
    2 * m * (2 * ((N - (2 * m + 1)) / (4 * m)) + 1) = N - 1 := by
  have h := Nat.div_add_mod N (4 * m)
  rw [hN] at h
  rw [← h, Nat.add_sub_cancel, Nat.mul_div_cancel_left _ (Nat.mul_pos (by decide) hm),
    ← Nat.add_assoc, Nat.add_sub_cancel]
  ring

section Zeta
variable {N m k : ℕ} (hN : 2 * m * (2 * k + 1) = N - 1)
variable (hcard : ∀ x : F, x ≠ 0 → x ^ (N - 1) = 1)
include hN hcard

/-- `ζ = x^(2k+1)` has `ζ^m = ±1` -/
theorem zeta_pow {x : F} (hx : x ≠ 0) : (x ^ (2 * k + 1)) ^ m = 1 ∨ (x ^ (2 * k + 1)) ^ m = -1 := by
  have e : (2 * k + 1) * (m * 2) = N - 1 := by rw [← hN]; ring
  rw [← sq_eq_one_iff, ← pow_mul, ← pow_mul, e]
  exact hcard x hx

/-- and `ζ^m = 1` when `x` is a square -/
theorem zeta_pow_of_sq {r : F} (hr : r ≠ 0) : ((r ^ 2) ^ (2 * k + 1)) ^ m = 1 := by
  have e : 2 * ((2 * k + 1) * m) = N - 1 := by rw [← hN]; ring
  rw [← pow_mul, ← pow_mul, e]
  exact hcard r hr

/-- the hypotheses of `osswuG2Core_spec` for the candidate `cand b k w v` -/
theorem zeta_cand (b : ℕ) {w v : F} (hv : v ≠ 0) (hw : w ≠ 0) :
    (((w * v ^ (2 * b + 1)) ^ (2 * k + 1)) ^ m = 1 ∨ ((w * v ^ (2 * b + 1)) ^ (2 * k + 1)) ^ m = -1) ∧
    (IsSquare (w / v) → ((w * v ^ (2 * b + 1)) ^ (2 * k + 1)) ^ m = 1) := by
  refine ⟨zeta_pow hN hcard (mul_ne_zero hw (pow_ne_zero _ hv)), ?_⟩
  rintro ⟨r, hr⟩
  have hw' : w = r * r * v := by rw [← hr, div_mul_cancel₀ _ hv]
  have hr0 : r ≠ 0 := by rintro rfl; apply hw; rw [hw', zero_mul, zero_mul]
  have hs : w * v ^ (2 * b + 1) = (r * v ^ (b + 1)) ^ 2 := by rw [hw']; ring
  rw [hs]
  exact zeta_pow_of_sq hN hcard (mul_ne_zero hr0 (pow_ne_zero _ hv))

end Zeta

/-- `OSSWUMap for G2` after `osswu_help` and the chain; `none` = the terminal `panic!` -/
def osswuG2Core (sgn0 : F → Sgn0) (h : OsswuHelp F) (cand : F) (roots etas : List F) (u : F) :
    Option (Jac F) :=
  match findG cand h.gx0_den h.gx0_num roots with
  | some y0 =>
    let y0 := negateIf y0 ((sgn0 y0).xor (sgn0 u))
    some ⟨h.x0_num * h.x0_den, y0 * h.gx0_den, h.x0_den⟩
  | none =>
    let x1_num := h.x0_num * h.xi_usq
    let gx1_num := (h.xi2_u4 * h.xi_usq) * h.gx0_num
    let sqrtCandidate := (cand * h.usq) * u
    match findG sqrtCandidate h.gx0_den gx1_num etas with
    | some y1 =>
      let y1 := negateIf y1 ((sgn0 y1).xor (sgn0 u))
      some ⟨x1_num * h.x0_den, y1 * h.gx0_den, h.x0_den⟩
    | none => none

section Core
variable {ξ A B : F} (hA : A ≠ 0) (hξ : ξ ≠ 0)
variable (hexc : IsSquare (sswuG A B (B / (ξ * A))))
variable (sgn0 : F → Sgn0) (hflip : ∀ y : F, y ≠ 0 → sgn0 (-y) ≠ sgn0 y)
variable {m : ℕ} (roots etas : List F)
variable (hroots : ∀ ζ : F, ζ ^ m = 1 → ∃ ρ ∈ roots, ρ ^ 2 * ζ = 1)
variable (hetas : ∀ ζ : F, ζ ^ m = -1 → ∃ η ∈ etas, η ^ 2 * ζ = ξ ^ 3)
include hA hξ hexc hflip hroots hetas

/-- **C15 for the control flow**, for a candidate `c` with `c²·gx0_den = ζ·gx0_num`: the searches
succeed (the `panic!` is unreachable), and what is returned is the RFC's output. -/
theorem osswuG2Core_spec (u c ζ : F) (hc : c ^ 2 * x0den ξ A u ^ 3 = ζ * gx0num ξ A B u)
    (hζ : gx0num ξ A B u ≠ 0 → ζ ^ m = 1 ∨ ζ ^ m = -1)
    (hsq : gx0num ξ A B u ≠ 0 → IsSquare (gx0num ξ A B u / x0den ξ A u ^ 3) → ζ ^ m = 1) :
    ∃ P, osswuG2Core sgn0 (osswuHelp u ξ A B) c roots etas u = some P ∧ SswuOut sgn0 ξ A B u P := by
  unfold osswuG2Core
  rw [help_eq]
  dsimp only
  cases h0 : findG c (x0den ξ A u ^ 3) (gx0num ξ A B u) roots with
  | some y0 => exact ⟨_, rfl, sswuOut_branch1 hA hξ sgn0 hflip u y0 (findG_some h0)⟩
  | none =>
    have hno : ∀ ρ ∈ roots, ρ ^ 2 * ζ * gx0num ξ A B u ≠ gx0num ξ A B u := fun ρ hρ e =>
      findG_ne_none hρ (by rw [mul_pow, mul_assoc, hc, ← mul_assoc]; exact e) h0
    obtain ⟨ρ1, hρ1, _⟩ := hroots 1 (one_pow m)
    have hw : gx0num ξ A B u ≠ 0 := fun hw0 => hno ρ1 hρ1 (by rw [hw0, mul_zero])
    have hζ1 : ζ ^ m ≠ 1 := by
      intro h1
      obtain ⟨ρ, hρ, e⟩ := hroots ζ h1
      exact hno ρ hρ (by rw [e, one_mul])
    have hns : ¬ IsSquare (sswuG A B (x0 ξ A B u)) := by
      intro hs
      rw [← gx0_eq hA hξ u B] at hs
      exact hζ1 (hsq hw hs)
    obtain ⟨η, hη, e⟩ := hetas ζ ((hζ hw).resolve_left hζ1)
    cases h1 : findG (c * u ^ 2 * u) (x0den ξ A u ^ 3)
        (ξ ^ 2 * u ^ 4 * (ξ * u ^ 2) * gx0num ξ A B u) etas with
    | some y1 =>
      exact ⟨_, rfl,
        sswuOut_branch2 hA hξ hexc sgn0 hflip u y1 hns ((findG_some h1).trans (by ring))⟩
    | none =>
      refine absurd h1 (findG_ne_none hη ?_)
      linear_combination η ^ 2 * u ^ 6 * hc + u ^ 6 * gx0num ξ A B u * e

/-- … in particular for the candidate `cand b k gx0_num gx0_den` in a field with `N` elements,
`N − 1 = 2m·(2k+1)` -/
theorem osswuG2Core_cand_spec {N k : ℕ} (hN : 2 * m * (2 * k + 1) = N - 1)
    (hcard : ∀ x : F, x ≠ 0 → x ^ (N - 1) = 1) (b : ℕ) (u : F) :
    ∃ P, osswuG2Core sgn0 (osswuHelp u ξ A B)
        (cand b k (osswuHelp u ξ A B).gx0_num (osswuHelp u ξ A B).gx0_den) roots etas u = some P ∧
      SswuOut sgn0 ξ A B u P := by
  have hv : x0den ξ A u ^ 3 ≠ 0 := pow_ne_zero _ (x0den_ne_zero hA hξ u)
  refine osswuG2Core_spec hA hξ hexc sgn0 hflip roots etas hroots hetas u _ _ ?_
    (fun hw => (zeta_cand hN hcard b hv hw).1) (fun hw => (zeta_cand hN hcard b hv hw).2)
  rw [help_eq]
  exact cand_sq b k _ _

end Core

/-- the body of `osswuG2` (`PP/Model/Map.lean`) with its `let`s substituted and field, chain, sign
    function, constants and the two tables as parameters; `osswuG2_eq_g2Map` (`SswuG2Fq2.lean`) closes
    each branch of the search by `rfl` against this text, and `findG`, `osswuG2Core` are spelt like the model for the same reason -/
def g2Map (chain : F → F) (sgn0 : F → Sgn0) (ξ A B : F) (roots etas : List F) (u : F) :
    Option (Jac F) :=
  osswuG2Core sgn0 (osswuHelp u ξ A B)
    (chain (sq (sq (sq (osswuHelp u ξ A B).gx0_den)) *
        (sq (osswuHelp u ξ A B).gx0_den * sq (sq (osswuHelp u ξ A B).gx0_den) *
            (osswuHelp u ξ A B).gx0_den *
          (osswuHelp u ξ A B).gx0_num)) *
      (sq (osswuHelp u ξ A B).gx0_den * sq (sq (osswuHelp u ξ A B).gx0_den) *
          (osswuHelp u ξ A B).gx0_den *
        (osswuHelp u ξ A B).gx0_num))
    roots etas u

/-- the candidate of `OSSWUMap for G2`: `(w·v¹⁵)^k · w·v⁷` -/
theorem g2Cand_eq {chain : F → F} {k : ℕ} (hchain : ∀ a, chain a = a ^ k) (w v : F) :
    chain (sq (sq (sq v)) * (sq v * sq (sq v) * v * w)) * (sq v * sq (sq v) * v * w) =
      cand 7 k w v := by
  simp only [hchain, LawfulFieldOps.sq_eq, cand]
  ring

section Main
variable {N : ℕ} (hN : N % 16 = 9) (hcard : ∀ x : F, x ≠ 0 → x ^ (N - 1) = 1)
variable {ξ A B : F} (hA : A ≠ 0) (hξ : ξ ≠ 0)
variable (hexc : IsSquare (sswuG A B (B / (ξ * A))))
variable (sgn0 : F → Sgn0) (hflip : ∀ y : F, y ≠ 0 → sgn0 (-y) ≠ sgn0 y)
variable (chain : F → F) (hchain : ∀ a, chain a = a ^ ((N - 9) / 16))
variable (roots etas : List F)
variable (hroots : ∀ ζ : F, ζ ^ 4 = 1 → ∃ ρ ∈ roots, ρ ^ 2 * ζ = 1)
variable (hetas : ∀ ζ : F, ζ ^ 4 = -1 → ∃ η ∈ etas, η ^ 2 * ζ = ξ ^ 3)
include hN hcard hA hξ hexc hflip hchain hroots hetas

/-- **C15 for the G2-shaped map over an abstract field** with `N ≡ 9 (mod 16)` elements and
`chain a = a^((N−9)/16)` -/
theorem g2Map_spec (u : F) :
    ∃ P, g2Map chain sgn0 ξ A B roots etas u = some P ∧ SswuOut sgn0 ξ A B u P := by
  rw [g2Map, g2Cand_eq hchain]
  exact osswuG2Core_cand_spec hA hξ hexc sgn0 hflip roots etas hroots hetas
    (card_pred_split (m := 4) (by decide) hN) hcard 7 u

end Main

theorem mem_of_pow_four_eq_one {i ζ : F} (hi : i * i = -1) (h : ζ ^ 4 = 1) :
    ζ ∈ [1, -1, i, -i] := by
  have h2 : (ζ ^ 2) ^ 2 = 1 := by rw [← pow_mul]; exact h
  simp only [List.mem_cons, List.not_mem_nil, or_false]
  rcases sq_eq_one_iff.mp h2 with h1 | h1
  · rcases sq_eq_one_iff.mp h1 with h0 | h0
    · exact Or.inl h0
    · exact Or.inr (Or.inl h0)
  · rw [← hi, ← pow_two, sq_eq_sq_iff_eq_or_eq_neg] at h1
    exact Or.inr (Or.inr h1)

/-- the fourth roots of `−1` are those of `1` times a square root `ω` of `i` -/
theorem mem_of_pow_four_eq_neg_one {i ω ζ : F} (hi : i * i = -1) (hω : ω * ω = i)
    (h : ζ ^ 4 = -1) : ∃ t ∈ [1, -1, i, -i], ζ = t * ω := by
  have hω4 : ω ^ 4 = -1 := by rw [pow_mul ω 2 2, pow_two ω, hω, pow_two, hi]
  have hω0 : ω ≠ 0 := by
    rintro rfl
    rw [zero_pow (by decide), zero_eq_neg] at hω4
    exact one_ne_zero hω4
  refine ⟨ζ / ω, mem_of_pow_four_eq_one hi ?_, (div_mul_cancel₀ ζ hω0).symm⟩
  rw [div_pow, h, hω4, div_self (neg_ne_zero.mpr one_ne_zero)]

end Sswu
end PP
