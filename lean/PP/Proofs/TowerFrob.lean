/-
C09, Frobenius: on `Fq2`, `Fq6`, `Fq12` the model's table-driven `frobeniusMap x k` is `x ↦ x^(q^k)`
for every `k`.

Proof scheme (per layer `L` with generator `g`, `g^d = c` in the layer below):
* `frobeniusMap x 0 = x`                                   (table entry 0 is `1`);
* `frobeniusMap x 1 = x^q`: `x ↦ x^q` is additive and multiplicative in characteristic `q`, is the
  layer-below Frobenius on coefficients, and `g^q = c^((q-1)/d) · g`.  For `Fq2` this is `u^q = -u`,
  `(q-1)/2` being odd.  For `Fq12` the table entry 1 is checked to be `ξ^((q-1)/6)` by a kernel
  computation (`fastPow`, 379-bit exponent); the entries 1 of the two `Fq6` tables are its square
  and fourth power;
* `frobeniusMap (frobeniusMap x k) 1 = frobeniusMap x (k+1)`: table recurrence
  `conj(T[j]) · T[1] = T[(j+1) mod n]` for all `j < n` (kernel computation), which also accounts
  for the `power % n` indexing (periodicity);
* induction on `k`.
-/
import Mathlib.Algebra.CharP.Lemmas
import Mathlib.Algebra.CharP.Algebra
import PP.Proofs.TowerField

namespace PP

/-- the induction that turns "step 0, step 1, composition" into `fr x k = x^(q^k)` -/
theorem frob_induction {F : Type} [Monoid F] (q : ℕ) (fr : F → ℕ → F)
    (h0 : ∀ x, fr x 0 = x) (h1 : ∀ x, fr x 1 = x ^ q)
    (hs : ∀ x k, fr (fr x k) 1 = fr x (k + 1)) : ∀ (k : ℕ) (x : F), fr x k = x ^ q ^ k
  | 0, x => by rw [h0, pow_zero, pow_one]
  | k + 1, x => by rw [← hs, h1, frob_induction q fr h0 h1 hs k x, ← pow_mul, pow_succ]

theorem q_sub_one_lt : Gen.q - 1 < 2 ^ 4096 := by decide +kernel
theorem q_eq_two_mul : Gen.q = 2 * ((Gen.q - 1) / 2) + 1 := by decide +kernel
theorem q_eq_three_mul : Gen.q = 3 * ((Gen.q - 1) / 3) + 1 := by decide +kernel
theorem q_half_eq : (Gen.q - 1) / 2 = 3 * ((Gen.q - 1) / 6) := by decide +kernel
theorem q_half_odd : (Gen.q - 1) / 2 % 2 = 1 := by decide +kernel
theorem q_third_eq : (Gen.q - 1) / 3 = 2 * ((Gen.q - 1) / 6) := by decide +kernel

/-- entry 1 of the `Fq12` table is `ξ^((q-1)/6)`; the entries 1 of the two `Fq6` tables are its
    square and its fourth power, so this is the only power of `ξ` that is evaluated -/
theorem Fq12.frobCoeff_one_fast :
    fastPow Fq2.xi ((Gen.q - 1) / 6) = Fq12.frobCoeffC1.getD 1 0 := by
  decide +kernel
theorem Fq12.frobCoeff_one : Fq2.xi ^ ((Gen.q - 1) / 6) = Fq12.frobCoeffC1.getD 1 0 := by
  rw [← fastPow_eq _ _ (lt_of_le_of_lt (Nat.div_le_self _ _) q_sub_one_lt)]
  exact Fq12.frobCoeff_one_fast

section Prime
variable [hq : Fact (Nat.Prime Gen.q)]

/-! ### characteristic -/

instance Fq.charP : CharP Fq Gen.q :=
  RingHom.charP (Zp.toZRingHom (p := Gen.q)) Zp.toZ_injective Gen.q
instance Fq2.charP : CharP Fq2 Gen.q := charP_of_injective_ringHom Fq2.ofFq_injective Gen.q
instance Fq6.charP : CharP Fq6 Gen.q := charP_of_injective_ringHom Fq6.ofFq2_injective Gen.q
instance Fq12.charP : CharP Fq12 Gen.q := charP_of_injective_ringHom Fq12.ofFq6_injective Gen.q

theorem Fq.pow_q (c : Fq) : c ^ Gen.q = c := by
  have := FiniteField.pow_card c
  rwa [Zp.card] at this

/-- the (trivial) Frobenius of the prime field model: `FieldOps.frob c k = c = c^(q^k)` -/
theorem Fq.frobenius_spec (k : ℕ) (c : Fq) : FieldOps.frob c k = c ^ Gen.q ^ k := by
  have := FiniteField.pow_card_pow k c
  rw [Zp.card] at this
  exact this.symm

end Prime

/-! ## `Fq2` -/

namespace Fq2

theorem frobCoeff_zero : frobCoeffC1.getD 0 0 = 1 := by decide +kernel
theorem frobCoeff_one : frobCoeffC1.getD 1 0 = -1 := by decide +kernel
theorem frobCoeff_step : ∀ j, j < 2 →
    frobCoeffC1.getD j 0 * frobCoeffC1.getD 1 0 = frobCoeffC1.getD ((j + 1) % 2) 0 := by
  intro j hj
  have h : j = 0 ∨ j = 1 := by omega
  rcases h with rfl | rfl
  · rw [frobCoeff_zero, one_mul]
  · rw [frobCoeff_one, show (1 + 1) % 2 = 0 from rfl, frobCoeff_zero]; ring

theorem frobeniusMap_c0 (a : Fq2) (k : ℕ) : (frobeniusMap a k).c0 = a.c0 := rfl
theorem frobeniusMap_c1 (a : Fq2) (k : ℕ) :
    (frobeniusMap a k).c1 = a.c1 * frobCoeffC1.getD (k % 2) 0 := rfl

theorem frobeniusMap_zero (a : Fq2) : frobeniusMap a 0 = a := by
  ext
  · exact frobeniusMap_c0 a 0
  · rw [frobeniusMap_c1, Nat.zero_mod, frobCoeff_zero, mul_one]

theorem frobeniusMap_one (a : Fq2) : frobeniusMap a 1 = conj a := by
  ext
  · exact frobeniusMap_c0 a 1
  · rw [frobeniusMap_c1, show 1 % 2 = 1 from rfl, frobCoeff_one, conj_c1]; ring

theorem frobeniusMap_step (a : Fq2) (k : ℕ) :
    frobeniusMap (frobeniusMap a k) 1 = frobeniusMap a (k + 1) := by
  ext
  · exact frobeniusMap_c0 _ 1
  · rw [frobeniusMap_c1, frobeniusMap_c1, frobeniusMap_c1, show 1 % 2 = 1 from rfl, mul_assoc,
      frobCoeff_step (k % 2) (Nat.mod_lt _ (by norm_num)), Nat.mod_add_mod]

theorem frobeniusMap_even (a : Fq2) (k : ℕ) (h : k % 2 = 0) : frobeniusMap a k = a := by
  ext
  · exact frobeniusMap_c0 a k
  · rw [frobeniusMap_c1, h, frobCoeff_zero, mul_one]

section Prime
variable [hq : Fact (Nat.Prime Gen.q)]

theorem u_pow_q : u ^ Gen.q = -u := by
  have hodd : Odd ((Gen.q - 1) / 2) := Nat.odd_iff.mpr q_half_odd
  rw [q_eq_two_mul, pow_succ, pow_mul, pow_two, u_mul_u, hodd.neg_one_pow]
  ring

theorem conj_eq_pow_q (a : Fq2) : conj a = a ^ Gen.q := by
  conv_rhs => rw [eq_add_mul_u a]
  rw [add_pow_char, mul_pow, ← map_pow, ← map_pow, Fq.pow_q, Fq.pow_q, u_pow_q]
  ext <;> simp [mul_c0, mul_c1, u]

theorem frobeniusMap_one_eq_pow (a : Fq2) : frobeniusMap a 1 = a ^ Gen.q := by
  rw [frobeniusMap_one, conj_eq_pow_q]

/-- **Frobenius on `Fq2`**: `frobenius_map(k)` is `x ↦ x^(q^k)`, for every `k` -/
theorem frobenius_spec (k : ℕ) (x : Fq2) : frobeniusMap x k = x ^ Gen.q ^ k :=
  frob_induction Gen.q frobeniusMap frobeniusMap_zero frobeniusMap_one_eq_pow frobeniusMap_step k x

end Prime
end Fq2

/-! ## `Fq6` -/

namespace Fq6
open Fq2 (xi conj)

theorem frobCoeffC1_zero : frobCoeffC1.getD 0 0 = 1 := by decide +kernel
theorem frobCoeffC2_zero : frobCoeffC2.getD 0 0 = 1 := by decide +kernel

theorem frobCoeffC1_one_eq_sq :
    Fq12.frobCoeffC1.getD 1 0 * Fq12.frobCoeffC1.getD 1 0 = frobCoeffC1.getD 1 0 := by
  decide +kernel
theorem frobCoeffC1_one : xi ^ ((Gen.q - 1) / 3) = frobCoeffC1.getD 1 0 := by
  rw [q_third_eq, pow_mul', Fq12.frobCoeff_one, pow_two, frobCoeffC1_one_eq_sq]
theorem frobCoeffC2_one :
    frobCoeffC1.getD 1 0 * frobCoeffC1.getD 1 0 = frobCoeffC2.getD 1 0 := by decide +kernel

theorem frobCoeffC1_step : ∀ j, j < 6 →
    conj (frobCoeffC1.getD j 0) * frobCoeffC1.getD 1 0 = frobCoeffC1.getD ((j + 1) % 6) 0 := by
  decide +kernel
theorem frobCoeffC2_step : ∀ j, j < 6 →
    conj (frobCoeffC2.getD j 0) * frobCoeffC2.getD 1 0 = frobCoeffC2.getD ((j + 1) % 6) 0 := by
  decide +kernel

theorem frobeniusMap_c0 (a : Fq6) (k : ℕ) : (frobeniusMap a k).c0 = a.c0.frobeniusMap k := rfl
theorem frobeniusMap_c1 (a : Fq6) (k : ℕ) :
    (frobeniusMap a k).c1 = a.c1.frobeniusMap k * frobCoeffC1.getD (k % 6) 0 := rfl
theorem frobeniusMap_c2 (a : Fq6) (k : ℕ) :
    (frobeniusMap a k).c2 = a.c2.frobeniusMap k * frobCoeffC2.getD (k % 6) 0 := rfl

theorem frobeniusMap_zero (a : Fq6) : frobeniusMap a 0 = a := by
  ext1
  · rw [frobeniusMap_c0, Fq2.frobeniusMap_zero]
  · rw [frobeniusMap_c1, Fq2.frobeniusMap_zero, Nat.zero_mod, frobCoeffC1_zero, mul_one]
  · rw [frobeniusMap_c2, Fq2.frobeniusMap_zero, Nat.zero_mod, frobCoeffC2_zero, mul_one]

theorem frobeniusMap_step (a : Fq6) (k : ℕ) :
    frobeniusMap (frobeniusMap a k) 1 = frobeniusMap a (k + 1) := by
  have h6 : k % 6 < 6 := Nat.mod_lt _ (by norm_num)
  ext1
  · rw [frobeniusMap_c0, frobeniusMap_c0, frobeniusMap_c0, Fq2.frobeniusMap_step]
  · rw [frobeniusMap_c1, frobeniusMap_c1, frobeniusMap_c1, Fq2.frobeniusMap_one, Fq2.conj_mul,
      ← Fq2.frobeniusMap_one, Fq2.frobeniusMap_step, show 1 % 6 = 1 from rfl, mul_assoc,
      frobCoeffC1_step _ h6, Nat.mod_add_mod]
  · rw [frobeniusMap_c2, frobeniusMap_c2, frobeniusMap_c2, Fq2.frobeniusMap_one, Fq2.conj_mul,
      ← Fq2.frobeniusMap_one, Fq2.frobeniusMap_step, show 1 % 6 = 1 from rfl, mul_assoc,
      frobCoeffC2_step _ h6, Nat.mod_add_mod]

theorem frobeniusMap_six (a : Fq6) : frobeniusMap a 6 = a := by
  ext1
  · rw [frobeniusMap_c0, Fq2.frobeniusMap_even _ 6 rfl]
  · rw [frobeniusMap_c1, Fq2.frobeniusMap_even _ 6 rfl, show 6 % 6 = 0 from rfl, frobCoeffC1_zero,
      mul_one]
  · rw [frobeniusMap_c2, Fq2.frobeniusMap_even _ 6 rfl, show 6 % 6 = 0 from rfl, frobCoeffC2_zero,
      mul_one]

theorem basis_form (a b c k : Fq2) :
    ofFq2 a + ofFq2 b * (ofFq2 k * v) + ofFq2 c * ((ofFq2 k * v) * (ofFq2 k * v))
      = ⟨a, b * k, c * (k * k)⟩ := by
  ext1 <;> simp [mul_c0, mul_c1, mul_c2, v]

section Prime
variable [hq : Fact (Nat.Prime Gen.q)]

theorem v_pow_q : v ^ Gen.q = ofFq2 (frobCoeffC1.getD 1 0) * v := by
  rw [q_eq_three_mul, pow_succ, pow_mul, v_pow_three, ← map_pow, frobCoeffC1_one]

theorem frobeniusMap_one_eq_pow (a : Fq6) : frobeniusMap a 1 = a ^ Gen.q := by
  conv_rhs => rw [eq_add_mul_v a]
  rw [add_pow_char, add_pow_char, mul_pow, mul_pow, mul_pow, ← map_pow, ← map_pow, ← map_pow,
    v_pow_q, ← Fq2.conj_eq_pow_q, ← Fq2.conj_eq_pow_q, ← Fq2.conj_eq_pow_q, basis_form]
  ext1
  · rw [frobeniusMap_c0, Fq2.frobeniusMap_one]
  · rw [frobeniusMap_c1, Fq2.frobeniusMap_one]
  · rw [frobeniusMap_c2, Fq2.frobeniusMap_one, show 1 % 6 = 1 from rfl, ← frobCoeffC2_one]

/-- **Frobenius on `Fq6`**: `frobenius_map(k)` is `x ↦ x^(q^k)`, for every `k` -/
theorem frobenius_spec (k : ℕ) (x : Fq6) : frobeniusMap x k = x ^ Gen.q ^ k :=
  frob_induction Gen.q frobeniusMap frobeniusMap_zero frobeniusMap_one_eq_pow frobeniusMap_step k x

theorem frobeniusMap_one_mul (a b : Fq6) :
    frobeniusMap (a * b) 1 = frobeniusMap a 1 * frobeniusMap b 1 := by
  simp only [frobeniusMap_one_eq_pow, mul_pow]

end Prime

theorem frobeniusMap_one_ofFq2 (c : Fq2) : frobeniusMap (ofFq2 c) 1 = ofFq2 (conj c) := by
  ext1
  · rw [frobeniusMap_c0, Fq2.frobeniusMap_one]; rfl
  · rw [frobeniusMap_c1, Fq2.frobeniusMap_one]
    show conj 0 * _ = 0
    rw [Fq2.conj_zero, zero_mul]
  · rw [frobeniusMap_c2, Fq2.frobeniusMap_one]
    show conj 0 * _ = 0
    rw [Fq2.conj_zero, zero_mul]

end Fq6

/-! ## `Fq12` -/

namespace Fq12
open Fq2 (xi conj)
open Fq6 (v ofFq2)

theorem frobCoeff_zero : frobCoeffC1.getD 0 0 = 1 := by decide +kernel

theorem frobCoeff_step : ∀ j, j < 12 →
    conj (frobCoeffC1.getD j 0) * frobCoeffC1.getD 1 0 = frobCoeffC1.getD ((j + 1) % 12) 0 := by
  decide +kernel

theorem frobeniusMap_c0 (a : Fq12) (k : ℕ) : (frobeniusMap a k).c0 = a.c0.frobeniusMap k := rfl
/-- the coefficient-wise scaling in the model is multiplication by the `Fq2` scalar -/
theorem frobeniusMap_c1 (a : Fq12) (k : ℕ) :
    (frobeniusMap a k).c1 = a.c1.frobeniusMap k * ofFq2 (frobCoeffC1.getD (k % 12) 0) := by
  rw [Fq6.mul_ofFq2]; rfl

theorem frobeniusMap_zero (a : Fq12) : frobeniusMap a 0 = a := by
  ext1
  · rw [frobeniusMap_c0, Fq6.frobeniusMap_zero]
  · rw [frobeniusMap_c1, Fq6.frobeniusMap_zero, Nat.zero_mod, frobCoeff_zero, map_one, mul_one]

theorem frobCoeff_six : frobCoeffC1.getD 6 0 = -1 := by decide +kernel

theorem frobeniusMap_six (a : Fq12) : frobeniusMap a 6 = conjugate a := by
  ext1
  · rw [frobeniusMap_c0, Fq6.frobeniusMap_six, conjugate_c0]
  · rw [frobeniusMap_c1, Fq6.frobeniusMap_six, show 6 % 12 = 6 from rfl, frobCoeff_six, map_neg,
      map_one, mul_neg, mul_one, conjugate_c1]

section Prime
variable [hq : Fact (Nat.Prime Gen.q)]

theorem frobeniusMap_step (a : Fq12) (k : ℕ) :
    frobeniusMap (frobeniusMap a k) 1 = frobeniusMap a (k + 1) := by
  have h12 : k % 12 < 12 := Nat.mod_lt _ (by norm_num)
  ext1
  · rw [frobeniusMap_c0, frobeniusMap_c0, frobeniusMap_c0, Fq6.frobeniusMap_step]
  · rw [frobeniusMap_c1, frobeniusMap_c1, frobeniusMap_c1, Fq6.frobeniusMap_one_mul,
      Fq6.frobeniusMap_step, Fq6.frobeniusMap_one_ofFq2, show 1 % 12 = 1 from rfl, mul_assoc,
      ← map_mul, frobCoeff_step _ h12, Nat.mod_add_mod]

theorem w_pow_q : w ^ Gen.q = ofFq6 (ofFq2 (frobCoeffC1.getD 1 0)) * w := by
  rw [q_eq_two_mul, pow_succ, pow_mul, w_pow_two, ← map_pow, q_half_eq, pow_mul,
    Fq6.v_pow_three, ← map_pow, frobCoeff_one]

theorem frobeniusMap_one_eq_pow (a : Fq12) : frobeniusMap a 1 = a ^ Gen.q := by
  conv_rhs => rw [eq_add_mul_w a]
  rw [add_pow_char, mul_pow, ← map_pow, ← map_pow, w_pow_q, ← Fq6.frobeniusMap_one_eq_pow,
    ← Fq6.frobeniusMap_one_eq_pow]
  ext1
  · rw [frobeniusMap_c0]; simp [mul_c0, mul_c1, w]
  · rw [frobeniusMap_c1]; simp [mul_c0, mul_c1, w]

/-- **Frobenius on `Fq12`**: `frobenius_map(k)` is `x ↦ x^(q^k)`, for every `k` -/
theorem frobenius_spec (k : ℕ) (x : Fq12) : frobeniusMap x k = x ^ Gen.q ^ k :=
  frob_induction Gen.q frobeniusMap frobeniusMap_zero frobeniusMap_one_eq_pow frobeniusMap_step k x

/-- the `Fq12` conjugation used by the pairing is `x ↦ x^(q^6)` -/
theorem conjugate_eq_pow (a : Fq12) : conjugate a = a ^ Gen.q ^ 6 := by
  rw [← frobeniusMap_six, frobenius_spec]

end Prime
end Fq12

end PP
