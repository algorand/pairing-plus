/-
PP.Proofs.HashEval — SHA-256 and SHA-512 on `Nat` words, for evaluation by the kernel.

`Hash.sha256`/`Hash.sha512` compute on `UInt32`/`UInt64` words held in `Array`s; the kernel reduces every word
operation through `BitVec` and `Fin` and every array access through `List`.  `Sha2.hash` is the same algorithm on
`Nat`s (`+` followed by `% 2 ^ bits`, `Nat` bit operations, words passed as arguments or in lists consumed from
the head), parametrised by what distinguishes the two functions.  `sha256_eq`/`sha512_eq` prove it equal to
`Hash.sha256`/`Hash.sha512` of `PP/Spec/Hash.lean` for every message.  The proof is done once, for a compression
function `blockU` over an arbitrary word type `α` with a map `f : α → Nat` that commutes with the operations;
`sha256Block` and `sha512Block` are instances of `blockU` (`sha256Block_eq`, `sha512Block_eq`, by `rfl`).
-/
import PP.Spec.Hash

namespace PP.Hash

/-- Word size in bits, round constants, initial chaining value, and the rotation/shift amounts of
`Σ0`, `Σ1`, `σ0`, `σ1` of a SHA-2 function (FIPS 180-4 §4.1.2/§4.1.3). -/
structure Sha2 where
  bits : Nat
  K : List Nat
  H0 : List Nat
  S0 : Nat × Nat × Nat
  S1 : Nat × Nat × Nat
  s0 : Nat × Nat × Nat
  s1 : Nat × Nat × Nat

namespace Sha2
variable (p : Sha2)

def add (x y : Nat) : Nat := (x + y) % 2 ^ p.bits
def rotr (x n : Nat) : Nat := x >>> n ||| (x <<< (p.bits - n)) % 2 ^ p.bits
def bsig (r : Nat × Nat × Nat) (x : Nat) : Nat := p.rotr x r.1 ^^^ p.rotr x r.2.1 ^^^ p.rotr x r.2.2
def ssig (r : Nat × Nat × Nat) (x : Nat) : Nat := p.rotr x r.1 ^^^ p.rotr x r.2.1 ^^^ x >>> r.2.2
def ch (x y z : Nat) : Nat := x &&& y ^^^ (2 ^ p.bits - 1 - x) &&& z
def maj (x y z : Nat) : Nat := x &&& y ^^^ x &&& z ^^^ y &&& z

/-- Big-endian word made of the first `p.bits / 8` bytes of `bs`. -/
def be (bs : List Nat) : Nat :=
  (List.range' 0 (p.bits / 8)).foldl (fun x i => (x <<< 8) % 2 ^ p.bits ||| bs[i]!) 0

/-- The message schedule from `W[t], …, W[t+15]` on, with one further word for every element of the first
argument (the kernel steps through a list faster than through a numeral). -/
def sched : List Nat → (x0 x1 x2 x3 x4 x5 x6 x7 x8 x9 x10 x11 x12 x13 x14 x15 : Nat) → List Nat
  | [], x0, x1, x2, x3, x4, x5, x6, x7, x8, x9, x10, x11, x12, x13, x14, x15 =>
    [x0, x1, x2, x3, x4, x5, x6, x7, x8, x9, x10, x11, x12, x13, x14, x15]
  | _ :: ks, x0, x1, x2, x3, x4, x5, x6, x7, x8, x9, x10, x11, x12, x13, x14, x15 =>
    x0 :: sched ks x1 x2 x3 x4 x5 x6 x7 x8 x9 x10 x11 x12 x13 x14 x15
      ((p.ssig p.s1 x14 + x9 + p.ssig p.s0 x1 + x0) % 2 ^ p.bits)

/-- One round for every pair of a round constant and a schedule word. -/
def rounds : List Nat → List Nat → (a b c d e f g h : Nat) → List Nat
  | k :: ks, w :: ws, a, b, c, d, e, f, g, h =>
    let t1 := (h + p.bsig p.S1 e + p.ch e f g + k + w) % 2 ^ p.bits
    let t2 := (p.bsig p.S0 a + maj a b c) % 2 ^ p.bits
    rounds ks ws ((t1 + t2) % 2 ^ p.bits) a b c ((d + t1) % 2 ^ p.bits) e f g
  | _, _, a, b, c, d, e, f, g, h => [a, b, c, d, e, f, g, h]

/-- The compression function: chaining value `H`, message block as 16 words. -/
def block : List Nat → List Nat → List Nat
  | [h0, h1, h2, h3, h4, h5, h6, h7],
    [x0, x1, x2, x3, x4, x5, x6, x7, x8, x9, x10, x11, x12, x13, x14, x15] =>
    List.zipWith p.add [h0, h1, h2, h3, h4, h5, h6, h7]
      (p.rounds p.K (p.sched (p.K.drop 16) x0 x1 x2 x3 x4 x5 x6 x7 x8 x9 x10 x11 x12 x13 x14 x15)
        h0 h1 h2 h3 h4 h5 h6 h7)
  | _, _ => []

/-- The 16 words of the block that starts at the head of the byte list `bs`. -/
def words (bs : List Nat) : List Nat :=
  (List.range' 0 16).map fun t => p.be (bs.drop (p.bits / 8 * t))

/-- `mdPad` with block size `2 * p.bits` and a length field of `p.bits / 4` bytes, as a list of bytes. -/
def pad (msg : List UInt8) : List Nat :=
  msg.map UInt8.toNat ++ 0x80 ::
    (List.replicate ((2 * p.bits - (msg.length + 1 + p.bits / 4) % (2 * p.bits)) % (2 * p.bits)) 0 ++
      (List.range' 0 (p.bits / 4)).map fun i => (8 * msg.length) >>> (8 * (p.bits / 4 - 1 - i)) % 256)

def hash (msg : List UInt8) : List UInt8 :=
  let bs := p.pad msg
  let H := (List.range' 0 (bs.length / (2 * p.bits))).foldl
    (fun H i => p.block H (p.words (bs.drop (2 * p.bits * i)))) p.H0
  H.flatMap fun x => (List.range' 0 (p.bits / 8)).map fun i => UInt8.ofNat (x >>> (8 * (p.bits / 8 - 1 - i)))

end Sha2

def sha256P : Sha2 where
  bits := 32
  K := K256.toList.map UInt32.toNat
  H0 := H256.toList.map UInt32.toNat
  S0 := (2, 13, 22)
  S1 := (6, 11, 25)
  s0 := (7, 18, 3)
  s1 := (17, 19, 10)

def sha512P : Sha2 where
  bits := 64
  K := K512.toList.map UInt64.toNat
  H0 := H512.toList.map UInt64.toNat
  S0 := (28, 34, 39)
  S1 := (14, 18, 41)
  s0 := (1, 8, 7)
  s1 := (19, 61, 6)

def sha256N : List UInt8 → List UInt8 := sha256P.hash
def sha512N : List UInt8 → List UInt8 := sha512P.hash

/-! ## The compression function over an arbitrary word type -/

theorem foldl_push_toList {α β} (g : β → α) (l : List β) (A : Array α) :
    (l.foldl (fun b t => b.push (g t)) A).toList = A.toList ++ l.map g := by
  induction l generalizing A with
  | nil => simp
  | cons a l ih => rw [List.foldl_cons, ih, Array.toList_push, List.map_cons, List.append_assoc]; rfl

section generic
variable {α : Type} [Inhabited α]

theorem getElem!_of_toList (A : Array α) (l r : List α) (h : A.toList = l ++ r) (i : Nat) :
    A[l.length + i]! = r[i]! := by
  obtain ⟨L⟩ := A
  simp only at h
  subst h
  simp [List.getElem?_append_right]

variable [Add α] (p : Sha2) (f : α → Nat)

/-- The schedule loop of `blockU`, started on an array that ends in the 16 words `y0 … y15`: each step reads
only these, appends one word, and the window moves on by one (`pre` grows by `y0`). -/
theorem sched_sim (s0 s1 : α → α)
    (hs : ∀ a b c d, f (s1 a + b + s0 c + d) =
      (p.ssig p.s1 (f a) + f b + p.ssig p.s0 (f c) + f d) % 2 ^ p.bits) (fuel : List Nat) :
    ∀ (w : Array α) (pre : List α) (y0 y1 y2 y3 y4 y5 y6 y7 y8 y9 y10 y11 y12 y13 y14 y15 : α),
      w.toList = pre ++ [y0, y1, y2, y3, y4, y5, y6, y7, y8, y9, y10, y11, y12, y13, y14, y15] →
      ((List.range' (pre.length + 16) fuel.length).foldl
        (fun b t => b.push (s1 b[t - 2]! + b[t - 7]! + s0 b[t - 15]! + b[t - 16]!)) w).toList.map f =
      pre.map f ++ p.sched fuel (f y0) (f y1) (f y2) (f y3) (f y4) (f y5) (f y6) (f y7) (f y8) (f y9)
        (f y10) (f y11) (f y12) (f y13) (f y14) (f y15) := by
  induction fuel with
  | nil =>
    intro w pre y0 y1 y2 y3 y4 y5 y6 y7 y8 y9 y10 y11 y12 y13 y14 y15 hw
    simp only [List.length_nil, List.range'_zero, List.foldl_nil, hw, List.map_append, Sha2.sched]
    rfl
  | cons k ks ih =>
    intro w pre y0 y1 y2 y3 y4 y5 y6 y7 y8 y9 y10 y11 y12 y13 y14 y15 hw
    have e2 : w[pre.length + 16 - 2]! = y14 := getElem!_of_toList w pre _ hw 14
    have e7 : w[pre.length + 16 - 7]! = y9 := getElem!_of_toList w pre _ hw 9
    have e15 : w[pre.length + 16 - 15]! = y1 := getElem!_of_toList w pre _ hw 1
    have e16 : w[pre.length + 16 - 16]! = y0 := getElem!_of_toList w pre _ hw 0
    rw [List.length_cons, List.range'_succ, List.foldl_cons, e2, e7, e15, e16]
    have hw' : (w.push (s1 y14 + y9 + s0 y1 + y0)).toList = (pre ++ [y0]) ++
        [y1, y2, y3, y4, y5, y6, y7, y8, y9, y10, y11, y12, y13, y14, y15, s1 y14 + y9 + s0 y1 + y0] := by
      rw [Array.toList_push, hw]
      simp only [List.append_assoc, List.cons_append, List.nil_append]
    have := ih _ (pre ++ [y0]) _ _ _ _ _ _ _ _ _ _ _ _ _ _ _ _ hw'
    rw [List.length_append, List.length_singleton, Nat.add_right_comm] at this
    rw [this, hs, Sha2.sched, List.map_append, List.append_assoc]
    rfl

theorem sched_length (fuel : List Nat) : ∀ x0 x1 x2 x3 x4 x5 x6 x7 x8 x9 x10 x11 x12 x13 x14 x15 : Nat,
    (p.sched fuel x0 x1 x2 x3 x4 x5 x6 x7 x8 x9 x10 x11 x12 x13 x14 x15).length = fuel.length + 16 := by
  induction fuel with
  | nil => intros; rfl
  | cons k ks ih => intros; rw [Sha2.sched, List.length_cons, ih, List.length_cons]

/-- The state of the round loop of `blockU` after one more round. -/
def roundU (S0 S1 : α → α) (ch maj : α → α → α → α) (b : α × α × α × α × α × α × α × α) (k w : α) :
    α × α × α × α × α × α × α × α :=
  let t1 := b.2.2.2.2.2.2.2 + S1 b.2.2.2.2.1 + ch b.2.2.2.2.1 b.2.2.2.2.2.1 b.2.2.2.2.2.2.1 + k + w
  (t1 + (S0 b.1 + maj b.1 b.2.1 b.2.2.1), b.1, b.2.1, b.2.2.1, b.2.2.2.1 + t1,
    b.2.2.2.2.1, b.2.2.2.2.2.1, b.2.2.2.2.2.2.1)

/-- the eight working variables `a … h` of the round loop, read through `f` -/
def st8 (r : α × α × α × α × α × α × α × α) : List Nat :=
  [f r.1, f r.2.1, f r.2.2.1, f r.2.2.2.1, f r.2.2.2.2.1, f r.2.2.2.2.2.1, f r.2.2.2.2.2.2.1, f r.2.2.2.2.2.2.2]

/-- The round loop of `blockU` from round `pk.length` on, where `pk`, `pw` are the constants and schedule words
already used and `ks`, `ws` those still to come. -/
theorem rounds_sim (S0 S1 : α → α) (ch maj : α → α → α → α)
    (hadd : ∀ a b, f (a + b) = (f a + f b) % 2 ^ p.bits)
    (hS0 : ∀ a, f (S0 a) = p.bsig p.S0 (f a)) (hS1 : ∀ a, f (S1 a) = p.bsig p.S1 (f a))
    (hch : ∀ a b c, f (ch a b c) = p.ch (f a) (f b) (f c))
    (hmaj : ∀ a b c, f (maj a b c) = Sha2.maj (f a) (f b) (f c))
    (K W : Array α) (ks : List α) :
    ∀ (ws pk pw : List α) (s : α × α × α × α × α × α × α × α),
      K.toList = pk ++ ks → W.toList = pw ++ ws → pk.length = pw.length → ks.length = ws.length →
      st8 f ((List.range' pk.length ks.length).foldl (fun b t => roundU S0 S1 ch maj b K[t]! W[t]!) s) =
      p.rounds (ks.map f) (ws.map f) (f s.1) (f s.2.1) (f s.2.2.1) (f s.2.2.2.1) (f s.2.2.2.2.1)
        (f s.2.2.2.2.2.1) (f s.2.2.2.2.2.2.1) (f s.2.2.2.2.2.2.2) := by
  induction ks with
  | nil =>
    intro ws pk pw s _ _ _ _
    rw [List.length_nil, List.range'_zero, List.foldl_nil, List.map_nil]
    rfl
  | cons k ks ih =>
    intro ws pk pw s hK hW hp hl
    cases ws with
    | nil => simp at hl
    | cons w ws =>
      have eK : K[pk.length]! = k := getElem!_of_toList K pk _ hK 0
      have eW : W[pk.length]! = w := hp ▸ getElem!_of_toList W pw _ hW 0
      have := ih ws (pk ++ [k]) (pw ++ [w]) (roundU S0 S1 ch maj s k w)
        (by rw [hK, List.append_assoc]; rfl) (by rw [hW, List.append_assoc]; rfl)
        (by rw [List.length_append, List.length_append, hp]; rfl) (by simpa using hl)
      rw [List.length_append, List.length_singleton] at this
      rw [List.length_cons, List.range'_succ, List.foldl_cons, eK, eW, this]
      simp only [roundU, List.map_cons, Sha2.rounds, hadd, hS0, hS1, hch, hmaj, Nat.add_mod_mod, Nat.mod_add_mod]

/-- `sha256Block`/`sha512Block` with the word type, its operations, the table, the number of rounds and
the reading of the message words as parameters. -/
def blockU (S0 S1 s0 s1 : α → α) (ch maj : α → α → α → α) (K : Array α) (n : Nat) (rd : Nat → α)
    (H : Array α) : Array α := Id.run do
  let mut w : Array α := Array.mkEmpty n
  for t in [0:16] do
    w := w.push (rd t)
  for t in [16:n] do
    w := w.push (s1 w[t-2]! + w[t-7]! + s0 w[t-15]! + w[t-16]!)
  let mut a := H[0]!; let mut b := H[1]!; let mut c := H[2]!; let mut d := H[3]!
  let mut e := H[4]!; let mut f := H[5]!; let mut g := H[6]!; let mut h := H[7]!
  for t in [0:n] do
    let t1 := h + S1 e + ch e f g + K[t]! + w[t]!
    let t2 := S0 a + maj a b c
    h := g; g := f; f := e; e := d + t1
    d := c; c := b; b := a; a := t1 + t2
  return #[H[0]! + a, H[1]! + b, H[2]! + c, H[3]! + d, H[4]! + e, H[5]! + f, H[6]! + g, H[7]! + h]

theorem blockU_size (S0 S1 s0 s1 : α → α) (ch maj : α → α → α → α) (K : Array α) (n : Nat) (rd : Nat → α)
    (H : Array α) : (blockU S0 S1 s0 s1 ch maj K n rd H).size = 8 := by
  unfold blockU
  simp

theorem sha256Block_eq (H : Array UInt32) (m : ByteArray) (off : Nat) :
    sha256Block H m off = blockU bsig0_256 bsig1_256 ssig0_256 ssig1_256 ch32 maj32 K256 K256.size
      (fun t => be32 m (off + 4 * t)) H := rfl

theorem sha512Block_eq (H : Array UInt64) (m : ByteArray) (off : Nat) :
    sha512Block H m off = blockU bsig0_512 bsig1_512 ssig0_512 ssig1_512 ch64 maj64 K512 K512.size
      (fun t => be64 m (off + 8 * t)) H := rfl

theorem sha256Block_size (H : Array UInt32) (m : ByteArray) (off : Nat) : (sha256Block H m off).size = 8 := by
  rw [sha256Block_eq]; exact blockU_size ..

theorem sha512Block_size (H : Array UInt64) (m : ByteArray) (off : Nat) : (sha512Block H m off).size = 8 := by
  rw [sha512Block_eq]; exact blockU_size ..

/-- `blockU` with as many rounds as there are constants, read through `f`, is `Sha2.block`: the schedule loop
by `sched_sim`, the round loop by `rounds_sim`, the final additions by `hadd`. -/

theorem blockU_sim (S0 S1 s0 s1 : α → α) (ch maj : α → α → α → α)
    (hadd : ∀ a b, f (a + b) = (f a + f b) % 2 ^ p.bits)
    (hS0 : ∀ a, f (S0 a) = p.bsig p.S0 (f a)) (hS1 : ∀ a, f (S1 a) = p.bsig p.S1 (f a))
    (hs0 : ∀ a, f (s0 a) = p.ssig p.s0 (f a)) (hs1 : ∀ a, f (s1 a) = p.ssig p.s1 (f a))
    (hch : ∀ a b c, f (ch a b c) = p.ch (f a) (f b) (f c))
    (hmaj : ∀ a b c, f (maj a b c) = Sha2.maj (f a) (f b) (f c))
    (K : Array α) (hK : K.toList.map f = p.K) (h16 : 16 ≤ K.size) (rd : Nat → α) (H : Array α) :
    (blockU S0 S1 s0 s1 ch maj K K.size rd H).toList.map f =
      p.block [f H[0]!, f H[1]!, f H[2]!, f H[3]!, f H[4]!, f H[5]!, f H[6]!, f H[7]!]
        ((List.range' 0 16).map fun t => f (rd t)) := by
  have hl : (p.K.drop 16).length = K.size - 16 := by rw [← hK, List.length_drop, List.length_map]; rfl
  have hW := sched_sim p f s0 s1
    (fun a b c d => by simp only [hadd, hs0, hs1, Nat.mod_add_mod]) (p.K.drop 16)
    ((List.range' 0 16).foldl (fun b t => b.push (rd t)) (Array.mkEmpty K.size)) []
    (rd 0) (rd 1) (rd 2) (rd 3) (rd 4) (rd 5) (rd 6) (rd 7) (rd 8) (rd 9) (rd 10) (rd 11) (rd 12)
    (rd 13) (rd 14) (rd 15) (by rw [foldl_push_toList]; rfl)
  rw [hl, List.map_nil, List.nil_append] at hW
  unfold blockU
  -- this list (here and below) writes every `for t in [a:b]` of an `Id.run do` block as a `List.foldl` over
  -- `List.range' a (b - a)`
  simp only [Std.Legacy.Range.forIn_eq_forIn_range', Std.Legacy.Range.size, Nat.sub_zero,
    Nat.add_one_sub_one, Nat.div_one, List.forIn_pure_yield_eq_foldl, bind_pure_comp, map_pure, Id.run_pure]
  generalize List.foldl _ _ (List.range' 16 (K.size - 16)) = W at hW ⊢
  have hWl : K.toList.length = W.toList.length := by
    have := congrArg List.length hW
    rw [List.length_map, sched_length, hl] at this
    rw [this, Array.length_toList]; omega
  have key := rounds_sim p f S0 S1 ch maj hadd hS0 hS1 hch hmaj K W K.toList W.toList [] []
    (H[0]!, H[1]!, H[2]!, H[3]!, H[4]!, H[5]!, H[6]!, H[7]!) rfl rfl rfl hWl
  rw [hK, hW] at key
  simp only [List.map_cons, List.map_nil, hadd]
  -- up to unfolding `st8`, `p.add` and `p.block`, the two sides are `zipWith p.add` of the chaining value with
  -- the two sides of `key`
  exact Eq.trans rfl (congrArg (List.zipWith p.add
    [f H[0]!, f H[1]!, f H[2]!, f H[3]!, f H[4]!, f H[5]!, f H[6]!, f H[7]!]) key)
end generic

/-! ## Padding, digest bytes and the iteration over the blocks -/

theorem toList_loop (bs : ByteArray) (i : Nat) (r : List UInt8) :
    ByteArray.toList.loop bs i r = r.reverse ++ bs.data.toList.drop i := by
  induction i, r using ByteArray.toList.loop.induct bs with
  | case1 i r h ih =>
    rw [ByteArray.toList.loop.eq_def]; simp only [h, if_true]; rw [ih]
    have h' : i < bs.data.toList.length := h
    rw [List.reverse_cons, List.append_assoc, List.singleton_append, List.drop_eq_getElem_cons h']
    exact congrArg (fun x => r.reverse ++ x :: List.drop (i + 1) bs.data.toList) (getElem!_pos bs.data i h)
  | case2 i r h =>
    rw [ByteArray.toList.loop.eq_def]; simp only [h, if_false]
    rw [List.drop_eq_nil_of_le (Nat.le_of_not_lt h), List.append_nil]

theorem toList_eq_data (bs : ByteArray) : bs.toList = bs.data.toList := by
  rw [ByteArray.toList, toList_loop]; rfl

theorem foldl_push_data {β} (g : β → UInt8) (l : List β) (b : ByteArray) :
    (l.foldl (fun b a => b.push (g a)) b).data.toList = b.data.toList ++ l.map g := by
  induction l generalizing b with
  | nil => simp
  | cons a l ih =>
    rw [List.foldl_cons, ih, ByteArray.data_push, Array.toList_push, List.map_cons, List.append_assoc]; rfl

theorem pushZeros_data (b : ByteArray) (k : Nat) :
    (pushZeros b k).data.toList = b.data.toList ++ List.replicate k 0 := by
  unfold pushZeros
  simp only [Std.Legacy.Range.forIn_eq_forIn_range', Std.Legacy.Range.size, Nat.sub_zero, Nat.add_one_sub_one,
    Nat.div_one, List.forIn_pure_yield_eq_foldl, bind_pure, Id.run_pure]
  rw [foldl_push_data (fun _ => 0), List.map_const', List.length_range']

theorem pushBE_data (b : ByteArray) (n k : Nat) :
    (pushBE b n k).data.toList =
      b.data.toList ++ (List.range' 0 k).map fun i => UInt8.ofNat (n >>> (8 * (k - 1 - i))) := by
  unfold pushBE
  simp only [Std.Legacy.Range.forIn_eq_forIn_range', Std.Legacy.Range.size, Nat.sub_zero, Nat.add_one_sub_one,
    Nat.div_one, List.forIn_pure_yield_eq_foldl, bind_pure, Id.run_pure]
  rw [foldl_push_data]

theorem mdPad_data (p : Sha2) (msg : List UInt8) :
    (mdPad msg.toByteArray (2 * p.bits) (p.bits / 4)).data.toList.map UInt8.toNat = p.pad msg := by
  rw [mdPad, pushBE_data, pushZeros_data, ByteArray.data_push, Array.toList_push,
    List.toList_data_toByteArray, List.size_toByteArray, Sha2.pad]
  simp only [List.map_append, List.map_cons, List.map_replicate, List.map_map, List.append_assoc,
    List.cons_append, List.nil_append]
  rfl

theorem getElem!_eq_data (m : ByteArray) (i : Nat) : m[i]! = m.data[i]! := by
  by_cases h : i < m.size
  · rw [getElem!_pos m i h, getElem!_pos m.data i h]; rfl
  · rw [getElem!_neg m i h, getElem!_neg m.data i h]

theorem getElem!_drop_map (m : ByteArray) (off i : Nat) :
    ((m.data.toList.map UInt8.toNat).drop off)[i]! = m[off + i]!.toNat := by
  rw [getElem!_eq_data, List.getElem!_eq_getElem?_getD, List.getElem?_drop, List.getElem?_map, getElem!_def,
    Array.getElem?_toList]
  cases m.data[off + i]? <;> rfl

theorem foldl_pushBE_data {α} (f : α → Nat) (k : Nat) (l : List α) (out : ByteArray) :
    (l.foldl (fun b a => pushBE b (f a) k) out).data.toList = out.data.toList ++
      (l.map f).flatMap fun x => (List.range' 0 k).map fun i => UInt8.ofNat (x >>> (8 * (k - 1 - i))) := by
  induction l generalizing out with
  | nil => simp
  | cons a l ih => rw [List.foldl_cons, ih, pushBE_data, List.map_cons, List.flatMap_cons, List.append_assoc]

theorem toList_of_size_eight {α} [Inhabited α] (A : Array α) (h : A.size = 8) :
    A.toList = [A[0]!, A[1]!, A[2]!, A[3]!, A[4]!, A[5]!, A[6]!, A[7]!] := by
  obtain ⟨l⟩ := A
  match l, h with
  | [_, _, _, _, _, _, _, _], _ => rfl

theorem foldl_sim {α β γ} (R : β → γ → Prop) (g : β → α → β) (g' : γ → α → γ)
    (h : ∀ b c a, R b c → R (g b a) (g' c a)) (l : List α) : ∀ b c, R b c → R (l.foldl g b) (l.foldl g' c) := by
  induction l with
  | nil => exact fun _ _ h => h
  | cons a l ih => exact fun b c hbc => ih _ _ (h b c a hbc)

/-- The left-hand side is what `sha256 msg` / `sha512 msg` become once their `for` loops are written as folds
(`sha256_eq`, `sha512_eq` below), with the word type, the compression function and the initial value as
parameters; `c` is the capacity hint of the output buffer (32 / 64), which plays no role. -/
theorem hash_sim {α} [Inhabited α] (p : Sha2) (f : α → Nat) (blk : Array α → ByteArray → Nat → Array α)
    (H0 : Array α) (c : Nat)
    (hsz : ∀ H m off, (blk H m off).size = 8)
    (hblk : ∀ H m off, (blk H m off).toList.map f =
      p.block [f H[0]!, f H[1]!, f H[2]!, f H[3]!, f H[4]!, f H[5]!, f H[6]!, f H[7]!]
        (p.words ((m.data.toList.map UInt8.toNat).drop off)))
    (hH0 : H0.toList.map f = p.H0) (hH0s : H0.size = 8) (msg : List UInt8) :
    (Array.foldl (fun b a => pushBE b (f a) (p.bits / 8)) (ByteArray.emptyWithCapacity c)
      (List.foldl (fun b a => blk b (mdPad msg.toByteArray (2 * p.bits) (p.bits / 4)) (2 * p.bits * a)) H0
        (List.range' 0 ((mdPad msg.toByteArray (2 * p.bits) (p.bits / 4)).size / (2 * p.bits))))).toList =
    p.hash msg := by
  rw [Sha2.hash, ← mdPad_data]
  generalize mdPad msg.toByteArray (2 * p.bits) (p.bits / 4) = m
  rw [show m.size = (m.data.toList.map UInt8.toNat).length by rw [List.length_map]; rfl]
  obtain ⟨h8, hH⟩ := foldl_sim (fun (HU : Array α) (HN : List Nat) => HU.size = 8 ∧ HU.toList.map f = HN)
    (fun b a => blk b m (2 * p.bits * a))
    (fun H i => p.block H (p.words ((m.data.toList.map UInt8.toNat).drop (2 * p.bits * i))))
    (fun HU HN a ⟨h8, hH⟩ => ⟨hsz _ _ _, by rw [hblk, ← hH, toList_of_size_eight HU h8]; rfl⟩)
    (List.range' 0 ((m.data.toList.map UInt8.toNat).length / (2 * p.bits))) H0 p.H0 ⟨hH0s, hH0⟩
  rw [← hH, toList_eq_data, ← Array.foldl_toList, foldl_pushBE_data]
  rfl

/-! ## The two instances -/

theorem mod_shiftLeft_mod (a k n : Nat) : (a % 2 ^ n) <<< k % 2 ^ n = a <<< k % 2 ^ n := by
  rw [Nat.shiftLeft_eq, Nat.shiftLeft_eq, Nat.mod_mul_mod]

theorem toNat_sig_256 (x : UInt32) :
    (bsig0_256 x).toNat = sha256P.bsig sha256P.S0 x.toNat ∧ (bsig1_256 x).toNat = sha256P.bsig sha256P.S1 x.toNat ∧
    (ssig0_256 x).toNat = sha256P.ssig sha256P.s0 x.toNat ∧ (ssig1_256 x).toNat = sha256P.ssig sha256P.s1 x.toNat := by
  simp only [bsig0_256, bsig1_256, ssig0_256, ssig1_256, rotr32, UInt32.toNat_xor, UInt32.toNat_or,
    UInt32.toNat_shiftRight, UInt32.toNat_shiftLeft]
  exact ⟨rfl, rfl, rfl, rfl⟩

theorem toNat_be32 (m : ByteArray) (off : Nat) :
    (be32 m off).toNat = sha256P.be ((m.data.toList.map UInt8.toNat).drop off) := by
  rw [Sha2.be]
  show _ = List.foldl _ 0 [0, 1, 2, 3]
  simp only [List.foldl_cons, List.foldl_nil, getElem!_drop_map, be32, UInt32.toNat_or, UInt32.toNat_shiftLeft,
    UInt8.toNat_toUInt32, Nat.zero_shiftLeft, Nat.zero_mod, Nat.zero_or, Nat.shiftLeft_or_distrib,
    Nat.or_mod_two_pow, mod_shiftLeft_mod, ← Nat.shiftLeft_add, Nat.add_zero]
  rfl

theorem sha256Block_sim (H : Array UInt32) (m : ByteArray) (off : Nat) :
    (sha256Block H m off).toList.map UInt32.toNat =
      sha256P.block [H[0]!.toNat, H[1]!.toNat, H[2]!.toNat, H[3]!.toNat, H[4]!.toNat, H[5]!.toNat, H[6]!.toNat,
        H[7]!.toNat] (sha256P.words ((m.data.toList.map UInt8.toNat).drop off)) := by
  have h := blockU_sim sha256P UInt32.toNat bsig0_256 bsig1_256 ssig0_256 ssig1_256 ch32 maj32
    UInt32.toNat_add (fun x => (toNat_sig_256 x).1) (fun x => (toNat_sig_256 x).2.1)
    (fun x => (toNat_sig_256 x).2.2.1) (fun x => (toNat_sig_256 x).2.2.2)
    (fun x y z => by simp only [ch32, UInt32.toNat_xor, UInt32.toNat_and, UInt32.toNat_not]; rfl)
    (fun x y z => by simp only [maj32, UInt32.toNat_xor, UInt32.toNat_and]; rfl)
    K256 rfl (by decide) (fun t => be32 m (off + 4 * t)) H
  simp only [toNat_be32, ← List.drop_drop] at h
  rw [sha256Block_eq]
  exact h

theorem sha256_eq (msg : List UInt8) : sha256 msg = sha256N msg := by
  unfold sha256
  simp only [Std.Legacy.Range.forIn_eq_forIn_range', Std.Legacy.Range.size, Nat.sub_zero, Nat.add_one_sub_one,
    Nat.div_one, List.forIn_pure_yield_eq_foldl, Array.forIn_pure_yield_eq_foldl, bind_pure_comp, map_pure, Id.run_pure]
  exact hash_sim sha256P UInt32.toNat sha256Block H256 32 sha256Block_size sha256Block_sim
    rfl rfl msg

theorem toNat_sig_512 (x : UInt64) :
    (bsig0_512 x).toNat = sha512P.bsig sha512P.S0 x.toNat ∧ (bsig1_512 x).toNat = sha512P.bsig sha512P.S1 x.toNat ∧
    (ssig0_512 x).toNat = sha512P.ssig sha512P.s0 x.toNat ∧ (ssig1_512 x).toNat = sha512P.ssig sha512P.s1 x.toNat := by
  simp only [bsig0_512, bsig1_512, ssig0_512, ssig1_512, rotr64, UInt64.toNat_xor, UInt64.toNat_or,
    UInt64.toNat_shiftRight, UInt64.toNat_shiftLeft]
  exact ⟨rfl, rfl, rfl, rfl⟩

theorem toNat_be64 (m : ByteArray) (off : Nat) :
    (be64 m off).toNat = sha512P.be ((m.data.toList.map UInt8.toNat).drop off) := by
  unfold be64
  simp only [Std.Legacy.Range.forIn_eq_forIn_range', Std.Legacy.Range.size, Nat.sub_zero, Nat.add_one_sub_one,
    Nat.div_one, List.forIn_pure_yield_eq_foldl, bind_pure, Id.run_pure]
  exact foldl_sim (fun (x : UInt64) (y : Nat) => x.toNat = y) _ _
    (fun x y i h => by
      rw [UInt64.toNat_or, UInt64.toNat_shiftLeft, UInt8.toNat_toUInt64, h, getElem!_drop_map]; rfl)
    _ _ _ rfl

theorem sha512Block_sim (H : Array UInt64) (m : ByteArray) (off : Nat) :
    (sha512Block H m off).toList.map UInt64.toNat =
      sha512P.block [H[0]!.toNat, H[1]!.toNat, H[2]!.toNat, H[3]!.toNat, H[4]!.toNat, H[5]!.toNat, H[6]!.toNat,
        H[7]!.toNat] (sha512P.words ((m.data.toList.map UInt8.toNat).drop off)) := by
  have h := blockU_sim sha512P UInt64.toNat bsig0_512 bsig1_512 ssig0_512 ssig1_512 ch64 maj64
    UInt64.toNat_add (fun x => (toNat_sig_512 x).1) (fun x => (toNat_sig_512 x).2.1)
    (fun x => (toNat_sig_512 x).2.2.1) (fun x => (toNat_sig_512 x).2.2.2)
    (fun x y z => by simp only [ch64, UInt64.toNat_xor, UInt64.toNat_and, UInt64.toNat_not]; rfl)
    (fun x y z => by simp only [maj64, UInt64.toNat_xor, UInt64.toNat_and]; rfl)
    K512 rfl (by decide) (fun t => be64 m (off + 8 * t)) H
  simp only [toNat_be64, ← List.drop_drop] at h
  rw [sha512Block_eq]
  exact h

theorem sha512_eq (msg : List UInt8) : sha512 msg = sha512N msg := by
  unfold sha512
  simp only [Std.Legacy.Range.forIn_eq_forIn_range', Std.Legacy.Range.size, Nat.sub_zero, Nat.add_one_sub_one,
    Nat.div_one, List.forIn_pure_yield_eq_foldl, Array.forIn_pure_yield_eq_foldl, bind_pure_comp, map_pure, Id.run_pure]
  exact hash_sim sha512P UInt64.toNat sha512Block H512 64 sha512Block_size sha512Block_sim
    rfl rfl msg

end PP.Hash
