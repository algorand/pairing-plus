/-
Curve orders, the bridge between kernel computations in the executable model and statements in
Mathlib's group `(W b).Point`:

* `smulJ A n` is the model's double-and-add (`mul_bits`) over the bits of `n`, leading one first; it
  denotes `n • A` (`Aff.mulBits_spec` of `PP/Proofs/Subgroup.lean`).  Hence `n • A = 0`, `n • A ≠ 0` and `n • A = B` are
  decided by evaluating `isZero` of a concrete Jacobian triple, or `beq` of two.
* `omegaA β A = (β x, y)` denotes `ω A`.
-/
import PP.Proofs.Subgroup
import PP.Proofs.CurveOrderOmega
import PP.Proofs.CurveOrderGroup
import PP.Proofs.CurveOrderBound

namespace PP.CurveOrder

open WeierstrassCurve.Affine

/-! ## a strict double-and-add

The kernel evaluates lazily: `List.foldl` over `n` bits first builds an `n`-fold nested thunk and then
evaluates it from the outside, which overflows the kernel's stack for the scalars here (several
hundred bits).  `mulBitsS` is
the same loop, but asks whether the accumulator is zero before going on: this evaluates its `z`, which
needs the `x`, `y`, `z` of the step before, so that the thunks stay shallow. -/

section strict
variable {F : Type} [Add F] [Sub F] [Mul F] [Neg F] [Zero F] [One F] [FieldOps F] [DecidableEq F]

/-- `mul_bits` with a forced accumulator -/
def mulBitsS (p : Aff F) : List Bool → Jac F → Jac F
  | [], acc => acc
  | i :: bs, acc =>
    let acc' := (let res := acc.double; if i then res.addMixed p else res)
    if acc'.isZero then mulBitsS p bs acc' else mulBitsS p bs acc'

omit [Neg F] [Zero F] in
theorem mulBitsS_eq (p : Aff F) (bits : List Bool) (acc : Jac F) :
    mulBitsS p bits acc =
      bits.foldl (fun res i => let res := res.double; if i then res.addMixed p else res) acc := by
  induction bits generalizing acc with
  | nil => rfl
  | cons i bs ih => rw [mulBitsS, ite_self, ih, List.foldl_cons]

/-- `[n] A` by double-and-add over the `log₂ n + 1` bits of `n` -/
def smulJ (A : Aff F) (n : ℕ) : Jac F := mulBitsS A (wordBitsMSB n (n.log2 + 1)) Jac.zero

omit [Neg F] in
theorem smulJ_eq (A : Aff F) (n : ℕ) : smulJ A n = A.mulBits (wordBitsMSB n (n.log2 + 1)) :=
  mulBitsS_eq A _ _

end strict

section generic
variable {F : Type} [Field F] [DecidableEq F] [FieldOps F] [LawfulFieldOps F]
variable {b : F} [ShortW b]

theorem smulJ_spec {A : Aff F} (hA : Aff.OnCurve b A) (n : ℕ) :
    Jac.OnCurve b (smulJ A n) ∧ Jac.abs b (smulJ A n) = n • Aff.abs b A := by
  have h := Aff.mulBits_spec hA (wordBitsMSB n (n.log2 + 1))
  rwa [ofBitsMSB_wordBitsMSB, Nat.mod_eq_of_lt Nat.lt_log2_self, ← smulJ_eq] at h

theorem nsmul_eq_zero_of_isZero {A : Aff F} (hA : Aff.OnCurve b A) {n : ℕ}
    (h : (smulJ A n).isZero = true) : n • Aff.abs b A = 0 := by
  obtain ⟨hoc, habs⟩ := smulJ_spec hA n
  rw [← habs]
  exact (C01.isZero_iff hoc).mp h

theorem nsmul_ne_zero_of_isZero {A : Aff F} (hA : Aff.OnCurve b A) {n : ℕ}
    (h : (smulJ A n).isZero = false) : n • Aff.abs b A ≠ 0 := by
  obtain ⟨hoc, habs⟩ := smulJ_spec hA n
  rw [← habs]
  intro h0
  rw [(C01.isZero_iff hoc).mpr h0] at h
  cases h

/-- `n • A = B` decided by the projective comparison with `(B.x, B.y, 1)`, which needs no inversion -/
theorem nsmul_eq_of_beq {A B : Aff F} (hA : Aff.OnCurve b A) (hB : Aff.OnCurve b B) {n : ℕ}
    (h : (smulJ A n).beq B.toJac = true) : n • Aff.abs b A = Aff.abs b B := by
  rw [← (smulJ_spec hA n).2, ← (Aff.toJac_spec hB).2]
  exact (Jac.beq_spec (smulJ_spec hA n).1 (Aff.toJac_spec hB).1).mp h

/-- the same, for a record `B` not yet known to lie on the curve -/
theorem nsmul_eq_record_of_beq {A B : Aff F} (hA : Aff.OnCurve b A) (hi : B.infinity = false)
    {n : ℕ} (h : (smulJ A n).beq B.toJac = true) :
    Aff.OnCurve b B ∧ n • Aff.abs b A = Aff.abs b B := by
  have hB : Aff.OnCurve b B := by
    have hJ : B.toJac = ⟨B.x, B.y, 1⟩ := by simp [Aff.toJac, hi]
    obtain ⟨hz, -, hx, hy⟩ :=
      ((Jac.beq_eq_true_iff _ _).mp (hJ ▸ h)).resolve_left fun h0 => one_ne_zero h0.2
    -- `(x, y, z) = (B.x z², B.y z³, z)` satisfies `y² = x³ + b z⁶`
    have e := (smulJ_spec hA n).1.resolve_left hz
    simp only [one_pow, mul_one] at hx hy
    rw [hx, hy] at e
    right
    apply mul_right_cancel₀ (pow_ne_zero 6 hz)
    linear_combination e
  exact ⟨hB, nsmul_eq_of_beq hA hB h⟩

omit [DecidableEq F] [FieldOps F] in
/-- a point given by a non-identity affine record is not zero -/
theorem ne_zero_of_record {g : (W b).Point} {Y : Aff F} (hY : Aff.OnCurve b Y ∧ g = Aff.abs b Y)
    (hi : Y.infinity = false) : g ≠ 0 := by
  rw [hY.2, Ne, Aff.abs_eq_zero_iff hY.1, hi]
  exact Bool.false_ne_true

/-! The multiples `(c / p) • P` of a point `P` of large order `c = n * m` are read off the affine
record `T` of `m • P`, as `(n / p) • T`. -/

theorem div_nsmul_ne_zero {P : (W b).Point} {T : Aff F} {c n m p : ℕ} (hc : c = n * m)
    (hT : Aff.OnCurve b T ∧ m • P = Aff.abs b T) (hp : p ∣ n)
    (h : (smulJ T (n / p)).isZero = false) : (c / p) • P ≠ 0 := by
  rw [div_nsmul_eq hc hT.2 hp]
  exact nsmul_ne_zero_of_isZero hT.1 h

theorem div_nsmul_eq_record {P : (W b).Point} {T Y : Aff F} {c n m p : ℕ} (hc : c = n * m)
    (hT : Aff.OnCurve b T ∧ m • P = Aff.abs b T) (hp : p ∣ n)
    (hi : Y.infinity = false) (h : (smulJ T (n / p)).beq Y.toJac = true) :
    Aff.OnCurve b Y ∧ (c / p) • P = Aff.abs b Y := by
  rw [div_nsmul_eq hc hT.2 hp]
  exact nsmul_eq_record_of_beq hT.1 hi h

/-- `(x, y) ↦ (β x, y)` on affine records -/
def omegaA (β : F) (A : Aff F) : Aff F := ⟨β * A.x, A.y, A.infinity⟩

omit [FieldOps F] [LawfulFieldOps F] in
theorem omegaA_spec {β : F} (hβ : β ^ 2 + β + 1 = 0) {A : Aff F} (hA : Aff.OnCurve b A) :
    Aff.OnCurve b (omegaA β A) ∧ omega hβ (Aff.abs b A) = Aff.abs b (omegaA β A) := by
  by_cases hi : A.infinity = true
  · have hB : Aff.OnCurve b (omegaA β A) := Or.inl hi
    refine ⟨hB, ?_⟩
    rw [Aff.abs_of_infinity hi, Aff.abs_of_infinity (A := omegaA β A) hi, map_zero]
  · have hi' : A.infinity = false := by simpa using hi
    have e : A.y ^ 2 = A.x ^ 3 + b := hA.resolve_left hi
    have hB : Aff.OnCurve b (omegaA β A) := by
      right
      show A.y ^ 2 = (β * A.x) ^ 3 + b
      linear_combination e - A.x ^ 3 * beta_cube hβ
    refine ⟨hB, ?_⟩
    rw [Aff.abs_of_not_infinity hA hi', Aff.abs_of_not_infinity (A := omegaA β A) hB hi', omega_some]
    rfl

/-- `ω Y ≠ m • Y`, decided by one scalar multiplication and one projective comparison -/
theorem omega_ne_nsmul {β : F} (hβ : β ^ 2 + β + 1 = 0) {Y : Aff F} (hY : Aff.OnCurve b Y) {m : ℕ}
    (h : (smulJ Y m).beq (omegaA β Y).toJac = false) :
    omega hβ (Aff.abs b Y) ≠ m • Aff.abs b Y := by
  obtain ⟨hW, e⟩ := omegaA_spec hβ hY
  obtain ⟨hJ, hJa⟩ := Aff.toJac_spec hW
  obtain ⟨hoc, habs⟩ := smulJ_spec hY m
  intro e'
  rw [(Jac.beq_spec hoc hJ).mpr (by rw [habs, hJa, ← e, e'])] at h
  cases h

/-- independence at a prime `p ≡ 1 (mod 3)`: `(c / p) • P` is the affine record `Y`, and the two
    eigenvalues are refuted on `Y`.  `hs`, `hpr` say that `x² + x + 1 = (x - m₁)(x - m₂)` modulo `p`, so
    that `m₁`, `m₂` are the only candidates. -/
theorem omega_notMem_of_record {β : F} (hβ : β ^ 2 + β + 1 = 0) {P : (W b).Point} {c p : ℕ}
    (hP : addOrderOf P = c) (hb : 0 < c) (hp : p.Prime) (hpb : p ∣ c) {m₁ m₂ : ℕ}
    (hs : (m₁ + m₂ + 1) % p = 0) (hpr : (m₁ * m₂) % p = 1) {Y : Aff F}
    (hY : Aff.OnCurve b Y ∧ (c / p) • P = Aff.abs b Y)
    (h1 : (smulJ Y m₁).beq (omegaA β Y).toJac = false)
    (h2 : (smulJ Y m₂).beq (omegaA β Y).toJac = false) :
    omega hβ ((c / p) • P) ∉ AddSubgroup.zmultiples P := by
  refine omega_notMem_of_factor (omega_quadratic hβ) hP hb hp hpb hs hpr ?_ ?_
  · rw [hY.2]
    exact omega_ne_nsmul hβ hY.1 h1
  · rw [hY.2]
    exact omega_ne_nsmul hβ hY.1 h2

omit [FieldOps F] [LawfulFieldOps F] in
/-- `card_exponent_structure` for `ω` on a curve over a finite field, the bound on the cardinality
    coming from `card_point_le` -/
theorem curve_structure [Finite F] {β : F} (hβ : β ^ 2 + β + 1 = 0) {P : (W b).Point} {a c : ℕ}
    (hP : addOrderOf P = c) (hc : 0 < c) (hac : a ∣ c)
    (hind : ∀ p : ℕ, p.Prime → p ∣ a → omega hβ ((c / p) • P) ∉ AddSubgroup.zmultiples P)
    (hcard : 2 * Nat.card F + 1 < 2 * (a * c)) :
    Nat.card (W b).Point = a * c ∧ (∀ g : (W b).Point, c • g = 0) ∧ addOrderOf P = c ∧
      addOrderOf (omega hβ ((c / a) • P)) = a ∧
      ∀ g : (W b).Point, ∃ i j : ℤ, g = i • P + j • omega hβ ((c / a) • P) := by
  obtain ⟨h1, h2, h3, h4⟩ :=
    card_exponent_structure hP hc hac hind ((card_point_le b).trans_lt hcard)
  exact ⟨h1, h2, hP, h3, h4⟩

end generic

end PP.CurveOrder
