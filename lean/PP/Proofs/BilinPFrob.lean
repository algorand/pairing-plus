/-
Bilinearity of the pairing, the Frobenius fact.

On `E' : y² = x³ + 4(1+u)` over `Fq2` the TWISTED FROBENIUS

    Φ(x, y) = (d² · conj x, d³ · conj y),     d = γ⁻¹,  γ = ξ^((q-1)/6) = `Fq12.frobCoeffC1[1]`

is the map `ψ⁻¹ ∘ π ∘ ψ` (`ψ` the untwist `(x, y) ↦ (x/w², y/w³)`, `π` the coordinate-wise `q`-th power on
`E(Fq12)`; `w^q = γ w`, see `BilinP.untwist_frob` in `PP/Proofs/BilinP2.lean`).  It is an endomorphism of Mathlib's group
`(W b₂).Point` (`twHom` of `PP/Proofs/CoordMap.lean`: any field endomorphism `σ` and any `d` with
`d⁶ σ(b) = b`), and on the subgroup `G2 = E'(Fq2)[r]` it is multiplication by `q ≡ x = -|x| (mod r)`:

    `frob_eq_neg_nsmul : r • S = 0 → |x| • S = -Φ(S)`.

Proof of the latter: `E'(Fq2) = ⟨P⟩ ⊕ ⟨P₂⟩` with `299 • P₂ = 0` (`CurveOrder.G2.structure_thm`), so the
endomorphism `(Φ + [|x|]) ∘ [m]`, `m = h₂/299`, vanishes as soon as it vanishes at `P`: ONE evaluation of
the model's double-and-add by the kernel (`k_frob`), at the point `m • P` of order `r`.  A point killed
by `r` is a multiple of its own `m`-multiple (Bezout, `gcd(m, r) = 1`).
-/
import PP.Proofs.CurveOrderG2
import PP.Proofs.CoordMap

namespace PP.BilinP

open WeierstrassCurve.Affine

/-! ## the twisted Frobenius of `E'(Fq2)` -/

local notation "b₂" => g2Codec.b

/-- conjugation of `Fq2` (the Frobenius `x ↦ x^q`) as a ring endomorphism -/
def conjHom : Fq2 →+* Fq2 where
  toFun := Fq2.conj
  map_one' := Fq2.conj_one
  map_mul' := Fq2.conj_mul
  map_zero' := Fq2.conj_zero
  map_add' := Fq2.conj_add

@[simp] theorem conjHom_apply (a : Fq2) : conjHom a = Fq2.conj a := rfl

/-- `γ = ξ^((q-1)/6)`, the constant with `w^q = γ w` -/
def gamma : Fq2 := Fq12.frobCoeffC1.getD 1 0

/-- `d = γ⁻¹` -/
def dInv : Fq2 := gamma⁻¹

theorem gamma_mul_dInv : gamma * dInv = 1 := by decide +kernel

theorem gamma_ne_zero : gamma ≠ 0 := left_ne_zero_of_mul_eq_one gamma_mul_dInv
theorem dInv_ne_zero : dInv ≠ 0 := right_ne_zero_of_mul_eq_one gamma_mul_dInv

theorem dInv_b : dInv ^ 6 * Fq2.conj b₂ = b₂ := by
  have h : dInv * dInv * dInv * dInv * dInv * dInv * Fq2.conj b₂ = b₂ := by decide +kernel
  linear_combination h

theorem twFrob : TwFrob b₂ conjHom dInv := ⟨dInv_ne_zero, dInv_b⟩

/-- **the twisted Frobenius** `Φ = ψ⁻¹ π ψ` of `E'(Fq2)`: `(x, y) ↦ (d² conj x, d³ conj y)` -/
def frobHom : (W b₂).Point →+ (W b₂).Point := twHom twFrob

theorem frobHom_some {x y : Fq2} (h : (W b₂).Nonsingular x y) :
    frobHom (Point.some x y h) =
      Point.some (dInv ^ 2 * Fq2.conj x) (dInv ^ 3 * Fq2.conj y) (tw_nonsingular twFrob h) := rfl

/-- `Φ` on affine records of the model -/
def frobA (A : Aff Fq2) : Aff Fq2 :=
  ⟨dInv ^ 2 * Fq2.conj A.x, dInv ^ 3 * Fq2.conj A.y, A.infinity⟩

theorem frobA_spec {A : Aff Fq2} (hA : Aff.OnCurve b₂ A) :
    Aff.OnCurve b₂ (frobA A) ∧ frobHom (Aff.abs b₂ A) = Aff.abs b₂ (frobA A) := by
  by_cases hi : A.infinity = true
  · have hi2 : (frobA A).infinity = true := by simp only [frobA]; exact hi
    have hB : Aff.OnCurve b₂ (frobA A) := Or.inl hi2
    refine ⟨hB, ?_⟩
    rw [Aff.abs_of_infinity hi, Aff.abs_of_infinity (A := frobA A) hi2, map_zero]
  · have hi' : A.infinity = false := by simpa using hi
    have e : A.y ^ 2 = A.x ^ 3 + b₂ := hA.resolve_left hi
    have hi2 : (frobA A).infinity = false := by simp only [frobA]; exact hi'
    have hB : Aff.OnCurve b₂ (frobA A) := by
      right
      simp only [frobA]
      exact tw_equation twFrob e
    refine ⟨hB, ?_⟩
    rw [Aff.abs_of_not_infinity hA hi', Aff.abs_of_not_infinity (A := frobA A) hB hi2, frobHom_some]
    exact PP.Point.some_eq_some.mpr ⟨by simp only [frobA], by simp only [frobA]⟩

/-! ## `Φ = [q] = [-|x|]` on `G2` -/

open PP.CurveOrder PP.CurveOrder.G2

/-- the kernel evaluation at the generator `R = (S·c) • P1` of `G2`: `|x| • R = -Φ(R)` -/
theorem k_frob : (smulJ G2.R Gen.BLS_X).beq (frobA G2.R).neg.toJac = true := by decide +kernel

/-- `(Φ + [|x|]) ((S·c) • P) = 0` at the generator `P` of `CurveOrder.G2` -/
theorem frob_at_P :
    Gen.BLS_X • ((G2.S * Primes.c) • G2.P) = -frobHom ((G2.S * Primes.c) • G2.P) := by
  obtain ⟨hFc, hFa⟩ := frobA_spec R_spec.1
  obtain ⟨hNc, hNa⟩ := Aff.neg_spec hFc
  rw [R_spec.2, nsmul_eq_of_beq R_spec.1 hNc k_frob, hNa, hFa]

/-- `(Φ + [|x|]) ∘ [S·c] = 0` on `E'(Fq2) = ⟨P⟩ ⊕ ⟨P₂⟩`: `S·c` kills `P₂`, of order `299 ∣ S` -/
theorem frob_on_cofactor (g : (W b₂).Point) :
    Gen.BLS_X • ((G2.S * Primes.c) • g) = -frobHom ((G2.S * Primes.c) • g) := by
  obtain ⟨i, j, rfl⟩ := G2.structure_thm.2.2.2.2 g
  have hA : G2.A ∣ G2.S * Primes.c := by decide +kernel
  rw [← G2.structure_thm.2.2.2.1, addOrderOf_dvd_iff_nsmul_eq_zero] at hA
  rw [nsmul_add, smul_comm _ j, hA, zsmul_zero, add_zero, smul_comm _ i, smul_comm _ i, frob_at_P,
    map_zsmul, zsmul_neg]

/-- **Frobenius on `G2`**: for `S ∈ E'(Fq2)` killed by `r`, `[|x|] S = -Φ(S)`, i.e.
    `Φ(S) = [x] S = [q] S` (`q ≡ x (mod r)`) -/
theorem frob_eq_neg_nsmul (S : (W b₂).Point) (hS : Gen.r • S = 0) :
    Gen.BLS_X • S = -frobHom S := by
  -- Bezout: a point killed by `r` is a multiple of its own `G2.S * c`-multiple
  obtain ⟨u, v, huv⟩ : IsCoprime ((G2.S * Primes.c : ℕ) : ℤ) (Gen.r : ℤ) :=
    Nat.isCoprime_iff_coprime.mpr (by decide +kernel)
  have e : (1 : ℤ) • S = u • ((G2.S * Primes.c) • S) := by
    rw [← huv, add_zsmul, mul_zsmul, mul_zsmul, natCast_zsmul, natCast_zsmul, hS, zsmul_zero,
      add_zero]
  rw [one_zsmul] at e
  rw [e, smul_comm, frob_on_cofactor, map_zsmul, zsmul_neg]

/-- on affine records: `Q ∈ G2` gives `[|x|] Q = -Φ(Q)` -/
theorem frobA_eq_neg_nsmul {Q : Aff Fq2} (hQ : Aff.InSub b₂ Q) :
    Gen.BLS_X • Aff.abs b₂ Q = -Aff.abs b₂ (frobA Q) := by
  rw [frob_eq_neg_nsmul _ hQ.2, (frobA_spec hQ.1).2]

end PP.BilinP
