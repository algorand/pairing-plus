/-
Bilinearity of the pairing in its first argument: the textbook reduced ate pairing
(`PP/Spec/Ate.lean`) is ADDITIVE IN `P`, elementary proof.

Notation: `pw x = x ^ (3(q¹²-1)/r)` (the final exponentiation), `ψ` the untwist, `l_T` / `l_{T,Q}` the
tangent / chord of `E(Fq12)` at untwisted points (the factors of `textbookMiller`), and for a line `m`
through `P₁, P₂ ∈ E(Fq)` with slope `λ ∈ Fq` (third point `-P₃`, `P₃ = P₁ + P₂`)

    g(R) = m(R) = (y_R - y_{P₁}) - λ (x_R - x_{P₁}),     ε(T) = pw (g (ψ T)).

1. Reciprocity of two lines (`line_reciprocity`, `PP/Proofs/BilinP1.lean`):
   `l_T(P₁) l_T(P₂) l_T(-P₃) = - g(ψT)² g(-ψ(2T))`, `l_{T,Q}(P₁) l_{T,Q}(P₂) l_{T,Q}(-P₃) =
   - g(ψT) g(ψQ) g(-ψ(T+Q))`.
2. `l_T(-P₃) = -conj(l_T(P₃))` (`NegPair.conj_tangentAt`), `g(-ψR) = conj(g(ψR))` (`conj_gl`), and
   `pw (conj x) = (pw x)⁻¹` (the relative norm lies in `Fq6`): after `pw`,
   `pw l_T(P₁) · pw l_T(P₂) / pw l_T(P₃) = ε(T)² / ε(2T)`, resp. `ε(T) ε(Q) / ε(T+Q)`.
3. Induction over the Miller loop: `pw f(P₁) · pw f(P₂) / pw f(P₃) = ε(Q)^n / ε([n]Q)`, `n = |x|`.
4. Frobenius: `[n]Q = -Φ(Q)` on `G2` (`BilinPFrob`), `ψ(Φ Q) = π(ψ Q)` (`untwist_frob`, from
   `w^q = γ w`), `g(-π R) = g(-R)^q` (`m` has coefficients in `Fq`): `ε([n]Q) = ε(Q)^(-q)`.
5. `r ∣ n + q` and `ε(Q)^r = 1`: the quotient is `1`.
-/
import PP.Proofs.BilinP1
import PP.Proofs.BilinPFrob
import PP.Proofs.TowerFrob
import PP.Proofs.Lines2

namespace PP.BilinP

open Ate Miller Lines NegPair WeierstrassCurve.Affine

/-! ## the final exponent as a map -/

/-- `x ↦ x ^ (3 (q¹² - 1) / r)` -/
def pw (x : Fq12) : Fq12 := x ^ finalExponent

theorem finalExponent_ne_zero : finalExponent ≠ 0 := by decide +kernel

theorem pw_mul (x y : Fq12) : pw (x * y) = pw x * pw y := mul_pow x y _
theorem pw_one : pw 1 = 1 := one_pow _
theorem pw_zero : pw 0 = 0 := zero_pow finalExponent_ne_zero
theorem pw_pow (x : Fq12) (n : ℕ) : pw (x ^ n) = pw x ^ n := by
  simp only [pw, ← pow_mul, mul_comm]
theorem pw_neg (x : Fq12) : pw (-x) = pw x := by
  simp only [pw]; rw [neg_pow, neg_one_pow_fe, one_mul]
theorem pw_ne_zero {x : Fq12} (h : x ≠ 0) : pw x ≠ 0 := pow_ne_zero _ h

/-- conjugation inverts after the final exponentiation -/
theorem pw_conj (x : Fq12) : pw (Fq12.conjugate x) = (pw x)⁻¹ := by
  by_cases hx : x = 0
  · subst hx; rw [Fq12.conjugate_zero, pw_zero, inv_zero]
  · apply eq_inv_of_mul_eq_one_left
    rw [← pw_mul, mul_comm]
    exact norm_pow_fe hx

/-- the values of the final exponentiation are `r`-th roots of unity -/
theorem pw_pow_r {x : Fq12} (hx : x ≠ 0) : pw x ^ Gen.r = 1 := by
  have e : finalExponent * Gen.r = 3 * (Gen.q ^ 12 - 1) := by
    rw [mul_comm]; exact FinalExp.r_mul_feTarget
  simp only [pw]
  rw [← pow_mul, e, mul_comm, pow_mul, FinalExp.pow_card_sub_one hx, one_pow]

theorem pw_def (x : Fq12) : pw x = x ^ finalExponent := rfl

attribute [irreducible] pw

/-! ## the line through `P₁` with slope in `Fq`, evaluated on `E(Fq12)` -/

/-- `g(R)`: the line through `P₁` with slope `lam ∈ Fq`, at `R ∈ E(Fq12)` -/
def gl (lam : Fq) (P₁ : Fq × Fq) (R : Fq12 × Fq12) : Fq12 := lineAt (κ lam) (embed P₁) R

/-- `ε(T) = pw (g (ψ T))` -/
def eps (lam : Fq) (P₁ : Fq × Fq) (T : Fq2 × Fq2) : Fq12 := pw (gl lam P₁ (untwist T))

/-- `conj (g (ψ T)) = g (-ψ T)` -/
theorem conj_gl (lam : Fq) (P₁ : Fq × Fq) (T : Fq2 × Fq2) :
    Fq12.conjugate (gl lam P₁ (untwist T)) = gl lam P₁ (ngp (untwist T)) := by
  rw [conj_eq, untwist_eq_cmap]
  simp only [gl, lineAt, cmap, embed, ngp, map_sub, map_mul, map_pow, conjE_ι, conjE_κ, conjE_wInv]
  ring

/-- `g (ψ T) ≠ 0` when `y_T ≠ 0` (otherwise also `g (-ψ T) = 0`, and the difference is `2 y_{ψT}`) -/
theorem gl_ne_zero (lam : Fq) (P₁ : Fq × Fq) {T : Fq2 × Fq2} (hy : T.2 ≠ 0) :
    gl lam P₁ (untwist T) ≠ 0 := by
  intro h0
  have h1 : gl lam P₁ (ngp (untwist T)) = 0 := by
    rw [← conj_gl, h0, Fq12.conjugate_zero]
  have h2 : gl lam P₁ (untwist T) - gl lam P₁ (ngp (untwist T)) = 2 * (untwist T).2 := by
    simp only [gl, lineAt, ngp]; ring
  rw [h0, h1, sub_zero] at h2
  exact (mul_ne_zero fq12_two_ne_zero (untwist_snd_ne_zero hy)) h2.symm

theorem eps_ne_zero (lam : Fq) (P₁ : Fq × Fq) {T : Fq2 × Fq2} (hy : T.2 ≠ 0) :
    eps lam P₁ T ≠ 0 := pw_ne_zero (gl_ne_zero lam P₁ hy)

/-- `pw (g (-ψ T)) = ε(T)⁻¹` -/
theorem pw_gl_ngp (lam : Fq) (P₁ : Fq × Fq) (T : Fq2 × Fq2) :
    pw (gl lam P₁ (ngp (untwist T))) = (eps lam P₁ T)⁻¹ := by
  rw [← conj_gl, pw_conj]; rfl

/-! ## the line of `E(Fq)` inside `E(Fq12)` -/

theorem fq12_four : (4 : Fq12) = κ 4 := (map_ofNat κ 4).symm

theorem lineZeros_embed {lam : Fq} {P₁ P₂ : Fq × Fq} (h : LineZeros (4 : Fq) lam P₁ P₂) :
    LineZeros (4 : Fq12) (κ lam) (embed P₁) (embed P₂) :=
  fq12_four ▸ map_ofNat κ 4 ▸ h.map κ

theorem embed_sumOfSlope (lam : Fq) (P₁ P₂ : Fq × Fq) :
    embed (sumOfSlope lam P₁ P₂) = sumOfSlope (κ lam) (embed P₁) (embed P₂) := by
  simp only [embed, sumOfSlope, map_sub, map_mul, map_pow]

/-! ## one step of the Miller loop -/

section step
variable (lam : Fq) (P₁ P₂ : Fq × Fq) (hL : LineZeros (4 : Fq) lam P₁ P₂)
include hL

/-- reciprocity, tangent step: `l_T(P₁) l_T(P₂) l_T(-P₃) = - g(ψT)² g(-ψ(2T))` -/
theorem tangent_reciprocity {T : Fq2 × Fq2} (hT : T.2 ^ 2 = T.1 ^ 3 + g2Codec.b) (hy : T.2 ≠ 0) :
    tangentAt (untwist T) (embed P₁) * tangentAt (untwist T) (embed P₂) *
        tangentAt (untwist T) (embed (ngp (sumOfSlope lam P₁ P₂))) =
      -(gl lam P₁ (untwist T) * gl lam P₁ (untwist T) *
        gl lam P₁ (ngp (untwist (affDouble T)))) := by
  have h1 : LineZeros (4 : Fq12) (tangentSlope (untwist T)) (untwist T) (untwist T) :=
    lineZeros_tangent fq12_two_ne_zero (untwist_onCurve hT) (untwist_snd_ne_zero hy)
  have h := line_reciprocity h1 (lineZeros_embed hL)
  rw [← embed_sumOfSlope, ← embed_ngp] at h
  rw [untwist_affDouble]
  exact h

/-- reciprocity, chord step: `l_{T,Q}(P₁) l_{T,Q}(P₂) l_{T,Q}(-P₃) = - g(ψT) g(ψQ) g(-ψ(T+Q))` -/
theorem chord_reciprocity {T Q : Fq2 × Fq2} (hT : T.2 ^ 2 = T.1 ^ 3 + g2Codec.b)
    (hQ : Q.2 ^ 2 = Q.1 ^ 3 + g2Codec.b) (hx : T.1 ≠ Q.1) :
    chordAt (untwist T) (untwist Q) (embed P₁) * chordAt (untwist T) (untwist Q) (embed P₂) *
        chordAt (untwist T) (untwist Q) (embed (ngp (sumOfSlope lam P₁ P₂))) =
      -(gl lam P₁ (untwist T) * gl lam P₁ (untwist Q) *
        gl lam P₁ (ngp (untwist (affAdd T Q)))) := by
  have h1 : LineZeros (4 : Fq12) (chordSlope (untwist T) (untwist Q)) (untwist T) (untwist Q) :=
    lineZeros_chord (untwist_onCurve hT) (untwist_onCurve hQ) (untwist_fst_ne hx)
  have h := line_reciprocity h1 (lineZeros_embed hL)
  rw [← embed_sumOfSlope, ← embed_ngp] at h
  rw [untwist_affAdd]
  exact h

/-- tangent step after the final exponentiation -/
theorem pw_tangent_step {T : Fq2 × Fq2} (hT : T.2 ^ 2 = T.1 ^ 3 + g2Codec.b) (hy : T.2 ≠ 0) :
    pw (tangentAt (untwist T) (embed P₁)) * pw (tangentAt (untwist T) (embed P₂)) *
        (pw (tangentAt (untwist T) (embed (sumOfSlope lam P₁ P₂))))⁻¹ =
      eps lam P₁ T ^ 2 * (eps lam P₁ (affDouble T))⁻¹ := by
  have h := congrArg pw (tangent_reciprocity lam P₁ P₂ hL hT hy)
  have h3 : tangentAt (untwist T) (embed (ngp (sumOfSlope lam P₁ P₂))) =
      -Fq12.conjugate (tangentAt (untwist T) (embed (sumOfSlope lam P₁ P₂))) := by
    rw [conj_tangentAt, neg_neg]
  rw [h3, pw_neg, pw_mul, pw_mul, pw_mul, pw_mul, pw_neg, pw_conj, pw_gl_ngp] at h
  rw [h, pow_two]; rfl

/-- chord step after the final exponentiation -/
theorem pw_chord_step {T Q : Fq2 × Fq2} (hT : T.2 ^ 2 = T.1 ^ 3 + g2Codec.b)
    (hQ : Q.2 ^ 2 = Q.1 ^ 3 + g2Codec.b) (hx : T.1 ≠ Q.1) :
    pw (chordAt (untwist T) (untwist Q) (embed P₁)) *
        pw (chordAt (untwist T) (untwist Q) (embed P₂)) *
        (pw (chordAt (untwist T) (untwist Q) (embed (sumOfSlope lam P₁ P₂))))⁻¹ =
      eps lam P₁ T * eps lam P₁ Q * (eps lam P₁ (affAdd T Q))⁻¹ := by
  have h := congrArg pw (chord_reciprocity lam P₁ P₂ hL hT hQ hx)
  have h3 : chordAt (untwist T) (untwist Q) (embed (ngp (sumOfSlope lam P₁ P₂))) =
      -Fq12.conjugate (chordAt (untwist T) (untwist Q) (embed (sumOfSlope lam P₁ P₂))) := by
    rw [conj_chordAt, neg_neg]
  rw [h3, pw_neg, pw_mul, pw_mul, pw_mul, pw_mul, pw_neg, pw_conj, pw_gl_ngp] at h
  rw [h]; rfl

end step

/-! ## the loop -/

theorem pointLoop_cons (Q : Fq2 × Fq2) (b : Bool) (bs : List Bool) (T : Fq2 × Fq2) :
    pointLoop Q (b :: bs) T =
      pointLoop Q bs (if b then affAdd (affDouble T) Q else affDouble T) := rfl

/-- **the invariant of the Miller loop**: if `pw F₁ · pw F₂ / pw F₃ = ε(Q)^k / ε(T)` with `T = [k]Q`,
    the same holds after any list of bits (`k` followed by the bits, `T` updated), as long as
    `4 K < r` for the final `K` -/
theorem loop_inv (lam : Fq) (P₁ P₂ : Fq × Fq) (hL : LineZeros (4 : Fq) lam P₁ P₂) (Q : Fq2 × Fq2)
    (S : E2) (hS0 : S ≠ 0) (hSr : Gen.r • S = 0) (hQ : Repr Q S) :
    ∀ (bs : List Bool) (T : Fq2 × Fq2) (k : ℕ) (F₁ F₂ F₃ : Fq12), 1 ≤ k → 4 * val k bs < Gen.r →
      Repr T (k • S) →
      pw F₁ * pw F₂ * (pw F₃)⁻¹ = eps lam P₁ Q ^ k * (eps lam P₁ T)⁻¹ →
      pw (bs.foldl (millerStep P₁ Q) (F₁, T)).1 * pw (bs.foldl (millerStep P₂ Q) (F₂, T)).1 *
          (pw (bs.foldl (millerStep (sumOfSlope lam P₁ P₂) Q) (F₃, T)).1)⁻¹ =
        eps lam P₁ Q ^ val k bs * (eps lam P₁ (pointLoop Q bs T))⁻¹ ∧
      Repr (pointLoop Q bs T) (val k bs • S) := by
  intro bs
  induction bs with
  | nil => intro T k F₁ F₂ F₃ _ _ hT h; exact ⟨h, hT⟩
  | cons b bs ih =>
    intro T k F₁ F₂ F₃ hk hlt hT h
    have hge : 2 * k + b.toNat ≤ val k (b :: bs) := by rw [val_cons]; exact le_val _ _
    -- `hlt` is used twice: the step needs `[j]S ≠ 0` for `0 < j ≤ 2k + 1`, and when the bit is set
    -- `ε(2T)` must not vanish, i.e. `[2]([2k]S) ≠ 0`, which asks for `4k < r` while only
    -- `2k + 1 ≤ val k (b :: bs)` is known: hence a multiple of `val` in the bound
    obtain ⟨hy, hD, hx, hA⟩ := step_coords hQ hk hT
      (fun j hj hj' => nsmul_ne_zero_of_lt hS0 hSr hj (by omega))
    have hTc := CoordOf.onCurve hT
    have hDc := CoordOf.onCurve hD
    have hQc := CoordOf.onCurve hQ
    have hst := pw_tangent_step lam P₁ P₂ hL hTc hy
    have hεT : eps lam P₁ T ≠ 0 := eps_ne_zero lam P₁ hy
    have hc : (eps lam P₁ T)⁻¹ * eps lam P₁ T = 1 := by
      rw [inv_mul_cancel₀ hεT]
    -- the state after the doubling
    have hdbl : pw (F₁ ^ 2 * tangentAt (untwist T) (embed P₁)) *
          pw (F₂ ^ 2 * tangentAt (untwist T) (embed P₂)) *
          (pw (F₃ ^ 2 * tangentAt (untwist T) (embed (sumOfSlope lam P₁ P₂))))⁻¹ =
        eps lam P₁ Q ^ (2 * k) * (eps lam P₁ (affDouble T))⁻¹ := by
      rw [pw_mul, pw_mul, pw_mul, pw_pow, pw_pow, pw_pow]
      calc _ = (pw F₁ * pw F₂ * (pw F₃)⁻¹) ^ 2 *
            (pw (tangentAt (untwist T) (embed P₁)) * pw (tangentAt (untwist T) (embed P₂)) *
              (pw (tangentAt (untwist T) (embed (sumOfSlope lam P₁ P₂))))⁻¹) := by ring
        _ = eps lam P₁ Q ^ (2 * k) * (eps lam P₁ (affDouble T))⁻¹ *
            ((eps lam P₁ T)⁻¹ * eps lam P₁ T) ^ 2 := by rw [h, hst]; ring
        _ = _ := by rw [hc, one_pow, mul_one]
    cases b with
    | false =>
      simp only [List.foldl_cons, millerStep, Bool.false_eq_true, if_false, pointLoop_cons, val_cons,
        Bool.toNat_false, add_zero] at hlt ⊢
      exact ih (affDouble T) (2 * k) _ _ _ (by omega) hlt hD hdbl
    | true =>
      simp only [Bool.toNat_true] at hge
      have hDy : (affDouble T).2 ≠ 0 :=
        CoordOf.y_ne hD (by
          rw [← two_nsmul, ← mul_nsmul']
          exact nsmul_ne_zero_of_lt hS0 hSr (by omega) (by omega))
      have hch := pw_chord_step lam P₁ P₂ hL hDc hQc hx
      have hεD : eps lam P₁ (affDouble T) ≠ 0 := eps_ne_zero lam P₁ hDy
      have hcD : (eps lam P₁ (affDouble T))⁻¹ * eps lam P₁ (affDouble T) = 1 := by
        rw [inv_mul_cancel₀ hεD]
      simp only [List.foldl_cons, millerStep, if_true, pointLoop_cons, val_cons, Bool.toNat_true]
        at hlt ⊢
      refine ih (affAdd (affDouble T) Q) (2 * k + 1) _ _ _ (by omega) hlt hA ?_
      rw [pw_mul _ (chordAt _ _ _), pw_mul _ (chordAt _ _ _), pw_mul _ (chordAt _ _ _)]
      calc _ = (pw (F₁ ^ 2 * tangentAt (untwist T) (embed P₁)) *
              pw (F₂ ^ 2 * tangentAt (untwist T) (embed P₂)) *
              (pw (F₃ ^ 2 * tangentAt (untwist T) (embed (sumOfSlope lam P₁ P₂))))⁻¹) *
            (pw (chordAt (untwist (affDouble T)) (untwist Q) (embed P₁)) *
              pw (chordAt (untwist (affDouble T)) (untwist Q) (embed P₂)) *
              (pw (chordAt (untwist (affDouble T)) (untwist Q)
                (embed (sumOfSlope lam P₁ P₂))))⁻¹) := by ring
        _ = eps lam P₁ Q ^ (2 * k + 1) * (eps lam P₁ (affAdd (affDouble T) Q))⁻¹ *
            ((eps lam P₁ (affDouble T))⁻¹ * eps lam P₁ (affDouble T)) := by rw [hdbl, hch]; ring
        _ = _ := by rw [hcD, mul_one]

/-! ## Frobenius -/

theorem ι_gamma_mul : ι gamma * ι dInv = 1 := by rw [← map_mul, gamma_mul_dInv, map_one]

-- `gamma` is a table entry and `dInv` its inverse, both closed terms of `Fq2`.  Of the two only
-- `ι_gamma_mul` and `Fq12.w_pow_q` (which holds with `gamma` for the table entry by unfolding) are used
-- below, so they are folded for the rest of the file: `rw`, `simp` and `linear_combination` then see
-- atoms and never evaluate an `Fq2` inverse.
theorem w_pow_q_gamma : Fq12.w ^ Gen.q = ι gamma * Fq12.w := Fq12.w_pow_q

attribute [local irreducible] gamma dInv

theorem κ_pow_q (a : Fq) : κ a ^ Gen.q = κ a := by rw [← map_pow, Fq.pow_q]

/-- `(w⁻¹)^q = γ⁻¹ w⁻¹`, from `w^q = γ w` -/
theorem wInv_pow_q : wInv ^ Gen.q = ι dInv * wInv := by
  have h : wInv ^ Gen.q * (ι gamma * Fq12.w) = 1 := by
    rw [← w_pow_q_gamma, ← mul_pow, wInv_mul_w, one_pow]
  linear_combination (-(wInv ^ Gen.q * wInv * Fq12.w)) * ι_gamma_mul + (-(wInv ^ Gen.q)) * wInv_mul_w
    + (ι dInv * wInv) * h

/-- `ψ ∘ Φ = π ∘ ψ`: the untwist of the twisted Frobenius is the coordinate-wise `q`-th power -/
theorem untwist_frob (T : Fq2 × Fq2) :
    untwist (dInv ^ 2 * Fq2.conj T.1, dInv ^ 3 * Fq2.conj T.2) =
      ((untwist T).1 ^ Gen.q, (untwist T).2 ^ Gen.q) := by
  rw [untwist_eq_cmap, untwist_eq_cmap]
  simp only [cmap, mul_pow, ← pow_mul, mul_comm _ Gen.q]
  simp only [pow_mul, wInv_pow_q, ι_pow_q, map_mul, map_pow, Prod.mk.injEq]
  constructor
  · ring
  · ring

/-- a line with coefficients in `Fq` commutes with the `q`-th power: `g(-π R) = g(-R)^q` -/
theorem gl_frob (lam : Fq) (P₁ : Fq × Fq) (R : Fq12 × Fq12) :
    gl lam P₁ (ngp (R.1 ^ Gen.q, R.2 ^ Gen.q)) = gl lam P₁ (ngp R) ^ Gen.q := by
  simp only [gl, lineAt, embed, ngp]
  rw [sub_pow_char, sub_pow_char, mul_pow, sub_pow_char, FinalExp.q_odd.neg_pow, κ_pow_q, κ_pow_q, κ_pow_q]

/-- `ε(-Φ T) = ε(T)^(-q)` -/
theorem eps_frob (lam : Fq) (P₁ : Fq × Fq) (x y : Fq2) :
    eps lam P₁ (ngp (dInv ^ 2 * Fq2.conj x, dInv ^ 3 * Fq2.conj y)) =
      (eps lam P₁ (x, y) ^ Gen.q)⁻¹ := by
  have hu := untwist_frob (x, y)
  simp only at hu
  unfold eps
  rw [untwist_ngp, hu, gl_frob, pw_pow]
  rw [← conj_gl, pw_conj, inv_pow]

theorem r_dvd_x_add_q : Gen.r ∣ Gen.BLS_X + Gen.q := by decide +kernel

theorem four_x_lt_r : 4 * Gen.BLS_X < Gen.r := by decide +kernel

/-! ## additivity of the textbook Miller value, after the final exponentiation -/

/-- **`pw f_Q(P₁) · pw f_Q(P₂) = pw f_Q(P₁ + P₂)`** for `Q ∈ G2` finite and `P₁, P₂, P₁ + P₂` the three
    points of a line with slope in `Fq` (chord or tangent) -/
theorem pw_miller_add (lam : Fq) (P₁ P₂ : Fq × Fq) (hL : LineZeros (4 : Fq) lam P₁ P₂)
    (q : Aff Fq2) (hq : Aff.InSub g2Codec.b q) (hqi : q.infinity = false) :
    pw (textbookMiller P₁ (pair q)) * pw (textbookMiller P₂ (pair q)) *
      (pw (textbookMiller (sumOfSlope lam P₁ P₂) (pair q)))⁻¹ = 1 := by
  set S := Aff.abs g2Codec.b q with hS
  have hS0 : S ≠ 0 := fun h => by
    rw [hS, Aff.abs_eq_zero_iff hq.1, hqi] at h; cases h
  have hQ : Repr (pair q) S := repr_aff hq.1 hqi
  have hQy : (pair q).2 ≠ 0 :=
    CoordOf.y_ne hQ (by
      rw [← two_nsmul]; exact nsmul_ne_zero_of_lt hS0 hq.2 (by norm_num) (by decide +kernel))
  have hε : eps lam P₁ (pair q) ≠ 0 := eps_ne_zero lam P₁ hQy
  obtain ⟨h, hT⟩ := loop_inv lam P₁ P₂ hL (pair q) S hS0 hq.2 hQ (bitsBelowTop Gen.BLS_X) (pair q) 1
    1 1 1 (le_refl _) (by rw [val_bitsBelowTop]; exact four_x_lt_r) (by rw [one_smul]; exact hQ)
    (by rw [pw_one, pow_one, mul_inv_cancel₀ hε]; simp)
  rw [val_bitsBelowTop] at h hT
  -- the final accumulator is `-Φ(Q)`
  have hfr := frobA_eq_neg_nsmul hq
  have hFc := (frobA_spec hq.1).1
  have hFi : (frobA q).infinity = false := by simp only [frobA]; exact hqi
  rw [← hS, Aff.abs_of_not_infinity hFc hFi, Point.neg_some] at hfr
  obtain ⟨hns, hTe⟩ := hT
  rw [hfr] at hTe
  obtain ⟨e1, e2⟩ := PP.Point.some_eq_some.mp hTe
  have hTn : pointLoop (pair q) (bitsBelowTop Gen.BLS_X) (pair q) =
      ngp (dInv ^ 2 * Fq2.conj q.x, dInv ^ 3 * Fq2.conj q.y) := by
    apply Prod.ext
    · rw [← e1]; simp only [frobA, ngp]
    · rw [← e2, W_negY]; simp only [frobA, ngp]
  -- `ε([n]Q) = ε(Q)^(-q)`
  have hεn : eps lam P₁ (pointLoop (pair q) (bitsBelowTop Gen.BLS_X) (pair q)) =
      ((eps lam P₁ (pair q)) ^ Gen.q)⁻¹ := by
    rw [hTn]; exact eps_frob lam P₁ q.x q.y
  unfold textbookMiller millerBits
  rw [h, hεn, inv_inv, ← pow_add]
  obtain ⟨c, hc⟩ := r_dvd_x_add_q
  rw [hc, pow_mul]
  unfold eps
  rw [pw_pow_r (gl_ne_zero lam P₁ hQy), one_pow]

/-- **additivity of the textbook reduced ate pairing in `P`** -/
theorem reducedAte_add_left (lam : Fq) (P₁ P₂ : Fq × Fq) (hL : LineZeros (4 : Fq) lam P₁ P₂)
    (hy₃ : (sumOfSlope lam P₁ P₂).2 ≠ 0)
    (q : Aff Fq2) (hq : Aff.InSub g2Codec.b q) (hqi : q.infinity = false) :
    reducedAte (sumOfSlope lam P₁ P₂) (pair q) =
      reducedAte P₁ (pair q) * reducedAte P₂ (pair q) := by
  have h := pw_miller_add lam P₁ P₂ hL q hq hqi
  have h3 : pw (textbookMiller (sumOfSlope lam P₁ P₂) (pair q)) ≠ 0 :=
    pw_ne_zero (textbookMiller_ne_zero _ _ hy₃)
  have h' : pw (textbookMiller P₁ (pair q)) * pw (textbookMiller P₂ (pair q)) =
      pw (textbookMiller (sumOfSlope lam P₁ P₂) (pair q)) := by
    rw [← mul_inv_eq_one₀ h3]; exact h
  have e : ∀ P, reducedAte P (pair q) = Fq12.conjugate (pw (textbookMiller P (pair q))) := by
    intro P
    rw [reducedAte, pw_def]
    exact (conj_pow _ _).symm
  rw [e, e, e, ← h', Fq12.conjugate_mul]

end PP.BilinP
