/-
C15, layer 2 (G1): the model's `osswuG1` (square-root candidate through the addition chain for
`(q−3)/4`, one test, second candidate with `√(−ξ³)`, sign fix, Jacobian output) computes
`map_to_curve_simple_swu` of RFC 9380.

Everything is proved for an abstract field `F` with `∀ x ≠ 0, x^(N−1) = 1`, `N ≡ 3 (mod 4)`, an
abstract chain function with `chain a = a^((N−3)/4)`, an abstract sign function that flips under
negation, and a constant `κ` with `κ² = −ξ³`: this is the search of `PP.Proofs.SswuG2` through the
one-element lists `[1]` and `[κ]`, where the second search cannot fail and the model does not test.
The instantiation at `F = Fq` is the last section.
-/
import PP.Proofs.SswuG2
import PP.Proofs.SswuUnfold
import PP.Proofs.Primes
import PP.Proofs.SswuCubic
import PP.Proofs.Sqrt

set_option linter.unusedSectionVars false

namespace PP
namespace Sswu
open PP.Spec

variable {F : Type} [Field F] [DecidableEq F] [FieldOps F] [LawfulFieldOps F]

/-- `OSSWUMap for G1` after `osswu_help` and the chain: test, second candidate, sign fix, output -/
def osswuG1Core (sgn0 : F → Sgn0) (h : OsswuHelp F) (cand κ u : F) : Jac F :=
  let testCand := sq cand * h.gx0_den
  let (xNum, y) :=
    if testCand = h.gx0_num then (h.x0_num, cand)
    else (h.x0_num * h.xi_usq, ((h.usq * u) * cand) * κ)
  let y := negateIf y ((sgn0 y).xor (sgn0 u))
  ⟨xNum * h.x0_den, y * h.gx0_den, h.x0_den⟩

/-- the body of `osswuG1` (`PP/Model/Map.lean`) with its `let`s substituted and field, chain, sign
    function and constants as parameters; `osswuG1_eq_g1Map` ends in a `rfl` against this text, after
    `osswuG1_unfold` and with the record, the chain value and `κ` generalised -/
def g1Map (chain : F → F) (sgn0 : F → Sgn0) (ξ A B κ u : F) : Jac F :=
  osswuG1Core sgn0 (osswuHelp u ξ A B)
    (chain (sq (osswuHelp u ξ A B).gx0_den *
        ((osswuHelp u ξ A B).gx0_num * (osswuHelp u ξ A B).gx0_den)) *
      ((osswuHelp u ξ A B).gx0_num * (osswuHelp u ξ A B).gx0_den)) κ u

/-- whenever the search through `[1]` and `[κ]` returns, it returns what `OSSWUMap for G1` does -/
theorem osswuG1Core_eq_of_G2Core {sgn0 : F → Sgn0} {h : OsswuHelp F} {c κ u : F} {P : Jac F}
    (hP : osswuG2Core sgn0 h c [1] [κ] u = some P) : osswuG1Core sgn0 h c κ u = P := by
  have e : κ * (c * h.usq * u) = h.usq * u * c * κ := by ring
  simp only [osswuG2Core, findG, one_mul, e] at hP
  simp only [osswuG1Core]
  by_cases ht : sq c * h.gx0_den = h.gx0_num
  · simp only [if_pos ht] at hP ⊢
    exact Option.some.inj hP
  · simp only [if_neg ht] at hP ⊢
    by_cases ht' : sq (h.usq * u * c * κ) * h.gx0_den = h.xi2_u4 * h.xi_usq * h.gx0_num
    · simp only [if_pos ht'] at hP
      exact Option.some.inj hP
    · simp only [if_neg ht'] at hP
      cases hP

/-- the candidate of `OSSWUMap for G1`: `(w·v³)^k · w·v` -/
theorem g1Cand_eq {chain : F → F} {k : ℕ} (hchain : ∀ a, chain a = a ^ k) (w v : F) :
    chain (sq v * (w * v)) * (w * v) = cand 1 k w v := by
  simp only [hchain, LawfulFieldOps.sq_eq, cand]
  ring

section Main
variable {N : ℕ} (hN : N % 4 = 3) (hcard : ∀ x : F, x ≠ 0 → x ^ (N - 1) = 1)
variable {ξ A B κ : F} (hA : A ≠ 0) (hξ : ξ ≠ 0) (hκ : κ ^ 2 = -(ξ ^ 3))
variable (hexc : IsSquare (sswuG A B (B / (ξ * A))))
variable (sgn0 : F → Sgn0) (hflip : ∀ y : F, y ≠ 0 → sgn0 (-y) ≠ sgn0 y)
variable (chain : F → F) (hchain : ∀ a, chain a = a ^ ((N - 3) / 4))
include hN hcard hA hξ hκ hexc hflip hchain

theorem g1Map_spec (u : F) : SswuOut sgn0 ξ A B u (g1Map chain sgn0 ξ A B κ u) := by
  have hroots : ∀ ζ : F, ζ ^ 1 = 1 → ∃ ρ ∈ [(1 : F)], ρ ^ 2 * ζ = 1 := fun ζ h =>
    ⟨1, List.mem_singleton_self 1, by rw [one_pow, one_mul, ← pow_one ζ, h]⟩
  have hetas : ∀ ζ : F, ζ ^ 1 = -1 → ∃ η ∈ [κ], η ^ 2 * ζ = ξ ^ 3 := fun ζ h =>
    ⟨κ, List.mem_singleton_self κ, by rw [hκ, ← pow_one ζ, h, neg_mul_neg, mul_one]⟩
  obtain ⟨P, hP, hout⟩ := osswuG2Core_cand_spec hA hξ hexc sgn0 hflip [1] [κ] hroots hetas
    (card_pred_split (m := 1) Nat.one_pos hN) hcard 1 u
  rw [g1Map, g1Cand_eq hchain, osswuG1Core_eq_of_G2Core hP]
  exact hout

theorem g1Map_exceptional (u : F) (hu : ξ ^ 2 * u ^ 4 + ξ * u ^ 2 = 0) :
    affX (g1Map chain sgn0 ξ A B κ u) = B / (ξ * A) :=
  (g1Map_spec hN hcard hA hξ hκ hexc sgn0 hflip chain hchain u).x_exceptional hexc hu

end Main

theorem Fq.pow_card_sub_one (x : Fq) (hx : x ≠ 0) : x ^ (Gen.q - 1) = 1 := by
  apply Zp.toZ_injective
  rw [Zp.toZ_pow, Zp.toZ_one]
  apply ZMod.pow_card_sub_one_eq_one
  intro h0
  apply hx
  apply Zp.toZ_injective
  rw [h0, Zp.toZ_zero]

theorem pow_card_of_pow_card_sub_one {N : ℕ} (hN : 0 < N)
    (hcard : ∀ x : F, x ≠ 0 → x ^ (N - 1) = 1) (x : F) : x ^ N = x := by
  have h := pow_succ x (N - 1)
  rw [Nat.sub_add_cancel hN] at h
  by_cases hx : x = 0
  · subst hx; exact zero_pow hN.ne'
  · rw [h, hcard x hx, one_mul]

theorem Fq.pow_card (x : Fq) : x ^ Gen.q = x :=
  pow_card_of_pow_card_sub_one (by decide +kernel) Fq.pow_card_sub_one x

theorem Fq.sgn0_neg (y : Fq) (hy : y ≠ 0) : Zp.sgn0 (-y) ≠ Zp.sgn0 y := PP.Fq.sgn0_neg y hy

/-- the model function is the abstract map at `F = Fq` (see `PP.Proofs.SswuUnfold` for why this is
proved through `osswuG1_unfold` and an auxiliary lemma over variables) -/
theorem osswuG1_eq_g1Map (u : Fq) :
    osswuG1 u = g1Map chainPm3div4 Zp.sgn0 g1Xi g1EllpA g1EllpB g1SqrtMXiCubed u := by
  refine (osswuG1_unfold u).trans ?_
  unfold g1Map
  generalize osswuHelp u g1Xi g1EllpA g1EllpB = h
  generalize chainPm3div4 _ = c
  generalize g1SqrtMXiCubed = κ
  as_aux_lemma => rfl

theorem g1EllpB_ne : g1EllpB ≠ 0 := by decide +kernel

/-- a square root of `g(B'/(ZA'))`, found outside Lean; `g1_consts` checks it -/
def g1ExcRoot : Fq := Zp.ofNat
  0x5be3446f07e910e291153e84f1dabd3dfe5c2b1080d8b6a640425c3826f2a429373f9bab7e8308f6dd10ffa11124dbc

/-- what `g1Map_spec` asks of the constants, in one kernel evaluation: `A' ≠ 0`, `Z ≠ 0`,
`SQRT_M_XI_CUBED² = −Z³`, and `g(B'/(ZA'))` is the square of `g1ExcRoot` -/
theorem g1_consts : g1EllpA ≠ 0 ∧ g1Xi ≠ 0 ∧ g1SqrtMXiCubed ^ 2 = -(g1Xi ^ 3) ∧
    sswuG g1EllpA g1EllpB (g1EllpB / (g1Xi * g1EllpA)) = g1ExcRoot * g1ExcRoot := by
  decide +kernel

/-- `g(B'/(ZA'))` is a square: the exceptional inputs take the first candidate -/
theorem g1Exc_isSquare : IsSquare (sswuG g1EllpA g1EllpB (g1EllpB / (g1Xi * g1EllpA))) :=
  ⟨g1ExcRoot, g1_consts.2.2.2⟩

/-! #### `x³ + A'x + B'` has no root in `Fq` (so the output `y` is never `0`) -/

/-- `x^q mod (x³ + A'x + B')`; `g1_xPow` recomputes it -/
def g1R : Fq × Fq × Fq :=
  (Zp.ofNat 0x167a4573db76f12e5e1d684bd1953a61fb9184f44b906a43556a626aca81138ea935377baa265004737982fdf3e8c3c0,
   Zp.ofNat 0x109451496bd2ce199464fd146e48fdd506517d9a20f4a4ac90d3043a590cdfd583178f940f8148d73e1107a770c806f,
   Zp.ofNat 0xdec653dab78d16b197ab8fb9b05f8b71c2419ab9acd4682d9e7e61379dc9d178a0be1b5a8dd1b16c760e4993b41501)

theorem g1_xPow : Cubic.xPow g1EllpA g1EllpB Gen.q = g1R := by decide +kernel

/-- Bézout cofactors `S·(x^q − x mod g) + T·g = 1` from the extended Euclidean algorithm in
    `Fq[x]`, run outside Lean; `g1_no_root` checks the five coefficient equations -/
def g1S0 : Fq := Zp.ofNat 0x17448748eeb644c01bd8057d96d58bf3f56dedb39ad2b8245ba9a28c10776e080b744052c94b6390529b9660a03a1986
def g1S1 : Fq := Zp.ofNat 0x18187c126f186c0a9f6f0d1f8272d486eb52eafc397301284c33978f6725beed58618a096f407589d87a79f85692431c
def g1S2 : Fq := Zp.ofNat 0x2025e63d1547326558ac99b4d2bc7467f029caf4cfdf46c95bd68e5dd6cce7df8b66358a41bc8255fb51cd887a4d803
def g1T0 : Fq := Zp.ofNat 0xe9369a98e9f651cd5ccb2860b43a71df91aef922acd54ba1dcf4979dc0df090f6f65cebee48d808cad573f8ae76bf86
def g1T1 : Fq := Zp.ofNat 0x8b7a7b69a9ff08ac60bcb3596e10d108b65ff23150c980f2ace058103b3d9ebd528c53cc28771d2e5eee3abfa72369

/-- the isogenous curve `E₁'` has no point of order 2 over `Fq` -/
theorem g1_no_root (x : Fq) : sswuG g1EllpA g1EllpB x ≠ 0 := by
  unfold sswuG
  exact Cubic.no_root g1R g1_xPow g1S0 g1S1 g1S2 g1T0 g1T1
    (by decide +kernel) (by decide +kernel) (by decide +kernel) (by decide +kernel)
    (by decide +kernel) x (Fq.pow_card x)

section
variable (hchain1 : ∀ a : Fq, chainPm3div4 a = a ^ ((Gen.q - 3) / 4))
include hchain1

theorem osswuG1_sswuOut (t : Fq) : SswuOut Zp.sgn0 g1Xi g1EllpA g1EllpB t (osswuG1 t) := by
  rw [osswuG1_eq_g1Map]
  exact g1Map_spec Primes.q_mod_four Fq.pow_card_sub_one g1_consts.1 g1_consts.2.1 g1_consts.2.2.1
    g1Exc_isSquare Zp.sgn0 Fq.sgn0_neg chainPm3div4 hchain1 t

end

end Sswu
end PP
