/-
C03, denominator elimination: the Miller function WITH the vertical lines
(`Ate.textbookMillerFull`) differs from the one without (`Ate.textbookMiller`) by a non-zero factor of
the subfield `Fq6`, for `P = (x_P, y_P)` with `x_P ≠ 0`; hence `reducedAteFull = reducedAte`.

* `vertical_eq`: `v_{ψ(T)}(P) = ofFq6 ⟨x_P, 0, -x_T/ξ⟩`; non-zero as soon as `x_P ≠ 0`.
* `full_agree`: invariant of the two textbook loops.
* `g1_x_ne_zero`: a finite point of `E(Fq)` killed by `r` has `x ≠ 0` (the points `(0, ±2)` have
  order 3).
-/
import PP.Proofs.Lines3
import PP.Proofs.Subgroup

namespace PP
namespace Lines

open Ate Miller WeierstrassCurve.Affine

/-! ## the verticals -/

theorem v_ne_zero : Fq6.v ≠ 0 := fun h => by
  have : (1 : Fq2) = 0 := congrArg Fq6.c1 h
  exact one_ne_zero this

theorem ofFq2_div_v (t : Fq2) : Fq6.ofFq2 t / Fq6.v = ⟨0, 0, t / Fq2.xi⟩ := by
  rw [div_eq_iff v_ne_zero]
  have : (⟨0, 0, t / Fq2.xi⟩ : Fq6) = Fq6.ofFq2 (t / Fq2.xi) * (Fq6.v * Fq6.v) := by
    rw [Fq6.v_mul_v, Fq6.ofFq2_mul]; simp
  rw [this, mul_assoc, Fq6.v_cube, ← map_mul, div_mul_cancel₀ _ Fq2.xi_ne_zero]

/-- the value at `P` of the vertical through `ψ(T)` is `x_P - (x_T/ξ) v² ∈ Fq6` -/
theorem vertical_eq (T : Fq2 × Fq2) (P : Fq × Fq) :
    verticalAt (untwist T) (embed P) = Fq12.ofFq6 ⟨Fq2.ofFq P.1, 0, -(T.1 / Fq2.xi)⟩ := by
  have h : verticalAt (untwist T) (embed P) =
      Fq12.ofFq6 (Fq6.ofFq2 (Fq2.ofFq P.1) - Fq6.ofFq2 T.1 / Fq6.v) := by
    simp only [verticalAt, embed, untwist, κ, ι, RingHom.comp_apply, map_sub, map_div₀,
      Fq12.w_pow_two]
  have e : Fq6.ofFq2 (Fq2.ofFq P.1) - (⟨0, 0, T.1 / Fq2.xi⟩ : Fq6) =
      ⟨Fq2.ofFq P.1, 0, -(T.1 / Fq2.xi)⟩ := by
    ext1 <;> simp
  rw [h, ofFq2_div_v, e]

theorem vertical_ne_zero (T : Fq2 × Fq2) (P : Fq × Fq) (hx : P.1 ≠ 0) :
    (⟨Fq2.ofFq P.1, 0, -(T.1 / Fq2.xi)⟩ : Fq6) ≠ 0 := fun h => by
  have h0 : Fq2.ofFq P.1 = 0 := congrArg Fq6.c0 h
  exact hx (Fq2.ofFq_injective (by rw [h0, map_zero]))

/-! ## the two textbook loops -/

/-- a non-zero element of `Fq6 ⊂ Fq12` -/
def InFq6 (d : Fq12) : Prop := ∃ a : Fq6, a ≠ 0 ∧ d = Fq12.ofFq6 a

theorem InFq6.one : InFq6 1 := ⟨1, one_ne_zero, (map_one _).symm⟩

theorem InFq6.mul {c d : Fq12} (hc : InFq6 c) (hd : InFq6 d) : InFq6 (c * d) := by
  obtain ⟨a, ha, rfl⟩ := hc
  obtain ⟨b, hb, rfl⟩ := hd
  exact ⟨a * b, mul_ne_zero ha hb, (map_mul _ _ _).symm⟩

theorem InFq6.sq {c : Fq12} (hc : InFq6 c) : InFq6 (c ^ 2) := by rw [pow_two]; exact hc.mul hc

theorem InFq6.ne_zero {c : Fq12} (hc : InFq6 c) : c ≠ 0 := by
  obtain ⟨a, ha, rfl⟩ := hc
  exact fun h => ha (Fq12.ofFq6_injective (by rw [h, map_zero]))

theorem InFq6.vertical (T : Fq2 × Fq2) (P : Fq × Fq) (hx : P.1 ≠ 0) :
    InFq6 (verticalAt (untwist T) (embed P)) :=
  ⟨_, vertical_ne_zero T P hx, vertical_eq T P⟩

theorem InFq6.fe {c : Fq12} (hc : InFq6 c) : finalExponentiation c = some 1 := by
  obtain ⟨a, ha, rfl⟩ := hc
  exact FinalExp.fe_ofFq6 ha

theorem InFq6.conjugate {c : Fq12} (hc : InFq6 c) : Fq12.conjugate c = c := by
  obtain ⟨a, ha, rfl⟩ := hc
  exact Fq12.conjugate_ofFq6 a

/-- **invariant**: the loop without verticals is the loop with verticals times a non-zero element of
    `Fq6`; the accumulators `T` coincide -/
theorem full_agree (P : Fq × Fq) (Q : Fq2 × Fq2) (hx : P.1 ≠ 0) (bs : List Bool) (F F' d : Fq12)
    (T : Fq2 × Fq2) (hd : InFq6 d) (hF : F = F' * d) :
    (bs.foldl (millerStep P Q) (F, T)).2 = (bs.foldl (millerStepFull P Q) (F', T)).2 ∧
      ∃ d', InFq6 d' ∧
        (bs.foldl (millerStep P Q) (F, T)).1 = (bs.foldl (millerStepFull P Q) (F', T)).1 * d' := by
  induction bs generalizing F F' d T with
  | nil =>
    simp only [List.foldl_nil, true_and]
    exact ⟨d, hd, hF⟩
  | cons b bs ih =>
    have hv1 := InFq6.vertical (affDouble T) P hx
    cases b with
    | false =>
      simp only [List.foldl_cons, millerStep, millerStepFull, Bool.false_eq_true, if_false]
      refine ih _ _ (d ^ 2 * verticalAt (untwist (affDouble T)) (embed P)) _
        (hd.sq.mul hv1) ?_
      have := hv1.ne_zero
      rw [hF]; field_simp
    | true =>
      have hv2 := InFq6.vertical (affAdd (affDouble T) Q) P hx
      simp only [List.foldl_cons, millerStep, millerStepFull, if_true]
      refine ih _ _ (d ^ 2 * verticalAt (untwist (affDouble T)) (embed P) *
        verticalAt (untwist (affAdd (affDouble T) Q)) (embed P)) _
        ((hd.sq.mul hv1).mul hv2) ?_
      have := hv1.ne_zero
      have := hv2.ne_zero
      rw [hF]; field_simp

/-- **denominator elimination**: `textbookMiller = textbookMillerFull · d`, `d ∈ Fq6ˣ` -/
theorem textbookMiller_eq_full (P : Fq × Fq) (Q : Fq2 × Fq2) (hx : P.1 ≠ 0) :
    ∃ d, InFq6 d ∧ textbookMiller P Q = textbookMillerFull P Q * d :=
  (full_agree P Q hx (bitsBelowTop Gen.BLS_X) 1 1 1 Q InFq6.one (by simp)).2

theorem reducedAteFull_eq (P : Fq × Fq) (Q : Fq2 × Fq2) (hx : P.1 ≠ 0) :
    reducedAteFull P Q = reducedAte P Q := by
  obtain ⟨d, hd, h⟩ := textbookMiller_eq_full P Q hx
  have hd1 : d ^ finalExponent = 1 := FinalExp.pow_of_fe_one hd.fe
  unfold reducedAte reducedAteFull
  rw [h, Fq12.conjugate_mul, hd.conjugate, mul_pow, hd1, mul_one]

/-! ## points of `E(Fq)` with `x = 0` have order 3 -/

theorem three_coprime_r : Nat.Coprime 3 Gen.r := by decide +kernel

theorem g1_x_ne_zero {p : Aff Fq} (hp : Aff.OnCurve g1Codec.b p) (hpi : p.infinity = false)
    (hr : Gen.r • Aff.abs g1Codec.b p = 0) : p.x ≠ 0 :=
  CoordOf.x_ne_zero (T := (p.x, p.y)) three_coprime_r ⟨_, Aff.abs_of_not_infinity hp hpi⟩ hr

end Lines
end PP
