/-
Windowed-NAF scalar multiplication (src/wnaf.rs as modelled in `PP.Model.Mul`): `wnaf_form`
terminates and produces a correct signed-digit expansion, `wnaf_table` holds the odd multiples,
`wnaf_exp` evaluates the expansion, the reusable context is history independent, and the
recommended windows lie in `2..=22`.  Everything is relative to a `GroupModel`.
-/
import Mathlib.Tactic.Module
import Mathlib.Tactic.Ring
import PP.Proofs.ScalarMul

namespace PP

variable {F : Type} [Field F] [DecidableEq F] [FieldOps F] {G : Type} [AddCommGroup G]
  (M : GroupModel F G)

/-- value of a little-endian signed-digit string, `Σ dᵢ 2^i` -/
def wnafVal : List ℤ → ℤ
  | [] => 0
  | d :: ds => d + 2 * wnafVal ds

/-- a wNAF digit for window `w`: zero, or odd of absolute value below `2^w` -/
def WnafDigit (w : ℕ) (d : ℤ) : Prop := d = 0 ∨ (d % 2 = 1 ∧ d.natAbs < 2 ^ w)

theorem wnafStep_even (c w : ℕ) (h : c % 2 = 0) : wnafStep c w = (0, c / 2) := by
  unfold wnafStep; rw [if_neg (by omega)]

/-- the new `c` of `wnafStep` at an odd `c = 2P + r` with `r < 2W`, for word size `N`: since
    `c + W ≤ N` neither the subtraction of a positive digit nor the addition of a negative one wraps -/
theorem wnafStep_arith (P r W N : ℕ) (hodd : r % 2 = 1) (hr : r < 2 * W) (hN : 2 * P + r + W ≤ N) :
    (if (if (r : ℤ) > W then (r : ℤ) - 2 * W else r) > 0
      then (2 * P + r + N - (if (r : ℤ) > W then (r : ℤ) - 2 * W else r).toNat) % N
      else (2 * P + r + (-(if (r : ℤ) > W then (r : ℤ) - 2 * W else r)).toNat) % N) / 2
      = if W < r then P + W else P := by
  by_cases hrW : W < r
  · rw [if_pos hrW, if_pos (Int.ofNat_lt.mpr hrW), if_neg (by omega),
      show (-((r : ℤ) - 2 * W)).toNat = 2 * W - r by omega, Nat.add_assoc, Nat.add_sub_cancel' hr.le,
      Nat.mod_eq_of_lt (by omega), ← Nat.mul_add, Nat.mul_div_cancel_left _ Nat.two_pos]
  · rw [if_neg hrW, if_neg (fun h => hrW (Int.ofNat_lt.mp h)), if_pos (by omega),
      Int.toNat_natCast, Nat.add_right_comm, Nat.add_sub_cancel, Nat.add_mod_right,
      Nat.mod_eq_of_lt (by omega), Nat.mul_div_cancel_left _ Nat.two_pos]

/-- an odd `c` splits as `2P + r` with `r = c mod 2^(w+1)` odd; the digit is `r` or `r - 2^(w+1)`,
    whichever is smaller in absolute value, and the new `c` is `P` or `P + 2^w` -/
theorem wnafStep_odd (c w : ℕ) (h : c % 2 = 1) (hw : w ≤ 63) (hc : c + 2 ^ w ≤ 2 ^ 256) :
    ∃ r P, c = 2 * P + r ∧ r % 2 = 1 ∧ r < 2 * 2 ^ w ∧ (P = 0 ∨ 2 ^ w ≤ P) ∧
      wnafStep c w = (if 2 ^ w < r then (r : ℤ) - 2 * (2 ^ w : ℕ) else r,
        if 2 ^ w < r then P + 2 ^ w else P) := by
  have hdm : 2 * (2 ^ w * (c / 2 ^ (w + 1))) + c % 2 ^ (w + 1) = c := by
    rw [← Nat.mul_assoc, Nat.mul_comm 2, ← pow_succ]; exact Nat.div_add_mod c (2 ^ (w + 1))
  have hr2 : c % 2 ^ (w + 1) % 2 = 1 := (Nat.mod_mod_of_dvd c (Dvd.intro_left (2 ^ w) rfl)).trans h
  have hrlt : c % 2 ^ (w + 1) < 2 * 2 ^ w := by
    rw [Nat.mul_comm, ← pow_succ]; exact Nat.mod_lt _ (by positivity)
  refine ⟨c % 2 ^ (w + 1), 2 ^ w * (c / 2 ^ (w + 1)), hdm.symm, hr2, hrlt, ?_, ?_⟩
  · rcases Nat.eq_zero_or_pos (c / 2 ^ (w + 1)) with h0 | h0
    · left; rw [h0]; rfl
    · right; exact Nat.le_mul_of_pos_right _ h0
  · have hmm : c % 2 ^ 64 % 2 ^ (w + 1) = c % 2 ^ (w + 1) :=
      Nat.mod_mod_of_dvd c (pow_dvd_pow 2 (by omega))
    have hZ : ((2 : ℤ) ^ (w + 1)) = 2 * ((2 ^ w : ℕ) : ℤ) := by push_cast; ring
    have hZ' : ((2 : ℤ) ^ w) = ((2 ^ w : ℕ) : ℤ) := by push_cast; rfl
    have := wnafStep_arith _ _ _ (2 ^ 256) hr2 hrlt (by rw [hdm]; exact hc)
    rw [hdm] at this
    unfold wnafStep
    rw [if_pos h, hmm]
    simp only [hZ, hZ']
    rw [this]
    simp only [gt_iff_lt, Nat.cast_lt]

theorem wnafStep_spec (c w : ℕ) (hw1 : 1 ≤ w) (hw : w ≤ 63) (hc : c + 2 ^ w ≤ 2 ^ 256) :
    (c : ℤ) = (wnafStep c w).1 + 2 * ((wnafStep c w).2 : ℤ) ∧
    WnafDigit w (wnafStep c w).1 ∧
    2 * (wnafStep c w).2 < c + 2 ^ w ∧
    (c ≤ 2 ^ w → 2 * (wnafStep c w).2 ≤ c ∧ (c % 2 = 1 → (wnafStep c w).2 = 0)) := by
  have hWeven : 2 ^ w % 2 = 0 := by
    obtain ⟨v, rfl⟩ := Nat.exists_eq_add_of_le hw1
    rw [Nat.add_comm, pow_succ]; exact Nat.mul_mod_left ..
  have hWpos : 0 < 2 ^ w := Nat.pos_of_ne_zero (by positivity)
  unfold WnafDigit
  rcases Nat.mod_two_eq_zero_or_one c with h | h
  · rw [wnafStep_even c w h]
    clear hc
    generalize 2 ^ w = W at *
    exact ⟨by simp only; omega, Or.inl rfl, by simp only; omega, fun _ => ⟨by simp only; omega, by omega⟩⟩
  · obtain ⟨r, P, rfl, hr2, hrlt, hP, e⟩ := wnafStep_odd c w h hw hc
    rw [e]
    clear e hc h
    generalize 2 ^ w = W at *
    split_ifs with hrW
    · simp only; omega
    · simp only; omega

theorem wnafFormLoop_zero (w fuel : ℕ) (acc : List ℤ) :
    wnafFormLoop w fuel 0 acc = some acc.reverse := by
  cases fuel <;> simp [wnafFormLoop]

theorem wnafFormLoop_step (w fuel c : ℕ) (acc : List ℤ) (hc : c ≠ 0) :
    wnafFormLoop w (fuel + 1) c acc
      = wnafFormLoop w fuel (wnafStep c w).2 ((wnafStep c w).1 :: acc) := by
  rw [wnafFormLoop, if_neg hc]

/-- what the digit loop returns: the accumulated digits followed by a correct wNAF of `c` -/
def WnafLoopOK (w fuel c : ℕ) (acc : List ℤ) : Prop :=
  ∃ ds, wnafFormLoop w fuel c acc = some (acc.reverse ++ ds) ∧ wnafVal ds = c ∧
    ∀ d ∈ ds, WnafDigit w d

theorem WnafLoopOK.zero (w fuel : ℕ) (acc : List ℤ) : WnafLoopOK w fuel 0 acc :=
  ⟨[], by simp [wnafFormLoop_zero], rfl, by simp⟩

theorem WnafLoopOK.step {w fuel c : ℕ} {acc : List ℤ} (hw1 : 1 ≤ w) (hw : w ≤ 63)
    (hc : c + 2 ^ w ≤ 2 ^ 256) (hc0 : c ≠ 0)
    (h : WnafLoopOK w fuel (wnafStep c w).2 ((wnafStep c w).1 :: acc)) :
    WnafLoopOK w (fuel + 1) c acc := by
  obtain ⟨ds, hds, hval, hdig⟩ := h
  obtain ⟨h1, h2, -, -⟩ := wnafStep_spec c w hw1 hw hc
  refine ⟨(wnafStep c w).1 :: ds, ?_, ?_, ?_⟩
  · rw [wnafFormLoop_step w fuel c acc hc0, hds]; simp
  · rw [wnafVal, hval]; exact h1.symm
  · intro d hd
    rcases List.mem_cons.mp hd with rfl | hd
    · exact h2
    · exact hdig d hd

/-- phase B: once `c ≤ 2^m ≤ 2^w`, at most `m + 1` more iterations -/
theorem wnafFormLoop_small (w : ℕ) (hw1 : 1 ≤ w) (hw : w ≤ 63) :
    ∀ (m fuel c : ℕ) (acc : List ℤ), c ≤ 2 ^ m → m ≤ w → m + 1 ≤ fuel →
      WnafLoopOK w fuel c acc := by
  intro m
  induction m with
  | zero =>
    intro fuel c acc hc _ hf
    obtain ⟨fuel, rfl⟩ : ∃ f, fuel = f + 1 := ⟨fuel - 1, by omega⟩
    rcases Nat.eq_zero_or_pos c with rfl | hpos
    · exact WnafLoopOK.zero ..
    · have hc1 : c = 1 := by simp at hc; omega
      have h2w : 1 ≤ 2 ^ w := Nat.one_le_two_pow
      have h2w' : 2 ^ w ≤ 2 ^ 63 := Nat.pow_le_pow_right (by decide) hw
      have hcw : c + 2 ^ w ≤ 2 ^ 256 := by omega
      obtain ⟨-, -, -, h4⟩ := wnafStep_spec c w hw1 hw hcw
      have := (h4 (by omega)).2 (by omega)
      apply WnafLoopOK.step hw1 hw hcw (by omega)
      rw [this]; exact WnafLoopOK.zero ..
  | succ m ih =>
    intro fuel c acc hc hm hf
    obtain ⟨fuel, rfl⟩ : ∃ f, fuel = f + 1 := ⟨fuel - 1, by omega⟩
    rcases Nat.eq_zero_or_pos c with rfl | hpos
    · exact WnafLoopOK.zero ..
    · have h2m : 2 ^ (m + 1) ≤ 2 ^ w := Nat.pow_le_pow_right (by decide) hm
      have h2w' : 2 ^ w ≤ 2 ^ 63 := Nat.pow_le_pow_right (by decide) hw
      have hcw : c + 2 ^ w ≤ 2 ^ 256 := by omega
      obtain ⟨-, -, -, h4⟩ := wnafStep_spec c w hw1 hw hcw
      have h5 := (h4 (by omega)).1
      apply WnafLoopOK.step hw1 hw hcw (by omega)
      apply ih _ _ _ _ (by omega) (by omega)
      rw [pow_succ] at hc; omega

/-- phase A: while `c < 2^n + 2^w` the bound halves -/
theorem wnafFormLoop_big (w : ℕ) (hw1 : 1 ≤ w) (hw : w ≤ 63) :
    ∀ (n fuel c : ℕ) (acc : List ℤ), c < 2 ^ n + 2 ^ w → n ≤ 255 → n + w + 1 ≤ fuel →
      WnafLoopOK w fuel c acc := by
  intro n
  induction n with
  | zero =>
    intro fuel c acc hc _ hf
    exact wnafFormLoop_small w hw1 hw w fuel c acc (by simp at hc; omega) (le_refl _) (by omega)
  | succ n ih =>
    intro fuel c acc hc hn hf
    obtain ⟨fuel, rfl⟩ : ∃ f, fuel = f + 1 := ⟨fuel - 1, by omega⟩
    rcases Nat.eq_zero_or_pos c with rfl | hpos
    · exact WnafLoopOK.zero ..
    · have h2n : 2 ^ (n + 1) ≤ 2 ^ 255 := Nat.pow_le_pow_right (by decide) hn
      have h2w' : 2 ^ w ≤ 2 ^ 63 := Nat.pow_le_pow_right (by decide) hw
      have hcw : c + 2 ^ w ≤ 2 ^ 256 := by omega
      obtain ⟨-, -, h3, -⟩ := wnafStep_spec c w hw1 hw hcw
      apply WnafLoopOK.step hw1 hw hcw (by omega)
      apply ih _ _ _ _ (by omega) (by omega)
      rw [pow_succ] at hc; omega

/-- `wnaf_form` terminates within its 300 iterations and returns a correct wNAF, for every
    scalar with `k + 2^w ≤ 2^256` (in particular every `k < 2^255`) and every window `1 ≤ w ≤ 43`.
    The bound 43 is what the fuel allows: one step, then at most `255 + w + 1` (phases A and B),
    and `1 + 255 + w + 1 ≤ 300`. -/
theorem wnafForm_spec (old : List ℤ) (k w : ℕ) (hw1 : 1 ≤ w) (hw : w ≤ 43)
    (hk : k + 2 ^ w ≤ 2 ^ 256) :
    ∃ ds, wnafForm old k w = some ds ∧ wnafVal ds = k ∧ ∀ d ∈ ds, WnafDigit w d := by
  have hpos : 0 < 2 ^ w := Nat.pos_of_ne_zero (by positivity)
  have hk' : k % 2 ^ 256 = k := Nat.mod_eq_of_lt (by omega)
  have : WnafLoopOK w 300 k [] := by
    rcases Nat.eq_zero_or_pos k with rfl | hkpos
    · exact WnafLoopOK.zero ..
    · obtain ⟨-, -, h3, -⟩ := wnafStep_spec k w hw1 (by omega) hk
      apply WnafLoopOK.step hw1 (by omega) hk (by omega)
      apply wnafFormLoop_big w hw1 (by omega) 255 _ _ _ (by omega) (le_refl _) (by omega)
  obtain ⟨ds, hds, hval, hdig⟩ := this
  exact ⟨ds, by rw [wnafForm, hk', hds]; simp, hval, hdig⟩

theorem wnafTableLoop_acc (dbl : Jac F) (n : ℕ) (base : Jac F) (acc : List (Jac F)) :
    wnafTableLoop dbl n base acc = acc.reverse ++ wnafTableLoop dbl n base [] := by
  induction n generalizing base acc with
  | zero => simp [wnafTableLoop]
  | succ n ih =>
    rw [wnafTableLoop, ih, wnafTableLoop, ih (base.add dbl) [base]]
    simp

theorem wnafTableLoop_succ (dbl : Jac F) (n : ℕ) (base : Jac F) :
    wnafTableLoop dbl (n + 1) base [] = base :: wnafTableLoop dbl n (base.add dbl) [] := by
  rw [wnafTableLoop, wnafTableLoop_acc]; rfl

theorem wnafTableLoop_spec (g : G) (dbl : Jac F) (hdbl : IsMulJ M g dbl 2) (n : ℕ) (base : Jac F)
    (b : ℕ) (hbase : IsMulJ M g base b) :
    (wnafTableLoop dbl n base []).length = n ∧
      ∀ j < n, ∃ e, (wnafTableLoop dbl n base [])[j]? = some e ∧ IsMulJ M g e (b + 2 * j) := by
  induction n generalizing base b with
  | zero => exact ⟨rfl, fun j hj => absurd hj (Nat.not_lt_zero j)⟩
  | succ n ih =>
    rw [wnafTableLoop_succ]
    obtain ⟨hl, he⟩ := ih (base.add dbl) (b + 2) (hbase.add hdbl)
    refine ⟨by simp [hl], ?_⟩
    intro j hj
    cases j with
    | zero => exact ⟨base, rfl, hbase⟩
    | succ j =>
      obtain ⟨e, hej, hm⟩ := he j (by omega)
      exact ⟨e, by simpa using hej, hm.cast (by ring)⟩

/-- `wnaf_table` ignores the previous contents of the buffer (stated with the operations the model
    needs, not a `Field`, so that it also applies to the generated code's carrier) -/
theorem wnafTable_old {K : Type} [Add K] [Sub K] [Mul K] [Neg K] [Zero K] [One K] [FieldOps K]
    [DecidableEq K] (old : List (Jac K)) (P : Jac K) (w : ℕ) :
    wnafTable old P w = wnafTable [] P w := by
  simp [wnafTable]

/-- `wnaf_table(base, w)` has `2^(w-1)` entries, entry `j` is `(2j+1)·base` -/
theorem wnafTable_spec (old : List (Jac F)) (P : Jac F) (hP : M.ValidJ P) (w : ℕ) :
    (wnafTable old P w).length = 2 ^ (w - 1) ∧
      ∀ j < 2 ^ (w - 1), ∃ e, (wnafTable old P w)[j]? = some e ∧
        IsMulJ M (M.absJ P) e (2 * j + 1) := by
  have h := wnafTableLoop_spec M (M.absJ P) P.double ((IsMulJ.self M hP).double) (2 ^ (w - 1)) P 1
    (IsMulJ.self M hP)
  have e : wnafTable old P w = wnafTableLoop P.double (2 ^ (w - 1)) P [] := by simp [wnafTable]
  rw [e]
  refine ⟨h.1, fun j hj => ?_⟩
  obtain ⟨e, he, hm⟩ := h.2 j hj
  exact ⟨e, he, hm.cast (by ring)⟩

theorem wnafVal_reverse_foldl (ds : List ℤ) (z : ℤ) :
    ds.reverse.foldl (fun a d => 2 * a + d) z = 2 ^ ds.length * z + wnafVal ds := by
  induction ds with
  | nil => simp [wnafVal]
  | cons d ds ih =>
    rw [List.reverse_cons, List.foldl_append, List.foldl_cons, List.foldl_nil, ih, wnafVal,
      List.length_cons, pow_succ]
    ring

theorem wnafExpLoop_spec (g : G) (tbl : Array (Jac F)) (w : ℕ) (hw1 : 1 ≤ w)
    (htbl : ∀ j < 2 ^ (w - 1), ∃ e, tbl[j]? = some e ∧ IsMulJ M g e (2 * j + 1))
    (ns : List ℤ) (hns : ∀ d ∈ ns, WnafDigit w d) (res : Jac F) (found : Bool) (z : ℤ)
    (hres : IsZMulJ M g res z) (hf : found = false → z = 0) :
    ∃ R, wnafExpLoop tbl ns (res, found) = some R ∧
      IsZMulJ M g R (ns.foldl (fun a d => 2 * a + d) z) := by
  induction ns generalizing res found z with
  | nil => exact ⟨res, rfl, hres⟩
  | cons n ns ih =>
    have h2w : 2 ^ w = 2 * 2 ^ (w - 1) := by
      obtain ⟨v, rfl⟩ := Nat.exists_eq_add_of_le hw1
      rw [Nat.add_comm, pow_succ, Nat.add_sub_cancel]; ring
    have hns' : ∀ d ∈ ns, WnafDigit w d := fun d hd => hns d (List.mem_cons_of_mem _ hd)
    -- the conditional doubling: nothing to double while the accumulator is still the identity
    have h1 : IsZMulJ M g (if found then res.double else res) (2 * z) := by
      cases found
      · exact hres.cast (by rw [hf rfl]; rfl)
      · exact hres.double
    rw [wnafExpLoop, List.foldl_cons]
    simp only [bind, Option.bind]
    rcases hns n List.mem_cons_self with rfl | ⟨hodd, hlt⟩
    · -- zero digit
      rw [if_neg (by simp)]
      exact ih hns' _ _ _ (h1.cast (add_zero _).symm) (fun h => by rw [hf h]; rfl)
    · rw [if_pos (by omega : n ≠ 0)]
      by_cases hpos : n > 0
      · -- the entry `|n| / 2` of the table is `|n| • g`
        obtain ⟨e, he, hme⟩ := htbl (n / 2).toNat (by omega)
        rw [if_pos hpos, he]
        exact ih hns' _ _ _ ((h1.add hme.toZ).cast (by omega)) (fun h => by cases h)
      · obtain ⟨e, he, hme⟩ := htbl ((-n) / 2).toNat (by omega)
        rw [if_neg hpos, he]
        exact ih hns' _ _ _ ((h1.sub hme.toZ).cast (by omega)) (fun h => by cases h)

/-- `wnaf_exp(table, wnaf)` computes `[Σ dᵢ 2^i] P` and never indexes out of range -/
theorem wnafExp_correct (g : G) (table : List (Jac F)) (w : ℕ) (hw1 : 1 ≤ w)
    (htbl : ∀ j < 2 ^ (w - 1), ∃ e, table[j]? = some e ∧ IsMulJ M g e (2 * j + 1))
    (ds : List ℤ) (hds : ∀ d ∈ ds, WnafDigit w d) :
    ∃ R, wnafExp table ds = some R ∧ M.ValidJ R ∧ M.absJ R = wnafVal ds • g := by
  obtain ⟨R, hR, hm⟩ := wnafExpLoop_spec M g table.toArray w hw1
    (fun j hj => by rw [List.getElem?_toArray]; exact htbl j hj) ds.reverse
    (fun d hd => hds d (List.mem_reverse.mp hd)) Jac.zero false 0 IsZMulJ.zero (fun _ => rfl)
  rw [wnafVal_reverse_foldl, mul_zero, zero_add] at hm
  exact ⟨R, hR, hm⟩

/-- windowed-NAF multiplication `wnaf_exp(wnaf_table(P, w), wnaf_form(k, w))` returns `[k]P`,
    without panicking, for every window `1 ≤ w ≤ 43` and every `k` with `k + 2^w ≤ 2^256`;
    the previous contents `oldT`, `oldS` of the reused buffers are irrelevant -/
theorem wnaf_correct' (oldT : List (Jac F)) (oldS : List ℤ) (P : Jac F) (hP : M.ValidJ P)
    (k w : ℕ) (hw1 : 1 ≤ w) (hw : w ≤ 43) (hk : k + 2 ^ w ≤ 2 ^ 256) :
    ∃ ds R, wnafForm oldS k w = some ds ∧ wnafExp (wnafTable oldT P w) ds = some R ∧
      M.ValidJ R ∧ M.absJ R = k • M.absJ P := by
  obtain ⟨ds, hds, hval, hdig⟩ := wnafForm_spec oldS k w hw1 hw hk
  obtain ⟨R, hR, hv, ha⟩ := wnafExp_correct M (M.absJ P) (wnafTable oldT P w) w hw1
    (wnafTable_spec M oldT P hP w).2 ds hdig
  exact ⟨ds, R, hds, hR, hv, by rw [ha, hval, natCast_zsmul]⟩

/-- windows `2..=22` and `k < 2^255` satisfy `k + 2^w ≤ 2^256` -/
theorem add_two_pow_le {k w : ℕ} (hw : w ≤ 22) (hk : k < 2 ^ 255) : k + 2 ^ w ≤ 2 ^ 256 := by
  have : 2 ^ w ≤ 2 ^ 22 := Nat.pow_le_pow_right (by decide) hw
  omega

theorem wnaf_correct (P : Jac F) (hP : M.ValidJ P) (k w : ℕ) (hw2 : 2 ≤ w) (hw : w ≤ 22)
    (hk : k < 2 ^ 255) :
    ∃ R, (do let f ← wnafForm [] k w; wnafExp (wnafTable [] P w) f) = some R ∧
      M.ValidJ R ∧ M.absJ R = k • M.absJ P := by
  obtain ⟨ds, R, hds, hR, hv, ha⟩ := wnaf_correct' M [] [] P hP k w (by omega) (by omega)
    (add_two_pow_le hw hk)
  exact ⟨R, by rw [hds]; exact hR, hv, ha⟩

/-- the bound on `k` cannot be dropped: for `k = 2^256 - 1`, `w = 2` the 256-bit arithmetic of
    `wnaf_form` wraps around and the digits `[-1]` represent `-1`, not `k` -/
theorem wnafForm_wraps_example :
    wnafForm [] (2 ^ 256 - 1) 2 = some [-1] ∧ wnafVal [-1] ≠ ((2 ^ 256 - 1 : ℕ) : ℤ) ∧
      2 ^ 256 - 2 ^ 2 ≤ 2 ^ 256 - 1 := by
  refine ⟨by decide +kernel, by decide +kernel, by decide⟩

/-- `wnaf_form` ignores the previous contents of the buffer -/
theorem wnafForm_old (old : List ℤ) (k w : ℕ) : wnafForm old k w = wnafForm [] k w := by
  simp [wnafForm]

/-- what both staging orders unfold to once the window `w` is chosen -/
def WnafCtx.runW (ctx : WnafCtx F) (b : Jac F) (k w : ℕ) : Option (Jac F × WnafCtx F) := do
  let sc ← wnafForm ctx.scalar k w
  let res ← wnafExp (wnafTable ctx.base b w) sc
  pure (res, ⟨wnafTable ctx.base b w, sc⟩)

theorem runW_ctx (ctx : WnafCtx F) (b : Jac F) (k w : ℕ) :
    ctx.runW b k w = WnafCtx.new.runW b k w := by
  simp only [WnafCtx.runW, WnafCtx.new]
  rw [wnafTable_old, wnafForm_old]

/-- history independence: the result of `base(b, n).scalar(k)` on a used context is the result
    on a fresh one -/
theorem baseThenScalar_ctx (rc : WnafRec) (ctx : WnafCtx F) (b : Jac F) (n k : ℕ) :
    WnafCtx.baseThenScalar rc ctx b n k = WnafCtx.baseThenScalar rc WnafCtx.new b n k :=
  runW_ctx ctx b k _

theorem scalarThenBase_ctx (rc : WnafRec) (ctx : WnafCtx F) (k : ℕ) (b : Jac F) :
    WnafCtx.scalarThenBase rc ctx k b = WnafCtx.scalarThenBase rc WnafCtx.new k b :=
  runW_ctx ctx b k _

/-- a call on a wNAF context -/
inductive WnafCall (F : Type) where
  | baseScalar (b : Jac F) (numScalars k : ℕ)
  | scalarBase (k : ℕ) (b : Jac F)

/-- run one call: result and new context -/
def WnafCall.run (rc : WnafRec) (ctx : WnafCtx F) : WnafCall F → Option (Jac F × WnafCtx F)
  | .baseScalar b n k => WnafCtx.baseThenScalar rc ctx b n k
  | .scalarBase k b => WnafCtx.scalarThenBase rc ctx k b

/-- run a sequence of calls on the same context, threading it through; `none` if any call panics -/
def WnafCall.runAll (rc : WnafRec) : WnafCtx F → List (WnafCall F) → Option (List (Jac F))
  | _, [] => some []
  | ctx, c :: cs => do
    let (r, ctx') ← c.run rc ctx
    let rs ← WnafCall.runAll rc ctx' cs
    pure (r :: rs)

theorem WnafCall.run_ctx (rc : WnafRec) (ctx : WnafCtx F) (c : WnafCall F) :
    c.run rc ctx = c.run rc WnafCtx.new := by
  cases c with
  | baseScalar b n k => exact baseThenScalar_ctx rc ctx b n k
  | scalarBase k b => exact scalarThenBase_ctx rc ctx k b

/-- any history of calls on one reused context returns what fresh contexts would return -/
theorem WnafCall.runAll_fresh (rc : WnafRec) (ctx : WnafCtx F) (cs : List (WnafCall F)) :
    WnafCall.runAll rc ctx cs
      = cs.mapM (fun c => (c.run rc WnafCtx.new).map Prod.fst) := by
  induction cs generalizing ctx with
  | nil => rfl
  | cons c cs ih =>
    rw [WnafCall.runAll, List.mapM_cons, WnafCall.run_ctx rc ctx c]
    cases h : c.run rc WnafCtx.new with
    | none => rfl
    | some p =>
      obtain ⟨r, ctx'⟩ := p
      simp only [bind, Option.bind, Option.map, ih ctx']

theorem recommendForScalar_mem (ladder : List (ℕ × ℕ)) (dflt k : ℕ) :
    recommendForScalar ladder dflt k = dflt ∨
      recommendForScalar ladder dflt k ∈ ladder.map Prod.snd := by
  unfold recommendForScalar
  simp only
  split
  · rename_i t w h
    exact Or.inr (List.mem_map.mpr ⟨(t, w), List.mem_of_find?_eq_some h, rfl⟩)
  · exact Or.inl rfl

theorem recommendForNumScalars_range (tbl : List ℕ) (base n : ℕ) :
    base ≤ recommendForNumScalars tbl base n ∧
      recommendForNumScalars tbl base n ≤ base + tbl.length := by
  unfold recommendForNumScalars
  have := (List.takeWhile_sublist (l := tbl) (fun r => decide (n > r))).length_le
  omega

/-- every window recommended from a scalar lies in `2..=22` (G1 and G2 tables) -/
theorem recommendForScalar_range (k : ℕ) :
    (2 ≤ recommendForScalar g1Rec.ladder g1Rec.dflt k ∧
      recommendForScalar g1Rec.ladder g1Rec.dflt k ≤ 22) ∧
    (2 ≤ recommendForScalar g2Rec.ladder g2Rec.dflt k ∧
      recommendForScalar g2Rec.ladder g2Rec.dflt k ≤ 22) := by
  have h1 : ∀ x ∈ g1Rec.dflt :: g1Rec.ladder.map Prod.snd, 2 ≤ x ∧ x ≤ 22 := by decide
  have h2 : ∀ x ∈ g2Rec.dflt :: g2Rec.ladder.map Prod.snd, 2 ≤ x ∧ x ≤ 22 := by decide
  constructor
  · apply h1
    rcases recommendForScalar_mem g1Rec.ladder g1Rec.dflt k with h | h
    · rw [h]; exact List.mem_cons_self ..
    · exact List.mem_cons_of_mem _ h
  · apply h2
    rcases recommendForScalar_mem g2Rec.ladder g2Rec.dflt k with h | h
    · rw [h]; exact List.mem_cons_self ..
    · exact List.mem_cons_of_mem _ h

/-- every window recommended from a number of scalars lies in `2..=22` (G1 and G2 tables) -/
theorem recommendForNumScalars_range' (n : ℕ) :
    (2 ≤ recommendForNumScalars g1Rec.tbl g1Rec.base n ∧
      recommendForNumScalars g1Rec.tbl g1Rec.base n ≤ 22) ∧
    (2 ≤ recommendForNumScalars g2Rec.tbl g2Rec.base n ∧
      recommendForNumScalars g2Rec.tbl g2Rec.base n ≤ 22) := by
  have h1 := recommendForNumScalars_range g1Rec.tbl g1Rec.base n
  have h2 := recommendForNumScalars_range g2Rec.tbl g2Rec.base n
  have e1 : g1Rec.base = 4 ∧ g1Rec.tbl.length = 12 := by decide
  have e2 : g2Rec.base = 4 ∧ g2Rec.tbl.length = 11 := by decide
  omega

/-- a table set whose recommendations are all in the documented range -/
def WnafRec.InRange (rc : WnafRec) : Prop :=
  (∀ k, 2 ≤ recommendForScalar rc.ladder rc.dflt k ∧ recommendForScalar rc.ladder rc.dflt k ≤ 22) ∧
  (∀ n, 2 ≤ recommendForNumScalars rc.tbl rc.base n ∧ recommendForNumScalars rc.tbl rc.base n ≤ 22)

theorem g1Rec_inRange : g1Rec.InRange :=
  ⟨fun k => (recommendForScalar_range k).1, fun n => (recommendForNumScalars_range' n).1⟩

theorem g2Rec_inRange : g2Rec.InRange :=
  ⟨fun k => (recommendForScalar_range k).2, fun n => (recommendForNumScalars_range' n).2⟩

theorem runW_correct (ctx : WnafCtx F) (b : Jac F) (hb : M.ValidJ b) (k w : ℕ) (hw2 : 2 ≤ w)
    (hw : w ≤ 22) (hk : k < 2 ^ 255) :
    ∃ R ctx', ctx.runW b k w = some (R, ctx') ∧ M.ValidJ R ∧ M.absJ R = k • M.absJ b := by
  obtain ⟨ds, R, hds, hR, hv, ha⟩ := wnaf_correct' M ctx.base ctx.scalar b hb k w (by omega)
    (by omega) (add_two_pow_le hw hk)
  exact ⟨R, _, by rw [WnafCtx.runW, hds]; simp only [bind, Option.bind]; rw [hR]; rfl, hv, ha⟩

/-- `wnaf.base(b, n).scalar(k)` on any (used) context returns `[k]b` -/
theorem baseThenScalar_correct (rc : WnafRec) (hrc : rc.InRange) (ctx : WnafCtx F) (b : Jac F)
    (hb : M.ValidJ b) (n k : ℕ) (hk : k < 2 ^ 255) :
    ∃ R ctx', WnafCtx.baseThenScalar rc ctx b n k = some (R, ctx') ∧
      M.ValidJ R ∧ M.absJ R = k • M.absJ b :=
  runW_correct M ctx b hb k _ (hrc.2 n).1 (hrc.2 n).2 hk

/-- `wnaf.scalar(k).base(b)` on any (used) context returns `[k]b` -/
theorem scalarThenBase_correct (rc : WnafRec) (hrc : rc.InRange) (ctx : WnafCtx F) (b : Jac F)
    (hb : M.ValidJ b) (k : ℕ) (hk : k < 2 ^ 255) :
    ∃ R ctx', WnafCtx.scalarThenBase rc ctx k b = some (R, ctx') ∧
      M.ValidJ R ∧ M.absJ R = k • M.absJ b :=
  runW_correct M ctx b hb k _ (hrc.1 _).1 (hrc.1 _).2 hk

end PP
