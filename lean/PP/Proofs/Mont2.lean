/-
C08, Montgomery level, part 2: `inverse` (binary extended Euclid with fuel).
Soundness AND fuel adequacy: for a reduced nonzero `a` coprime to `p` (in particular for prime `p`)
the loop terminates within the model's fuel and returns the Montgomery form of the inverse.
-/
import Mathlib.Data.Nat.Prime.Basic
import PP.Proofs.Mont

namespace PP.Mont

section inverse
variable {P : Params}

theorem two_mul_cast {p n m : ℕ} (e : 2 * n = m) : (2 : ZMod p) * (n : ZMod p) = m := by
  exact_mod_cast congrArg (Nat.cast (R := ZMod p)) e

theorem Params.WF.isUnit_two (h : P.WF) : IsUnit (2 : ZMod P.p) := by
  have h2 : 2 * ((P.p + 1) / 2) = P.p + 1 := by have := h.p_odd; omega
  refine IsUnit.of_mul_eq_one _ ((two_mul_cast h2).trans ?_)
  rw [Nat.cast_add, ZMod.natCast_self, zero_add, Nat.cast_one]

theorem halveMod_spec (h : P.WF) {b : ℕ} (hb : b < P.p) :
    halveMod P b < P.p ∧ 2 * (halveMod P b : ZMod P.p) = b := by
  have hW := h.p_lt
  have hodd := h.p_odd
  unfold halveMod
  split
  · exact ⟨by omega, two_mul_cast (by omega)⟩
  · rw [Nat.mod_eq_of_lt (by omega : b + P.p < P.W)]
    refine ⟨by omega, (two_mul_cast (m := b + P.p) (by omega)).trans ?_⟩
    rw [Nat.cast_add, ZMod.natCast_self, add_zero]

theorem stripEven_of_even {fuel u : ℕ} (b : ℕ) (he : u % 2 = 0) :
    stripEven P (fuel + 1) (u, b) = stripEven P fuel (u / 2, halveMod P b) := by
  simp only [stripEven, he, if_true]

theorem stripEven_of_odd {u : ℕ} (fuel b : ℕ) (ho : ¬u % 2 = 0) :
    stripEven P (fuel + 1) (u, b) = (u, b) := by
  simp only [stripEven, ho, if_false]

/-- with enough fuel, `stripEven` takes all factors of two out of `u` -/
theorem stripEven_fst : ∀ {fuel u b u1 b1 : ℕ}, stripEven P fuel (u, b) = (u1, b1) → 0 < u →
    u < 2 ^ fuel → u1 % 2 = 1 ∧ u1 ≤ u ∧ (u % 2 = 0 → 2 * u1 ≤ u) ∧ u1 ∣ u := by
  intro fuel
  induction fuel with
  | zero => intro u b u1 b1 _ hu hlt; omega
  | succ fuel ih =>
    intro u b u1 b1 hs hu hlt
    by_cases he : u % 2 = 0
    · rw [stripEven_of_even b he] at hs
      obtain ⟨i1, i2, _, i4⟩ := ih hs (by omega) (by rw [pow_succ] at hlt; omega)
      exact ⟨i1, by omega, fun _ => by omega, dvd_trans i4 (Nat.div_dvd_of_dvd (Nat.dvd_of_mod_eq_zero he))⟩
    · rw [stripEven_of_odd fuel b he] at hs
      cases hs
      exact ⟨by omega, le_refl _, fun h0 => absurd h0 he, dvd_refl _⟩

/-- while `stripEven` halves `u`, halving `b` modulo `p` keeps `b·a₀ = u·R2` -/
theorem stripEven_snd (h : P.WF) (a0 : ℕ) : ∀ {fuel u b u1 b1 : ℕ},
    stripEven P fuel (u, b) = (u1, b1) → b < P.p → (b : ZMod P.p) * a0 = (u : ZMod P.p) * P.R2 →
    b1 < P.p ∧ (b1 : ZMod P.p) * a0 = (u1 : ZMod P.p) * P.R2 := by
  intro fuel
  induction fuel with
  | zero => intro u b u1 b1 hs hb hinv; cases hs; exact ⟨hb, hinv⟩
  | succ fuel ih =>
    intro u b u1 b1 hs hb hinv
    by_cases he : u % 2 = 0
    · rw [stripEven_of_even b he] at hs
      obtain ⟨hh1, hh2⟩ := halveMod_spec h hb
      refine ih hs hh1 (h.isUnit_two.mul_left_cancel ?_)
      rw [← mul_assoc, ← mul_assoc, hh2, two_mul_cast (Nat.mul_div_cancel' (Nat.dvd_of_mod_eq_zero he)),
        hinv]
    · rw [stripEven_of_odd fuel b he] at hs
      cases hs
      exact ⟨hb, hinv⟩

/-- loop invariant of `inverse` -/
structure InvInv (P : Params) (a0 u v b c : ℕ) : Prop where
  cop : Nat.Coprime u v
  u_le : u ≤ P.p
  v_le : v ≤ P.p
  b_lt : b < P.p
  c_lt : c < P.p
  hb : (b : ZMod P.p) * a0 = (u : ZMod P.p) * P.R2
  hc : (c : ZMod P.p) * a0 = (v : ZMod P.p) * P.R2

/-- what a successful run returns -/
def InvGood (P : Params) (a0 r : ℕ) : Prop := r < P.p ∧ (r : ZMod P.p) * a0 = P.R2

theorem invLoop_succ (P : Params) (f : ℕ) {u v b c u1 b1 v1 c1 : ℕ} (hu : u ≠ 1) (hv : v ≠ 1)
    (hub : stripEven P (64 * P.limbs) (u, b) = (u1, b1))
    (hvc : stripEven P (64 * P.limbs) (v, c) = (v1, c1)) :
    invLoop P (f + 1) u v b c =
      if v1 < u1 then invLoop P f (u1 - v1) v1 (sub P b1 c1) c1
      else invLoop P f u1 (v1 - u1) b1 (sub P c1 b1) := by
  simp only [invLoop, hu, hv, if_false, hub, hvc]

/-- one iteration of the loop body: the invariant is kept, the new pair has an even component,
    the product `u·v` does not grow, halves when one of `u`, `v` was even, and strictly decreases
    otherwise -/
theorem invLoop_body (h : P.WF) {a0 u v b c : ℕ} (I : InvInv P a0 u v b c) (hu : u ≠ 1)
    (hv : v ≠ 1) (f : ℕ) :
    ∃ u' v' b' c', invLoop P (f + 1) u v b c = invLoop P f u' v' b' c' ∧ InvInv P a0 u' v' b' c' ∧
      (u' % 2 = 0 ∨ v' % 2 = 0) ∧ u' * v' < u * v ∧
      ((u % 2 = 0 ∨ v % 2 = 0) → 2 * (u' * v') ≤ u * v) := by
  have hu0 : 0 < u := Nat.pos_of_ne_zero fun h0 =>
    hv ((Nat.coprime_zero_left v).1 (h0 ▸ I.cop))
  have hv0 : 0 < v := Nat.pos_of_ne_zero fun h0 =>
    hu ((Nat.coprime_zero_right u).1 (h0 ▸ I.cop))
  cases hub : stripEven P (64 * P.limbs) (u, b) with | mk u1 b1 =>
  cases hvc : stripEven P (64 * P.limbs) (v, c) with | mk v1 c1 =>
  obtain ⟨s1, s2, s3, s4⟩ := stripEven_fst hub hu0 (Nat.lt_of_le_of_lt I.u_le h.p_lt_W)
  obtain ⟨t1, t2, t3, t4⟩ := stripEven_fst hvc hv0 (Nat.lt_of_le_of_lt I.v_le h.p_lt_W)
  obtain ⟨s6, s7⟩ := stripEven_snd h a0 hub I.b_lt I.hb
  obtain ⟨t6, t7⟩ := stripEven_snd h a0 hvc I.c_lt I.hc
  rw [invLoop_succ P f hu hv hub hvc]
  have hcop1 : Nat.Coprime u1 v1 :=
    Nat.Coprime.coprime_dvd_left s4 (Nat.Coprime.coprime_dvd_right t4 I.cop)
  have hprod : u1 * v1 ≤ u * v := Nat.mul_le_mul s2 t2
  have hprod2 : (u % 2 = 0 ∨ v % 2 = 0) → 2 * (u1 * v1) ≤ u * v := by
    rintro (he | he)
    · calc 2 * (u1 * v1) = (2 * u1) * v1 := (Nat.mul_assoc _ _ _).symm
        _ ≤ u * v := Nat.mul_le_mul (s3 he) t2
    · calc 2 * (u1 * v1) = u1 * (2 * v1) := Nat.mul_left_comm _ _ _
        _ ≤ u * v := Nat.mul_le_mul s2 (t3 he)
  have hu1 : 0 < u1 := Nat.pos_of_dvd_of_pos s4 hu0
  have hv1 : 0 < v1 := Nat.pos_of_dvd_of_pos t4 hv0
  by_cases hlt : v1 < u1
  · rw [if_pos hlt]
    have hdec : (u1 - v1) * v1 < u1 * v1 :=
      Nat.mul_lt_mul_of_pos_right (Nat.sub_lt hu1 hv1) hv1
    refine ⟨u1 - v1, v1, sub P b1 c1, c1, rfl, ?_, Or.inl (by omega), Nat.lt_of_lt_of_le hdec hprod,
      fun he => (Nat.mul_le_mul_left 2 hdec.le).trans (hprod2 he)⟩
    refine ⟨(Nat.coprime_sub_self_left hlt.le).mpr hcop1, (Nat.sub_le _ _).trans (s2.trans I.u_le),
      t2.trans I.v_le, (sub_spec h s6 t6).1, t6, ?_, t7⟩
    rw [sub_cast h s6 t6, Nat.cast_sub hlt.le, sub_mul, sub_mul, s7, t7]
  · rw [if_neg hlt]
    have hle : u1 ≤ v1 := Nat.le_of_not_lt hlt
    have hdec : u1 * (v1 - u1) < u1 * v1 :=
      Nat.mul_lt_mul_of_pos_left (Nat.sub_lt hv1 hu1) hu1
    refine ⟨u1, v1 - u1, b1, sub P c1 b1, rfl, ?_, Or.inr (by omega), Nat.lt_of_lt_of_le hdec hprod,
      fun he => (Nat.mul_le_mul_left 2 hdec.le).trans (hprod2 he)⟩
    refine ⟨(Nat.coprime_sub_self_right hle).mpr hcop1, s2.trans I.u_le,
      (Nat.sub_le _ _).trans (t2.trans I.v_le), s6, (sub_spec h t6 s6).1, s7, ?_⟩
    rw [sub_cast h t6 s6, Nat.cast_sub hle, sub_mul, sub_mul, s7, t7]

theorem invLoop_exit (P : Params) {a0 u v b c : ℕ} (I : InvInv P a0 u v b c) (f : ℕ)
    (huv : u = 1 ∨ v = 1) : ∃ r, invLoop P (f + 1) u v b c = some r ∧ InvGood P a0 r := by
  by_cases hu : u = 1
  · refine ⟨b, by simp [invLoop, hu], I.b_lt, ?_⟩
    have := I.hb; rw [hu] at this; simpa using this
  · have hv : v = 1 := by tauto
    refine ⟨c, by simp [invLoop, hu, hv], I.c_lt, ?_⟩
    have := I.hc; rw [hv] at this; simpa using this

/-- termination when one of `u`, `v` is even: `u·v ≤ 2^(f+1)` is enough for fuel `f+1` -/
theorem invLoop_even (h : P.WF) (a0 : ℕ) : ∀ (f u v b c : ℕ), InvInv P a0 u v b c →
    (u % 2 = 0 ∨ v % 2 = 0) → u * v ≤ 2 ^ (f + 1) →
    ∃ r, invLoop P (f + 1) u v b c = some r ∧ InvGood P a0 r := by
  intro f
  induction f with
  | zero =>
    intro u v b c I _ hprod
    by_cases huv : u = 1 ∨ v = 1
    · exact invLoop_exit P I 0 huv
    · exfalso
      push Not at huv
      have hu0 : u ≠ 0 := by
        rintro rfl; have := I.cop; rw [Nat.coprime_zero_left] at this; exact huv.2 this
      have hv0 : v ≠ 0 := by
        rintro rfl; have := I.cop; rw [Nat.coprime_zero_right] at this; exact huv.1 this
      have : 2 * 2 ≤ u * v := Nat.mul_le_mul (by omega) (by omega)
      simp at hprod; omega
  | succ f ih =>
    intro u v b c I hev hprod
    by_cases huv : u = 1 ∨ v = 1
    · exact invLoop_exit P I _ huv
    · push Not at huv
      obtain ⟨u', v', b', c', e1, I', hev', _, hhalf⟩ := invLoop_body h I huv.1 huv.2 (f + 1)
      rw [e1]
      apply ih u' v' b' c' I' hev'
      have := hhalf hev
      rw [pow_succ] at hprod
      omega

/-- termination in general: one extra iteration for the case that both `u`, `v` start odd -/
theorem invLoop_any (h : P.WF) (a0 : ℕ) (f u v b c : ℕ) (I : InvInv P a0 u v b c)
    (hprod : u * v ≤ 2 ^ (f + 1)) :
    ∃ r, invLoop P (f + 2) u v b c = some r ∧ InvGood P a0 r := by
  by_cases huv : u = 1 ∨ v = 1
  · exact invLoop_exit P I _ huv
  · push Not at huv
    by_cases hev : u % 2 = 0 ∨ v % 2 = 0
    · apply invLoop_even h a0 (f + 1) u v b c I hev
      rw [pow_succ]; omega
    · obtain ⟨u', v', b', c', e1, I', hev', hlt, _⟩ := invLoop_body h I huv.1 huv.2 (f + 1)
      rw [e1]
      exact invLoop_even h a0 f u' v' b' c' I' hev' (by omega)

theorem inverse_eq_some_none_iff (P : Params) (a : ℕ) : inverse P a = some none ↔ a = 0 := by
  unfold inverse
  split
  · next h0 => simp [h0]
  · next h0 =>
    simp only [h0, iff_false]
    cases invLoop P (2 * 64 * P.limbs + 2) a P.p P.R2 0 <;> simp

/-- `inverse` for a reduced nonzero `a` coprime to `p`: the fuel suffices and the result is the
    Montgomery form of the modular inverse -/
theorem inverse_spec_coprime (h : P.WF) {a : ℕ} (ha : a < P.p) (ha0 : a ≠ 0)
    (hcop : Nat.Coprime a P.p) :
    ∃ b, inverse P a = some (some b) ∧ b < P.p ∧ dec P a * dec P b % P.p = 1 := by
  have I : InvInv P a a P.p P.R2 0 :=
    ⟨hcop, ha.le, le_refl _, h.R2_lt, h.p_pos, by ring, by simp⟩
  -- The fuel `2·64·limbs + 2` of the model: `u·v` starts below `W² = 2^(2·64·limbs)` and halves in
  -- every iteration that begins with `u` or `v` even (`invLoop_even`), which every iteration but the
  -- first does; one more for an odd/odd start (`invLoop_any`), one for the exit test.
  have hprod : a * P.p ≤ 2 ^ (2 * 64 * P.limbs + 1) := by
    have hpW := h.p_lt_W
    have hW : P.W = 2 ^ (64 * P.limbs) := rfl
    calc a * P.p ≤ P.W * P.W := Nat.mul_le_mul (by omega) (by omega)
      _ = 2 ^ (2 * 64 * P.limbs) := by rw [hW, ← pow_add]; ring_nf
      _ ≤ 2 ^ (2 * 64 * P.limbs + 1) := Nat.pow_le_pow_right (by norm_num) (by omega)
  obtain ⟨r, hr1, hr2, hr3⟩ := invLoop_any h a (2 * 64 * P.limbs) a P.p P.R2 0 I hprod
  refine ⟨r, by simp [inverse, ha0, hr1], hr2, ?_⟩
  have hc : ((dec P a * dec P r % P.p : ℕ) : ZMod P.p) = ((1 : ℕ) : ZMod P.p) := by
    rw [ZMod.natCast_mod]; push_cast; rw [dec_cast, dec_cast]
    calc (a : ZMod P.p) * Winv P * (r * Winv P) = (r * a) * (Winv P * Winv P) := by ring
      _ = (P.W * Winv P) * (P.W * Winv P) := by rw [hr3, h.R2_cast]; ring
      _ = 1 := by rw [h.W_mul_Winv_cast, mul_one]
  exact eq_of_cast_eq (Nat.mod_lt _ h.p_pos) h.p_gt hc

theorem inverse_spec (h : P.WF) (hp : Nat.Prime P.p) {a : ℕ} (ha : a < P.p) (ha0 : a ≠ 0) :
    ∃ b, inverse P a = some (some b) ∧ b < P.p ∧ dec P a * dec P b % P.p = 1 :=
  inverse_spec_coprime h ha ha0 (Nat.coprime_of_lt_prime ha0 ha hp).symm

end inverse

end PP.Mont
