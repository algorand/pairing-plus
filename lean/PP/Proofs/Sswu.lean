/-
C15, layer 1: the algebra of the optimized simplified SWU map (`osswuHelp` of `PP.Model.Map`,
eprint 2019/403 §4) over an arbitrary field, and its relation to `map_to_curve_simple_swu` of
RFC 9380 §6.6.2 (`PP.Spec.Sswu`).

Notation: `ξ` is the RFC's `Z`, `A B` are the coefficients of the isogenous curve
`y² = g(x) = x³ + A x + B`, `u` is the input, `nd = ξ²u⁴ + ξu²`.  The model's `x0` is the RFC's
`x1`, the model's `x1 = ξu²·x0` is the RFC's `x2`.
-/
import Mathlib.Tactic.Ring
import Mathlib.Tactic.FieldSimp
import Mathlib.Tactic.LinearCombination
import PP.Proofs.Lawful
import PP.Model.Map
import PP.Spec.Sswu

set_option linter.unusedSectionVars false

namespace PP
namespace Sswu

open PP.Spec

variable {F : Type} [Field F] [DecidableEq F] [FieldOps F] [LawfulFieldOps F]

/-- `nd = ξ²u⁴ + ξu²` -/
def nd (ξ u : F) : F := ξ ^ 2 * u ^ 4 + ξ * u ^ 2

/-- `x0_den`: `−A·nd`, or `A·ξ` in the exceptional case `nd = 0` -/
def x0den (ξ A u : F) : F := if nd ξ u = 0 then A * ξ else -(A * nd ξ u)

/-- `x0_num = B·(nd + 1)` -/
def x0num (ξ B u : F) : F := (nd ξ u + 1) * B

/-- `gx0_num = x0_num³ + A·x0_num·x0_den² + B·x0_den³` -/
def gx0num (ξ A B u : F) : F :=
  x0den ξ A u ^ 3 * B + x0den ξ A u ^ 2 * x0num ξ B u * A + x0num ξ B u ^ 3

/-- the model's `x0 = x0_num / x0_den` -/
def x0 (ξ A B u : F) : F := x0num ξ B u / x0den ξ A u

theorem help_eq (u ξ A B : F) :
    osswuHelp u ξ A B = ⟨u ^ 2, ξ * u ^ 2, ξ ^ 2 * u ^ 4, x0num ξ B u, x0den ξ A u,
      gx0num ξ A B u, x0den ξ A u ^ 3⟩ := by
  have hnd : u * u * ξ * (u * u * ξ) + u * u * ξ = nd ξ u := by unfold nd; ring
  simp only [osswuHelp, LawfulFieldOps.sq_eq, LawfulFieldOps.isZero_iff, hnd]
  rw [← x0den, ← x0num]
  congr 1 <;> (try unfold gx0num) <;> ring

/-- the identity behind the simplified SWU map, in the variable `s = ξu²`:
`g(s·x) − s³·g(x) = (1 − s)·(A·x·(s² + s) + B·(s² + s + 1))` -/
theorem sswu_key (A B s x : F) (hx : A * x * (s ^ 2 + s) = -(B * (s ^ 2 + s + 1))) :
    sswuG A B (s * x) = s ^ 3 * sswuG A B x := by
  unfold sswuG
  linear_combination (1 - s) * hx

section
variable {ξ A B : F} (hA : A ≠ 0) (hξ : ξ ≠ 0) (u : F)
include hA hξ

theorem x0den_ne_zero : x0den ξ A u ≠ 0 := by
  unfold x0den
  split
  · exact mul_ne_zero hA hξ
  · next h => exact neg_ne_zero.mpr (mul_ne_zero hA h)

omit hA hξ in
/-- non-exceptional inputs: `x0 = (−B/A)(1 + 1/nd)` -/
theorem x0_of_nd_ne (B : F) (h : nd ξ u ≠ 0) :
    x0 ξ A B u = (-B / A) * (1 + 1 / nd ξ u) := by
  rw [x0, x0num, x0den, if_neg h, div_neg, one_add_div h, div_mul_div_comm, neg_mul, neg_div,
    mul_comm B]

omit hA hξ in
/-- exceptional inputs (`nd = 0`, in particular `u = 0`): `x0 = B/(ξ A)` -/
theorem x0_of_nd_eq (B : F) (h : nd ξ u = 0) : x0 ξ A B u = B / (ξ * A) := by
  rw [x0, x0num, x0den, if_pos h, h, zero_add, one_mul, mul_comm]

/-- `gx0_num / gx0_den = g(x0)`, with `gx0_den = x0_den³` -/
theorem gx0_eq (B : F) :
    gx0num ξ A B u / x0den ξ A u ^ 3 = sswuG A B (x0 ξ A B u) := by
  have hd := x0den_ne_zero hA hξ u
  unfold sswuG x0 gx0num
  field_simp
  ring

/-- the SSWU identity `g(ξu²·x0) = ξ³u⁶·g(x0)` for non-exceptional inputs -/
theorem g_x1 (B : F) (h : nd ξ u ≠ 0) :
    sswuG A B (ξ * u ^ 2 * x0 ξ A B u) = ξ ^ 3 * u ^ 6 * sswuG A B (x0 ξ A B u) := by
  have hx : x0 ξ A B u * x0den ξ A u = x0num ξ B u := div_mul_cancel₀ _ (x0den_ne_zero hA hξ u)
  rw [x0den, if_neg h, x0num] at hx
  rw [sswu_key A B (ξ * u ^ 2) (x0 ξ A B u) (by unfold nd at hx; linear_combination -hx)]
  ring

end

omit [FieldOps F] [LawfulFieldOps F] in
/-- the exceptional inputs of C15: `u = 0` and `ξ²u⁴ + ξu² = 0` give `x1 = B/(ξA)` -/
theorem sswuX1_exceptional (A B ξ u : F) (h : ξ ^ 2 * u ^ 4 + ξ * u ^ 2 = 0) :
    sswuX1 A B ξ u = B / (ξ * A) := by
  unfold sswuX1 sswuTv1
  rw [if_pos (by rw [h, inv_zero])]

section
variable {ξ A B : F} (hA : A ≠ 0) (hξ : ξ ≠ 0) (u : F)
include hA hξ

/-- the RFC's `x1` is the model's `x0` -/
theorem sswuX1_eq (B : F) : sswuX1 A B ξ u = x0 ξ A B u := by
  by_cases h : nd ξ u = 0
  · rw [sswuX1_exceptional A B ξ u h, x0_of_nd_eq u B h]
  · have h' : ξ ^ 2 * u ^ 4 + ξ * u ^ 2 ≠ 0 := h
    unfold sswuX1 sswuTv1
    rw [if_neg (inv_ne_zero h'), x0_of_nd_ne u B h, one_div]
    rfl

/-- the RFC's `x2` is the model's `x1 = ξu²·x0` -/
theorem sswuX2_eq (B : F) : sswuX2 A B ξ u = ξ * u ^ 2 * x0 ξ A B u := by
  unfold sswuX2; rw [sswuX1_eq hA hξ]

end

/-- the Jacobian triple `(X, Y, Z)` lies on `Y² = X³ + A·X·Z⁴ + B·Z⁶` -/
def OnCurveJ (A B : F) (P : Jac F) : Prop :=
  P.y ^ 2 = P.x ^ 3 + A * P.x * P.z ^ 4 + B * P.z ^ 6

def affX (P : Jac F) : F := P.x / P.z ^ 2
def affY (P : Jac F) : F := P.y / P.z ^ 3

theorem onCurveJ_iff_affine {A B : F} {P : Jac F} (hz : P.z ≠ 0) :
    OnCurveJ A B P ↔ affY P ^ 2 = sswuG A B (affX P) := by
  have key : affY P ^ 2 - sswuG A B (affX P) =
      (P.y ^ 2 - (P.x ^ 3 + A * P.x * P.z ^ 4 + B * P.z ^ 6)) / P.z ^ 6 := by
    unfold affX affY sswuG
    field_simp
  rw [OnCurveJ, ← sub_eq_zero, ← sub_eq_zero (a := affY P ^ 2), key, div_eq_zero_iff,
    or_iff_left (pow_ne_zero 6 hz)]

/-- the output triple of the model: `(xNum·x0_den, y·x0_den³, x0_den)` -/
def outJ (ξ A u xNum y : F) : Jac F := ⟨xNum * x0den ξ A u, y * x0den ξ A u ^ 3, x0den ξ A u⟩

/-- what the model's `negateIf y (sgn0 y xor sgn0 u)` achieves, for any two-valued sign function
that flips under negation of non-zero elements -/
theorem negateIf_spec (sgn0 : F → Sgn0) (hflip : ∀ y : F, y ≠ 0 → sgn0 (-y) ≠ sgn0 y) (y u : F) :
    let y' := negateIf y ((sgn0 y).xor (sgn0 u))
    y' ^ 2 = y ^ 2 ∧ (y' ≠ 0 → sgn0 y' = sgn0 u) := by
  intro y'
  by_cases h : sgn0 y = sgn0 u
  · have : y' = y := by simp [y', negateIf, Sgn0.xor, h]
    rw [this]; exact ⟨rfl, fun _ => h⟩
  · have : y' = -y := by simp [y', negateIf, Sgn0.xor, h]
    rw [this]
    refine ⟨by ring, fun hy => ?_⟩
    have h1 := hflip y (neg_ne_zero.mp hy)
    revert h h1
    cases sgn0 (-y) <;> cases sgn0 y <;> cases sgn0 u <;> simp

/-- What C15 says about an output triple `P` for the input `u`. -/
structure SswuOut (sgn0 : F → Sgn0) (ξ A B u : F) (P : Jac F) : Prop where
  z_ne : P.z ≠ 0
  onCurve : OnCurveJ A B P
  x_of_sq : IsSquare (sswuG A B (sswuX1 A B ξ u)) → affX P = sswuX1 A B ξ u
  x_of_nsq : ¬ IsSquare (sswuG A B (sswuX1 A B ξ u)) → affX P = sswuX2 A B ξ u
  y_sq : affY P ^ 2 = sswuG A B (affX P)
  sign : affY P ≠ 0 → sgn0 (affY P) = sgn0 u

/-- a curve without a point of order 2 has no point with `y = 0` -/
theorem y_ne_zero {A B x y : F} (hroot : ∀ x : F, sswuG A B x ≠ 0) (h : y ^ 2 = sswuG A B x) :
    y ≠ 0 := by
  rintro rfl
  exact hroot x (by rw [← h, zero_pow two_ne_zero])

theorem SswuOut.isSswu {sgn0 : F → Sgn0} {ξ A B u : F} {P : Jac F} (h : SswuOut sgn0 ξ A B u P)
    (hroot : ∀ x : F, sswuG A B x ≠ 0) : IsSswu sgn0 A B ξ u (affX P) (affY P) :=
  ⟨h.x_of_sq, h.x_of_nsq, h.y_sq, h.sign (y_ne_zero hroot h.y_sq)⟩

/-- the exceptional inputs take the first candidate, `x = B/(ξA)`, when `g` of it is a square -/
theorem SswuOut.x_exceptional {sgn0 : F → Sgn0} {ξ A B u : F} {P : Jac F}
    (h : SswuOut sgn0 ξ A B u P) (hexc : IsSquare (sswuG A B (B / (ξ * A))))
    (hu : ξ ^ 2 * u ^ 4 + ξ * u ^ 2 = 0) : affX P = B / (ξ * A) := by
  have hx1 := sswuX1_exceptional A B ξ u hu
  rw [h.x_of_sq (by rw [hx1]; exact hexc), hx1]

section Branches
variable {ξ A B : F} (hA : A ≠ 0) (hξ : ξ ≠ 0)
variable (hexc : IsSquare (sswuG A B (B / (ξ * A))))
variable (sgn0 : F → Sgn0) (hflip : ∀ y : F, y ≠ 0 → sgn0 (-y) ≠ sgn0 y)
include hA hξ hflip

/-- the output with numerator `xNum` of `x` and the sign-fixed `y`, given that `y² = g(x)` and that
`x` is the one of `x1`, `x2` the RFC selects -/
theorem sswuOut_of (u xNum y : F) (hy : y ^ 2 = sswuG A B (xNum / x0den ξ A u))
    (hsq : IsSquare (sswuG A B (x0 ξ A B u)) → xNum / x0den ξ A u = x0 ξ A B u)
    (hnsq : ¬ IsSquare (sswuG A B (x0 ξ A B u)) → xNum / x0den ξ A u = ξ * u ^ 2 * x0 ξ A B u) :
    SswuOut sgn0 ξ A B u (outJ ξ A u xNum (negateIf y ((sgn0 y).xor (sgn0 u)))) := by
  obtain ⟨hsq', hsg⟩ := negateIf_spec sgn0 hflip y u
  generalize negateIf y ((sgn0 y).xor (sgn0 u)) = y' at hsq' hsg ⊢
  have hd := x0den_ne_zero hA hξ u
  have hX : affX (outJ ξ A u xNum y') = xNum / x0den ξ A u := by
    unfold affX outJ; field_simp
  have hY : affY (outJ ξ A u xNum y') = y' := by
    unfold affY outJ; field_simp
  have hg : affY (outJ ξ A u xNum y') ^ 2 = sswuG A B (affX (outJ ξ A u xNum y')) := by
    rw [hX, hY, hsq', hy]
  refine ⟨hd, (onCurveJ_iff_affine hd).mpr hg, ?_, ?_, hg, by rwa [hY]⟩
  · rw [hX, sswuX1_eq hA hξ]; exact hsq
  · rw [hX, sswuX1_eq hA hξ, sswuX2_eq hA hξ]; exact hnsq

/-- first-candidate output: from `y²·gx0_den = gx0_num` -/
theorem sswuOut_branch1 (u y : F) (hy : y ^ 2 * x0den ξ A u ^ 3 = gx0num ξ A B u) :
    SswuOut sgn0 ξ A B u (outJ ξ A u (x0num ξ B u) (negateIf y ((sgn0 y).xor (sgn0 u)))) := by
  have hg : y ^ 2 = sswuG A B (x0 ξ A B u) := by
    rw [← gx0_eq hA hξ u B, ← hy, mul_div_cancel_right₀ _ (pow_ne_zero 3 (x0den_ne_zero hA hξ u))]
  exact sswuOut_of hA hξ sgn0 hflip u _ y hg (fun _ => rfl)
    (fun hn => absurd ⟨y, by rw [← hg, pow_two]⟩ hn)

include hexc in
/-- second-candidate output: from `y²·gx0_den = ξ³u⁶·gx0_num`, when `g(x0)` is not a square (so
that the input is not exceptional) -/
theorem sswuOut_branch2 (u y : F) (hns : ¬ IsSquare (sswuG A B (x0 ξ A B u)))
    (hy : y ^ 2 * x0den ξ A u ^ 3 = ξ ^ 3 * u ^ 6 * gx0num ξ A B u) :
    SswuOut sgn0 ξ A B u
      (outJ ξ A u (x0num ξ B u * (ξ * u ^ 2)) (negateIf y ((sgn0 y).xor (sgn0 u)))) := by
  have hd := x0den_ne_zero hA hξ u
  have hnd : nd ξ u ≠ 0 := by
    intro h0
    apply hns
    rw [x0_of_nd_eq u B h0]; exact hexc
  have hX : x0num ξ B u * (ξ * u ^ 2) / x0den ξ A u = ξ * u ^ 2 * x0 ξ A B u := by
    rw [x0, mul_comm (x0num ξ B u), mul_div_assoc]
  have hg : y ^ 2 = sswuG A B (ξ * u ^ 2 * x0 ξ A B u) := by
    rw [g_x1 hA hξ u B hnd, ← gx0_eq hA hξ u B, mul_div_assoc', ← hy,
      mul_div_cancel_right₀ _ (pow_ne_zero 3 hd)]
  exact sswuOut_of hA hξ sgn0 hflip u _ y (by rw [hX]; exact hg) (fun hs => absurd hs hns)
    (fun _ => hX)

end Branches

end Sswu
end PP
