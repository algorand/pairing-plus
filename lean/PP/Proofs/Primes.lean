/-
F1: the two BLS12-381 moduli, as extracted into `PP.Gen.q` and `PP.Gen.r`, are prime.

Method: Pratt certificates checked with Mathlib's `lucas_primality`.  One generic lemma
(`pratt_step`) reduces the primality of `p` to (a) the primality of the listed prime factors of
`p - 1`, (b) the identity `p - 1 = ∏ ℓ ^ e`, and (c) modular exponentiations.  A certificate is a list
of such nodes, each resting on the nodes after it and on a list of primes below `2 ^ 20`, which are
discharged by `norm_num`; `prattCheck` evaluates (a)-(c) for the whole list and
`prime_of_prattCheck` is its correctness.  The certificate for `q` (17 nodes, the data of
`notes/pratt_q.json`) and the one for `r` (`r - 1` is smooth) are checked by one kernel evaluation
each.  At the end: `2`, `3`, `4` are not zero in `Fq` (the curve files' `ShortW` hypotheses), by evaluation.
-/
import Mathlib.NumberTheory.LucasPrimality
import Mathlib.Tactic.NormNum.Prime
import Mathlib.Algebra.BigOperators.Associated
import PP.Proofs.ZpField

namespace PP
namespace Primes

theorem zmod_pow_eq_one_iff' (p a e : Nat) (hp : 1 < p) :
    ((a : ZMod p) ^ e = 1) ↔ a ^ e % p = 1 := by
  rw [← Nat.cast_pow, ← Nat.cast_one (R := ZMod p), ZMod.natCast_eq_natCast_iff',
    Nat.mod_eq_of_lt hp]

/-- Lucas' criterion in the form a certificate node is checked against: `a` has order `p - 1` modulo
`p` once `a ^ (p - 1) = 1` and `a ^ ((p - 1) / ℓ) ≠ 1` for every prime `ℓ` of the given factorisation
`fs` of `p - 1`. -/
theorem pratt_step (p a : Nat) (fs : List (Nat × Nat))
    (hp : 1 < p)
    (hprimes : ∀ f ∈ fs, Nat.Prime f.1)
    (hprod : (fs.map fun f => f.1 ^ f.2).prod = p - 1)
    (h1 : a ^ (p - 1) % p = 1)
    (hne : ∀ f ∈ fs, a ^ ((p - 1) / f.1) % p ≠ 1) : Nat.Prime p := by
  refine lucas_primality p (a : ZMod p) ((zmod_pow_eq_one_iff' p a _ hp).2 h1) ?_
  intro l hl hdvd
  rw [← hprod, hl.prime.dvd_prod_iff] at hdvd
  obtain ⟨x, hx, hlx⟩ := hdvd
  obtain ⟨f, hf, rfl⟩ := List.mem_map.1 hx
  have hlf : l = f.1 := (Nat.prime_dvd_prime_iff_eq hl (hprimes f hf)).1 (hl.dvd_of_dvd_pow hlx)
  subst hlf
  rw [Ne, zmod_pow_eq_one_iff' p a _ hp]
  exact hne f hf

/-! ### evaluation of a certificate -/

/-- `a ^ e % p` for `e ≤ fuel`, eight bits of `e` at a time: the kernel raises to the power `256`,
    multiplies and reduces with its big-number arithmetic, so a step costs what a step of `powMod`
    costs, which consumes one bit. -/
def powModW (a p : ℕ) : ℕ → ℕ → ℕ
  | 0, _ => 1 % p
  | fuel + 1, e => if e = 0 then 1 % p else powModW a p fuel (e / 256) ^ 256 * a ^ (e % 256) % p

theorem powModW_eq (a p : ℕ) : ∀ fuel e : ℕ, e ≤ fuel → powModW a p fuel e = a ^ e % p := by
  intro fuel
  induction fuel with
  | zero =>
    intro e he
    rw [Nat.le_zero.mp he]
    rfl
  | succ fuel ih =>
    intro e he
    rw [powModW]
    split_ifs with h0
    · rw [h0, pow_zero]
    · rw [ih (e / 256) (by omega), Nat.mul_mod, ← Nat.pow_mod, ← Nat.mul_mod, ← pow_mul, ← pow_add,
        Nat.div_add_mod']

/-- a node of a Pratt certificate: `a` is a primitive root modulo `p`, `fs` the factorisation of
    `p - 1` into (prime, exponent) pairs -/
structure PrattNode where
  p : ℕ
  a : ℕ
  fs : List (ℕ × ℕ)

/-- the hypotheses of `pratt_step`, the primes in `fs` being taken from `known`.  The exponent serves
    as its own fuel for `powModW`: any bound on its number of base-256 digits would do, since the
    recursion stops at `e = 0`. -/
def PrattNode.ok (known : List ℕ) (n : PrattNode) : Bool :=
  decide (1 < n.p) && (n.fs.map fun f => f.1 ^ f.2).prod == n.p - 1 &&
    powModW n.a n.p (n.p - 1) (n.p - 1) == 1 &&
    n.fs.all fun f => known.contains f.1 &&
      powModW n.a n.p ((n.p - 1) / f.1) ((n.p - 1) / f.1) != 1

theorem PrattNode.prime_of_ok {known : List ℕ} (hk : ∀ k ∈ known, k.Prime) {n : PrattNode}
    (h : n.ok known = true) : n.p.Prime := by
  simp only [PrattNode.ok, Bool.and_eq_true, decide_eq_true_eq, beq_iff_eq, List.all_eq_true,
    List.contains_iff_mem, bne_iff_ne, powModW_eq _ _ _ _ le_rfl] at h
  obtain ⟨⟨⟨hp, hprod⟩, h1⟩, hfs⟩ := h
  exact pratt_step n.p n.a n.fs hp (fun f hf => hk _ (hfs f hf).1) hprod h1 fun f hf => (hfs f hf).2

/-- a certificate over a list `small` of primes: each node rests on `small` and on the primes of the
    nodes after it -/
def prattCheck (small : List ℕ) : List PrattNode → Bool
  | [] => true
  | n :: rest => prattCheck small rest && n.ok (rest.map PrattNode.p ++ small)

theorem prime_of_prattCheck {small : List ℕ} (hs : small.Forall Nat.Prime) :
    ∀ {l : List PrattNode}, prattCheck small l = true → ∀ n ∈ l, n.p.Prime
  | [], _, n, hn => absurd hn List.not_mem_nil
  | n :: rest, h, m, hm => by
    rw [prattCheck, Bool.and_eq_true] at h
    have ih := prime_of_prattCheck hs h.1
    rcases List.mem_cons.mp hm with rfl | hm
    · refine PrattNode.prime_of_ok (fun k hk => ?_) h.2
      rcases List.mem_append.mp hk with hk | hk
      · obtain ⟨n', hn', rfl⟩ := List.mem_map.mp hk
        exact ih n' hn'
      · exact List.forall_iff_forall_mem.mp hs k hk
    · exact ih m hm

theorem prime_of_prattCheck_head {small : List ℕ} (hs : small.Forall Nat.Prime) {n : PrattNode}
    {rest : List PrattNode} (h : prattCheck small (n :: rest) = true) : n.p.Prime :=
  prime_of_prattCheck hs h n List.mem_cons_self

/-! ### small primes -/

/-- the primes below `2 ^ 20` in the certificates of `q` and `r` -/
def smallPrimes : List ℕ :=
  [2, 3, 5, 7, 11, 13, 17, 19, 23, 31, 43, 47, 53, 79, 89, 113, 151, 191, 409, 467, 941, 3373,
    7577, 8101, 10177, 16447, 18329, 43591, 110573, 125527, 421987, 582767, 609743, 755057,
    859267, 906349]

theorem smallPrimes_prime : smallPrimes.Forall Nat.Prime := by
  norm_num [smallPrimes, List.Forall]

theorem prime_3 : Nat.Prime 3 := Nat.prime_three
theorem prime_11 : Nat.Prime 11 := Nat.prime_eleven
theorem prime_13 : Nat.Prime 13 := by norm_num
theorem prime_23 : Nat.Prime 23 := by norm_num
theorem prime_10177 : Nat.Prime 10177 := by norm_num
theorem prime_859267 : Nat.Prime 859267 := by norm_num

/-! ### the certificates -/

def node_52437899 : PrattNode := ⟨52437899, 2, [(2, 1), (43, 1), (609743, 1)]⟩

theorem prime_52437899 : Nat.Prime 52437899 :=
  prime_of_prattCheck_head smallPrimes_prime (n := node_52437899) (rest := [])
    (by decide +kernel)

def qCert : List PrattNode := [
  ⟨PP.Gen.q, 2, [(2, 1), (3, 2), (11, 1), (23, 1), (47, 1), (10177, 1), (859267, 1), (52437899, 1), (2584487767265781317813, 1), (15778400344354997994418419698270088123916926905054652752758194827714659, 1)]⟩,
  ⟨15778400344354997994418419698270088123916926905054652752758194827714659, 2, [(2, 1), (3, 1), (53, 1), (475709467, 1), (92691255082156974996979, 1), (1125266252156850182658904441386709967, 1)]⟩,
  ⟨1125266252156850182658904441386709967, 5, [(2, 1), (3373, 1), (43670061551, 1), (3819663927398918131021, 1)]⟩,
  ⟨3819663927398918131021, 6, [(2, 2), (3, 2), (5, 1), (19, 1), (113, 1), (755057, 1), (13090036741, 1)]⟩,
  ⟨13090036741, 10, [(2, 2), (3, 1), (5, 1), (11, 1), (47, 1), (421987, 1)]⟩,
  ⟨43670061551, 7, [(2, 1), (5, 2), (17, 1), (51376543, 1)]⟩,
  ⟨51376543, 3, [(2, 1), (3, 1), (7, 1), (151, 1), (8101, 1)]⟩,
  ⟨92691255082156974996979, 3, [(2, 1), (3, 1), (31, 1), (467, 1), (16447, 1), (64881703735777, 1)]⟩,
  ⟨64881703735777, 5, [(2, 5), (3, 7), (927093389, 1)]⟩,
  ⟨927093389, 3, [(2, 2), (13, 1), (409, 1), (43591, 1)]⟩,
  ⟨475709467, 2, [(2, 1), (3, 1), (47, 1), (1686913, 1)]⟩,
  ⟨1686913, 10, [(2, 7), (3, 1), (23, 1), (191, 1)]⟩,
  ⟨2584487767265781317813, 2, [(2, 2), (89, 1), (7259797099061183477, 1)]⟩,
  ⟨7259797099061183477, 2, [(2, 2), (941, 1), (1928745244171409, 1)]⟩,
  ⟨1928745244171409, 3, [(2, 4), (13, 1), (9272813673901, 1)]⟩,
  ⟨9272813673901, 2, [(2, 2), (3, 1), (5, 2), (7, 1), (7577, 1), (582767, 1)]⟩,
  node_52437899]

theorem q_prime : Nat.Prime PP.Gen.q :=
  prime_of_prattCheck_head smallPrimes_prime
    (show prattCheck smallPrimes qCert = true by decide +kernel)

def rCert : List PrattNode := [
  ⟨PP.Gen.r, 7, [(2, 32), (3, 1), (11, 1), (19, 1), (10177, 1), (125527, 1), (859267, 1), (906349, 2), (2508409, 1), (2529403, 1), (52437899, 1), (254760293, 2)]⟩,
  ⟨254760293, 2, [(2, 2), (63690073, 1)]⟩,
  ⟨63690073, 7, [(2, 3), (3, 1), (2653753, 1)]⟩,
  ⟨2653753, 5, [(2, 3), (3, 1), (110573, 1)]⟩,
  ⟨2529403, 2, [(2, 1), (3, 1), (23, 1), (18329, 1)]⟩,
  ⟨2508409, 11, [(2, 3), (3, 4), (7, 2), (79, 1)]⟩,
  node_52437899]

theorem r_prime : Nat.Prime PP.Gen.r :=
  prime_of_prattCheck_head smallPrimes_prime
    (show prattCheck smallPrimes rCert = true by decide +kernel)

instance : Fact (Nat.Prime PP.Gen.q) := ⟨q_prime⟩
instance : Fact (Nat.Prime PP.Gen.r) := ⟨r_prime⟩

/-! ### side facts about the extracted literals -/

theorem zmod_pow_eq_one_iff (p a e : Nat) (hp : 1 < p) :
    ((a : ZMod p) ^ e = 1) ↔ powMod a e p = 1 := by
  rw [Zp.powMod_eq a e p hp, zmod_pow_eq_one_iff' p a e hp]


theorem q_mod_four : PP.Gen.q % 4 = 3 := by decide +kernel
theorem q_mod_three : PP.Gen.q % 3 = 1 := by decide +kernel
theorem r_mod_two : PP.Gen.r % 2 = 1 := by decide +kernel

/-- the derive-generated `MODULUS` limbs of `Fq` are the modulus string -/
theorem fq_MODULUS_eq : PP.Gen.fq_MODULUS = PP.Gen.q := by decide +kernel
/-- the derive-generated `MODULUS` limbs of `Fr` are the modulus string -/
theorem fr_MODULUS_eq : PP.Gen.fr_MODULUS = PP.Gen.r := by decide +kernel

theorem two_lt_q : 2 < PP.Gen.q := by decide +kernel
theorem three_lt_q : 3 < PP.Gen.q := by decide +kernel
theorem two_lt_r : 2 < PP.Gen.r := by decide +kernel
theorem q_ne_two : PP.Gen.q ≠ 2 := by decide +kernel
theorem q_ne_three : PP.Gen.q ≠ 3 := by decide +kernel
theorem r_ne_two : PP.Gen.r ≠ 2 := by decide +kernel

theorem natCast_ne_zero_of_lt {p n : ℕ} (h0 : 0 < n) (hlt : n < p) : (n : ZMod p) ≠ 0 := by
  rw [Ne, ZMod.natCast_eq_zero_iff]
  exact Nat.not_dvd_of_pos_of_lt h0 hlt

theorem three_ne_zero_zmod_q : (3 : ZMod PP.Gen.q) ≠ 0 := by
  rw [← Nat.cast_three]
  exact natCast_ne_zero_of_lt (Nat.succ_pos 2) three_lt_q

theorem two_ne_zero_zmod_r : (2 : ZMod PP.Gen.r) ≠ 0 := by
  rw [← Nat.cast_two]
  exact natCast_ne_zero_of_lt Nat.two_pos two_lt_r

end Primes

theorem fq_two_ne_zero : (2 : Fq) ≠ 0 := by decide +kernel
theorem fq_three_ne_zero : (3 : Fq) ≠ 0 := by decide +kernel
theorem fq_four_ne_zero : (4 : Fq) ≠ 0 := by decide +kernel

end PP
