/-
C12: the final exponentiation of the model (`PP.finalExponentiation`, mirror of
`Engine::final_exponentiation`) is `f ↦ f ^ (3 (q¹² - 1) / r)` on non-zero `f` and fails exactly on `0`.

Method: exponent tracking.  Every intermediate value of the routine is a power `f ^ e` of the input with
an explicit natural exponent: `conjugate g = g ^ q⁶`, `frobeniusMap g k = g ^ qᵏ` (`TowerFrob`),
`powLimbs g [x] = g ^ x` (`PowLoop`), `inverse f = some f⁻¹` with `f⁻¹ = f ^ (q¹² - 2)`, products add
exponents.  The exponent computed by the code is `feExp` below (a closed expression in `q`, `BLS_X`); the
kernel checks `feExp ≡ 3 (q¹² - 1) / r  (mod q¹² - 1)`, and `f ^ (q¹² - 1) = 1`.

Consequences used by the pairing files: multiplicativity for all arguments (`fe_mul_all`), and every
non-zero element of a proper subfield is sent to `1` (`fe_subfield` for the fixed field of `x ↦ x^(qᵈ)`,
`fe_properSubfield` for Mathlib `Subfield`s).
-/
import Mathlib.Algebra.Field.Subfield.Basic
import Mathlib.Algebra.CharP.Algebra
import Mathlib.FieldTheory.Finite.Basic
import Mathlib.FieldTheory.Finiteness
import Mathlib.Tactic.Ring
import PP.Model.Pairing
import PP.Proofs.Tower
import PP.Proofs.PowLoop
import PP.Proofs.Primes

namespace PP
namespace FinalExp

open Fq12 (conjugate frobeniusMap inverse ofFq6)

/-! ## the multiplicative group of `Fq12` has exponent dividing `q¹² - 1` -/

/-- `x ^ (q¹²) = x`: twelve Frobenius steps are two conjugations -/
theorem pow_q12 (x : Fq12) : x ^ Gen.q ^ 12 = x := by
  have h : Gen.q ^ 12 = Gen.q ^ 6 * Gen.q ^ 6 := by rw [← pow_add]
  rw [h, pow_mul, ← Fq12.conjugate_eq_pow, ← Fq12.conjugate_eq_pow, Fq12.conjugate_conjugate]

theorem one_le_q12 : 1 ≤ Gen.q ^ 12 := Nat.one_le_pow _ _ (by decide)

theorem pow_card_sub_one {x : Fq12} (hx : x ≠ 0) : x ^ (Gen.q ^ 12 - 1) = 1 := by
  have h := pow_q12 x
  have e : Gen.q ^ 12 = (Gen.q ^ 12 - 1) + 1 := (Nat.sub_add_cancel one_le_q12).symm
  rw [e, pow_succ] at h
  exact mul_right_cancel₀ hx (by rw [h, one_mul])

theorem two_le_q12 : 2 ≤ Gen.q ^ 12 := by
  calc 2 ≤ Gen.q := by decide
    _ = Gen.q ^ 1 := (pow_one _).symm
    _ ≤ Gen.q ^ 12 := Nat.pow_le_pow_right (by decide) (by decide)

theorem inv_eq_pow {x : Fq12} (hx : x ≠ 0) : x⁻¹ = x ^ (Gen.q ^ 12 - 2) := by
  symm
  apply eq_inv_of_mul_eq_one_left
  rw [← pow_succ]
  have : Gen.q ^ 12 - 2 + 1 = Gen.q ^ 12 - 1 := by have := two_le_q12; omega
  rw [this, pow_card_sub_one hx]

/-! ## the operations of the routine on powers of a fixed element -/

theorem conj_pow (f : Fq12) (a : ℕ) : conjugate (f ^ a) = f ^ (a * Gen.q ^ 6) := by
  rw [Fq12.conjugate_eq_pow, ← pow_mul]

theorem frob_pow (f : Fq12) (a k : ℕ) : FieldOps.frob (f ^ a) k = f ^ (a * Gen.q ^ k) := by
  show frobeniusMap (f ^ a) k = _
  rw [Fq12.frobenius_spec, ← pow_mul]

theorem sq_pow (f : Fq12) (a : ℕ) : sq (f ^ a) = f ^ (a * 2) := by
  rw [Fq12.sq_eq, ← pow_add, mul_two]

/-- `exp_by_x`: raise to the 64-bit word `x`, then conjugate (the BLS parameter is negative) -/
theorem expByX_eq (g : Fq12) (x : ℕ) : expByX g x = conjugate (g ^ (x % 2 ^ 64)) := by
  have hl : Limbs.LimbsOK [x % 2 ^ 64] := by
    intro l hl
    rw [List.mem_singleton] at hl
    subst hl
    exact Nat.mod_lt _ (by decide)
  have hp : powLimbs g [x % 2 ^ 64] = g ^ (x % 2 ^ 64) := by
    rw [PowLoop.Lawful.powLimbs_eq_pow g _ hl]
    simp [limbsToNat]
  show (if Gen.BLS_X_IS_NEGATIVE then (powLimbs g [x % 2 ^ 64]).conjugate
    else powLimbs g [x % 2 ^ 64]) = _
  rw [hp]
  rfl

theorem expByX_pow (f : Fq12) (a x : ℕ) :
    expByX (f ^ a) x = f ^ (a * (x % 2 ^ 64) * Gen.q ^ 6) := by
  rw [expByX_eq, ← pow_mul, conj_pow]

/-! ## the hard part -/

/-- the part of `final_exponentiation` after the easy part, as a function of `r = f^((q⁶-1)(q²+1))`;
    copied verbatim from the model (`finalExponentiation_some` below is by unfolding) -/
def hardPart (r : Fq12) : Fq12 :=
  let x := Gen.BLS_X
  let y0 := sq r
  let y1 := expByX y0 x
  let x := x >>> 1
  let y2 := expByX y1 x
  let x := (x <<< 1) % 2 ^ 64
  let y3 := r.conjugate
  let y1 := y1 * y3
  let y1 := y1.conjugate
  let y1 := y1 * y2
  let y2 := expByX y1 x
  let y3 := expByX y2 x
  let y1 := y1.conjugate
  let y3 := y3 * y1
  let y1 := y1.conjugate
  let y1 := FieldOps.frob y1 3
  let y2 := FieldOps.frob y2 2
  let y1 := y1 * y2
  let y2 := expByX y3 x
  let y2 := y2 * y0
  let y2 := y2 * r
  let y1 := y1 * y2
  let y2 := FieldOps.frob y3 1
  let y1 := y1 * y2
  y1

theorem finalExponentiation_none {f : Fq12} (h : inverse f = none) :
    finalExponentiation f = none := by
  have h' : FieldOps.inv f = none := h
  unfold finalExponentiation
  simp only [h']

theorem finalExponentiation_some {f f2 : Fq12} (h : inverse f = some f2) :
    finalExponentiation f =
      some (hardPart (FieldOps.frob (conjugate f * f2) 2 * (conjugate f * f2))) := by
  have h' : FieldOps.inv f = some f2 := h
  unfold finalExponentiation
  simp only [h']
  rfl

/-- the exponent computed by the hard part when its input is `f ^ a`; `Q` stands for `q`, `X` for
    `BLS_X mod 2⁶⁴`, `H` for `(BLS_X >> 1) mod 2⁶⁴`, `X2` for `((BLS_X >> 1) << 1 mod 2⁶⁴) mod 2⁶⁴`.
    Same sequence of steps as `hardPart`. -/
def hardExp (a Q X H X2 : ℕ) : ℕ :=
  let c := Q ^ 6
  let y0 := a * 2
  let y1 := y0 * X * c
  let y2 := y1 * H * c
  let y3 := a * c
  let y1 := y1 + y3
  let y1 := y1 * c
  let y1 := y1 + y2
  let y2 := y1 * X2 * c
  let y3 := y2 * X2 * c
  let y1 := y1 * c
  let y3 := y3 + y1
  let y1 := y1 * c
  let y1 := y1 * Q ^ 3
  let y2 := y2 * Q ^ 2
  let y1 := y1 + y2
  let y2 := y3 * X2 * c
  let y2 := y2 + y0
  let y2 := y2 + a
  let y1 := y1 + y2
  let y2 := y3 * Q ^ 1
  let y1 := y1 + y2
  y1

theorem hardPart_pow (f : Fq12) (a : ℕ) :
    hardPart (f ^ a) = f ^ hardExp a Gen.q (Gen.BLS_X % 2 ^ 64) ((Gen.BLS_X >>> 1) % 2 ^ 64)
      ((((Gen.BLS_X >>> 1) <<< 1) % 2 ^ 64) % 2 ^ 64) := by
  -- `hardExp` has one `let` for each `let` of `hardPart`, in the same order, with the operation on
  -- `Fq12` replaced by what it does to the exponent; so rewriting every operation by its `_pow` lemma
  -- and joining the products with `← pow_add` turns the left side into the right side literally
  simp only [hardPart, hardExp, sq_pow, expByX_pow, conj_pow, frob_pow, ← pow_add]

/-! ## the easy part and the total exponent -/

/-- exponent of the easy part: `r = (conj f · f⁻¹)^(q²) · (conj f · f⁻¹)` with `f⁻¹ = f^(q¹²-2)` -/
def easyExp (Q : ℕ) : ℕ := (Q ^ 6 + (Q ^ 12 - 2)) * Q ^ 2 + (Q ^ 6 + (Q ^ 12 - 2))

theorem easyPart_pow {f : Fq12} (hf : f ≠ 0) :
    FieldOps.frob (conjugate f * f⁻¹) 2 * (conjugate f * f⁻¹) = f ^ easyExp Gen.q := by
  have h : conjugate f * f⁻¹ = f ^ (Gen.q ^ 6 + (Gen.q ^ 12 - 2)) := by
    rw [Fq12.conjugate_eq_pow, inv_eq_pow hf, ← pow_add]
  rw [h, frob_pow, ← pow_add]
  rfl

/-- the exponent the code computes (before reduction modulo `q¹² - 1`) -/
def feExp : ℕ :=
  hardExp (easyExp Gen.q) Gen.q (Gen.BLS_X % 2 ^ 64) ((Gen.BLS_X >>> 1) % 2 ^ 64)
    ((((Gen.BLS_X >>> 1) <<< 1) % 2 ^ 64) % 2 ^ 64)

def feTarget : ℕ := 3 * (Gen.q ^ 12 - 1) / Gen.r

theorem fe_raw {f : Fq12} (hf : f ≠ 0) : finalExponentiation f = some (f ^ feExp) := by
  rw [finalExponentiation_some (Fq12.inverse_eq_some f hf), easyPart_pow hf, hardPart_pow]
  rfl

/-! ## numeric facts

`feExp` has 17070 bits: it is not reduced modulo `q¹² - 1` on the way, and every `conjugate` and
`frob` of `hardPart` multiplies it by a power of `q`. -/

theorem feExp_mod : feExp % (Gen.q ^ 12 - 1) = feTarget % (Gen.q ^ 12 - 1) := by decide +kernel

theorem r_dvd : Gen.r ∣ Gen.q ^ 12 - 1 := by decide +kernel

theorem r_mul_feTarget : Gen.r * feTarget = 3 * (Gen.q ^ 12 - 1) := by decide +kernel

theorem q4_dvd_feTarget : (Gen.q ^ 4 - 1) ∣ feTarget := by decide +kernel

theorem q6_dvd_feTarget : (Gen.q ^ 6 - 1) ∣ feTarget := by decide +kernel

/-! ## the specification -/

/-- **final exponentiation** is `f ↦ f ^ (3 (q¹² - 1) / r)` on non-zero elements -/
theorem fe_spec {f : Fq12} (hf : f ≠ 0) :
    finalExponentiation f = some (f ^ (3 * (Gen.q ^ 12 - 1) / Gen.r)) := by
  rw [fe_raw hf, pow_eq_pow_mod feExp (pow_card_sub_one hf), feExp_mod,
    ← pow_eq_pow_mod feTarget (pow_card_sub_one hf)]
  rfl

theorem fe_zero : finalExponentiation 0 = none :=
  finalExponentiation_none Fq12.inverse_zero

theorem fe_none_iff (f : Fq12) : finalExponentiation f = none ↔ f = 0 := by
  constructor
  · intro h
    by_contra hf
    rw [fe_spec hf] at h
    cases h
  · rintro rfl; exact fe_zero

theorem fe_isSome_iff (f : Fq12) : (finalExponentiation f).isSome = true ↔ f ≠ 0 := by
  rw [← not_iff_not, Bool.not_eq_true, Option.isSome_eq_false_iff, Option.isNone_iff_eq_none,
    fe_none_iff, not_not]

/-- multiplicativity (on non-zero arguments; `0` makes both sides fail, see `fe_mul_all`) -/
theorem fe_mul {f g : Fq12} (hf : f ≠ 0) (hg : g ≠ 0) :
    finalExponentiation (f * g) =
      (finalExponentiation f).bind fun a => (finalExponentiation g).map fun b => a * b := by
  rw [fe_spec hf, fe_spec hg, fe_spec (mul_ne_zero hf hg), mul_pow]
  rfl

theorem fe_one : finalExponentiation 1 = some 1 := by
  rw [fe_spec one_ne_zero, one_pow]

theorem fe_pow {f : Fq12} (hf : f ≠ 0) (n : ℕ) :
    finalExponentiation (f ^ n) = (finalExponentiation f).map (· ^ n) := by
  rw [fe_spec hf, fe_spec (pow_ne_zero n hf), ← pow_mul, mul_comm, pow_mul]
  rfl

theorem fe_inv {f : Fq12} (hf : f ≠ 0) :
    finalExponentiation f⁻¹ = (finalExponentiation f).map (·⁻¹) := by
  rw [fe_spec hf, fe_spec (inv_ne_zero hf), inv_pow]
  rfl

theorem fe_pow_r {f y : Fq12} (h : finalExponentiation f = some y) : y ^ Gen.r = 1 := by
  have hf : f ≠ 0 := fun h0 => by rw [(fe_none_iff f).mpr h0] at h; cases h
  rw [fe_spec hf] at h
  obtain rfl := Option.some.inj h
  show (f ^ feTarget) ^ Gen.r = 1
  rw [← pow_mul, mul_comm, r_mul_feTarget, mul_comm, pow_mul, pow_card_sub_one hf, one_pow]

theorem pow_of_fe_one {f : Fq12} (h : finalExponentiation f = some 1) :
    f ^ (3 * (Gen.q ^ 12 - 1) / Gen.r) = 1 := by
  have hf : f ≠ 0 := fun h0 => by rw [h0, fe_zero] at h; cases h
  exact Option.some.inj ((fe_spec hf).symm.trans h)

/-- an element fixed by `x ↦ x^(qᵈ)` with `(qᵈ - 1) ∣ 3(q¹²-1)/r` is sent to `1` -/
theorem fe_of_fixed {f : Fq12} (hf : f ≠ 0) (d : ℕ) (hd : (Gen.q ^ d - 1) ∣ feTarget)
    (h : f ^ Gen.q ^ d = f) : finalExponentiation f = some 1 := by
  have h1 : f ^ (Gen.q ^ d - 1) = 1 := by
    have e : Gen.q ^ d = (Gen.q ^ d - 1) + 1 :=
      (Nat.sub_add_cancel (Nat.one_le_pow _ _ (by decide))).symm
    rw [e, pow_succ] at h
    exact mul_right_cancel₀ hf (by rw [h, one_mul])
  obtain ⟨k, hk⟩ := hd
  rw [fe_spec hf]
  show some (f ^ feTarget) = _
  rw [hk, pow_mul, h1, one_pow]

theorem fe_subfield4 {f : Fq12} (hf : f ≠ 0) (h : f ^ Gen.q ^ 4 = f) :
    finalExponentiation f = some 1 := fe_of_fixed hf 4 q4_dvd_feTarget h

theorem q_odd : Odd Gen.q := by decide +kernel

/-- an element whose square lies in `F_{q²}` lies in `F_{q⁴}`: `f^(q²)` is a square root of `f²`, hence
    `± f`, and `q²` is odd -/
theorem fe_of_sq_fixed {f : Fq12} (hf : f ≠ 0) (h : (f ^ 2) ^ Gen.q ^ 2 = f ^ 2) :
    finalExponentiation f = some 1 := by
  apply fe_subfield4 hf
  have e : Gen.q ^ 4 = Gen.q ^ 2 * Gen.q ^ 2 := by rw [← pow_add]
  rw [pow_right_comm] at h
  rw [e, pow_mul]
  rcases sq_eq_sq_iff_eq_or_eq_neg.mp h with h | h
  · rw [h, h]
  · rw [h, q_odd.pow.neg_pow, h, neg_neg]

theorem fe_subfield6 {f : Fq12} (hf : f ≠ 0) (h : f ^ Gen.q ^ 6 = f) :
    finalExponentiation f = some 1 := fe_of_fixed hf 6 q6_dvd_feTarget h

theorem pow_q_mul {f : Fq12} {d : ℕ} (h : f ^ Gen.q ^ d = f) : ∀ k : ℕ, f ^ Gen.q ^ (d * k) = f
  | 0 => by simp
  | k + 1 => by
    rw [Nat.mul_succ, pow_add, pow_mul, pow_q_mul h k, h]

/-- every proper subfield `F_{qᵈ}` (`d ∣ 12`, `d < 12`) is killed -/
theorem fe_subfield {f : Fq12} (hf : f ≠ 0) {d : ℕ} (hd : d ∣ 12) (hd' : d ≠ 12)
    (h : f ^ Gen.q ^ d = f) : finalExponentiation f = some 1 := by
  have hmem : d ∈ Nat.divisors 12 := Nat.mem_divisors.mpr ⟨hd, by decide⟩
  have hdiv : Nat.divisors 12 = {1, 2, 3, 4, 6, 12} := by decide
  rw [hdiv] at hmem
  simp only [Finset.mem_insert, Finset.mem_singleton] at hmem
  rcases hmem with rfl | rfl | rfl | rfl | rfl | rfl
  · exact fe_subfield4 hf (pow_q_mul h 4)
  · exact fe_subfield4 hf (pow_q_mul h 2)
  · exact fe_subfield6 hf (pow_q_mul h 2)
  · exact fe_subfield4 hf h
  · exact fe_subfield6 hf h
  · exact absurd rfl hd'

theorem fe_ofFq6 {a : Fq6} (ha : a ≠ 0) : finalExponentiation (ofFq6 a) = some 1 := by
  have hf : ofFq6 a ≠ 0 := fun h => ha (Fq12.ofFq6_injective (by rw [h, map_zero]))
  apply fe_subfield6 hf
  rw [← Fq12.conjugate_eq_pow, Fq12.conjugate_ofFq6]

theorem fe_ofFq2 {a : Fq2} (ha : a ≠ 0) :
    finalExponentiation (ofFq6 (Fq6.ofFq2 a)) = some 1 :=
  fe_ofFq6 fun h => ha (Fq6.ofFq2_injective (by rw [h, map_zero]))

theorem fe_ofFq {a : Fq} (ha : a ≠ 0) :
    finalExponentiation (ofFq6 (Fq6.ofFq2 (Fq2.ofFq a))) = some 1 :=
  fe_ofFq2 fun h => ha (Fq2.ofFq_injective (by rw [h, map_zero]))

/-- multiplicativity, for all arguments (a zero factor makes both sides fail) -/
theorem fe_mul_all (f g : Fq12) :
    finalExponentiation (f * g) =
      (finalExponentiation f).bind fun a => (finalExponentiation g).map fun b => a * b := by
  by_cases hf : f = 0
  · subst hf; rw [zero_mul, fe_zero]; rfl
  by_cases hg : g = 0
  · subst hg; rw [mul_zero, fe_zero, fe_spec hf]; rfl
  exact fe_mul hf hg

/-! ## proper subfields, as Mathlib `Subfield`s -/

def Fq6.equivProd : Fq6 ≃ Fq2 × Fq2 × Fq2 where
  toFun a := (a.c0, a.c1, a.c2)
  invFun t := ⟨t.1, t.2.1, t.2.2⟩
  left_inv _ := rfl
  right_inv _ := rfl

instance : Fintype Fq6 := Fintype.ofEquiv _ Fq6.equivProd.symm

def Fq12.equivProd : Fq12 ≃ Fq6 × Fq6 where
  toFun a := (a.c0, a.c1)
  invFun t := ⟨t.1, t.2⟩
  left_inv _ := rfl
  right_inv _ := rfl

instance : Fintype Fq12 := Fintype.ofEquiv _ Fq12.equivProd.symm

theorem card_Fq12 : Fintype.card Fq12 = Gen.q ^ 12 := by
  rw [Fintype.card_congr Fq12.equivProd, Fintype.card_prod, Fintype.card_congr Fq6.equivProd,
    Fintype.card_prod, Fintype.card_prod, Fq2.card]
  ring

open Classical in
/-- a proper subfield of `Fq12` has `qᵈ` elements for a proper divisor `d` of 12, hence is fixed
    pointwise by `x ↦ x^(qᵈ)` -/
theorem subfield_fixed (K : Subfield Fq12) (hK : K ≠ ⊤) :
    ∃ d : ℕ, d ∣ 12 ∧ d ≠ 12 ∧ ∀ x ∈ K, x ^ Gen.q ^ d = x := by
  let _ : Fintype K := Fintype.ofFinite K
  obtain ⟨n, -, hn⟩ := FiniteField.card K Gen.q
  have hcard := Module.card_eq_pow_finrank (K := K) (V := Fq12)
  rw [card_Fq12, hn, ← pow_mul] at hcard
  have h12 : 12 = (n : ℕ) * Module.finrank K Fq12 :=
    Nat.pow_right_injective (show 2 ≤ Gen.q by decide) hcard
  refine ⟨n, ⟨_, h12⟩, ?_, ?_⟩
  · intro h
    apply hK
    have hc : Fintype.card K = Fintype.card Fq12 := by rw [hn, card_Fq12, h]
    have hb : Function.Bijective (K.subtype) :=
      (Fintype.bijective_iff_injective_and_card _).mpr ⟨K.subtype_injective, hc⟩
    rw [eq_top_iff]
    intro x _
    obtain ⟨y, rfl⟩ := hb.2 x
    exact y.2
  · intro x hx
    have := FiniteField.pow_card (⟨x, hx⟩ : K)
    rw [hn] at this
    exact congrArg Subtype.val this

/-- every non-zero element of a proper subfield of `Fq12` is sent to `1` -/
theorem fe_properSubfield (K : Subfield Fq12) (hK : K ≠ ⊤) {f : Fq12} (hf : f ≠ 0) (hfK : f ∈ K) :
    finalExponentiation f = some 1 := by
  obtain ⟨d, hd, hd', h⟩ := subfield_fixed K hK
  exact fe_subfield hf hd hd' (h f hfK)

end FinalExp
end PP
