/-
The definitions generated from the Rust source by /verif/extract/extract_enc.py (`PP/Gen/Enc.lean`,
namespace `PP.Gen.E`: the point encodings of src/bls12_381/ec/g1.rs, g2.rs and the stream
(de)serialization of src/serdes.rs, one line per Rust statement, flag bits and masks translated
literally) are equal to the hand-written model (`PP/Model/Enc.lean`).

Shape of the statements.  The Rust code is duplicated per group; the model is generic in a `Codec`, so
every G1 / G2 definition is compared with the model function at `g1Codec` / `g2Codec`.  A function that can
PANIC is `Option`-valued in the generated code (`none` = panic): the theorems say `= some (model ..)`,
i.e. also that the Rust code does not panic, under the hypothesis `bs.length = N` that expresses the Rust
type `[u8; N]` of the encoded point (the model checks the length itself and answers `badLength`, which is
outside the Rust domain).  `io::Write` sinks are byte lists the function appends to: `serialize a w c =
.ok (w ++ model a c)`.

Proof method.  Purely syntactic: `unfold` of the generated definition and of the model function, the
head byte made explicit (`bs = b0 :: r` from the length hypothesis), case split on the flag tests in
the order of the source, `readExact` / `SliceWriter.write` resolved with the length facts, `cases` on the
results of `Fq::from_repr`, `get_point_from_x`, the curve checks (all kept OPAQUE: field values are
generalised, nothing evaluates `Fq` arithmetic).  Calls of Arith.lean definitions are rewritten into the
model's with the equalities of `PP.Proofs.GenArith`; for G2 the generated `Fq2` instance bundles are
first rewritten into the model's instances (`lowerInst2`).  Where the Rust repeats a block, the block is
treated once, about variables: `readFqs_step` for the twelve reads of `Fq12::deserialize`,
`deserialize_skeleton` for the four point readers; the theorems about `serialize` / `deserialize`
themselves stand in `PP.Props.GenEnc`.

Core Lean only (imports `PP.Proofs.GenArith`); axioms: `propext`, `Quot.sound`, `Classical.choice` at most.
-/
import PP.Gen.Enc
import PP.Proofs.GenArith

namespace PP.GenEncLemmas
open PP PP.Gen PP.GenArithLemmas

/-! ## bytes, readers, writers

`readExact_ok`, `beBytes_length` and `maskFirst_cons` are also proved in `PP/Proofs/Serdes.lean`,
`PP/Proofs/Limbs.lean` and `PP/Proofs/ByteLemmas.lean`; they are proved again here because those files
import Mathlib and this one must not. -/

theorem shl7 : (1 : UInt8) <<< 7 = 0x80 := by decide
theorem shl6 : (1 : UInt8) <<< 6 = 0x40 := by decide
theorem shl5 : (1 : UInt8) <<< 5 = 0x20 := by decide

theorem cons_of_length {n : Nat} (bs : Bytes) (h : bs.length = n + 1) : ∃ b r, bs = b :: r ∧ r.length = n := by
  cases bs with
  | nil => cases h
  | cons b r => exact ⟨b, r, rfl, Nat.succ.inj h⟩

theorem g1Codec_read (name : String) (bs : Bytes) : g1Codec.read name bs =
    match E.Fq.fromRepr (beToNat bs) with
    | some a => .ok a
    | none => .error (name ++ " coordinate") := rfl

theorem all_decide (l : Bytes) : l.all (fun b => decide (b = 0)) = l.all (· == 0) := rfl
theorem maskFirst_cons (b : UInt8) (r : Bytes) (m : UInt8) : maskFirst (b :: r) m = (b &&& m) :: r := rfl
theorem set0_or (l : Bytes) (m : UInt8) : l.set 0 (l.getD 0 0 ||| m) = orFirst l m := by cases l <;> rfl

theorem readExact_ok (n : Nat) (rd : Bytes) (h : n ≤ rd.length) : readExact n rd = .ok (rd.take n, rd.drop n) := by
  unfold readExact
  rw [if_neg (Nat.not_lt.mpr h)]

theorem reprReadBe_ok (n : Nat) (rd : Bytes) (h : n ≤ rd.length) :
    E.reprReadBe n rd = .ok (beToNat (rd.take n), rd.drop n) := by
  unfold E.reprReadBe
  rw [readExact_ok n rd h]

theorem beBytes_length (len n : Nat) : (beBytes len n).length = len := by
  induction len with
  | zero => rfl
  | succ k ih => simp only [beBytes, List.length_cons, ih]

theorem sliceWrite_ok (d rest bs : Bytes) (h : bs.length ≤ rest.length) :
    E.SliceWriter.write ⟨d, rest⟩ bs = some ⟨d ++ bs, rest.drop bs.length⟩ := by
  unfold E.SliceWriter.write
  rw [if_neg (Nat.not_lt.mpr h)]

/-! ## G1 (src/bls12_381/ec/g1.rs) -/

theorem G1Affine_getCoeffB_eq : E.G1Affine.getCoeffB = g1Codec.b := rfl

theorem G1Uncompressed_intoAffineUnchecked_eq (bs : Bytes) (h : bs.length = 96) :
    E.G1Uncompressed.intoAffineUnchecked bs = some (decodeUncompressedUnchecked g1Codec bs) := by
  obtain ⟨b0, r, rfl, hr⟩ := cons_of_length bs h
  unfold E.G1Uncompressed.intoAffineUnchecked decodeUncompressedUnchecked
  have hsz : g1Codec.size = 48 := rfl
  rw [if_neg (show ¬ ((b0 :: r).length ≠ 2 * g1Codec.size) by rw [h, hsz]; decide)]
  simp only []
  rw [show (b0 :: r).getD 0 0 = b0 from rfl, show (b0 :: r).headD 0 = b0 from rfl]
  simp only [List.set_cons_zero, maskFirst_cons, shl7, shl6, shl5, hsz, all_decide]
  by_cases h7 : b0 &&& 0x80 ≠ 0
  · rw [if_pos h7, if_pos h7]
  rw [if_neg h7, if_neg h7]
  by_cases h6 : b0 &&& 0x40 ≠ 0
  · rw [if_pos h6, if_pos h6]
    exact (apply_ite some _ _ _).symm
  rw [if_neg h6, if_neg h6]
  by_cases h5 : b0 &&& 0x20 ≠ 0
  · rw [if_pos h5, if_pos h5]
  rw [if_neg h5, if_neg h5]
  have hl : ((b0 &&& 0x1f) :: r).length = 96 := by simpa using hr
  rw [reprReadBe_ok 48 _ (by rw [hl]; decide)]
  simp only []
  rw [reprReadBe_ok 48 _ (by rw [List.length_drop, hl]; decide)]
  simp only [g1Codec_read]
  cases E.Fq.fromRepr (beToNat (List.take 48 ((b0 &&& 0x1f) :: r))) with
  | none => rfl
  | some x =>
    simp only []
    cases E.Fq.fromRepr (beToNat (List.take 48 (List.drop 48 ((b0 &&& 0x1f) :: r)))) with
    | none => rfl
    | some y => rfl

theorem G1Compressed_intoAffineUnchecked_eq (bs : Bytes) (h : bs.length = 48) :
    E.G1Compressed.intoAffineUnchecked bs = some (decodeCompressedUnchecked g1Codec bs) := by
  obtain ⟨b0, r, rfl, hr⟩ := cons_of_length bs h
  unfold E.G1Compressed.intoAffineUnchecked decodeCompressedUnchecked
  have hsz : g1Codec.size = 48 := rfl
  rw [if_neg (show ¬ ((b0 :: r).length ≠ g1Codec.size) by rw [h, hsz]; decide)]
  simp only []
  rw [show (b0 :: r).getD 0 0 = b0 from rfl, show (b0 :: r).headD 0 = b0 from rfl]
  simp only [List.set_cons_zero, maskFirst_cons, shl7, shl6, shl5, all_decide]
  by_cases h7 : b0 &&& 0x80 = 0
  · rw [if_pos h7, if_pos h7]
  rw [if_neg h7, if_neg h7]
  by_cases h6 : b0 &&& 0x40 ≠ 0
  · rw [if_pos h6, if_pos h6]
    exact (apply_ite some _ _ _).symm
  rw [if_neg h6, if_neg h6]
  have hl : ((b0 &&& 0x1f) :: r).length = 48 := by simpa using hr
  rw [reprReadBe_ok 48 _ (by rw [hl]; decide), List.take_of_length_le (by rw [hl]; decide),
    G1Affine_getCoeffB_eq]
  simp only [g1Codec_read, Aff_getPointFromX_eq]
  cases E.Fq.fromRepr (beToNat ((b0 &&& 0x1f) :: r)) with
  | none => rfl
  | some x =>
    simp only []
    cases PP.Aff.getPointFromX g1Codec.b x (decide (b0 &&& 32 ≠ 0)) <;> rfl

theorem G1Uncompressed_fromAffine_eq (a : Aff Fq) :
    E.G1Uncompressed.fromAffine a = some (encodeUncompressed g1Codec a) := by
  unfold E.G1Uncompressed.fromAffine encodeUncompressed E.G1Uncompressed.empty
  rw [Aff_isZero_eq]
  simp only [set0_or, shl6]
  cases a.infinity with
  | true => rfl
  | false =>
    simp only [Bool.false_eq_true, if_false]
    unfold E.SliceWriter.new
    rw [sliceWrite_ok _ _ _ (by rw [beBytes_length, List.length_replicate]; decide)]
    simp only []
    rw [sliceWrite_ok _ _ _ (by rw [beBytes_length, List.length_drop, beBytes_length, List.length_replicate]; decide)]
    simp only [E.SliceWriter.finish, beBytes_length, List.drop_replicate, List.nil_append]
    rfl

theorem G1Uncompressed_intoAffine_eq (bs : Bytes) (h : bs.length = 96) :
    E.G1Uncompressed.intoAffine bs = some (decodeUncompressed g1Codec bs) := by
  unfold E.G1Uncompressed.intoAffine decodeUncompressed
  rw [G1Uncompressed_intoAffineUnchecked_eq bs h]
  simp only [G1Affine_getCoeffB_eq, Aff_isOnCurve_eq, G1Affine_inSubgroup_eq]
  cases decodeUncompressedUnchecked g1Codec bs with
  | error e => rfl
  | ok a =>
    simp only []
    generalize PP.Aff.isOnCurve g1Codec.b a = c1
    generalize PP.Aff.inSubgroup g1Codec.b a = c2
    cases c1 <;> cases c2 <;> rfl

theorem G1Compressed_intoAffine_eq (bs : Bytes) (h : bs.length = 48) :
    E.G1Compressed.intoAffine bs = some (decodeCompressed g1Codec bs) := by
  unfold E.G1Compressed.intoAffine decodeCompressed
  rw [G1Compressed_intoAffineUnchecked_eq bs h]
  simp only [G1Affine_getCoeffB_eq, G1Affine_inSubgroup_eq]
  cases decodeCompressedUnchecked g1Codec bs with
  | error e => rfl
  | ok a =>
    simp only []
    generalize PP.Aff.inSubgroup g1Codec.b a = c2
    cases c2 <;> rfl

theorem lt_fq (a b : Fq) : SqrtOps.lt a b = decide (a.v < b.v) := rfl

theorem G1Compressed_fromAffine_eq (a : Aff Fq) :
    E.G1Compressed.fromAffine a = some (encodeCompressed g1Codec a) := by
  unfold E.G1Compressed.fromAffine encodeCompressed E.G1Compressed.empty
  rw [Aff_isZero_eq]
  simp only [set0_or, shl5, shl6, shl7]
  cases a.infinity with
  | true => rfl
  | false =>
    simp only [Bool.false_eq_true, if_false]
    unfold E.SliceWriter.new
    rw [sliceWrite_ok _ _ _ (by rw [beBytes_length, List.length_replicate]; decide)]
    simp only [E.SliceWriter.finish, beBytes_length, List.drop_replicate, List.nil_append]
    generalize -a.y = negy
    rw [lt_fq]
    rw [show g1Codec.write a.x = beBytes 48 a.x.v from rfl,
      show beBytes 48 a.x.v ++ List.replicate (48 - 48) (0 : UInt8) = beBytes 48 a.x.v from List.append_nil _]
    by_cases hlt : negy.v < a.y.v
    · rw [if_pos (Nat.compare_eq_gt.mpr hlt), if_pos (decide_eq_true hlt)]
    · rw [if_neg (fun hc => hlt (Nat.compare_eq_gt.mp hc)), if_neg (fun hc => hlt (of_decide_eq_true hc))]

/-! ## G2 -/

theorem g2Codec_read (name : String) (bs : Bytes) : g2Codec.read name bs =
    match E.Fq.fromRepr (beToNat ((bs.drop 48).take 48)) with
    | none => .error (name ++ " coordinate (c0)")
    | some c0 =>
      match E.Fq.fromRepr (beToNat (bs.take 48)) with
      | none => .error (name ++ " coordinate (c1)")
      | some c1 => .ok ⟨c0, c1⟩ := rfl

theorem G2Affine_getCoeffB_eq : E.G2Affine.getCoeffB = g2Codec.b := rfl

theorem G2Uncompressed_intoAffineUnchecked_eq (bs : Bytes) (h : bs.length = 192) :
    E.G2Uncompressed.intoAffineUnchecked bs = some (decodeUncompressedUnchecked g2Codec bs) := by
  obtain ⟨b0, r, rfl, hr⟩ := cons_of_length bs h
  unfold E.G2Uncompressed.intoAffineUnchecked decodeUncompressedUnchecked
  lowerInst2
  have hsz : g2Codec.size = 96 := rfl
  rw [if_neg (show ¬ ((b0 :: r).length ≠ 2 * g2Codec.size) by rw [h, hsz]; decide)]
  simp only []
  rw [show (b0 :: r).getD 0 0 = b0 from rfl, show (b0 :: r).headD 0 = b0 from rfl]
  simp only [List.set_cons_zero, maskFirst_cons, shl7, shl6, shl5, hsz, all_decide]
  by_cases h7 : b0 &&& 0x80 ≠ 0
  · rw [if_pos h7, if_pos h7]
  rw [if_neg h7, if_neg h7]
  by_cases h6 : b0 &&& 0x40 ≠ 0
  · rw [if_pos h6, if_pos h6]
    exact (apply_ite some _ _ _).symm
  rw [if_neg h6, if_neg h6]
  by_cases h5 : b0 &&& 0x20 ≠ 0
  · rw [if_pos h5, if_pos h5]
  rw [if_neg h5, if_neg h5]
  generalize hc : (b0 &&& 0x1f) :: r = copy
  have hl : copy.length = 192 := by rw [← hc]; simpa using hr
  rw [reprReadBe_ok 48 _ (by rw [hl]; decide)]
  simp only []
  rw [reprReadBe_ok 48 _ (by rw [List.length_drop, hl]; decide)]
  simp only []
  rw [reprReadBe_ok 48 _ (by rw [List.length_drop, List.length_drop, hl]; decide)]
  simp only []
  rw [reprReadBe_ok 48 _ (by rw [List.length_drop, List.length_drop, List.length_drop, hl]; decide)]
  simp only [g2Codec_read, List.take_take, List.drop_take, List.drop_drop, Nat.reduceSub, Nat.reduceAdd, show min 48 48 = 48 from rfl, show min 48 96 = 48 from rfl]
  cases E.Fq.fromRepr (beToNat (List.take 48 (List.drop 48 copy))) with
  | none => rfl
  | some xc0 =>
    simp only []
    cases E.Fq.fromRepr (beToNat (List.take 48 copy)) with
    | none => rfl
    | some xc1 =>
      simp only []
      cases E.Fq.fromRepr (beToNat (List.take 48 (List.drop 144 copy))) with
      | none => rfl
      | some yc0 =>
        simp only []
        cases E.Fq.fromRepr (beToNat (List.take 48 (List.drop 96 copy))) with
        | none => rfl
        | some yc1 => rfl

theorem G2Compressed_intoAffineUnchecked_eq (bs : Bytes) (h : bs.length = 96) :
    E.G2Compressed.intoAffineUnchecked bs = some (decodeCompressedUnchecked g2Codec bs) := by
  obtain ⟨b0, r, rfl, hr⟩ := cons_of_length bs h
  unfold E.G2Compressed.intoAffineUnchecked decodeCompressedUnchecked
  lowerInst2
  have hsz : g2Codec.size = 96 := rfl
  rw [if_neg (show ¬ ((b0 :: r).length ≠ g2Codec.size) by rw [h, hsz]; decide)]
  simp only []
  rw [show (b0 :: r).getD 0 0 = b0 from rfl, show (b0 :: r).headD 0 = b0 from rfl]
  simp only [List.set_cons_zero, maskFirst_cons, shl7, shl6, shl5, all_decide]
  by_cases h7 : b0 &&& 0x80 = 0
  · rw [if_pos h7, if_pos h7]
  rw [if_neg h7, if_neg h7]
  by_cases h6 : b0 &&& 0x40 ≠ 0
  · rw [if_pos h6, if_pos h6]
    exact (apply_ite some _ _ _).symm
  rw [if_neg h6, if_neg h6]
  generalize hc : (b0 &&& 0x1f) :: r = copy
  have hl : copy.length = 96 := by rw [← hc]; simpa using hr
  rw [reprReadBe_ok 48 _ (by rw [hl]; decide)]
  simp only []
  rw [reprReadBe_ok 48 _ (by rw [List.length_drop, hl]; decide)]
  rw [G2Affine_getCoeffB_eq]
  simp only [g2Codec_read, Aff_getPointFromX_eq]
  cases E.Fq.fromRepr (beToNat (List.take 48 (List.drop 48 copy))) with
  | none => rfl
  | some xc0 =>
    simp only []
    cases E.Fq.fromRepr (beToNat (List.take 48 copy)) with
    | none => rfl
    | some xc1 =>
      simp only []
      cases PP.Aff.getPointFromX g2Codec.b ⟨xc0, xc1⟩ (decide (b0 &&& 32 ≠ 0)) <;> rfl

theorem G2Uncompressed_intoAffine_eq (bs : Bytes) (h : bs.length = 192) :
    E.G2Uncompressed.intoAffine bs = some (decodeUncompressed g2Codec bs) := by
  unfold E.G2Uncompressed.intoAffine decodeUncompressed
  lowerInst2
  rw [G2Uncompressed_intoAffineUnchecked_eq bs h]
  simp only [G2Affine_getCoeffB_eq, Aff_isOnCurve_eq, G2Affine_inSubgroup_eq]
  cases decodeUncompressedUnchecked g2Codec bs with
  | error e => rfl
  | ok a =>
    simp only []
    generalize PP.Aff.isOnCurve g2Codec.b a = c1
    generalize PP.Aff.inSubgroup g2Codec.b a = c2
    cases c1 <;> cases c2 <;> rfl

theorem G2Compressed_intoAffine_eq (bs : Bytes) (h : bs.length = 96) :
    E.G2Compressed.intoAffine bs = some (decodeCompressed g2Codec bs) := by
  unfold E.G2Compressed.intoAffine decodeCompressed
  rw [G2Compressed_intoAffineUnchecked_eq bs h]
  simp only [G2Affine_getCoeffB_eq, G2Affine_inSubgroup_eq]
  cases decodeCompressedUnchecked g2Codec bs with
  | error e => rfl
  | ok a =>
    simp only []
    generalize PP.Aff.inSubgroup g2Codec.b a = c2
    cases c2 <;> rfl

theorem G2Uncompressed_fromAffine_eq (a : Aff Fq2) :
    E.G2Uncompressed.fromAffine a = some (encodeUncompressed g2Codec a) := by
  unfold E.G2Uncompressed.fromAffine encodeUncompressed E.G2Uncompressed.empty
  rw [Aff_isZero_eq]
  simp only [set0_or, shl6]
  cases a.infinity with
  | true => rfl
  | false =>
    simp only [Bool.false_eq_true, if_false]
    unfold E.SliceWriter.new
    rw [sliceWrite_ok _ _ _ (by rw [beBytes_length, List.length_replicate]; decide)]
    simp only []
    rw [sliceWrite_ok _ _ _ (by simp only [beBytes_length, List.length_drop, List.length_replicate]; decide)]
    simp only []
    rw [sliceWrite_ok _ _ _ (by simp only [beBytes_length, List.length_drop, List.length_replicate]; decide)]
    simp only []
    rw [sliceWrite_ok _ _ _ (by simp only [beBytes_length, List.length_drop, List.length_replicate]; decide)]
    simp only [E.SliceWriter.finish, beBytes_length, List.drop_replicate, List.nil_append,
      List.append_assoc]
    rw [show g2Codec.write a.x = beBytes 48 a.x.c1.v ++ beBytes 48 a.x.c0.v from rfl,
      show g2Codec.write a.y = beBytes 48 a.y.c1.v ++ beBytes 48 a.y.c0.v from rfl]
    simp only [List.append_assoc]
    rfl

theorem lt_fq2 (a b : Fq2) : SqrtOps.lt a b = PP.Fq2.lt a b := rfl

theorem Fq2_cmp_gt_iff (a b : Fq2) : A.Fq2.cmp a b = Ordering.gt ↔ A.Fq2.cmp b a = Ordering.lt := by
  unfold A.Fq2.cmp
  rcases Nat.lt_trichotomy a.c1.v b.c1.v with h | h | h
  · rw [Nat.compare_eq_lt.mpr h, Nat.compare_eq_gt.mpr h]; simp
  · rw [Nat.compare_eq_eq.mpr h, Nat.compare_eq_eq.mpr h.symm]
    simp only []
    rw [Nat.compare_eq_gt, Nat.compare_eq_lt]
  · rw [Nat.compare_eq_gt.mpr h, Nat.compare_eq_lt.mpr h]; simp

theorem G2Compressed_fromAffine_eq (a : Aff Fq2) :
    E.G2Compressed.fromAffine a = some (encodeCompressed g2Codec a) := by
  unfold E.G2Compressed.fromAffine encodeCompressed E.G2Compressed.empty
  rw [Aff_isZero_eq]
  simp only [set0_or, shl5, shl6, shl7]
  cases a.infinity with
  | true => rfl
  | false =>
    simp only [Bool.false_eq_true, if_false]
    unfold E.SliceWriter.new
    rw [sliceWrite_ok _ _ _ (by rw [beBytes_length, List.length_replicate]; decide)]
    simp only []
    rw [sliceWrite_ok _ _ _ (by simp only [beBytes_length, List.length_drop, List.length_replicate]; decide)]
    simp only [E.SliceWriter.finish, beBytes_length, List.drop_replicate, List.nil_append]
    rw [Fq2_neg_eq, show (-a.y : Fq2) = PP.Fq2.neg a.y from rfl]
    generalize PP.Fq2.neg a.y = negy
    rw [lt_fq2, Fq2_cmp_lt,
      show g2Codec.write a.x = beBytes 48 a.x.c1.v ++ beBytes 48 a.x.c0.v from rfl,
      show beBytes 48 a.x.c1.v ++ beBytes 48 a.x.c0.v ++ List.replicate (96 - (48 + 48)) (0 : UInt8)
        = beBytes 48 a.x.c1.v ++ beBytes 48 a.x.c0.v from List.append_nil _]
    by_cases hlt : A.Fq2.cmp negy a.y = Ordering.lt
    · rw [if_pos ((Fq2_cmp_gt_iff _ _).mpr hlt), if_pos (decide_eq_true hlt)]
    · rw [if_neg (fun hc => hlt ((Fq2_cmp_gt_iff _ _).mp hc)), if_neg (fun hc => hlt (of_decide_eq_true hc))]

/-! ## src/serdes.rs -/

/-- the arms of `deserFq12`, as a function of what `readFqs 12` returned -/
def fq12Arm : Except SerErr (List Fq × Bytes) → Except SerErr (Fq12 × Bytes)
  | .error e => .error e
  | .ok ([a, b, c, d, e, f, g, h, i, j, k, l], rest) =>
    .ok (⟨⟨⟨a, b⟩, ⟨c, d⟩, ⟨e, f⟩⟩, ⟨⟨g, h⟩, ⟨i, j⟩, ⟨k, l⟩⟩⟩, rest)
  | .ok _ => .error .panic

/-- the coefficients read so far (`pre` puts them in front), applied to what further rounds of `readFqs`
    return.  A function and not a list, so that the twelve coefficients end up as a list literal and not
    as a tower of `++` (which `rfl` would have to normalise). -/
def consFqs (pre : List Fq → List Fq) : Except SerErr (List Fq × Bytes) → Except SerErr (List Fq × Bytes)
  | .error e => .error e
  | .ok (cs, rest) => .ok (pre cs, rest)

theorem consFqs_id (x : Except SerErr (List Fq × Bytes)) : consFqs (fun cs => cs) x = x := by
  cases x <;> rfl

/-- one `q.read_be(&mut reader)?; let c = match Fq::from_repr(q) {..}` of `Fq12::deserialize` is one round of
    the model's `readFqs`: if the rest of the function (`K`, given the coefficient and the reader) is `M`
    of `n` more rounds, then the whole is `M` of `n + 1` rounds -/
theorem readFqs_step {α : Type} (M : Except SerErr (List Fq × Bytes) → Except SerErr α)
    (hM : ∀ e, M (.error e) = .error e) (pre : List Fq → List Fq) (n : Nat) (rd : Bytes)
    (K : Fq → Bytes → Except SerErr α)
    (h : ∀ a r, K a r = M (consFqs (fun cs => pre (a :: cs)) (readFqs n r))) :
    (match E.reprReadBe 48 rd with
      | .error e => Except.error e
      | .ok (q, r) =>
        match E.Fq.fromRepr q with
        | none => Except.error SerErr.notInField
        | some a => K a r) = M (consFqs pre (readFqs (n + 1) rd)) := by
  unfold readFqs E.reprReadBe
  cases readExact 48 rd with
  | error e => exact (hM e).symm
  | ok p =>
    obtain ⟨bs, r⟩ := p
    dsimp only
    rw [show E.Fq.fromRepr (beToNat bs) = Fq.fromBytes bs from rfl]
    cases Fq.fromBytes bs with
    | none => exact (hM _).symm
    | some a =>
      dsimp only
      rw [h]
      cases readFqs n r <;> rfl

theorem take_cons_of_le {n : Nat} (rd : Bytes) (h : n + 1 ≤ rd.length) :
    ∃ b r, rd.take (n + 1) = b :: r ∧ r.length = n := by
  apply cons_of_length
  rw [List.length_take]
  exact Nat.min_eq_left h

/-- The body that the four generated point readers (`G1Affine`, `G2Affine`, `G1`, `G2`) share, over what
    differs between them: the two sizes, the two zero arrays, and what is done with the buffer once it is
    complete (`tc`, `tu`: the checked decoder of the group, then `post` = nothing or `into_projective`). -/
theorem deserialize_skeleton {F α : Type} [Add F] [Sub F] [Mul F] [Neg F] [Zero F] [One F] [FieldOps F]
    [DecidableEq F] [SqrtOps F] (cc : Codec F) (post : Aff F → α) (csize usize : Nat) (emptyC emptyU : Bytes)
    (tc : Bytes → Bytes → Except SerErr (α × Bytes)) (tu : Bytes → Bytes → Bytes → Except SerErr (α × Bytes))
    (hcs : csize = cc.size) (hus : usize = 2 * cc.size) (hp : 0 < cc.size)
    (hec : emptyC.length = csize) (heu : emptyU.length = usize)
    (hC : ∀ buf rest, buf.length = cc.size → tc buf rest =
      match decodeCompressed cc buf with
      | .error e => .error (.decode e)
      | .ok a => .ok (post a, rest))
    (hU : ∀ buf buf2 rest, (buf ++ buf2).length = 2 * cc.size → tu buf buf2 rest =
      match decodeUncompressed cc (buf ++ buf2) with
      | .error e => .error (.decode e)
      | .ok a => .ok (post a, rest))
    (reader : Bytes) (compressed : Bool) :
    (let buf := List.replicate csize (0 : UInt8)
     match readExact buf.length reader with
     | .error e => .error e
     | .ok (buf, reader) =>
       match buf[0]? with
       | none => .error SerErr.panic
       | some ix1 =>
         if (decide ((ix1 &&& 0x80) = 0x80)) != compressed then .error SerErr.compressness
         else if compressed then
           let g_buf := emptyC
           if g_buf.length ≠ buf.length then .error SerErr.panic else tc buf reader
         else
           if usize < csize then .error SerErr.panic else
           let buf2 := List.replicate (usize - csize) (0 : UInt8)
           match readExact buf2.length reader with
           | .error e => .error e
           | .ok (buf2, reader) =>
             let g_buf := emptyU
             if g_buf.length ≠ (buf ++ buf2).length then .error SerErr.panic else tu buf buf2 reader) =
      match deserAffine cc reader compressed with
      | .error e => Except.error e
      | .ok (a, rest) => .ok (post a, rest) := by
  subst hcs hus
  unfold deserAffine
  dsimp only
  rw [List.length_replicate, List.length_replicate, hec, heu]
  by_cases hlen : reader.length < cc.size
  · unfold readExact; rw [if_pos hlen]
  rw [readExact_ok _ reader (Nat.le_of_not_lt hlen)]
  dsimp only
  obtain ⟨n, hn⟩ : ∃ n, cc.size = n + 1 := ⟨cc.size - 1, (Nat.sub_add_cancel hp).symm⟩
  obtain ⟨b, r, hb, hr⟩ := take_cons_of_le (n := n) reader (hn ▸ Nat.le_of_not_lt hlen)
  have hbl : (reader.take cc.size).length = cc.size := by rw [hn, hb, List.length_cons, hr]
  generalize reader.drop cc.size = rest
  rw [hn, hb, ← hn] at hbl ⊢
  rw [show (b :: r)[0]? = some b from rfl, show (b :: r).headD 0 = b from rfl]
  dsimp only
  rw [show ((b &&& 0x80) == 0x80) = decide (b &&& 0x80 = 0x80) from rfl]
  by_cases hc : (decide (b &&& 0x80 = 0x80) != compressed) = true
  · rw [if_pos hc, if_pos hc]
  rw [if_neg hc, if_neg hc]
  cases compressed with
  | true =>
    rw [if_pos rfl, if_pos rfl, if_neg (not_not_intro hbl.symm), hC _ _ hbl]
    cases decodeCompressed cc (b :: r) <;> rfl
  | false =>
    rw [if_neg Bool.false_ne_true, if_neg Bool.false_ne_true, if_neg (by omega), Nat.two_mul,
      Nat.add_sub_cancel]
    by_cases hlen2 : rest.length < cc.size
    · unfold readExact; rw [if_pos hlen2]
    rw [readExact_ok _ rest (Nat.le_of_not_lt hlen2)]
    dsimp only
    have hl2 : ((b :: r) ++ rest.take cc.size).length = cc.size + cc.size := by
      rw [List.length_append, hbl, List.length_take, Nat.min_eq_left (Nat.le_of_not_lt hlen2)]
    rw [if_neg (not_not_intro hl2.symm), hU _ _ _ (by rw [hl2, Nat.two_mul])]
    cases decodeUncompressed cc ((b :: r) ++ rest.take cc.size) <;> rfl

end PP.GenEncLemmas
