/-
C01, lemmas: the model's Jacobian arithmetic (`PP/Model/Curve.lean`) against Mathlib's
chord-and-tangent group law on `(W b).Point`.

Method: a triple with `z ≠ 0` on the curve is `Jac.ofAff x y z = ⟨x z², y z³, z⟩` for an affine curve
point `(x, y)`; each branch of each model function is evaluated on such triples to a closed form whose
affine coordinates are compared with Mathlib's `addX`/`addY` by `field_simp; ring`.
-/
import PP.Proofs.CurveSpec

-- The section's instance binders ride along on lemmas that do not use them; the `ofAff` simp lemmas
-- among these are used by lemmas that need the binders, so omitting them one by one does not work.
set_option linter.unusedSectionVars false

namespace PP

open WeierstrassCurve.Affine

variable {F : Type} [Field F] [DecidableEq F] [FieldOps F] [LawfulFieldOps F]

/-- the triple `(x z², y z³, z)`: the affine point `(x, y)` scaled by `z` -/
def Jac.ofAff (x y z : F) : Jac F := ⟨x * z ^ 2, y * z ^ 3, z⟩

@[simp] theorem Jac.ofAff_x (x y z : F) : (Jac.ofAff x y z).x = x * z ^ 2 := rfl
@[simp] theorem Jac.ofAff_y (x y z : F) : (Jac.ofAff x y z).y = y * z ^ 3 := rfl
@[simp] theorem Jac.ofAff_z (x y z : F) : (Jac.ofAff x y z).z = z := rfl

theorem Jac.exists_ofAff {b : F} {P : Jac F} (h : Jac.OnCurve b P) (hz : P.z ≠ 0) :
    ∃ x y, y ^ 2 = x ^ 3 + b ∧ P = Jac.ofAff x y P.z := by
  refine ⟨P.x / P.z ^ 2, P.y / P.z ^ 3, Jac.affine_eq_of_onCurve h hz, ?_⟩
  cases P with
  | mk X Y Z =>
    simp only [Jac.ofAff, Jac.mk.injEq, and_true]
    simp only at hz
    constructor <;> field_simp

theorem Jac.ofAff_spec {b : F} [ShortW b] {x y z : F} (hz : z ≠ 0) (h : y ^ 2 = x ^ 3 + b) :
    Jac.OnCurve b (Jac.ofAff x y z) ∧
      Jac.abs b (Jac.ofAff x y z) = Point.some x y (W_nonsingular b h) := by
  apply Jac.abs_eq_some (by simpa using hz)
  · simp only [Jac.ofAff_x, Jac.ofAff_z]; field_simp
  · simp only [Jac.ofAff_y, Jac.ofAff_z]; field_simp

@[simp] theorem Jac.isZero_iff (P : Jac F) : P.isZero = true ↔ P.z = 0 := by
  simp [Jac.isZero]

theorem Jac.isZero_eq_false_iff (P : Jac F) : P.isZero = false ↔ P.z ≠ 0 := by
  rw [← Bool.not_eq_true, Jac.isZero_iff]

theorem Jac.onCurve_of_z_eq_zero {b : F} {P : Jac F} (hz : P.z = 0) : Jac.OnCurve b P := Or.inl hz

theorem Jac.onCurve_zero (b : F) : Jac.OnCurve b (Jac.zero : Jac F) := Or.inl rfl

theorem Jac.abs_zero (b : F) [ShortW b] : Jac.abs b (Jac.zero : Jac F) = 0 :=
  Jac.abs_of_z_eq_zero rfl

/-- `(X Z², Y Z³, D Z)` with `D, Z ≠ 0` denotes the affine point `(X / D², Y / D³)` -/
theorem Jac.abs_scaled {b : F} [ShortW b] {X Y D Z x y : F} (hD : D ≠ 0) (hZ : Z ≠ 0)
    (hx : X / D ^ 2 = x) (hy : Y / D ^ 3 = y) (h : (W b).Nonsingular x y) :
    Jac.OnCurve b ⟨X * Z ^ 2, Y * Z ^ 3, D * Z⟩ ∧
      Jac.abs b ⟨X * Z ^ 2, Y * Z ^ 3, D * Z⟩ = Point.some x y h := by
  apply Jac.abs_eq_some (P := ⟨X * Z ^ 2, Y * Z ^ 3, D * Z⟩) (mul_ne_zero hD hZ)
  · rw [← hx]; simp only; field_simp
  · rw [← hy]; simp only; field_simp

theorem Jac.double_of_z_eq_zero {P : Jac F} (hz : P.z = 0) : P.double = P := by
  simp [Jac.double, hz]

theorem Jac.double_of_z_ne_zero {P : Jac F} (hz : P.z ≠ 0) :
    P.double = ⟨9 * P.x ^ 4 - 8 * P.x * P.y ^ 2,
      3 * P.x ^ 2 * (12 * P.x * P.y ^ 2 - 9 * P.x ^ 4) - 8 * P.y ^ 4, 2 * (P.y * P.z)⟩ := by
  simp only [Jac.double, Jac.isZero_iff, hz, if_false, LawfulFieldOps.sq_eq, LawfulFieldOps.dbl_eq,
    Jac.mk.injEq]
  refine ⟨by ring, by ring, by ring⟩

/-- doubling `(x z², y z³, z)`: the affine formulas in `x`, `y`, scaled by `z⁴` -/
theorem Jac.double_ofAff (x y : F) {z : F} (hz : z ≠ 0) :
    (Jac.ofAff x y z).double = ⟨(9 * x ^ 4 - 8 * x * y ^ 2) * (z ^ 4) ^ 2,
      (3 * x ^ 2 * (12 * x * y ^ 2 - 9 * x ^ 4) - 8 * y ^ 4) * (z ^ 4) ^ 3, 2 * y * z ^ 4⟩ := by
  rw [Jac.double_of_z_ne_zero (by simpa using hz)]
  simp only [Jac.ofAff_x, Jac.ofAff_y, Jac.ofAff_z, Jac.mk.injEq]
  exact ⟨by ring, by ring, by ring⟩

theorem Jac.double_spec {b : F} [ShortW b] {P : Jac F} (h : Jac.OnCurve b P) :
    Jac.OnCurve b P.double ∧ Jac.abs b P.double = Jac.abs b P + Jac.abs b P := by
  by_cases hz : P.z = 0
  · rw [Jac.double_of_z_eq_zero hz, Jac.abs_of_z_eq_zero hz]
    exact ⟨h, (add_zero _).symm⟩
  obtain ⟨x, y, hxy, hP⟩ := Jac.exists_ofAff h hz
  generalize P.z = z at hz hP
  subst hP
  rw [(Jac.ofAff_spec hz hxy).2, Jac.double_ofAff x y hz]
  by_cases hy : y = 0
  · -- a point of order two: the tangent is vertical, the code returns `z₃ = 0`
    subst hy
    have hz3 : 2 * (0 : F) * z ^ 4 = 0 := by rw [mul_zero, zero_mul]
    refine ⟨Jac.onCurve_of_z_eq_zero hz3, ?_⟩
    rw [Jac.abs_of_z_eq_zero hz3]
    exact (Point.add_self_of_Y_eq (by rw [W_negY]; simp)).symm
  · have h2 : (2 : F) ≠ 0 := ShortW.two_ne (b := b)
    rw [Point.add_self_of_Y_ne (W_y_ne_negY b x hy)]
    apply Jac.abs_scaled (mul_ne_zero h2 hy) (pow_ne_zero _ hz)
    · rw [W_addX_eq, W_slope_tangent b x hy]
      field_simp
      ring
    · rw [W_addY_eq, W_slope_tangent b x hy]
      field_simp
      ring

/-- the chord formulas of add-2007-bl in `U₁ = x₁ z₂²`, `S₁ = y₁ z₂³`, the differences
    `H = x₂ z₁² - U₁`, `R = y₂ z₁³ - S₁`, and `zz = z₁ z₂` -/
def Jac.chord (U1 H S1 R zz : F) : Jac F :=
  ⟨4 * R ^ 2 - 4 * H ^ 3 - 8 * U1 * H ^ 2,
    (4 * U1 * H ^ 2 - (4 * R ^ 2 - 4 * H ^ 3 - 8 * U1 * H ^ 2)) * (2 * R) - 8 * S1 * H ^ 3,
    2 * zz * H⟩

/-- weights: scaling `U₁, H` by `c²` and `S₁, R` by `c³` scales the chord point by `c³`, which leaves
    the chord formulas on affine coordinates `x₁, y₁` and differences `d, e` -/
theorem Jac.chord_scaled (x₁ d y₁ e c : F) :
    Jac.chord (x₁ * c ^ 2) (d * c ^ 2) (y₁ * c ^ 3) (e * c ^ 3) c
      = ⟨(4 * e ^ 2 - 4 * d ^ 3 - 8 * x₁ * d ^ 2) * (c ^ 3) ^ 2,
        ((4 * x₁ * d ^ 2 - (4 * e ^ 2 - 4 * d ^ 3 - 8 * x₁ * d ^ 2)) * (2 * e) - 8 * y₁ * d ^ 3)
          * (c ^ 3) ^ 3,
        2 * d * c ^ 3⟩ := by
  rw [Jac.chord, Jac.mk.injEq]
  exact ⟨by ring, by ring, by ring⟩

theorem Jac.add_eq (P Q : Jac F) :
    P.add Q = if P.z = 0 then Q else if Q.z = 0 then P
      else if P.x * (Q.z * Q.z) = Q.x * (P.z * P.z) ∧
          P.y * Q.z * (Q.z * Q.z) = Q.y * P.z * (P.z * P.z) then P.double
      else Jac.chord (P.x * (Q.z * Q.z)) (Q.x * (P.z * P.z) - P.x * (Q.z * Q.z))
        (P.y * Q.z * (Q.z * Q.z)) (Q.y * P.z * (P.z * P.z) - P.y * Q.z * (Q.z * Q.z))
        (P.z * Q.z) := by
  simp only [Jac.add, Jac.isZero_iff, LawfulFieldOps.sq_eq, LawfulFieldOps.dbl_eq]
  split_ifs <;> try rfl
  simp only [Jac.chord, Jac.mk.injEq]
  -- the identities hold with `U₁`, `S₁`, `H`, `R` as indeterminates
  generalize Q.x * (P.z * P.z) - P.x * (Q.z * Q.z) = H
  generalize Q.y * P.z * (P.z * P.z) - P.y * Q.z * (Q.z * Q.z) = R
  generalize P.x * (Q.z * Q.z) = U1
  generalize P.y * Q.z * (Q.z * Q.z) = S1
  exact ⟨by ring, by ring, by ring⟩

theorem Jac.add_spec {b : F} [ShortW b] {P Q : Jac F} (hP : Jac.OnCurve b P)
    (hQ : Jac.OnCurve b Q) :
    Jac.OnCurve b (P.add Q) ∧ Jac.abs b (P.add Q) = Jac.abs b P + Jac.abs b Q := by
  rw [Jac.add_eq]
  by_cases hz1 : P.z = 0
  · rw [if_pos hz1, Jac.abs_of_z_eq_zero hz1]
    exact ⟨hQ, (zero_add _).symm⟩
  rw [if_neg hz1]
  by_cases hz2 : Q.z = 0
  · rw [if_pos hz2, Jac.abs_of_z_eq_zero hz2]
    exact ⟨hP, (add_zero _).symm⟩
  rw [if_neg hz2]
  obtain ⟨x₁, y₁, h₁, eP⟩ := Jac.exists_ofAff hP hz1
  obtain ⟨x₂, y₂, h₂, eQ⟩ := Jac.exists_ofAff hQ hz2
  generalize P.z = z₁ at hz1 eP
  generalize Q.z = z₂ at hz2 eQ
  subst eP eQ
  have hc : z₁ * z₂ ≠ 0 := mul_ne_zero hz1 hz2
  -- the cross-multiplied coordinates are the affine ones scaled by `c = z₁ z₂`
  have eU1 : (Jac.ofAff x₁ y₁ z₁).x * (z₂ * z₂) = x₁ * (z₁ * z₂) ^ 2 := by rw [Jac.ofAff_x]; ring
  have eU2 : (Jac.ofAff x₂ y₂ z₂).x * (z₁ * z₁) = x₂ * (z₁ * z₂) ^ 2 := by rw [Jac.ofAff_x]; ring
  have eS1 : (Jac.ofAff x₁ y₁ z₁).y * z₂ * (z₂ * z₂) = y₁ * (z₁ * z₂) ^ 3 := by
    rw [Jac.ofAff_y]; ring
  have eS2 : (Jac.ofAff x₂ y₂ z₂).y * z₁ * (z₁ * z₁) = y₂ * (z₁ * z₂) ^ 3 := by
    rw [Jac.ofAff_y]; ring
  simp only [eU1, eU2, eS1, eS2, ← sub_mul, mul_left_inj' (pow_ne_zero 2 hc),
    mul_left_inj' (pow_ne_zero 3 hc)]
  rw [(Jac.ofAff_spec hz1 h₁).2, (Jac.ofAff_spec hz2 h₂).2, Jac.chord_scaled]
  by_cases hx : x₁ = x₂
  · subst hx
    by_cases hy : y₁ = y₂
    · -- the same point through two representatives: the code doubles the first one
      subst hy
      rw [if_pos ⟨rfl, rfl⟩]
      have := Jac.double_spec (Jac.ofAff_spec (b := b) hz1 h₁).1
      rw [(Jac.ofAff_spec hz1 h₁).2] at this
      exact this
    · -- inverse pair: `d = 0`, so `z₃ = 0`
      rw [if_neg (fun h => hy h.2)]
      have hneg : y₁ = -y₂ := by
        have : (y₁ - y₂) * (y₁ + y₂) = 0 := by linear_combination h₁ - h₂
        rcases mul_eq_zero.mp this with h | h
        · exact absurd (sub_eq_zero.mp h) hy
        · exact eq_neg_of_add_eq_zero_left h
      have hz3 : 2 * (x₁ - x₁) * (z₁ * z₂) ^ 3 = 0 := by rw [sub_self, mul_zero, zero_mul]
      refine ⟨Jac.onCurve_of_z_eq_zero hz3, ?_⟩
      rw [Jac.abs_of_z_eq_zero hz3]
      exact (Point.add_of_Y_eq rfl (by rw [W_negY]; exact hneg)).symm
  · -- the chord
    rw [if_neg (fun h => hx h.1), Point.add_of_X_ne hx]
    have hd : x₂ - x₁ ≠ 0 := sub_ne_zero.mpr (Ne.symm hx)
    have hd' : x₁ - x₂ ≠ 0 := sub_ne_zero.mpr hx
    have h2 : (2 : F) ≠ 0 := ShortW.two_ne (b := b)
    apply Jac.abs_scaled (mul_ne_zero h2 hd) (pow_ne_zero _ hc)
    · rw [W_addX_eq, W_slope_chord b y₁ y₂ hx]
      field_simp
      ring
    · rw [W_addY_eq, W_slope_chord b y₁ y₂ hx]
      field_simp
      ring

/-- Two on-curve triples denote the same point iff both are the identity or neither is and the
    cross-multiplied coordinates agree (`U1 = U2 ∧ S1 = S2`). -/
theorem Jac.abs_eq_abs_iff {b : F} [ShortW b] {P Q : Jac F} (hP : Jac.OnCurve b P)
    (hQ : Jac.OnCurve b Q) :
    Jac.abs b P = Jac.abs b Q ↔
      (P.z = 0 ∧ Q.z = 0) ∨ (P.z ≠ 0 ∧ Q.z ≠ 0 ∧
        P.x * Q.z ^ 2 = Q.x * P.z ^ 2 ∧ P.y * Q.z ^ 3 = Q.y * P.z ^ 3) := by
  by_cases hz1 : P.z = 0
  · rw [Jac.abs_of_z_eq_zero hz1, eq_comm, Jac.abs_eq_zero_iff hQ]
    simp [hz1]
  by_cases hz2 : Q.z = 0
  · rw [Jac.abs_of_z_eq_zero hz2, Jac.abs_eq_zero_iff hP]
    simp [hz1, hz2]
  rw [Jac.abs_of_z_ne_zero hP hz1, Jac.abs_of_z_ne_zero hQ hz2, Point.some_eq_some]
  simp only [hz1, hz2, false_and, false_or, ne_eq, not_false_eq_true, true_and]
  have e1 : P.x / P.z ^ 2 = Q.x / Q.z ^ 2 ↔ P.x * Q.z ^ 2 = Q.x * P.z ^ 2 := by
    rw [div_eq_div_iff (pow_ne_zero _ hz1) (pow_ne_zero _ hz2)]
  have e2 : P.y / P.z ^ 3 = Q.y / Q.z ^ 3 ↔ P.y * Q.z ^ 3 = Q.y * P.z ^ 3 := by
    rw [div_eq_div_iff (pow_ne_zero _ hz1) (pow_ne_zero _ hz2)]
  rw [e1, e2]

theorem Jac.beq_eq_true_iff (P Q : Jac F) :
    Jac.beq P Q = true ↔ (P.z = 0 ∧ Q.z = 0) ∨ (P.z ≠ 0 ∧ Q.z ≠ 0 ∧
        P.x * Q.z ^ 2 = Q.x * P.z ^ 2 ∧ P.y * Q.z ^ 3 = Q.y * P.z ^ 3) := by
  have e1 : P.x * (Q.z * Q.z) = P.x * Q.z ^ 2 := by ring
  have e2 : Q.x * (P.z * P.z) = Q.x * P.z ^ 2 := by ring
  have e3 : P.z * P.z * P.z * Q.y = Q.y * P.z ^ 3 := by ring
  have e4 : Q.z * Q.z * Q.z * P.y = P.y * Q.z ^ 3 := by ring
  simp only [Jac.beq, LawfulFieldOps.sq_eq, e1, e2, e3, e4, ne_eq]
  by_cases hz1 : P.z = 0
  · simp [hz1]
  by_cases hz2 : Q.z = 0
  · simp [hz1, hz2]
  have i1 : P.isZero = false := (Jac.isZero_eq_false_iff P).mpr hz1
  have i2 : Q.isZero = false := (Jac.isZero_eq_false_iff Q).mpr hz2
  simp only [i1, i2, hz1, hz2, Bool.false_eq_true, if_false, false_and, false_or,
    not_false_eq_true, true_and]
  by_cases c1 : P.x * Q.z ^ 2 = Q.x * P.z ^ 2
  · by_cases c2 : P.y * Q.z ^ 3 = Q.y * P.z ^ 3
    · simp [c1, c2]
    · have c2' : ¬ Q.y * P.z ^ 3 = P.y * Q.z ^ 3 := fun h => c2 h.symm
      simp [c1, c2, c2']
  · simp [c1]

theorem Jac.beq_spec {b : F} [ShortW b] {P Q : Jac F} (hP : Jac.OnCurve b P)
    (hQ : Jac.OnCurve b Q) : Jac.beq P Q = true ↔ Jac.abs b P = Jac.abs b Q := by
  rw [Jac.beq_eq_true_iff, Jac.abs_eq_abs_iff hP hQ]

theorem Jac.neg_z (P : Jac F) : P.neg.z = P.z := by
  unfold Jac.neg; split <;> rfl

theorem Jac.neg_spec {b : F} [ShortW b] {P : Jac F} (hP : Jac.OnCurve b P) :
    Jac.OnCurve b P.neg ∧ Jac.abs b P.neg = -Jac.abs b P := by
  by_cases hz : P.z = 0
  · have : P.neg = P := by simp [Jac.neg, hz]
    rw [this, Jac.abs_of_z_eq_zero hz]
    exact ⟨hP, rfl⟩
  have e : P.neg = ⟨P.x, -P.y, P.z⟩ := by
    simp [Jac.neg, hz]
  rw [e, Jac.abs_of_z_ne_zero hP hz, Point.neg_some]
  apply Jac.abs_eq_some (P := ⟨P.x, -P.y, P.z⟩) hz rfl
  simp only [W_negY]; ring

theorem Jac.sub_spec {b : F} [ShortW b] {P Q : Jac F} (hP : Jac.OnCurve b P)
    (hQ : Jac.OnCurve b Q) :
    Jac.OnCurve b (P.sub Q) ∧ Jac.abs b (P.sub Q) = Jac.abs b P - Jac.abs b Q := by
  have hn := Jac.neg_spec hQ
  have ha := Jac.add_spec hP hn.1
  unfold Jac.sub
  exact ⟨ha.1, by rw [ha.2, hn.2, sub_eq_add_neg]⟩

theorem Aff.onCurve_zero (b : F) : Aff.OnCurve b (Aff.zero : Aff F) := Or.inl rfl

theorem Aff.abs_zero (b : F) [ShortW b] : Aff.abs b (Aff.zero : Aff F) = 0 :=
  Aff.abs_of_infinity rfl

theorem Aff.abs_mk_false {b : F} [ShortW b] {x y : F} (h : y ^ 2 = x ^ 3 + b) :
    Aff.abs b ⟨x, y, false⟩ = Point.some x y (W_nonsingular b h) :=
  Aff.abs_of_not_infinity (A := ⟨x, y, false⟩) (Or.inr h) rfl

theorem Aff.isOnCurve_iff (b : F) (A : Aff F) : A.isOnCurve b = true ↔ Aff.OnCurve b A := by
  unfold Aff.isOnCurve Aff.OnCurve
  by_cases hi : A.infinity = true
  · simp [hi]
  · have e : A.y * A.y = A.x * A.x * A.x + b ↔ A.y ^ 2 = A.x ^ 3 + b := by
      rw [show A.y * A.y = A.y ^ 2 by ring, show A.x * A.x * A.x = A.x ^ 3 by ring]
    simp [hi, e]

theorem Aff.toJac_spec {b : F} [ShortW b] {A : Aff F} (h : Aff.OnCurve b A) :
    Jac.OnCurve b A.toJac ∧ Jac.abs b A.toJac = Aff.abs b A := by
  by_cases hi : A.infinity = true
  · have : A.toJac = Jac.zero := by simp [Aff.toJac, hi]
    rw [this, Aff.abs_of_infinity hi]
    exact ⟨Jac.onCurve_zero b, Jac.abs_zero b⟩
  · have hi' : A.infinity = false := by simpa using hi
    have : A.toJac = ⟨A.x, A.y, 1⟩ := by simp [Aff.toJac, hi']
    rw [this, Aff.abs_of_not_infinity h hi']
    apply Jac.abs_eq_some (P := ⟨A.x, A.y, 1⟩) one_ne_zero <;> simp

theorem Aff.neg_spec {b : F} [ShortW b] {A : Aff F} (h : Aff.OnCurve b A) :
    Aff.OnCurve b A.neg ∧ Aff.abs b A.neg = -Aff.abs b A := by
  by_cases hi : A.infinity = true
  · have : A.neg = A := by simp [Aff.neg, hi]
    rw [this, Aff.abs_of_infinity hi]
    exact ⟨h, rfl⟩
  · have hi' : A.infinity = false := by simpa using hi
    have e : A.neg = ⟨A.x, -A.y, false⟩ := by simp [Aff.neg, hi']
    have hxy : A.y ^ 2 = A.x ^ 3 + b := h.resolve_left hi
    have hxy' : (-A.y) ^ 2 = A.x ^ 3 + b := by rw [neg_sq]; exact hxy
    rw [e, Aff.abs_of_not_infinity h hi', Point.neg_some, Aff.abs_mk_false hxy']
    exact ⟨Or.inr hxy', Point.some_eq_some.mpr ⟨rfl, by rw [W_negY]⟩⟩

/-- mixed addition is addition with the affine operand lifted to `z = 1`, as values -/
theorem Jac.addMixed_eq_add (P : Jac F) {A : Aff F} (hi : A.infinity = false) :
    P.addMixed A = P.add A.toJac := by
  have e : A.toJac = ⟨A.x, A.y, 1⟩ := by simp [Aff.toJac, hi]
  rw [e, Jac.add_eq]
  simp only [Jac.addMixed, hi, Jac.isZero_iff, LawfulFieldOps.sq_eq, LawfulFieldOps.dbl_eq,
    Bool.false_eq_true, if_false, mul_one, one_ne_zero]
  split_ifs <;> try rfl
  simp only [Jac.chord, Jac.mk.injEq]
  generalize A.x * (P.z * P.z) - P.x = H
  generalize A.y * P.z * (P.z * P.z) - P.y = R
  exact ⟨by ring, by ring, by ring⟩

theorem Jac.addMixed_spec {b : F} [ShortW b] {P : Jac F} {A : Aff F} (hP : Jac.OnCurve b P)
    (hA : Aff.OnCurve b A) :
    Jac.OnCurve b (P.addMixed A) ∧ Jac.abs b (P.addMixed A) = Jac.abs b P + Aff.abs b A := by
  by_cases hi : A.infinity = true
  · have : P.addMixed A = P := by simp [Jac.addMixed, hi]
    rw [this, Aff.abs_of_infinity hi]
    exact ⟨hP, (add_zero _).symm⟩
  · have hi' : A.infinity = false := by simpa using hi
    have hJ := Aff.toJac_spec hA
    have ha := Jac.add_spec hP hJ.1
    rw [Jac.addMixed_eq_add P hi']
    exact ⟨ha.1, by rw [ha.2, hJ.2]⟩

theorem Jac.subMixed_spec {b : F} [ShortW b] {P : Jac F} {A : Aff F} (hP : Jac.OnCurve b P)
    (hA : Aff.OnCurve b A) :
    Jac.OnCurve b (P.subMixed A) ∧ Jac.abs b (P.subMixed A) = Jac.abs b P - Aff.abs b A := by
  have hn := Aff.neg_spec hA
  have ha := Jac.addMixed_spec hP hn.1
  unfold Jac.subMixed
  exact ⟨ha.1, by rw [ha.2, hn.2, sub_eq_add_neg]⟩

/-- `toAffine` in closed form: on `z ≠ 0` the inverse exists, so the `unwrap` cannot panic -/
theorem Jac.toAffine_eq (P : Jac F) :
    P.toAffine = some (if P.z = 0 then Aff.zero else if P.z = 1 then ⟨P.x, P.y, false⟩
      else ⟨P.x * (P.z⁻¹ * P.z⁻¹), P.y * (P.z⁻¹ * P.z⁻¹ * P.z⁻¹), false⟩) := by
  unfold Jac.toAffine
  by_cases hz : P.z = 0
  · simp [hz]
  have i1 : P.isZero = false := (Jac.isZero_eq_false_iff P).mpr hz
  by_cases h1 : P.z = 1
  · simp [i1, h1]
  · simp [i1, hz, h1, LawfulFieldOps.inv_ne P.z hz]

theorem Jac.toAffine_spec {b : F} [ShortW b] {P : Jac F} (hP : Jac.OnCurve b P) :
    ∃ A, P.toAffine = some A ∧ Aff.OnCurve b A ∧ Aff.abs b A = Jac.abs b P := by
  refine ⟨_, Jac.toAffine_eq P, ?_⟩
  by_cases hz : P.z = 0
  · rw [if_pos hz, Jac.abs_of_z_eq_zero hz]
    exact ⟨Aff.onCurve_zero b, Aff.abs_zero b⟩
  rw [if_neg hz, Jac.abs_of_z_ne_zero hP hz]
  have haff := Jac.affine_eq_of_onCurve hP hz
  by_cases h1 : P.z = 1
  · rw [if_pos h1]
    have hxy : P.y ^ 2 = P.x ^ 3 + b := by simpa [h1] using haff
    rw [Aff.abs_mk_false hxy]
    exact ⟨Or.inr hxy, Point.some_eq_some.mpr ⟨by simp [h1], by simp [h1]⟩⟩
  · rw [if_neg h1]
    have ex : P.x * (P.z⁻¹ * P.z⁻¹) = P.x / P.z ^ 2 := by field_simp
    have ey : P.y * (P.z⁻¹ * P.z⁻¹ * P.z⁻¹) = P.y / P.z ^ 3 := by field_simp
    rw [ex, ey, Aff.abs_mk_false haff]
    exact ⟨Or.inr haff, rfl⟩

theorem Jac.toAffine_toJac_of_not_infinity {A : Aff F} (hi : A.infinity = false) :
    A.toJac.toAffine = some A := by
  have e : A.toJac = ⟨A.x, A.y, 1⟩ := by simp [Aff.toJac, hi]
  rw [Jac.toAffine_eq, e]
  cases A
  simp_all

theorem Jac.toAffine_toJac_of_infinity {A : Aff F} (hi : A.infinity = true) :
    A.toJac.toAffine = some Aff.zero := by
  have e : A.toJac = Jac.zero := by simp [Aff.toJac, hi]
  rw [Jac.toAffine_eq, e]
  simp [Jac.zero]

end PP
