/-
Lemmas for PP/Props/GenDerive.lean: the definitions of PP/Gen/Derive.lean (generated by
extract/extract_derive.py from the macro-expanded crate: the derive output for `Fq`, `Fr`, `FqRepr`,
`FrRepr` other than the unrolled multiplication) are equal to the hand model `PP.Mont.*`.

The derive macro writes the same text for both fields; only the limb count and the constants differ.  So
everything is proved once: (1) the primitives `adc`, `sbb`, `leading_zeros`; (2) the loop combinators applied
to ANY function that satisfies the equation of a generated loop body; (3) the repr type: the functions in
which the limb count does not occur are literally the same terms for `FqRepr` and `FrRepr`, the others are
instances `G.f 6`, `G.f 4` of a copy `G.f n` of the generated text; (4) the field type: `D.Fq.f` and `D.Fr.f`
are (definitionally) `G.f` at the constants of the field, and the lemmas about `G.f` relate limb lists to
numbers (`Rep n a x`: `a` is the `n`-limb representation of `x`; `G.f` then computes `Mont.f P`); what they
use of a field is `Ctx` (`fqC`, `frC`); (5) `legendre` and `sqrt` against the canonical-level model, through
`Enc P a z` (`a` is the reduced Montgomery representation of the field element `z`); (6) `Field::random`
against `Mont.randomSpec`.  The theorems of PP/Props/GenDerive.lean are instances of these.
-/
import PP.Gen.Derive
import PP.Proofs.PowLoop
import PP.Proofs.SqrtFr
import PP.Props.C08Limb
import PP.Props.C08

namespace PP.GenDerive
open PP PP.Gen PP.Mont PP.Limbs PP.C08Limb

/-! ## 1. primitives -/

theorem adc_eq {a b c : Nat} (ha : a < 2 ^ 64) (hb : b < 2 ^ 64) (hc : c < 2 ^ 64) :
    D.adc a b c = Mont.adc a b c := by
  unfold D.adc Mont.adc W64
  simp only [Nat.shiftRight_eq_div_pow]
  rw [Nat.mod_eq_of_lt (a := (a + b + c) / 2 ^ 64)]
  omega

theorem sbb_eq (a b c : Nat) : D.sbb a b c = Mont.sbb a b c := by
  unfold D.sbb Mont.sbb W64
  simp only [Nat.shiftRight_eq_div_pow, beq_iff_eq]

theorem leading_zeros_eq (w : Nat) : D.leading_zeros w = Mont.leadingZeros64 w := rfl

/-- `Ordering` as the model's `-1 / 0 / 1` -/
def ordToInt : Ordering → Int
  | .lt => -1
  | .eq => 0
  | .gt => 1

theorem ordToInt_injective {a b : Ordering} (h : ordToInt a = ordToInt b) : a = b := by
  cases a <;> cases b <;> first | rfl | (exfalso; revert h; decide)

/-! ## 2. loop shapes -/

/-- `add_nocarry`: `for (a, b) in self.0.iter_mut().zip(other.0.iter()) { *a = adc(*a, *b, &mut carry) }` -/
theorem forMutZip_adc {f : Nat → Nat → Nat → Nat × Nat}
    (hf : ∀ s x y, f s x y = ((D.adc x y s).2, (D.adc x y s).1)) :
    ∀ (a b : List Nat) (c : Nat), LimbsOK a → LimbsOK b → c < 2 ^ 64 → a.length = b.length →
      (D.forMutZip f c a b).2 = Mont.addNocarry a b c := by
  intro a
  induction a with
  | nil => intro b c _ _ _ _; cases b <;> rfl
  | cons x xs ih =>
    intro b c ha hb hc hl
    cases b with
    | nil => exact absurd hl (Nat.succ_ne_zero _)
    | cons y ys =>
      obtain ⟨hx, hxs⟩ := LimbsOK_cons.1 ha
      obtain ⟨hy, hys⟩ := LimbsOK_cons.1 hb
      have hc' : (Mont.adc x y c).2 < 2 ^ 64 :=
        Nat.div_lt_of_lt_mul (show x + y + c < 2 ^ 64 * 2 ^ 64 by omega)
      simp only [D.forMutZip, Mont.addNocarry, hf, adc_eq hx hy hc]
      rw [ih ys _ hxs hys hc' (Nat.succ.inj hl)]

/-- `sub_noborrow` -/
theorem forMutZip_sbb {f : Nat → Nat → Nat → Nat × Nat}
    (hf : ∀ s x y, f s x y = ((D.sbb x y s).2, (D.sbb x y s).1)) :
    ∀ (a b : List Nat) (c : Nat), a.length = b.length →
      (D.forMutZip f c a b).2 = Mont.subNoborrow a b c := by
  intro a
  induction a with
  | nil => intro b c _; cases b <;> rfl
  | cons x xs ih =>
    intro b c hl
    cases b with
    | nil => exact absurd hl (Nat.succ_ne_zero _)
    | cons y ys =>
      simp only [D.forMutZip, Mont.subNoborrow, hf, sbb_eq]
      rw [ih ys _ (Nat.succ.inj hl)]

/-- the bit-shifting pass of `shr` / `div2` (from the top limb down) -/
theorem forMutRev_shrBits {n : Nat} {f : Nat → Nat → Nat × Nat}
    (hf : ∀ t i, f t i = ((i <<< (64 - n)) % 2 ^ 64, (i >>> n) ||| t)) (ls : List Nat) :
    (D.forMutRev f 0 ls).2 = Mont.shrBits ls n := by
  have key : ∀ (xs acc : List Nat) (t : Nat),
      xs.foldl (fun (acc : List Nat × Nat) i =>
          (((i >>> n) ||| acc.2) :: acc.1, (i <<< (64 - n)) % 2 ^ 64)) (acc, t)
        = ((D.forMut f t xs).2.reverse ++ acc, (D.forMut f t xs).1) := by
    intro xs
    induction xs with
    | nil => intro acc t; simp [D.forMut]
    | cons x xs ih =>
      intro acc t
      simp only [List.foldl_cons, D.forMut, hf]
      rw [ih]
      simp
  unfold Mont.shrBits D.forMutRev
  simp only [W64]
  rw [key]
  simp

/-- the bit-shifting pass of `shl` / `mul2` (from the bottom limb up) -/
theorem forMut_shlBits {n : Nat} {f : Nat → Nat → Nat × Nat}
    (hf : ∀ t i, f t i = (i >>> (64 - n), ((i <<< n) % 2 ^ 64) ||| t)) (ls : List Nat) :
    (D.forMut f 0 ls).2 = Mont.shlBits ls n := by
  have key : ∀ (xs acc : List Nat) (t : Nat),
      xs.foldl (fun (acc : List Nat × Nat) i =>
          (acc.1 ++ [((i <<< n) % 2 ^ 64) ||| acc.2], i >>> (64 - n))) (acc, t)
        = (acc ++ (D.forMut f t xs).2, (D.forMut f t xs).1) := by
    intro xs
    induction xs with
    | nil => intro acc t; simp [D.forMut]
    | cons x xs ih =>
      intro acc t
      simp only [List.foldl_cons, D.forMut, hf]
      rw [ih]
      simp
  unfold Mont.shlBits
  simp only [W64]
  rw [key]
  simp

/-- the limb-moving pass: `for i in .. { swap(&mut t, i) }` -/
theorem forMut_swap {f : Nat → Nat → Nat × Nat} (hf : ∀ t i, f t i = (i, t)) :
    ∀ (xs : List Nat) (t : Nat), (D.forMut f t xs).2 = (t :: xs).dropLast := by
  intro xs
  induction xs with
  | nil => intro t; simp [D.forMut]
  | cons x xs ih => intro t; simp only [D.forMut, hf, ih]; simp

theorem forMut_swap_shlLimb {f : Nat → Nat → Nat × Nat} (hf : ∀ t i, f t i = (i, t))
    {ls : List Nat} (h : ls ≠ []) : (D.forMut f 0 ls).2 = Mont.shlLimb ls := by
  rw [forMut_swap hf]
  cases ls with
  | nil => exact absurd rfl h
  | cons x xs => simp [Mont.shlLimb]

theorem forMutRev_swap_shrLimb {f : Nat → Nat → Nat × Nat} (hf : ∀ t i, f t i = (i, t))
    {ls : List Nat} (h : ls ≠ []) : (D.forMutRev f 0 ls).2 = Mont.shrLimb ls := by
  unfold D.forMutRev
  simp only
  rw [forMut_swap hf]
  cases ls with
  | nil => exact absurd rfl h
  | cons x xs =>
    simp only [List.reverse_cons, Mont.shrLimb, List.drop_one, List.tail_cons]
    rw [← List.cons_append, List.dropLast_concat]
    simp

theorem iter_congr {α : Type} {f g : α → α} (p : α → Prop) (hp : ∀ a, p a → p (g a))
    (h : ∀ a, p a → f a = g a) : ∀ (k : Nat) (a : α), p a → Mont.iter f k a = Mont.iter g k a := by
  intro k
  induction k with
  | zero => intro a _; rfl
  | succ k ih => intro a ha; simp only [Mont.iter]; rw [h a ha]; exact ih _ (hp a ha)

/-- `while n >= 64 { <move limbs>; n -= 64; }`, started at `n = 64 k + r` -/
theorem whileFuel_limbs_add {L : List Nat → List Nat} {cond : List Nat × Nat → Bool}
    {body : List Nat × Nat → Option (List Nat × Nat)}
    (hc : ∀ s, cond s = decide (s.2 ≥ 64)) (hb : ∀ s, body s = some (L s.1, s.2 - 64)) :
    ∀ (fuel : Nat) (ls : List Nat) (k r : Nat), r < 64 → k < fuel →
      D.whileFuel cond body fuel (ls, 64 * k + r) = some (Mont.iter L k ls, r) := by
  intro fuel
  induction fuel with
  | zero => intro ls k r _ h; exact absurd h (Nat.not_lt_zero k)
  | succ fuel ih =>
    intro ls k r hr h
    unfold D.whileFuel
    rw [hc]
    cases k with
    | zero =>
      rw [Nat.mul_zero, Nat.zero_add]
      simp only [Nat.not_le.2 hr, decide_false, Bool.false_eq_true, if_false, Mont.iter]
    | succ k =>
      have hn : 64 * (k + 1) + r ≥ 64 := by omega
      simp only [hn, decide_true, if_true, hb]
      rw [show 64 * (k + 1) + r - 64 = 64 * k + r by omega]
      exact ih (L ls) k r hr (Nat.lt_of_succ_lt_succ h)

theorem whileFuel_limbs {L : List Nat → List Nat} {cond : List Nat × Nat → Bool}
    {body : List Nat × Nat → Option (List Nat × Nat)}
    (hc : ∀ s, cond s = decide (s.2 ≥ 64)) (hb : ∀ s, body s = some (L s.1, s.2 - 64))
    (fuel : Nat) (ls : List Nat) (n : Nat) (h : n / 64 < fuel) :
    D.whileFuel cond body fuel (ls, n) = some (Mont.iter L (n / 64) ls, n % 64) := by
  have := whileFuel_limbs_add hc hb fuel ls (n / 64) (n % 64) (Nat.mod_lt n (by norm_num)) h
  rwa [Nat.div_add_mod] at this

/-- `num_bits`: the loop with `break` is the model's fold with a `done` flag -/
theorem forBreak_numBits {f : Nat → Nat → Nat × Bool}
    (hf : ∀ r i, f r i = (r - D.leading_zeros i, D.leading_zeros i != 64)) (xs : List Nat) (r : Nat) :
    D.forBreak f r xs =
      (xs.foldl (fun (acc : Nat × Bool) i =>
        if acc.2 then acc else
        let lead := Mont.leadingZeros64 i
        (acc.1 - lead, lead != 64)) (r, false)).1 := by
  -- no lemma: only the `let` of the statement is reduced
  simp only []
  have stuck : ∀ (xs : List Nat) (r : Nat),
      xs.foldl (fun (acc : Nat × Bool) i =>
        if acc.2 then acc else
        (acc.1 - Mont.leadingZeros64 i, Mont.leadingZeros64 i != 64)) (r, true) = (r, true) := by
    intro xs; induction xs with
    | nil => intro r; rfl
    | cons x xs ih => intro r; simp only [List.foldl_cons, if_true]; exact ih r
  induction xs generalizing r with
  | nil => rfl
  | cons x xs ih =>
    simp only [D.forBreak, List.foldl_cons, hf, leading_zeros_eq]
    by_cases h : (Mont.leadingZeros64 x != 64) = true
    · simp [h, stuck]
    · have h' : (Mont.leadingZeros64 x != 64) = false := by simpa using h
      simp only [h']
      rw [ih]
      simp

/-- `Ord::cmp` of a repr: the loop with `return` is the model's fold -/
theorem findSome_cmp {g : Nat × Nat → Option Ordering}
    (hg : ∀ x, g x = if decide (x.1 < x.2) then some Ordering.lt else
      if decide (x.1 > x.2) then some Ordering.gt else none) (l : List (Nat × Nat)) :
    ordToInt (match List.findSome? g l with | some ret => ret | none => Ordering.eq) =
      l.foldl (fun (acc : Int) (x : Nat × Nat) =>
        if acc ≠ 0 then acc else if x.1 < x.2 then -1 else if x.1 > x.2 then 1 else 0) 0 := by
  have stuck : ∀ (l : List (Nat × Nat)) (acc : Int), acc ≠ 0 →
      l.foldl (fun (acc : Int) (x : Nat × Nat) =>
        if acc ≠ 0 then acc else if x.1 < x.2 then -1 else if x.1 > x.2 then 1 else 0) acc = acc := by
    intro l
    induction l with
    | nil => intro acc _; rfl
    | cons x xs ih => intro acc h; rw [List.foldl_cons, if_pos h]; exact ih acc h
  induction l with
  | nil => rfl
  | cons x xs ih =>
    rw [List.findSome?_cons, List.foldl_cons, hg, if_neg (by decide : ¬ (0 : Int) ≠ 0)]
    by_cases h1 : x.1 < x.2
    · rw [if_pos (decide_eq_true h1), if_pos h1, stuck _ _ (by decide)]; rfl
    · rw [if_neg (by simpa using h1), if_neg h1]
      by_cases h2 : x.1 > x.2
      · rw [if_pos (decide_eq_true h2), if_pos h2, stuck _ _ (by decide)]; rfl
      · rw [if_neg (by simpa using h2), if_neg h2]
        exact ih


/-! ## 3. the repr type

The functions in which the limb count does not occur (`eq`, `cmp`, `partial_cmp`, `is_odd`, `is_even`, `is_zero`,
`div2`, `mul2`, `add_nocarry`, `sub_noborrow`) are the same terms for `FqRepr` and `FrRepr`: a lemma about
`D.FqRepr.f` is a lemma about `D.FrRepr.f` as it stands (up to unfolding both). -/

theorem FqRepr_default : D.FqRepr.default = List.replicate 6 0 := rfl
theorem FrRepr_default : D.FrRepr.default = List.replicate 4 0 := rfl
theorem FqRepr_partial_cmp (a b : List Nat) : D.FqRepr.partial_cmp a b = some (D.FqRepr.cmp a b) := rfl
theorem FrRepr_partial_cmp (a b : List Nat) : D.FrRepr.partial_cmp a b = some (D.FrRepr.cmp a b) := rfl

theorem FqRepr_cmp (a b : List Nat) : ordToInt (D.FqRepr.cmp a b) = Mont.cmp a b := by
  unfold D.FqRepr.cmp Mont.cmp
  exact findSome_cmp (fun _ => rfl) _

theorem FqRepr_is_odd (a : List Nat) : D.FqRepr.is_odd a = Mont.isOdd a := by cases a <;> rfl
theorem FqRepr_is_even (a : List Nat) : D.FqRepr.is_even a = !Mont.isOdd a := by
  unfold D.FqRepr.is_even; rw [FqRepr_is_odd]

theorem FqRepr_is_zero (a : List Nat) : D.FqRepr.is_zero a = Mont.isZero a := rfl
theorem FqRepr_div2 (a : List Nat) : D.FqRepr.div2 a = Mont.div2 a := by
  unfold D.FqRepr.div2; rw [div2_eq_shrBits]
  exact forMutRev_shrBits (n := 1) (fun _ _ => rfl) a

theorem FqRepr_mul2 (a : List Nat) : D.FqRepr.mul2 a = Mont.mul2 a := by
  unfold D.FqRepr.mul2; rw [mul2_eq_shlBits]
  exact forMut_shlBits (n := 1) (fun _ _ => rfl) a

theorem FqRepr_add_nocarry {a b : List Nat} (ha : LimbsOK a) (hb : LimbsOK b) (hl : a.length = b.length) :
    D.FqRepr.add_nocarry a b = Mont.addNocarry a b 0 := by
  unfold D.FqRepr.add_nocarry
  exact forMutZip_adc (fun _ _ _ => rfl) a b 0 ha hb (by norm_num) hl

theorem FqRepr_sub_noborrow {a b : List Nat} (hl : a.length = b.length) :
    D.FqRepr.sub_noborrow a b = Mont.subNoborrow a b 0 := by
  unfold D.FqRepr.sub_noborrow
  exact forMutZip_sbb (fun _ _ _ => rfl) a b 0 hl

/-! ### the functions in which the limb count occurs: `D.FqRepr.f = G.f 6`, `D.FrRepr.f = G.f 4`
(`shr`, `shl`: `G.shift` at the two passes of the function) -/

namespace G

def from_u64 (N val : Nat) : List Nat := (List.replicate N 0).set 0 val

def num_bits (N : Nat) (self : List Nat) : Nat :=
  D.forBreak (fun ret i =>
      if D.leading_zeros i != 64 then (ret - D.leading_zeros i, true) else (ret - D.leading_zeros i, false))
    (N * 64) self.reverse

/-- `shr` / `shl`: whole limbs by the pass `mv`, then the remaining bits by the pass `bits` -/
def shift (N : Nat) (mv : List Nat → List Nat) (bits : Nat → List Nat → List Nat) (fuel : Nat)
    (self : List Nat) (n : Nat) : Option (List Nat) :=
  if decide (n ≥ 64 * N) then some (from_u64 N 0)
  else
    match D.whileFuel (fun (_self, n) => decide (n ≥ 64)) (fun (self, n) => some (mv self, n - 64)) fuel
        (self, n) with
    | none => none
    | some (self, n) => some (if decide (n > 0) then bits n self else self)

theorem num_bits_eq {N : Nat} {a : List Nat} (hl : a.length = N) : num_bits N a = Mont.numBits a := by
  unfold num_bits Mont.numBits
  rw [hl]
  exact forBreak_numBits (fun r i => by by_cases h : (D.leading_zeros i != 64) = true <;> simp [h]) _ _

/-- the right side is `Mont.shr a n` for `mvM = shrLimb`, `bitsM = shrBits`, and `Mont.shl a n` for `shlLimb`,
    `shlBits` -/
theorem shift_eq {N : Nat} {mv mvM : List Nat → List Nat} {bits : Nat → List Nat → List Nat}
    {bitsM : List Nat → Nat → List Nat} (hmv : ∀ ls, ls ≠ [] → mv ls = mvM ls) (hne : ∀ ls, mvM ls ≠ [])
    (hbits : ∀ k ls, bits k ls = bitsM ls k) (fuel : Nat) {a : List Nat} (n : Nat) (hl : a.length = N + 1)
    (hf : n / 64 < fuel) :
    shift (N + 1) mv bits fuel a n =
      some (if n ≥ 64 * a.length then a.map (fun _ => 0)
        else if n % 64 > 0 then bitsM (Mont.iter mvM (n / 64) a) (n % 64) else Mont.iter mvM (n / 64) a) := by
  have hne' : a ≠ [] := by intro h; rw [h] at hl; exact absurd hl.symm (Nat.succ_ne_zero N)
  unfold shift
  rw [hl]
  by_cases h : n ≥ 64 * (N + 1)
  · simp only [h, decide_true, if_true]
    rw [List.map_const', hl]; rfl
  · simp only [h, decide_false, Bool.false_eq_true, if_false]
    rw [whileFuel_limbs (L := mv) (fun _ => rfl) (fun _ => rfl) fuel a n hf]
    -- no lemma: only the `match` on the resulting pair is reduced
    simp only []
    rw [iter_congr (· ≠ []) (fun a _ => hne a) hmv _ _ hne', hbits]
    by_cases h0 : n % 64 > 0
    · simp only [h0, decide_true, if_true]
    · simp only [h0, decide_false, Bool.false_eq_true, if_false]

end G

/-! ### limb lists and numbers -/

theorem limbs_iff {n : Nat} {a : List Nat} : Limbs n a ↔ LimbsOK a ∧ a.length = n :=
  ⟨fun h => ⟨h.2, h.1⟩, fun h => ⟨h.2, h.1⟩⟩

/-- `a` is the `n`-limb representation of the number `x` -/
def Rep (n : Nat) (a : List Nat) (x : Nat) : Prop := Limbs n a ∧ limbsToNat a = x

section rep
variable {n x y : Nat} {a b : List Nat}

theorem Rep.eq_limbsOf (h : Rep n a x) : a = limbsOf n x := by
  rw [← h.2, limbsOf_limbsToNat h.1.2 h.1.1]

theorem Rep.lt (h : Rep n a x) : x < 2 ^ (64 * n) := by
  have := limbsToNat_lt h.1.2; rwa [h.1.1, h.2] at this

theorem rep_cons {v : Nat} (hv : v < 2 ^ 64) (h : Rep n a x) : Rep (n + 1) (v :: a) (v + 2 ^ 64 * x) :=
  ⟨⟨by rw [List.length_cons, h.1.1], LimbsOK_cons.2 ⟨hv, h.1.2⟩⟩, by rw [limbsToNat_cons, h.2]⟩

theorem rep_zeros : ∀ m : Nat, Rep m (List.replicate m 0) 0
  | 0 => ⟨⟨rfl, LimbsOK_nil⟩, rfl⟩
  | m + 1 => rep_cons (by norm_num) (rep_zeros m)

theorem from_u64_rep {v : Nat} (hn : 0 < n) (hv : v < 2 ^ 64) : Rep n (G.from_u64 n v) v := by
  obtain ⟨m, rfl⟩ : ∃ m, n = m + 1 := ⟨n - 1, by omega⟩
  have := rep_cons hv (rep_zeros m)
  rwa [Nat.mul_zero, Nat.add_zero] at this

theorem add_nocarry_rep (ha : Rep n a x) (hb : Rep n b y) :
    Rep n (D.FqRepr.add_nocarry a b) ((x + y) % 2 ^ (64 * n)) := by
  have hl : a.length = b.length := by rw [ha.1.1, hb.1.1]
  rw [FqRepr_add_nocarry ha.1.2 hb.1.2 hl]
  refine ⟨⟨by rw [addNocarry_length 0 hl, ha.1.1], addNocarry_ok a b 0⟩, ?_⟩
  rw [limbsToNat_addNocarry hl, ha.1.1, ha.2, hb.2]

theorem sub_noborrow_rep (ha : Rep n a x) (hb : Rep n b y) :
    Rep n (D.FqRepr.sub_noborrow a b) ((x + 2 ^ (64 * n) - y) % 2 ^ (64 * n)) := by
  have hl : a.length = b.length := by rw [ha.1.1, hb.1.1]
  rw [FqRepr_sub_noborrow hl]
  refine ⟨⟨by rw [subNoborrow_length 0 hl, ha.1.1], subNoborrow_ok a b 0⟩, ?_⟩
  rw [limbsToNat_subNoborrow ha.1.2 hb.1.2 hl, ha.1.1, ha.2, hb.2]

theorem mul2_rep (ha : Rep n a x) : Rep n (D.FqRepr.mul2 a) (2 * x % 2 ^ (64 * n)) := by
  rw [FqRepr_mul2]
  refine ⟨⟨by rw [mul2_length, ha.1.1], mul2_ok ha.1.2⟩, ?_⟩
  rw [limbsToNat_mul2 ha.1.2, ha.1.1, ha.2, Nat.mul_comm]

theorem div2_rep (ha : Rep n a x) : Rep n (D.FqRepr.div2 a) (x / 2) := by
  rw [FqRepr_div2]
  exact ⟨⟨by rw [div2_length, ha.1.1], div2_ok ha.1.2⟩, by rw [limbsToNat_div2 ha.1.2, ha.2]⟩

theorem cmp_rep (ha : Rep n a x) (hb : Rep n b y) : D.FqRepr.cmp a b = compare x y := by
  apply ordToInt_injective
  rw [FqRepr_cmp, cmp_eq ha.1.2 hb.1.2 (by rw [ha.1.1, hb.1.1]), ha.2, hb.2]
  rcases Nat.lt_trichotomy x y with h | h | h
  · rw [if_pos h, Nat.compare_eq_lt.2 h]; rfl
  · rw [if_neg (by omega), if_neg (by omega), Nat.compare_eq_eq.2 h]; rfl
  · rw [if_neg (by omega), if_pos h, Nat.compare_eq_gt.2 h]; rfl

theorem lt_rep (ha : Rep n a x) (hb : Rep n b y) :
    (D.FqRepr.partial_cmp a b == some Ordering.lt) = decide (x < y) := by
  rw [FqRepr_partial_cmp, cmp_rep ha hb, Bool.eq_iff_iff]
  simp [Nat.compare_eq_lt]

theorem gt_rep (ha : Rep n a x) (hb : Rep n b y) :
    (D.FqRepr.partial_cmp a b == some Ordering.gt) = decide (x > y) := by
  rw [FqRepr_partial_cmp, cmp_rep ha hb, Bool.eq_iff_iff]
  simp [Nat.compare_eq_gt]

theorem eq_rep (ha : Rep n a x) (hb : Rep n b y) : D.FqRepr.eq a b = decide (x = y) := by
  show (a == b) = _
  by_cases h : x = y
  · rw [ha.eq_limbsOf, hb.eq_limbsOf, h]; simp
  · have : a ≠ b := fun e => h (by rw [← ha.2, ← hb.2, e])
    simp [this, h]

theorem is_zero_val (a : List Nat) : D.FqRepr.is_zero a = decide (limbsToNat a = 0) := by
  rw [FqRepr_is_zero, isZero_eq]
  by_cases h : limbsToNat a = 0 <;> simp [h]

theorem is_even_val (a : List Nat) : D.FqRepr.is_even a = decide (limbsToNat a % 2 = 0) := by
  rw [FqRepr_is_even, isOdd_eq]
  by_cases h : limbsToNat a % 2 = 0
  · simp [h]
  · have : limbsToNat a % 2 = 1 := by omega
    simp [this]

end rep

/-! ## 4. the field type

`G.f` is the generated text of `Fq::f` with the constants and the unrolled multiplication as parameters:
`D.Fq.f` is `G.f` at `D.Fq.MODULUS`, `D.Fq.R`, `D.Fq.R2`, `D.Fq.mul_assign`, `D.Fq.square` by definition, and
`D.Fr.f` at the constants of `Fr`. -/

namespace G
variable (M : List Nat)

def is_valid (self : List Nat) : Bool := D.FqRepr.partial_cmp self M == some Ordering.lt

def reduce (self : List Nat) : List Nat :=
  if !(is_valid M self) then D.FqRepr.sub_noborrow self M else self

def add_assign (self other : List Nat) : List Nat := reduce M (D.FqRepr.add_nocarry self other)

def double (self : List Nat) : List Nat := reduce M (D.FqRepr.mul2 self)

def sub_assign (self other : List Nat) : List Nat :=
  D.FqRepr.sub_noborrow
    (if D.FqRepr.partial_cmp other self == some Ordering.gt then D.FqRepr.add_nocarry self M else self) other

def negate (self : List Nat) : List Nat :=
  if !(D.FqRepr.is_zero self) then D.FqRepr.sub_noborrow M self else self

def from_repr (mul : List Nat → List Nat → List Nat) (R2 r : List Nat) : Option (List Nat) :=
  if is_valid M r then some (mul r R2) else none

/-- one round of the loop of `pow` -/
def powStep (sq : List Nat → List Nat) (mul : List Nat → List Nat → List Nat) (self : List Nat) :
    List Nat × Bool → Bool → List Nat × Bool := fun (res, found_one) i =>
  let (res, found_one) := if found_one then (sq res, found_one) else (res, i)
  let res := if i then mul res self else res
  (res, found_one)

def pow (one : List Nat) (sq : List Nat → List Nat) (mul : List Nat → List Nat → List Nat)
    (self exp : List Nat) : List Nat :=
  (List.foldl (powStep sq mul self) (one, false) (PP.bitsMSB exp)).1

end G

theorem is_valid_rep {n x p : Nat} {a M : List Nat} (ha : Rep n a x) (hM : Rep n M p) :
    G.is_valid M a = decide (x < p) := lt_rep ha hM

/-- what the lemmas use of the constants and of the unrolled multiplication of one field -/
structure Ctx (P : Params) (M R R2 : List Nat) (mul : List Nat → List Nat → List Nat)
    (sq : List Nat → List Nat) (pw : List Nat → List Nat → List Nat) : Prop where
  wf : P.WF
  hM : Rep P.limbs M P.p
  hR : Rep P.limbs R P.R
  hR2 : Rep P.limbs R2 P.R2
  hmul : ∀ {a b x y}, Rep P.limbs a x → Rep P.limbs b y → Rep P.limbs (mul a b) (Mont.mul P x y)
  hsq : ∀ {a x}, Rep P.limbs a x → Rep P.limbs (sq a) (Mont.square P x)
  hpw : ∀ a e, pw a e = G.pow R sq mul a e

namespace Ctx
variable {P : Params} {M R R2 : List Nat} {mul : List Nat → List Nat → List Nat} {sq : List Nat → List Nat}
  {pw : List Nat → List Nat → List Nat} (C : Ctx P M R R2 mul sq pw) {a b : List Nat} {x y : Nat}
include C

theorem reduce (ha : Rep P.limbs a x) : Rep P.limbs (G.reduce M a) (Mont.reduce P x) := by
  unfold G.reduce Mont.reduce
  rw [is_valid_rep ha C.hM]
  by_cases h : x < P.p
  · simp only [h, decide_true, Bool.not_true, Bool.false_eq_true, if_false, if_true]
    exact ha
  · simp only [h, decide_false, Bool.not_false, if_true, if_false]
    exact sub_noborrow_rep ha C.hM

theorem add_assign (ha : Rep P.limbs a x) (hb : Rep P.limbs b y) :
    Rep P.limbs (G.add_assign M a b) (Mont.add P x y) := C.reduce (add_nocarry_rep ha hb)

theorem double (ha : Rep P.limbs a x) : Rep P.limbs (G.double M a) (Mont.double P x) :=
  C.reduce (mul2_rep ha)

theorem sub_assign (ha : Rep P.limbs a x) (hb : Rep P.limbs b y) :
    Rep P.limbs (G.sub_assign M a b) (Mont.sub P x y) := by
  unfold G.sub_assign Mont.sub
  rw [gt_rep hb ha]
  by_cases h : y > x
  · simp only [h, decide_true, if_true]
    exact sub_noborrow_rep (add_nocarry_rep ha C.hM) hb
  · simp only [h, decide_false, Bool.false_eq_true, if_false]
    exact sub_noborrow_rep ha hb

theorem negate (ha : Rep P.limbs a x) : Rep P.limbs (G.negate M a) (Mont.neg P x) := by
  unfold G.negate Mont.neg
  rw [is_zero_val, ha.2]
  by_cases h : x = 0
  · simp only [h, decide_true, Bool.not_true, Bool.false_eq_true, if_false, if_true]
    exact h ▸ ha
  · simp only [h, decide_false, Bool.not_false, if_true, if_false]
    exact sub_noborrow_rep C.hM ha

theorem from_repr (ha : Rep P.limbs a x) :
    G.from_repr M mul R2 a = (Mont.fromRepr P x).map (limbsOf P.limbs) := by
  unfold G.from_repr Mont.fromRepr
  rw [is_valid_rep ha C.hM]
  by_cases h : x < P.p
  · simp only [h, decide_true, if_true, Option.map_some]
    rw [(C.hmul ha C.hR2).eq_limbsOf]
  · simp only [h, decide_false, Bool.false_eq_true, if_false, Option.map_none]

theorem pow_loop (ha : Rep P.limbs a x) : ∀ (bits : List Bool) (res : List Nat) (found : Bool) (y : Nat),
    Rep P.limbs res y →
      Rep P.limbs (bits.foldl (G.powStep sq mul a) (res, found)).1 (Mont.powLoop P x bits (y, found)).1 := by
  intro bits
  induction bits with
  | nil => intro res found y hres; exact hres
  | cons i bs ih =>
    intro res found y hres
    cases found <;> cases i
    · exact ih res false y hres
    · exact ih _ true _ (C.hmul hres ha)
    · exact ih _ true _ (C.hsq hres)
    · exact ih _ true _ (C.hmul (C.hsq hres) ha)

theorem pow (ha : Rep P.limbs a x) (e : List Nat) : Rep P.limbs (pw a e) (Mont.pow P x e) := by
  rw [C.hpw]
  exact C.pow_loop ha (bitsMSB e) R false P.R C.hR

end Ctx

/-- the unrolled multiplication and squaring enter through the generators of their programs
    (PP/Props/C08Limb.lean) -/
theorem Ctx.of_progs {P : Params} {M R R2 : List Nat} {mp sp mr : List MontLimb.Instr}
    {pw : List Nat → List Nat → List Nat} (h : P.WF) (hn : 2 ≤ P.limbs)
    (hmp : mp = MontLimb.genMulProg P.limbs) (hsp : sp = MontLimb.genSquareProg P.limbs)
    (hmr : mr = MontLimb.genMontReduceProg P.limbs) (hM : Rep P.limbs M P.p) (hR : Rep P.limbs R P.R)
    (hR2 : Rep P.limbs R2 P.R2)
    (hpw : ∀ a e, pw a e = G.pow R (MontLimb.runSquare P sp mr) (MontLimb.runMul P mp mr) a e) :
    Ctx P M R R2 (MontLimb.runMul P mp mr) (MontLimb.runSquare P sp mr) pw where
  wf := h
  hM := hM
  hR := hR
  hR2 := hR2
  hmul ha hb := ⟨run_limbs P _ _ ha.1 hb.1.2, by subst hmp hmr; rw [gen_mul_eq h ha.1 hb.1, ha.2, hb.2]⟩
  hsq ha := ⟨run_limbs P _ _ ha.1 (by intro l hl; cases hl),
    by subst hsp hmr; rw [gen_square_eq h hn ha.1, ha.2]⟩
  hpw := hpw

theorem fqC : Ctx fqP D.Fq.MODULUS D.Fq.R D.Fq.R2 D.Fq.mul_assign D.Fq.square D.Fq.pow :=
  Ctx.of_progs fqP_wf (by decide) fq_mul_prog fq_square_prog fq_mont_reduce_prog
    ⟨⟨rfl, by decide⟩, by decide +kernel⟩ ⟨⟨rfl, by decide⟩, by decide +kernel⟩
    ⟨⟨rfl, by decide⟩, by decide +kernel⟩ (fun _ _ => rfl)

theorem frC : Ctx frP D.Fr.MODULUS D.Fr.R D.Fr.R2 D.Fr.mul_assign D.Fr.square D.Fr.pow :=
  Ctx.of_progs frP_wf (by decide) fr_mul_prog fr_square_prog fr_mont_reduce_prog
    ⟨⟨rfl, by decide⟩, by decide +kernel⟩ ⟨⟨rfl, by decide⟩, by decide +kernel⟩
    ⟨⟨rfl, by decide⟩, by decide +kernel⟩ (fun _ _ => rfl)

/-! ### `into_repr`: `mont_reduce` of the limbs followed by as many zeros -/

theorem runMontReduce_limbs (P : Params) (mr : List MontLimb.Instr) {rs : List Nat} (hrs : LimbsOK rs) :
    Limbs P.limbs (MontLimb.runMontReduce P mr rs) := by
  unfold MontLimb.runMontReduce
  refine ⟨MontLimb.out_length P _, MontLimb.out_ok P (MontLimb.runBody_ok P mr ?_)⟩
  have h0 := MontLimb.initState_ok (a := []) (b := []) (by intro l hl; cases hl) (by intro l hl; cases hl)
  exact { r := fun i => MontLimb.limbFn_lt hrs i, k := h0.k, carry := h0.carry, carry2 := h0.carry2,
          self := h0.self, other := h0.other }

theorem mont_reduce_pad {P : Params} (h : P.WF) {mr : List MontLimb.Instr}
    (hmr : mr = MontLimb.genMontReduceProg P.limbs) {a : List Nat} {x : Nat} (ha : Rep P.limbs a x) :
    Rep P.limbs (MontLimb.runMontReduce P mr (a ++ List.replicate P.limbs 0)) (Mont.intoRepr P x) := by
  subst hmr
  have hz := rep_zeros P.limbs
  have hok : LimbsOK (a ++ List.replicate P.limbs 0) := LimbsOK_append.2 ⟨ha.1.2, hz.1.2⟩
  refine ⟨runMontReduce_limbs P _ hok, ?_⟩
  rw [gen_mont_reduce_eq h ⟨by rw [List.length_append, ha.1.1, hz.1.1, Nat.two_mul], hok⟩, limbsToNat_append,
    hz.2, ha.2, Nat.mul_zero, Nat.add_zero]
  rfl

/- The generated `into_repr` names the limbs `a[0]`, …, so the list is split into its entries first.
`(e :)` below: `e` is elaborated before it is compared with the goal.  Compared first, with the program still
unknown, Lean tries to run the interpreter. -/

theorem Fq_into_repr {a : List Nat} {x : Nat} (ha : Rep 6 a x) :
    Rep 6 (D.Fq.into_repr a) (Mont.intoRepr fqP x) := by
  match a, ha.1.1, ha with
  | [a0, a1, a2, a3, a4, a5], _, ha => exact (mont_reduce_pad fqP_wf fq_mont_reduce_prog ha :)

theorem Fr_into_repr {a : List Nat} {x : Nat} (ha : Rep 4 a x) :
    Rep 4 (D.Fr.into_repr a) (Mont.intoRepr frP x) := by
  match a, ha.1.1, ha with
  | [a0, a1, a2, a3], _, ha => exact (mont_reduce_pad frP_wf fr_mont_reduce_prog ha :)

/-! ### `inverse`

The generated inner loops (`while u.is_even() {..}`) return `none` when they have not finished after `fuel`
tests; the model's `stripEven` returns the current state instead.  `stripH` / `invH` are the integer-level
loops with the generated (honest) convention; they agree with the model's on every state that
`inverse` can reach (`u ≠ 0`, and `v = 0` only together with an odd `u`), for every inner fuel
`≥ 64·limbs`. -/

def stripH (P : Params) : Nat → Nat × Nat → Option (Nat × Nat)
  | 0, _ => none
  | fuel + 1, (u, b) => if u % 2 = 0 then stripH P fuel (u / 2, halveMod P b) else some (u, b)

def invH (P : Params) (F : Nat) : Nat → Nat → Nat → Nat → Nat → Option Nat
  | 0, _, _, _, _ => none
  | fuel + 1, u, v, b, c =>
    if u = 1 then some b else if v = 1 then some c else
    match stripH P F (u, b) with
    | none => none
    | some (u, b) =>
      match stripH P F (v, c) with
      | none => none
      | some (v, c) =>
        if v < u then invH P F fuel (u - v) v (Mont.sub P b c) c
        else invH P F fuel u (v - u) b (Mont.sub P c b)

theorem odd_ne_zero {n : Nat} (h : n % 2 = 1) : n ≠ 0 := by
  rintro rfl; exact absurd h (by decide)

/-- for `0 < u < 2^F` the honest strip finishes, with an odd number, and the model's strip with any fuel `m`
    such that `u < 2^m` gives the same state -/
theorem stripH_spec {P : Params} : ∀ (F u b : Nat), u ≠ 0 → u < 2 ^ F →
    ∃ st, stripH P F (u, b) = some st ∧ st.1 % 2 = 1 ∧ st.1 ≤ u ∧
      ∀ m, u < 2 ^ m → stripEven P m (u, b) = st := by
  intro F
  induction F with
  | zero => intro u b h0 h; exact absurd (Nat.lt_one_iff.1 h) h0
  | succ F ih =>
    intro u b h0 h
    simp only [stripH]
    by_cases he : u % 2 = 0
    · rw [if_pos he]
      have h2 : u / 2 ≠ 0 := by omega
      obtain ⟨st, hs, ho, hle, hm⟩ := ih (u / 2) (halveMod P b) h2
        (Nat.div_lt_of_lt_mul (Nat.pow_succ' ▸ h))
      refine ⟨st, hs, ho, Nat.le_trans hle (Nat.div_le_self u 2), fun m hu => ?_⟩
      cases m with
      | zero => exact absurd (Nat.lt_one_iff.1 hu) h0
      | succ m =>
        simp only [stripEven]
        rw [if_pos he]
        exact hm m (Nat.div_lt_of_lt_mul (Nat.pow_succ' ▸ hu))
    · rw [if_neg he]
      refine ⟨(u, b), rfl, Nat.mod_two_ne_zero.1 he, Nat.le_refl _, fun m _ => ?_⟩
      cases m with
      | zero => rfl
      | succ m => simp only [stripEven]; rw [if_neg he]

theorem stripEven_odd {P : Params} (fuel : Nat) {u : Nat} (b : Nat) (h : u % 2 = 1) :
    stripEven P fuel (u, b) = (u, b) := by
  cases fuel with
  | zero => rfl
  | succ fuel => exact Mont.stripEven_of_odd fuel b (by omega)

theorem stripEven_zero {P : Params} : ∀ (k : Nat) (c : Nat), (stripEven P k (0, c)).1 = 0 := by
  intro k
  induction k with
  | zero => intro c; rfl
  | succ k ih => intro c; simp only [stripEven]; simpa using ih _

theorem stripH_zero {P : Params} : ∀ (F c : Nat), stripH P F (0, c) = none := by
  intro F
  induction F with
  | zero => intro c; rfl
  | succ F ih => intro c; simp only [stripH]; simpa using ih _

/-- once `v = 0` (with `u` odd and `≠ 1` at every test) the model's loop runs out of fuel -/
theorem invLoop_v_zero {P : Params} : ∀ (fuel u b c : Nat), u % 2 = 1 → invLoop P fuel u 0 b c = none ∨
    u = 1 := by
  intro fuel
  induction fuel with
  | zero => intro u b c _; left; rfl
  | succ fuel ih =>
    intro u b c hu
    by_cases h1 : u = 1
    · right; exact h1
    · left
      simp only [invLoop, h1, if_false, show (0 : Nat) ≠ 1 by decide]
      rw [stripEven_odd _ b hu]
      have hz := stripEven_zero (P := P) (64 * P.limbs) c
      generalize stripEven P (64 * P.limbs) (0, c) = vc at hz
      obtain ⟨v', c'⟩ := vc
      simp only at hz
      subst hz
      simp only [show 0 < u by omega, if_true, Nat.sub_zero]
      rcases ih u (Mont.sub P b c') c' hu with h | h
      · exact h
      · exact absurd h h1

theorem invH_step (P : Params) (F f u v b c : Nat) (hu : u ≠ 1) (hv : v ≠ 1) {s t : Nat × Nat}
    (hs : stripH P F (u, b) = some s) (ht : stripH P F (v, c) = some t) :
    invH P F (f + 1) u v b c =
      if t.1 < s.1 then invH P F f (s.1 - t.1) t.1 (Mont.sub P s.2 t.2) t.2
      else invH P F f s.1 (t.1 - s.1) s.2 (Mont.sub P t.2 s.2) := by
  simp only [invH, hu, hv, if_false, hs, ht]

theorem invH_eq_invLoop {P : Params} {F : Nat} (hF : 64 * P.limbs ≤ F) :
    ∀ (fuel u v b c : Nat), u ≠ 0 → u < 2 ^ (64 * P.limbs) → v < 2 ^ (64 * P.limbs) →
      (v = 0 → u % 2 = 1) → invH P F fuel u v b c = invLoop P fuel u v b c := by
  have hpow : 2 ^ (64 * P.limbs) ≤ 2 ^ F := Nat.pow_le_pow_right (by norm_num) hF
  intro fuel
  induction fuel with
  | zero => intro u v b c _ _ _ _; rfl
  | succ fuel ih =>
    intro u v b c hu0 hu hv hinv
    by_cases h1 : u = 1
    · simp only [invH, invLoop, h1, if_true]
    by_cases h2 : v = 1
    · simp only [invH, invLoop, h1, h2, if_true, if_false]
    by_cases hv0 : v = 0
    · -- the honest inner loop gives up on v = 0; the model runs out of (outer) fuel
      subst hv0
      rcases invLoop_v_zero (P := P) (fuel + 1) u b c (hinv rfl) with h | h
      · rw [h]
        simp only [invH, h1, h2, if_false]
        cases hs : stripH P F (u, b) with
        | none => rfl
        | some st => obtain ⟨u', b'⟩ := st; simp only [stripH_zero]
      · exact absurd h h1
    · obtain ⟨s, hs, ho, hle, hm⟩ := stripH_spec (P := P) F u b hu0 (Nat.lt_of_lt_of_le hu hpow)
      obtain ⟨t, ht, ho', hle', hm'⟩ := stripH_spec (P := P) F v c hv0 (Nat.lt_of_lt_of_le hv hpow)
      have hs1 : s.1 < 2 ^ (64 * P.limbs) := Nat.lt_of_le_of_lt hle hu
      have ht1 : t.1 < 2 ^ (64 * P.limbs) := Nat.lt_of_le_of_lt hle' hv
      rw [invH_step P F fuel u v b c h1 h2 hs ht, invLoop_succ P fuel h1 h2 (hm _ hu) (hm' _ hv)]
      by_cases hlt : t.1 < s.1
      · rw [if_pos hlt, if_pos hlt]
        exact ih _ _ _ _ (Nat.sub_ne_zero_of_lt hlt) (Nat.lt_of_le_of_lt (Nat.sub_le _ _) hs1) ht1
          (fun h => absurd h (odd_ne_zero ho'))
      · rw [if_neg hlt, if_neg hlt]
        exact ih _ _ _ _ (odd_ne_zero ho) hs1 (Nat.lt_of_le_of_lt (Nat.sub_le _ _) ht1) (fun _ => ho)

namespace G

def condU : List Nat × List Nat → Bool := fun (u, _b) => D.FqRepr.is_even u

def bodyU (M : List Nat) : List Nat × List Nat → Option (List Nat × List Nat) := fun (u, b) =>
  some (D.FqRepr.div2 u,
    if D.FqRepr.is_even b then D.FqRepr.div2 b else D.FqRepr.div2 (D.FqRepr.add_nocarry b M))

def condO (one : List Nat) : List Nat × List Nat × List Nat × List Nat → Bool := fun (u, v, _b, _c) =>
  (!(D.FqRepr.eq u one)) && (!(D.FqRepr.eq v one))

def bodyO (M : List Nat) (F' : Nat) : List Nat × List Nat × List Nat × List Nat →
    Option (List Nat × List Nat × List Nat × List Nat) := fun (u, v, b, c) =>
  match D.whileFuel condU (bodyU M) F' (u, b) with
  | none => none
  | some (u, b) =>
    match D.whileFuel condU (bodyU M) F' (v, c) with
    | none => none
    | some (v, c) =>
      some (if D.FqRepr.partial_cmp v u == some Ordering.lt
        then (D.FqRepr.sub_noborrow u v, v, sub_assign M b c, c)
        else (u, D.FqRepr.sub_noborrow v u, b, sub_assign M c b))

/-- what `inverse` returns from the final state of its main loop -/
def fin (one : List Nat) (st : List Nat × List Nat × List Nat × List Nat) : List Nat :=
  if D.FqRepr.eq st.1 one then st.2.2.1 else st.2.2.2

def inverse (N : Nat) (M R2 : List Nat) (fuel : Nat) (self : List Nat) : Option (Option (List Nat)) :=
  if D.FqRepr.is_zero self then some none else
    match D.whileFuel (condO (from_u64 N 1)) (bodyO M fuel) fuel (self, M, R2, from_u64 N 0) with
    | none => none
    | some (u, _v, b, c) => if D.FqRepr.eq u (from_u64 N 1) then some (some b) else some (some c)

end G

namespace Ctx
variable {P : Params} {M R R2 : List Nat} {mul : List Nat → List Nat → List Nat} {sq : List Nat → List Nat}
  {pw : List Nat → List Nat → List Nat} (C : Ctx P M R R2 mul sq pw)
include C

theorem halve {b : List Nat} {y : Nat} (hb : Rep P.limbs b y) :
    Rep P.limbs (if D.FqRepr.is_even b then D.FqRepr.div2 b else D.FqRepr.div2 (D.FqRepr.add_nocarry b M))
      (halveMod P y) := by
  rw [is_even_val, hb.2]
  unfold halveMod
  by_cases h : y % 2 = 0
  · simp only [h, decide_true, if_true]
    exact div2_rep hb
  · simp only [h, decide_false, Bool.false_eq_true, if_false]
    exact div2_rep (add_nocarry_rep hb C.hM)

theorem strip : ∀ (F' : Nat) {u b : List Nat} {U B : Nat}, Rep P.limbs u U → Rep P.limbs b B →
    Option.Rel (fun st ST => Rep P.limbs st.1 ST.1 ∧ Rep P.limbs st.2 ST.2)
      (D.whileFuel G.condU (G.bodyU M) F' (u, b)) (stripH P F' (U, B)) := by
  intro F'
  induction F' with
  | zero => intro u b U B _ _; exact Option.Rel.none
  | succ F' ih =>
    intro u b U B hu hb
    simp only [D.whileFuel, stripH]
    have hc : G.condU (u, b) = decide (U % 2 = 0) := by rw [← hu.2]; exact is_even_val u
    rw [hc]
    by_cases h : U % 2 = 0
    · simp only [h, decide_true, if_true]
      exact ih (div2_rep hu) (C.halve hb)
    · simp only [h, decide_false, Bool.false_eq_true, if_false]
      exact Option.Rel.some ⟨hu, hb⟩

theorem outer (F' : Nat) : ∀ (fuel : Nat) {u v b c : List Nat} {U V B C' : Nat},
    Rep P.limbs u U → Rep P.limbs v V → Rep P.limbs b B → Rep P.limbs c C' →
    Option.Rel (fun st r => Rep P.limbs (G.fin (G.from_u64 P.limbs 1) st) r)
      (D.whileFuel (G.condO (G.from_u64 P.limbs 1)) (G.bodyO M F') fuel (u, v, b, c))
      (invH P F' fuel U V B C') := by
  have hone : Rep P.limbs (G.from_u64 P.limbs 1) 1 := from_u64_rep C.wf.limbs_pos (by norm_num)
  intro fuel
  induction fuel with
  | zero => intro u v b c U V B C' _ _ _ _; exact Option.Rel.none
  | succ fuel ih =>
    intro u v b c U V B C' hu hv hb hc
    simp only [D.whileFuel, invH]
    have hcond : G.condO (G.from_u64 P.limbs 1) (u, v, b, c) = ((!decide (U = 1)) && (!decide (V = 1))) := by
      show ((!(D.FqRepr.eq u _)) && (!(D.FqRepr.eq v _))) = _
      rw [eq_rep hu hone, eq_rep hv hone]
    have hfin : G.fin (G.from_u64 P.limbs 1) (u, v, b, c) = if U = 1 then b else c := by
      show (if D.FqRepr.eq u _ then b else c) = _
      rw [eq_rep hu hone]; simp only [decide_eq_true_eq]
    rw [hcond]
    by_cases h1 : U = 1
    · simp only [h1, decide_true, Bool.not_true, Bool.false_and, Bool.false_eq_true, if_false]
      exact Option.Rel.some (by rw [hfin, if_pos h1]; exact hb)
    by_cases h2 : V = 1
    · simp only [h1, h2, decide_true, decide_false, Bool.not_true, Bool.not_false, Bool.and_false,
        Bool.false_eq_true, if_false, if_true]
      exact Option.Rel.some (by rw [hfin, if_neg h1]; exact hc)
    simp only [h1, h2, decide_false, Bool.not_false, Bool.and_self, if_true, if_false, G.bodyO]
    have s1 := C.strip F' hu hb
    generalize D.whileFuel G.condU (G.bodyU M) F' (u, b) = w1 at s1 ⊢
    generalize stripH P F' (U, B) = t1 at s1 ⊢
    cases s1 with
    | none => exact Option.Rel.none
    | some s1 =>
      rename_i ub UB
      obtain ⟨u', b'⟩ := ub
      obtain ⟨U', B'⟩ := UB
      obtain ⟨hu', hb'⟩ := s1
      have s2 := C.strip F' hv hc
      generalize D.whileFuel G.condU (G.bodyU M) F' (v, c) = w2 at s2 ⊢
      generalize stripH P F' (V, C') = t2 at s2 ⊢
      cases s2 with
      | none => exact Option.Rel.none
      | some s2 =>
        rename_i vc VC
        obtain ⟨v', c'⟩ := vc
        obtain ⟨V', C''⟩ := VC
        obtain ⟨hv', hc'⟩ := s2
        simp only [lt_rep hv' hu']
        by_cases hlt : V' < U'
        · simp only [hlt, decide_true, if_true]
          have e := sub_noborrow_rep hu' hv'
          rw [Limbs.add_sub_mod (Nat.le_of_lt hlt) hu'.lt] at e
          exact ih e hv' (C.sub_assign hb' hc') hc'
        · simp only [hlt, decide_false, Bool.false_eq_true, if_false]
          have e := sub_noborrow_rep hv' hu'
          rw [Limbs.add_sub_mod (Nat.le_of_not_lt hlt) hv'.lt] at e
          exact ih hu' e hb' (C.sub_assign hc' hb')

/-- `inverse` with the honest integer-level loops, any fuel -/
theorem inverse_invH (fuel : Nat) {a : List Nat} {x : Nat} (ha : Rep P.limbs a x) :
    G.inverse P.limbs M R2 fuel a =
      if x = 0 then some none
      else (invH P fuel fuel x P.p P.R2 0).map (fun r => some (limbsOf P.limbs r)) := by
  unfold G.inverse
  rw [is_zero_val, ha.2]
  by_cases h0 : x = 0
  · simp only [h0, decide_true, if_true]
  simp only [h0, decide_false, Bool.false_eq_true, if_false]
  have h := C.outer fuel fuel ha C.hM C.hR2 (from_u64_rep (v := 0) C.wf.limbs_pos (by norm_num))
  generalize D.whileFuel _ _ fuel _ = w at h ⊢
  generalize invH P fuel fuel x P.p P.R2 0 = t at h ⊢
  cases h with
  | none => rfl
  | some h =>
    rename_i st r
    obtain ⟨u, v, b, c⟩ := st
    show (if D.FqRepr.eq u _ then some (some b) else some (some c)) = some (some (limbsOf P.limbs r))
    rw [← h.eq_limbsOf]
    unfold G.fin
    split <;> rfl

/-- `inverse` with fuel `F ≥ 64·limbs` against the model's loop with the same outer fuel -/
theorem inverse_invLoop (fuel : Nat) (hf : 64 * P.limbs ≤ fuel) {a : List Nat} {x : Nat}
    (ha : Rep P.limbs a x) :
    G.inverse P.limbs M R2 fuel a =
      if x = 0 then some none
      else (invLoop P fuel x P.p P.R2 0).map (fun r => some (limbsOf P.limbs r)) := by
  rw [C.inverse_invH fuel ha]
  by_cases h0 : x = 0
  · simp only [h0, if_true]
  simp only [h0, if_false]
  rw [invH_eq_invLoop hf fuel _ _ _ _ h0 ha.lt C.wf.p_lt_W (fun h => absurd h (Nat.ne_of_gt C.wf.p_pos))]

/-- `inverse` with the model's fuel is the model's `inverse` -/
theorem inverse {a : List Nat} {x : Nat} (ha : Rep P.limbs a x) :
    G.inverse P.limbs M R2 (2 * 64 * P.limbs + 2) a =
      (Mont.inverse P x).map (fun o => o.map (limbsOf P.limbs)) := by
  rw [C.inverse_invLoop _ (by omega) ha]
  unfold Mont.inverse
  by_cases h0 : x = 0
  · simp only [h0, if_true, Option.map_some, Option.map_none]
  · simp only [h0, if_false, Option.map_map]
    rfl

end Ctx

/-- the generated `inverse` is `G.inverse` at the constants of the field, by definition (stated, since checking it
    unfolds the whole loop nest) -/
theorem Fq_inverse_unfold (fuel : Nat) (a : List Nat) :
    D.Fq.inverse fuel a = G.inverse 6 D.Fq.MODULUS D.Fq.R2 fuel a := by
  unfold D.Fq.inverse G.inverse
  rfl

/-- the text of `Fr::inverse` is that of `Fq::inverse` with these names changed; rewriting them first leaves
    terms that are equal as they stand (`rfl` alone unfolds the pairs at every occurrence) -/
theorem Fr_inverse_unfold (fuel : Nat) (a : List Nat) :
    D.Fr.inverse fuel a = G.inverse 4 D.Fr.MODULUS D.Fr.R2 fuel a := by
  unfold D.Fr.inverse G.inverse
  rw [show D.FrRepr.eq = D.FqRepr.eq from rfl, show D.FrRepr.partial_cmp = D.FqRepr.partial_cmp from rfl,
    show D.FrRepr.is_even = D.FqRepr.is_even from rfl, show D.FrRepr.div2 = D.FqRepr.div2 from rfl,
    show D.FrRepr.add_nocarry = D.FqRepr.add_nocarry from rfl,
    show D.FrRepr.sub_noborrow = D.FqRepr.sub_noborrow from rfl,
    show D.Fr.sub_assign = G.sub_assign D.Fr.MODULUS from rfl, show D.FrRepr.from_u64 = G.from_u64 4 from rfl]
  rfl

theorem Fq_INV : D.Fq.INV = fqP.INV := by decide +kernel
theorem Fr_INV : D.Fr.INV = frP.INV := by decide +kernel
theorem Fq_partial_cmp (a b : List Nat) : D.Fq.partial_cmp a b = some (D.Fq.cmp a b) := rfl
theorem Fr_partial_cmp (a b : List Nat) : D.Fr.partial_cmp a b = some (D.Fr.cmp a b) := rfl
theorem FqRepr_from_fe (a : List Nat) : D.FqRepr.from_fe a = D.Fq.into_repr a := rfl
theorem FrRepr_from_fe (a : List Nat) : D.FrRepr.from_fe a = D.Fr.into_repr a := rfl
theorem Fq_frobenius_map (a : List Nat) (k : Nat) : D.Fq.frobenius_map a k = a := rfl
theorem Fr_frobenius_map (a : List Nat) (k : Nat) : D.Fr.frobenius_map a k = a := rfl
theorem Fq_eq (a b : List Nat) : D.Fq.eq a b = (a == b) := rfl
theorem Fr_eq (a b : List Nat) : D.Fr.eq a b = (a == b) := rfl

/-! ### `FrRepr` / `Fr` by name, for rewriting (PP/Proofs/GenMsm.lean, PP/Props/GenRest.lean) -/

theorem FrRepr_from_u64 (v : Nat) : D.FrRepr.from_u64 v = v :: List.replicate (4 - 1) 0 := rfl
theorem FrRepr_is_odd (a : List Nat) : D.FrRepr.is_odd a = Mont.isOdd a := FqRepr_is_odd a
theorem FrRepr_is_zero (a : List Nat) : D.FrRepr.is_zero a = Mont.isZero a := rfl
theorem FrRepr_num_bits (a : List Nat) (hl : a.length = 4) : D.FrRepr.num_bits a = Mont.numBits a :=
  G.num_bits_eq hl

theorem FrRepr_add_nocarry_spec (a b : List Nat) (ha : Limbs 4 a) (hb : Limbs 4 b) :
    Limbs 4 (D.FrRepr.add_nocarry a b) ∧
      limbsToNat (D.FrRepr.add_nocarry a b) = (limbsToNat a + limbsToNat b) % frP.W :=
  add_nocarry_rep ⟨ha, rfl⟩ ⟨hb, rfl⟩

theorem FrRepr_sub_noborrow_spec (a b : List Nat) (ha : Limbs 4 a) (hb : Limbs 4 b) :
    Limbs 4 (D.FrRepr.sub_noborrow a b) ∧
      limbsToNat (D.FrRepr.sub_noborrow a b) = (limbsToNat a + frP.W - limbsToNat b) % frP.W :=
  sub_noborrow_rep ⟨ha, rfl⟩ ⟨hb, rfl⟩

theorem FrRepr_div2_spec (a : List Nat) (ha : Limbs 4 a) :
    Limbs 4 (D.FrRepr.div2 a) ∧ limbsToNat (D.FrRepr.div2 a) = limbsToNat a / 2 := div2_rep ⟨ha, rfl⟩

theorem Fr_zero : D.Fr.zero = limbsOf 4 0 := by decide

/-! ## 5. `legendre` / `sqrt`: against the canonical-level model (`PP.Fq.legendre`, `PP.Fq.sqrt`,
`PP.Fr.legendre`, `PP.Fr.sqrtFuel` of PP/Model/Field.lean) through the decoding `toZp` of PP/Proofs/Mont4.lean
(raw Montgomery value -> element of `Zp`; `toFq`, `toFr` of PP/Props/C08.lean for the two fields) -/

open PP.Props.C08

/-- the limb list `a` is the reduced Montgomery representation of the field element `z` -/
def Enc (P : Params) [PosNat P.p] (a : List Nat) (z : Zp P.p) : Prop :=
  Limbs P.limbs a ∧ limbsToNat a < P.p ∧ toZp P (limbsToNat a) = z

namespace G

def legendre (pw : List Nat → List Nat → List Nat) (zero one e self : List Nat) : PP.Legendre :=
  if D.FqRepr.eq (pw self e) zero then .zero else if D.FqRepr.eq (pw self e) one then .residue else .nonResidue

end G

section enc
variable {P : Params} [PosNat P.p] {a b : List Nat} {z w : Zp P.p}

theorem Enc.rep (h : Enc P a z) : Rep P.limbs a (limbsToNat a) := ⟨h.1, rfl⟩

/-- what a relation between results says in the terms of the theorems of PP/Props/GenDerive.lean -/
theorem Enc.map_eq {o : Option (List Nat)} {m : Option (Zp P.p)} (h : Option.Rel (Enc P) o m) :
    o.map (fun x => toZp P (limbsToNat x)) = m ∧ ∀ x, o = some x → Limbs P.limbs x ∧ limbsToNat x < P.p := by
  cases h with
  | none => exact ⟨rfl, fun x hx => by cases hx⟩
  | some h => exact ⟨congrArg some h.2.2, fun x hx => by cases hx; exact ⟨h.1, h.2.1⟩⟩

theorem Enc.map_eq₂ {o : Option (Option (List Nat))} {m : Option (Option (Zp P.p))}
    (h : Option.Rel (Option.Rel (Enc P)) o m) :
    o.map (fun o => o.map (fun x => toZp P (limbsToNat x))) = m ∧
      ∀ x, o = some (some x) → Limbs P.limbs x ∧ limbsToNat x < P.p := by
  cases h with
  | none => exact ⟨rfl, fun x hx => by cases hx⟩
  | some h => exact ⟨congrArg some (Enc.map_eq h).1, fun x hx => by cases hx; exact (Enc.map_eq h).2 x rfl⟩

/-- the derived `==` on limbs decides equality of the encoded field elements (`toZp` is injective on
    reduced values) -/
theorem enc_beq (hP : P.WF) (ha : Enc P a z) (hb : Enc P b w) : D.FqRepr.eq a b = decide (z = w) := by
  rw [eq_rep ha.rep hb.rep, ← ha.2.2, ← hb.2.2]
  by_cases h : limbsToNat a = limbsToNat b
  · simp [h]
  · have : toZp P (limbsToNat a) ≠ toZp P (limbsToNat b) := fun e => h (toZp_inj hP ha.2.1 hb.2.1 e)
    simp [h, this]

namespace Ctx
variable {M R R2 : List Nat} {mul : List Nat → List Nat → List Nat} {sq : List Nat → List Nat}
  {pw : List Nat → List Nat → List Nat} (C : Ctx P M R R2 mul sq pw)
include C

theorem enc_zero : Enc P (G.from_u64 P.limbs 0) 0 := by
  have h := from_u64_rep (v := 0) C.wf.limbs_pos (by norm_num)
  exact ⟨h.1, by rw [h.2]; exact C.wf.p_pos, by rw [h.2]; exact toZp_zero⟩

theorem enc_one : Enc P R 1 :=
  ⟨C.hR.1, C.hR.2 ▸ C.wf.R_lt, by rw [C.hR.2]; exact toZp_R C.wf⟩

theorem enc_mul (ha : Enc P a z) (hb : Enc P b w) : Enc P (mul a b) (z * w) := by
  have r := C.hmul ha.rep hb.rep
  refine ⟨r.1, r.2 ▸ (mul_spec C.wf ha.2.1 hb.2.1).1, ?_⟩
  rw [r.2, toZp_mul C.wf ha.2.1 hb.2.1, ha.2.2, hb.2.2]

theorem enc_sq (ha : Enc P a z) : Enc P (sq a) (FieldOps.sq z) := by
  have r := C.hsq ha.rep
  refine ⟨r.1, r.2 ▸ (square_spec C.wf ha.2.1).1, ?_⟩
  rw [r.2, toZp_square C.wf ha.2.1, ha.2.2]

theorem enc_pow {e : List Nat} {E : Nat} (he : e = limbsOf P.limbs E) (ha : Enc P a z) :
    Enc P (pw a e) (powNat z E P.limbs) := by
  subst he
  have r := C.pow ha.rep (limbsOf P.limbs E)
  refine ⟨r.1, r.2 ▸ (pow_spec C.wf ha.2.1 _ (limbsOf_ok _ _)).1, ?_⟩
  rw [r.2, toZp_pow C.wf ha.2.1 _ (limbsOf_ok _ _), ha.2.2, powNat,
    PowLoop.powLimbs_eq_pow (fun _ => rfl) _ _ (limbsOf_ok _ _)]

theorem legendre {e : List Nat} {E : Nat} (he : e = limbsOf P.limbs E) (ha : Enc P a z) :
    G.legendre pw (G.from_u64 P.limbs 0) R e a =
      if powNat z E P.limbs = 0 then Legendre.zero
      else if powNat z E P.limbs = 1 then Legendre.residue else Legendre.nonResidue := by
  unfold G.legendre
  rw [enc_beq C.wf (C.enc_pow he ha) C.enc_zero, enc_beq C.wf (C.enc_pow he ha) C.enc_one]
  simp only [decide_eq_true_eq]

/-- the shape of `sqrt` for `p ≡ 3 (mod 4)`: one exponentiation and a check -/
theorem sqrt34 {e cmp : List Nat} {E : Nat} {cz : Zp P.p} (he : e = limbsOf P.limbs E) (hc : Enc P cmp cz)
    (ha : Enc P a z) :
    Option.Rel (Enc P) (if D.FqRepr.eq (mul (sq (pw a e)) a) cmp then none else some (mul (pw a e) a))
      (if FieldOps.sq (powNat z E P.limbs) * z = cz then none else some (powNat z E P.limbs * z)) := by
  have h1 := C.enc_pow he ha
  rw [enc_beq C.wf (C.enc_mul (C.enc_sq h1) ha) hc]
  by_cases h : FieldOps.sq (powNat z E P.limbs) * z = cz
  · simp only [h, decide_true, if_true]
    exact Option.Rel.none
  · simp only [h, decide_false, Bool.false_eq_true, if_false]
    exact Option.Rel.some (C.enc_mul h1 ha)

end Ctx
end enc

/- The exponents of the generated code are literals.  They are named here, and `D.Fq.pow a [..]` is never unified
with anything but itself: unfolding it on a closed exponent runs the whole square-and-multiply loop. -/

theorem Fq_legendre {a : List Nat} {z : Fq} (ha : Enc fqP a z) : D.Fq.legendre a = PP.Fq.legendre z := by
  have he : ([15924587544893707605, 1105070755758604287, 12941209323636816658, 12843041017062132063,
      2706051889235351147, 936899308823769933] : List Nat) = limbsOf 6 Gen.fq_LEGENDRE_EXP := by decide +kernel
  exact (fqC.legendre he ha :)

theorem Fr_legendre {a : List Nat} {z : Fr} (ha : Enc frP a z) : D.Fr.legendre a = PP.Fr.legendre z := by
  have he : ([9223372034707292160, 12240451741123816959, 1845609449319885826, 4176758429732224676] : List Nat)
      = limbsOf 4 Gen.fr_LEGENDRE_EXP := by decide +kernel
  exact (frC.legendre he ha :)

/-! ### `Fq::sqrt` (`q ≡ 3 mod 4`) -/

theorem Fq_ofMont_eq (raw : Nat) : Fq.ofMont raw = toFq raw :=
  Zp.ext_v (by rw [Fq_ofMont_v, toFq_v]; rfl)

theorem Fr_ofMont_eq (raw : Nat) : Fr.ofMont raw = toFr raw :=
  Zp.ext_v (by rw [Fr_ofMont_v, toFr_v]; rfl)

theorem Fq_sqrt {a : List Nat} {z : Fq} (ha : Enc fqP a z) : Option.Rel (Enc fqP) (D.Fq.sqrt a) (PP.Fq.sqrt z) := by
  have he : ([17185665809301629610, 552535377879302143, 15693976698673184137, 15644892545385841839,
      10576397981472451381, 468449654411884966] : List Nat) = limbsOf 6 Gen.fq_SQRT_EXP := by decide +kernel
  have hv : limbsToNat ([4897101644811774638, 3654671041462534141, 569769440802610537, 17053147383018470266,
      17227549637287919721, 291242102765847046] : List Nat) = Gen.fq_SQRT_CMP := by decide +kernel
  have hc : Enc fqP [4897101644811774638, 3654671041462534141, 569769440802610537, 17053147383018470266,
      17227549637287919721, 291242102765847046] (Fq.ofMont Gen.fq_SQRT_CMP) :=
    ⟨⟨rfl, by decide⟩, by rw [hv]; decide +kernel, by rw [hv, Fq_ofMont_eq]; rfl⟩
  exact (fqC.sqrt34 he hc ha :)

/-! ### `Fr::sqrt` (Tonelli–Shanks, two nested loops), against the canonical-level model `Fr.sqrtFuel`

The generated loops use the honest fuel convention, the model's `findI` / `tsLoop` the same one; the one
difference is `m - i - 1`: a `u32` subtraction in Rust (overflow check not modelled, truncated here),
guarded in the model (`if m < i + 1 then none`).  So the generated code is shown to follow the model
whenever the model returns a result -- and the model always does (`Fr.sqrtFuel_ne_none`). -/

/-- reduced, well-formed `Fr` value -/
def RedFr (x : List Nat) : Prop := Limbs 4 x ∧ limbsToNat x < r

theorem Fr_enc_sq {x : List Nat} {z : Fr} (h : Enc frP x z) : Enc frP (D.Fr.square x) (sq z : Fr) := frC.enc_sq h

theorem Fr_enc_mul {x y : List Nat} {z w : Fr} (hx : Enc frP x z) (hy : Enc frP y w) :
    Enc frP (D.Fr.mul_assign x y) (z * w : Fr) := frC.enc_mul hx hy

theorem Fr_eq_one {x : List Nat} {z : Fr} (h : Enc frP x z) : D.Fr.eq x D.Fr.one = decide (z = 1) :=
  enc_beq frP_wf h frC.enc_one

theorem RedFr.square {x : List Nat} (h : RedFr x) :
    RedFr (D.Fr.square x) ∧ toFr (limbsToNat (D.Fr.square x)) = sq (toFr (limbsToNat x)) :=
  have e := Fr_enc_sq (z := toFr (limbsToNat x)) ⟨h.1, frP_p ▸ h.2, rfl⟩
  ⟨⟨e.1, frP_p ▸ e.2.1⟩, e.2.2⟩

def Fr_condI : Nat × List Nat → Bool := fun (_i, t2i) => !(D.Fr.eq t2i D.Fr.one)
def Fr_bodyI : Nat × List Nat → Option (Nat × List Nat) := fun (i, t2i) => some (i + 1, D.Fr.square t2i)
def Fr_condT : List Nat × List Nat × List Nat × Nat → Bool := fun (_c, _r, t, _m) => !(D.Fr.eq t D.Fr.one)
def Fr_bodyT (F' : Nat) : List Nat × List Nat × List Nat × Nat → Option (List Nat × List Nat × List Nat × Nat) :=
  fun (c, r, t, m) =>
    match D.whileFuel Fr_condI Fr_bodyI F' (1, D.Fr.square t) with
    | none => none
    | some (i, _t2i) =>
      some (D.Fr.square (List.foldl (fun c _ => D.Fr.square c) c (List.range ((m - i) - 1))),
        D.Fr.mul_assign r (List.foldl (fun c _ => D.Fr.square c) c (List.range ((m - i) - 1))),
        D.Fr.mul_assign t (D.Fr.square (List.foldl (fun c _ => D.Fr.square c) c (List.range ((m - i) - 1)))),
        i)

/-- the generated `sqrt` IS these loops (definitional unfolding) -/
theorem Fr_sqrt_unfold (fuel : Nat) (a : List Nat) :
    D.Fr.sqrt fuel a =
      D.matchLegendre (D.Fr.legendre a)
        (zero := fun _ => some (some a))
        (nonResidue := fun _ => some none)
        (residue := fun _ =>
          match D.whileFuel Fr_condT (Fr_bodyT fuel) fuel
            (D.Fr.ROOT_OF_UNITY,
              D.Fr.pow a [9223141137265459200, 347036667491570177, 10722717374829358084, 972477353],
              D.Fr.pow a [18446282274530918399, 694073334983140354, 2998690675949164552, 1944954707],
              D.Fr.S) with
          | none => none
          | some (_c, r, _t, _m) => some (some r)) := rfl

theorem Fr_findI : ∀ (fuel i : Nat) (t2i : List Nat) (z : Fr), Enc frP t2i z →
    (D.whileFuel Fr_condI Fr_bodyI fuel (i, t2i)).map (·.1) = Fr.findI fuel z i := by
  intro fuel
  induction fuel with
  | zero => intro i t2i z _; rfl
  | succ fuel ih =>
    intro i t2i z h
    rw [Fr.findI]
    simp only [D.whileFuel]
    have hc : Fr_condI (i, t2i) = !decide (z = 1) := congrArg (!·) (Fr_eq_one h)
    rw [hc]
    by_cases h1 : z = 1
    · simp [h1]
    · simp only [h1, decide_false, Bool.not_false, if_true, if_false]
      exact ih (i + 1) _ _ (Fr_enc_sq h)

theorem Fr_sqN (k : Nat) {c : List Nat} {z : Fr} (h : Enc frP c z) :
    Enc frP (List.foldl (fun c _ => D.Fr.square c) c (List.range k)) (sqN z k) := by
  have gen : ∀ (l : List Nat) (c : List Nat) (z : Fr), Enc frP c z →
      Enc frP (List.foldl (fun c _ => D.Fr.square c) c l) (sqN z l.length) := by
    intro l
    induction l with
    | nil => intro c z h; exact h
    | cons x xs ih => intro c z h; exact ih _ _ (Fr_enc_sq h)
  have := gen (List.range k) c z h
  rwa [List.length_range] at this

/- `F'` (and `fuel` in `Fr_sqrt`) stands for the fuel `Gen.fr_S + 1` of the model.  It is a variable,
   tied to that value by a hypothesis, so that `D.whileFuel … F'` and `Fr.findI F'` are stuck terms
   which no `rw`, `simp only` or definitional check starts to unroll. -/
theorem Fr_tsLoop (F' : Nat) (hF : F' = Gen.fr_S + 1) :
    ∀ (fuel : Nat) (c r t : List Nat) (m : Nat) (cz rz tz y : Fr), Enc frP c cz → Enc frP r rz → Enc frP t tz →
    Fr.tsLoop fuel cz rz tz m = some y →
    ∃ st, D.whileFuel Fr_condT (Fr_bodyT F') fuel (c, r, t, m) = some st ∧ Enc frP st.2.1 y := by
  intro fuel
  induction fuel with
  | zero => intro c r t m cz rz tz y _ _ _ h; simp [Fr.tsLoop] at h
  | succ fuel ih =>
    intro c r t m cz rz tz y hc hr ht h
    rw [Fr.tsLoop_succ, ← hF] at h
    simp only [D.whileFuel]
    have hcond : Fr_condT (c, r, t, m) = !decide (tz = 1) := congrArg (!·) (Fr_eq_one ht)
    rw [hcond]
    by_cases h1 : tz = 1
    · rw [if_pos h1] at h
      cases h
      simp only [h1, decide_true, Bool.not_true, Bool.false_eq_true, if_false]
      exact ⟨_, rfl, hr⟩
    · rw [if_neg h1] at h
      simp only [h1, decide_false, Bool.not_false, if_true, Fr_bodyT]
      have hI := Fr_findI F' 1 _ _ (Fr_enc_sq ht)
      cases hw : D.whileFuel Fr_condI Fr_bodyI F' (1, D.Fr.square t) with
      | none =>
        rw [hw] at hI
        rw [← hI] at h
        simp at h
      | some it =>
        obtain ⟨i, t2i⟩ := it
        rw [hw] at hI
        rw [← hI] at h
        simp only [Option.map_some] at h
        by_cases hm : m < i + 1
        · rw [if_pos hm] at h; cases h
        · rw [if_neg hm] at h
          have hk := Fr_sqN (m - i - 1) hc
          exact ih _ _ _ i _ _ _ y (Fr_enc_sq hk) (Fr_enc_mul hr hk) (Fr_enc_mul ht (Fr_enc_sq hk)) h

theorem Fr_sqrt (fuel : Nat) (hfuel : fuel = Gen.fr_S + 1) {a : List Nat} {z : Fr} (ha : Enc frP a z) :
    Option.Rel (Option.Rel (Enc frP)) (D.Fr.sqrt fuel a) (Fr.sqrtFuel z) := by
  have hnn := Fr.sqrtFuel_ne_none z
  obtain ⟨mz, mn, mr⟩ := Fr.sqrtFuel_cases z
  rw [Fr_sqrt_unfold, Fr_legendre ha]
  cases hL : Fr.legendre z with
  | zero => rw [mz hL]; exact .some (.some ha)
  | nonResidue => rw [mn hL]; exact .some .none
  | residue =>
    rw [mr hL] at hnn ⊢
    simp only [D.matchLegendre]
    have heR : ([9223141137265459200, 347036667491570177, 10722717374829358084, 972477353] : List Nat)
        = limbsOf 4 Gen.fr_SQRT_R_EXP := by decide +kernel
    have heT : ([18446282274530918399, 694073334983140354, 2998690675949164552, 1944954707] : List Nat)
        = limbsOf 4 Gen.fr_SQRT_T_EXP := by decide +kernel
    have hroot : Enc frP D.Fr.ROOT_OF_UNITY (Fr.ofMont Gen.fr_ROOT_OF_UNITY) :=
      ⟨⟨rfl, by decide⟩, by decide +kernel, by rw [Fr_ofMont_eq]; congr 1⟩
    cases hts : Fr.tsLoop (Gen.fr_S + 1) (Fr.ofMont Gen.fr_ROOT_OF_UNITY) (powNat z Gen.fr_SQRT_R_EXP 4)
        (powNat z Gen.fr_SQRT_T_EXP 4) Gen.fr_S with
    | none => rw [hts] at hnn; exact absurd rfl hnn
    | some y =>
      obtain ⟨st, hst, henc⟩ := Fr_tsLoop fuel hfuel fuel _ _ _ Gen.fr_S _ _ _ y hroot
        (frC.enc_pow heR ha) (frC.enc_pow heT ha) (by rw [hfuel]; exact hts)
      have hS : D.Fr.S = Gen.fr_S := rfl
      rw [hS, hst]
      exact .some (.some henc)

/-! ## 6. `Field::random` of the derive output: rejection sampling from an RNG

`D.Fq.random` / `D.Fr.random` are regenerated from the expanded source as functions of the RNG state
(`nextU64` = `RngCore::next_u64`, new state first) with `fuel` attempts.  `Mont.randomSpec`
(PP/Model/Mont.lean; also run by the model driver against the real code with a replaying RNG) is what
they are supposed to be: draw `n` words (the first into limb 0), keep the low `bits` bits of the top
limb, accept the candidate iff its VALUE is below the modulus, else try again from the new RNG state. -/

section random
variable {Rng : Type}

theorem drawLimbs_eq (nextU64 : Rng → Rng × Nat) :
    ∀ (n : Nat) (rng : Rng), D.drawLimbs nextU64 n rng = Mont.drawLimbs nextU64 n rng
  | 0, _ => rfl
  | n + 1, rng => by
    unfold D.drawLimbs Mont.drawLimbs
    rw [drawLimbs_eq nextU64 n]

theorem drawLimbs_limbs {nextU64 : Rng → Rng × Nat} (h : ∀ s, (nextU64 s).2 < 2 ^ 64) :
    ∀ (n : Nat) (rng : Rng), Limbs n (Mont.drawLimbs nextU64 n rng).2
  | 0, _ => ⟨rfl, by intro l hl; cases hl⟩
  | n + 1, rng => by
    have ih := drawLimbs_limbs h n (nextU64 rng).1
    unfold Mont.drawLimbs
    refine ⟨by simp only [List.length_cons, ih.1], ?_⟩
    intro l hl
    rcases List.mem_cons.1 hl with rfl | hl
    · exact h rng
    · exact ih.2 l hl

theorem Limbs_set {n : Nat} {a : List Nat} (ha : Limbs n a) (i v : Nat) (hv : v < 2 ^ 64) : Limbs n (a.set i v) := by
  refine ⟨by rw [List.length_set]; exact ha.1, ?_⟩
  intro l hl
  rcases List.mem_or_eq_of_mem_set hl with hl | rfl
  · exact ha.2 l hl
  · exact hv

theorem getD_lt {n : Nat} {a : List Nat} (ha : Limbs n a) (i : Nat) : a.getD i 0 < 2 ^ 64 := by
  rw [List.getD_eq_getElem?_getD]
  cases hi : a[i]? with
  | none => simp
  | some x => simpa using ha.2 x (List.mem_of_getElem? hi)

theorem candidate_limbs {nextU64 : Rng → Rng × Nat} (h : ∀ s, (nextU64 s).2 < 2 ^ 64) (n bits : Nat) (rng : Rng) :
    Limbs n ((Mont.drawLimbs nextU64 n rng).2.set (n - 1) ((Mont.drawLimbs nextU64 n rng).2.getD (n - 1) 0 % 2 ^ bits)) :=
  Limbs_set (drawLimbs_limbs h n rng) _ _
    (Nat.lt_of_le_of_lt (Nat.mod_le _ _) (getD_lt (drawLimbs_limbs h n rng) _))

theorem mask (x : Nat) {k : Nat} (hk : k ≤ 64) : x &&& (0xffffffffffffffff >>> k) = x % 2 ^ (64 - k) := by
  have : (0xffffffffffffffff >>> k : Nat) = 2 ^ (64 - k) - 1 := by
    apply Nat.eq_of_testBit_eq
    intro i
    rw [Nat.testBit_shiftRight, show (0xffffffffffffffff : Nat) = 2 ^ 64 - 1 by norm_num,
      Nat.testBit_two_pow_sub_one, Nat.testBit_two_pow_sub_one]
    exact decide_eq_decide.2 (by omega)
  rw [this, Nat.and_two_pow_sub_one_eq_mod]

/-- any function with the equations of the generated `random` (`n` words, the top limb shaved by `k` bits,
    accepted iff valid) is the rejection sampler -/
theorem random_eq {n k p : Nat} {M : List Nat} (hM : Rep n M p) (hk : k ≤ 64) {nextU64 : Rng → Rng × Nat}
    (h : ∀ s, (nextU64 s).2 < 2 ^ 64) {rnd : Nat → Rng → Option (Rng × List Nat)}
    (h0 : ∀ rng, rnd 0 rng = none)
    (hs : ∀ fuel rng, rnd (fuel + 1) rng =
      let d := D.drawLimbs nextU64 n rng
      let tmp := d.2.set (n - 1) (d.2.getD (n - 1) 0 &&& (0xffffffffffffffff >>> k))
      if G.is_valid M tmp then some (d.1, tmp) else rnd fuel d.1) (fuel : Nat) (rng : Rng) :
    rnd fuel rng = randomSpec nextU64 n (64 - k) p fuel rng := by
  induction fuel generalizing rng with
  | zero => exact h0 rng
  | succ fuel ih =>
    rw [hs]
    unfold randomSpec
    simp only [drawLimbs_eq, mask _ hk]
    rw [is_valid_rep ⟨candidate_limbs h n (64 - k) rng, rfl⟩ hM, ih]
    simp only [decide_eq_true_eq]

/-- whatever the RNG does, a returned element is a well-formed, REDUCED residue (so `random` can only return
    valid field elements) -/
theorem randomSpec_sound {nextU64 : Rng → Rng × Nat} (h : ∀ s, (nextU64 s).2 < 2 ^ 64) (n bits p : Nat) :
    ∀ (fuel : Nat) (rng rng' : Rng) (x : List Nat), randomSpec nextU64 n bits p fuel rng = some (rng', x) →
      Limbs n x ∧ limbsToNat x < p
  | 0, _, _, _, hx => by cases hx
  | fuel + 1, rng, rng', x, hx => by
    unfold randomSpec at hx
    simp only at hx
    split at hx
    · rename_i hlt
      cases hx
      exact ⟨candidate_limbs h n bits rng, hlt⟩
    · exact randomSpec_sound h n bits p fuel _ rng' x hx

/-- no acceptable candidate is skipped: if the first attempt's candidate is below the modulus it is returned -/
theorem randomSpec_first (nextU64 : Rng → Rng × Nat) (n bits p fuel : Nat) (rng : Rng)
    (hc : limbsToNat ((Mont.drawLimbs nextU64 n rng).2.set (n - 1) ((Mont.drawLimbs nextU64 n rng).2.getD (n - 1) 0 % 2 ^ bits)) < p) :
    randomSpec nextU64 n bits p (fuel + 1) rng
      = some ((Mont.drawLimbs nextU64 n rng).1,
              (Mont.drawLimbs nextU64 n rng).2.set (n - 1) ((Mont.drawLimbs nextU64 n rng).2.getD (n - 1) 0 % 2 ^ bits)) := by
  unfold randomSpec
  simp only [hc, if_true]

end random

end PP.GenDerive
