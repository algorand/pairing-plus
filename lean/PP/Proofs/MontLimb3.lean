/-
Limb-level Montgomery multiplication, part 3: the unrolled `square` (`genSquareProg n`):
off-diagonal triangle, doubling by shifts, diagonal -- computes `self²` exactly, for every limb
count `n ≥ 2` and ALL `u64` limb values; hence `square` computes `Mont.square`.
-/
import PP.Proofs.MontLimb2

namespace PP.MontLimb
open PP PP.Mont PP.Limbs

/-! ## 1. the integer identity `A² = 2·(off-diagonal) + (diagonal)` -/

/-- `Σ_{t<i} a_t·2^(64t) · Σ_{u>t} a_u·2^(64u)` -/
def offDiag (n : Nat) (a : Nat → Nat) : Nat → Nat
  | 0 => 0
  | i + 1 => offDiag n a i +
      a i * 2 ^ (64 * i) * (2 ^ (64 * (i + 1)) * wsum (fun j => a (i + 1 + j)) (n - 1 - i))

/-- `Σ_{t<i} a_t²·2^(128t)` -/
def sqsum (a : Nat → Nat) : Nat → Nat
  | 0 => 0
  | i + 1 => sqsum a i + a i * a i * 2 ^ (64 * (2 * i))

theorem square_split_aux (n : Nat) (a : Nat → Nat) (i : Nat) (hi : i ≤ n) :
    2 * offDiag n a i + sqsum a i + (2 ^ (64 * i) * wsum (fun j => a (i + j)) (n - i)) ^ 2
      = (wsum a n) ^ 2 := by
  induction i with
  | zero =>
    simp only [offDiag, sqsum, Nat.mul_zero, Nat.pow_zero, Nat.one_mul, Nat.zero_add, Nat.sub_zero]
  | succ i ih =>
    have ih := ih (by omega)
    rw [show n - i = (n - (i + 1)) + 1 by omega, wsum_succ'] at ih
    rw [← ih]
    have e : ∀ j, i + (1 + j) = i + 1 + j := fun j => by omega
    simp only [offDiag, sqsum, e, Nat.add_zero, show n - 1 - i = n - (i + 1) by omega]
    ring

theorem square_split (n : Nat) (a : Nat → Nat) (hn : 1 ≤ n) :
    2 * offDiag n a (n - 1) + sqsum a n = wsum a n * wsum a n := by
  have h := square_split_aux n a n (le_refl _)
  rw [Nat.sub_self, wsum_zero, Nat.mul_zero] at h
  have e : offDiag n a n = offDiag n a (n - 1) := by
    obtain ⟨k, rfl⟩ : ∃ k, n = k + 1 := ⟨n - 1, by omega⟩
    show offDiag (k + 1) a k + _ = offDiag (k + 1) a (k + 1 - 1)
    simp only [Nat.add_sub_cancel, Nat.sub_self, wsum_zero, Nat.mul_zero, Nat.add_zero]
  rw [e] at h
  rw [← Nat.pow_two, ← h]; ring

/-! ## 2. the off-diagonal rows -/

/-- row `i` (`n = i + 1 + d`): `(r_{2i+1} … r_{i+n}) := (r_{2i+1} … r_{i+n-1}) + self_i·(self_{i+1} … self_{n-1})` -/
theorem sqRow (P : Params) (i d : Nat) (s : State) (hs : s.OK) :
    ∃ s', runBody P (genSqRow (i + 1 + d) i) s = s' ∧ s'.OK ∧ s'.self = s.self ∧
      (∀ j, (j < 2 * i + 1 ∨ 2 * i + 1 + d < j) → s'.r j = s.r j) ∧
      wsum (fun j => s'.r (2 * i + 1 + j)) (d + 1)
        = (if i = 0 then 0 else wsum (fun j => s.r (2 * i + 1 + j)) d)
          + s.self i * wsum (fun j => s.self (i + 1 + j)) d := by
  obtain ⟨s', e, ok, hself, _, fr, sum⟩ := macRow P (2 * i + 1) (i = 0) (.selfL i)
    (fun j => .selfL (i + 1 + j)) (stable_selfL P i) (fun j => stable_selfL P _) s hs d
  refine ⟨s', ?_, ok, hself, fr, sum⟩
  rw [← e, genSqRow, show i + 1 + d - 1 - i = d by omega, show i + (i + 1 + d) = 2 * i + 1 + d by omega]

/-- the first `i ≤ n-1` rows: `2^64·(r_1 … r_{n+i-1}) = offDiag i` -/
theorem sqRows (P : Params) (n : Nat) (s : State) (hs : s.OK) (i : Nat) (hi : i + 1 ≤ n) :
    ∃ s', runBody P ((List.range i).flatMap (genSqRow n)) s = s' ∧ s'.OK ∧ s'.self = s.self ∧
      (i ≠ 0 → 2 ^ 64 * wsum (fun j => s'.r (1 + j)) (n + i - 1) = offDiag n s.self i) := by
  induction i with
  | zero => exact ⟨s, rfl, hs, rfl, fun h => absurd rfl h⟩
  | succ i ih =>
    obtain ⟨d, hd⟩ : ∃ d, n = i + 1 + d := ⟨n - (i + 1), by omega⟩
    -- the index bookkeeping for `n = i + 1 + d`
    have n1 : n + (i + 1) - 1 = 2 * i + (d + 1) := by
      rw [hd, show i + 1 + d + (i + 1) = 2 * i + (d + 1) + 1 by omega, Nat.add_sub_cancel]
    have n2 : n - 1 - i = d := by
      rw [hd, show i + 1 + d = d + i + 1 by omega, Nat.add_sub_cancel, Nat.add_sub_cancel]
    have n3 : n + i - 1 = 2 * i + d := by
      rw [hd, show i + 1 + d + i = 2 * i + d + 1 by omega, Nat.add_sub_cancel]
    have idx : ∀ j, 1 + (2 * i + j) = 2 * i + 1 + j := fun j => by omega
    have low : ∀ j, j < 2 * i → 1 + j < 2 * i + 1 := fun j hj => by omega
    obtain ⟨s1, e1, ok1, self1, sum1⟩ := ih (by omega)
    obtain ⟨s2, e2, ok2, self2, fr2, sum2⟩ := sqRow P i d s1 ok1
    rw [← hd] at e2
    refine ⟨s2, ?_, ok2, self2.trans self1, fun _ => ?_⟩
    · rw [List.range_succ, List.flatMap_append, runBody_append, e1]
      simpa using e2
    · rw [self1] at sum2
      have hsplit : wsum (fun j => s2.r (1 + j)) (n + (i + 1) - 1)
          = wsum (fun j => s1.r (1 + j)) (2 * i) + 2 ^ (64 * (2 * i)) * wsum (fun j => s2.r (2 * i + 1 + j)) (d + 1) := by
        rw [n1, wsum_add]
        simp only [idx]
        exact congrArg (· + _) (wsum_congr fun j hj => fr2 _ (Or.inl (low j hj)))
      rw [hsplit, sum2, offDiag, n2]
      by_cases hi0 : i = 0
      · subst hi0; simp [offDiag]; ring
      · rw [if_neg hi0]
        have h1 := sum1 hi0
        rw [n3, wsum_add] at h1
        simp only [idx] at h1
        rw [← h1, pow64_succ i, Nat.two_mul, Nat.mul_add 64, pow_add]
        ring

theorem genSqRows_noCall (n m : Nat) : ∀ i ∈ (List.range m).flatMap (genSqRow n), isCall i = false := by
  intro i hi
  simp only [List.mem_flatMap, genSqRow, List.mem_append, List.mem_singleton, List.mem_map] at hi
  obtain ⟨_, _, (rfl | ⟨_, _, rfl⟩) | rfl⟩ := hi <;> rfl

/-! ## 3. doubling by shifts -/

theorem shl1_or_shr63 {x y : Nat} (hy : y < 2 ^ 64) :
    ((x <<< 1) % 2 ^ 64) ||| (y >>> 63) = 2 * x % 2 ^ 64 + y / 2 ^ 63 := by
  have e : (2 : Nat) ^ 64 = 2 ^ 63 * 2 ^ 1 := by norm_num
  have h1 : x * 2 ^ 1 % 2 ^ 64 = x % 2 ^ 63 * 2 ^ 1 := by rw [e, Nat.mul_mod_mul_right]
  have h2 : y / 2 ^ 63 < 2 ^ 1 := Nat.div_lt_of_lt_mul (e ▸ hy)
  rw [Nat.shiftLeft_eq, Nat.shiftRight_eq_div_pow, h1, Nat.or_comm, or_eq_add_of_lt_of_mul h2, ← h1,
    Nat.add_comm, Nat.pow_one, Nat.mul_comm x 2]

/-- the doubled word and the bit shifted out of it -/
theorem dbl_split (a : Nat) : 2 * a % 2 ^ 64 + 2 ^ 64 * (a / 2 ^ 63) = 2 * a := by omega

/-- doubling a number limb by limb: limb `j` of the double is the doubled limb `j` (mod `2^64`) plus
    the top bit of limb `j - 1` -/
theorem double_wsum (f g : Nat → Nat) (m : Nat) (g0 : g 0 = 2 * f 0 % 2 ^ 64)
    (gj : ∀ j, j < m → g (j + 1) = 2 * f (j + 1) % 2 ^ 64 + f j / 2 ^ 63)
    (gm : g (m + 1) = f m / 2 ^ 63) :
    wsum g (m + 1 + 1) = 2 * wsum f (m + 1) := by
  have aux : ∀ t, t ≤ m → wsum g (t + 1) + f t / 2 ^ 63 * 2 ^ (64 * (t + 1)) = 2 * wsum f (t + 1) := by
    intro t
    induction t with
    | zero =>
      intro _
      simp only [wsum_succ, wsum_zero, g0, Nat.mul_zero, Nat.pow_zero, Nat.mul_one, Nat.zero_add]
      rw [Nat.mul_comm (f 0 / _)]
      exact dbl_split (f 0)
    | succ t ih =>
      intro htm
      rw [wsum_succ g, wsum_succ f, gj t htm, pow64_succ (t + 1)]
      linear_combination ih (Nat.le_of_succ_le htm) + 2 ^ (64 * (t + 1)) * dbl_split (f (t + 1))
  rw [wsum_succ, gm]
  exact aux m (le_refl _)

/-- the `shlOr` steps, from the top down: after `t` of them the registers `m-t+1 … m` are doubled -/
theorem sqDouble_steps (P : Params) (m : Nat) (s0 : State) (hs0 : s0.OK) (old : Nat → Nat)
    (hold : ∀ j, j ≤ m → s0.r j = old j) (t : Nat) (ht : t + 1 ≤ m) :
    ∃ s', runBody P ((List.range t).map (fun u =>
        Instr.shlOr (.r (m - u)) (rr (m - u)) 1 (rr (m - 1 - u)) 63)) s0 = s' ∧ s'.OK ∧
      s'.self = s0.self ∧
      ∀ j, s'.r j = if m - t < j ∧ j ≤ m then
          ((old j <<< 1) % 2 ^ 64) ||| (old (j - 1) >>> 63) else s0.r j := by
  induction t with
  | zero => exact ⟨s0, rfl, hs0, rfl, fun j => by rw [if_neg (by omega)]⟩
  | succ t ih =>
    obtain ⟨s1, e1, ok1, self1, r1⟩ := ih (by omega)
    refine ⟨_, rfl, ?_, ?_, ?_⟩
    · rw [List.range_succ, List.map_append, runBody_append, e1, List.map_singleton, runBody_singleton]
      exact step_ok P _ ok1
    · rw [List.range_succ, List.map_append, runBody_append, e1, List.map_singleton, runBody_singleton]
      exact self1
    · intro j
      rw [List.range_succ, List.map_append, runBody_append, e1, List.map_singleton, runBody_singleton]
      show (if j = m - t then ((s1.r (m - t) <<< 1) % W64) ||| (s1.r (m - 1 - t) >>> 63) else s1.r j) = _
      by_cases hj : j = m - t
      · subst hj
        rw [if_pos rfl, if_pos (by omega), r1, r1, if_neg (by omega), if_neg (by omega),
          hold _ (by omega), hold _ (by omega), W64_eq_pow, show m - 1 - t = m - t - 1 by omega]
      · rw [if_neg hj, r1]
        by_cases h2 : m - t < j ∧ j ≤ m
        · rw [if_pos h2, if_pos (by omega)]
        · rw [if_neg h2, if_neg (by omega)]

/-- `(r_1 … r_{2n-1}) := 2·(r_1 … r_{2n-2})` -/
theorem sqDouble (P : Params) (n : Nat) (hn : 2 ≤ n) (s : State) (hs : s.OK) :
    ∃ s', runBody P (genSqDouble n) s = s' ∧ s'.OK ∧ s'.self = s.self ∧
      wsum (fun j => s'.r (1 + j)) (2 * n - 1) = 2 * wsum (fun j => s.r (1 + j)) (2 * n - 2) := by
  obtain ⟨m, hm⟩ : ∃ m, 2 * n - 2 = m + 2 := ⟨2 * n - 4, by omega⟩
  unfold genSqDouble
  rw [show 2 * n - 1 = m + 3 by omega, show 2 * n - 3 = m + 1 by omega, hm]
  have efun : (fun t => Instr.shlOr (.r (m + 2 - t)) (rr (m + 2 - t)) 1 (rr (m + 1 - t)) 63)
      = (fun u => Instr.shlOr (.r (m + 2 - u)) (rr (m + 2 - u)) 1 (rr (m + 2 - 1 - u)) 63) := rfl
  rw [efun, runBody_append, runBody_append, runBody_singleton, runBody_singleton]
  set s0 := step P (.shr (.r (m + 3)) (rr (m + 2)) 63) s with hs0
  have ok0 : s0.OK := step_ok P _ hs
  have r0 : ∀ j, s0.r j = if j = m + 3 then s.r (m + 2) >>> 63 else s.r j := fun j => rfl
  obtain ⟨s1, e1, ok1, self1, r1⟩ := sqDouble_steps P (m + 2) s0 ok0 s.r
    (fun j hj => by rw [r0, if_neg (by omega)]) (m + 1) (by omega)
  rw [e1]
  refine ⟨_, rfl, step_ok P _ ok1, self1, ?_⟩
  have r2 : ∀ j, (step P (.shl (.r 1) (rr 1) 1) s1).r j
      = if j = 1 then (s1.r 1 <<< 1) % 2 ^ 64 else s1.r j := fun j => rfl
  refine double_wsum (fun j => s.r (1 + j)) _ (m + 1) ?_ (fun j hj => ?_) ?_
  · -- `r_1`
    rw [r2, if_pos rfl, r1, if_neg (by omega), r0, if_neg (by omega), Nat.shiftLeft_eq, Nat.pow_one,
      Nat.mul_comm]
  · rw [r2, if_neg (by omega), r1, if_pos (by omega), shl1_or_shr63 (hs.r _)]
    rfl
  · rw [r2, if_neg (by omega), r1, if_neg (by omega), r0, if_pos (by omega),
      Nat.shiftRight_eq_div_pow]
    congr 2
    omega

/-! ## 4. the diagonal -/

theorem sqDiag_pairs (P : Params) (s0 : State) (hs0 : s0.OK) (hc : s0.carry = 0) (i : Nat) :
    ∃ s', runBody P ((List.range i).flatMap (fun i =>
        [Instr.mac (some (.r (2 * i))) (if i = 0 then .lit 0 else rr (2 * i)) (.selfL i) (.selfL i),
         Instr.adc (.r (2 * i + 1)) (rr (2 * i + 1)) (.lit 0)])) s0 = s' ∧ s'.OK ∧
      s'.self = s0.self ∧ (∀ j, 2 * i ≤ j → s'.r j = s0.r j) ∧
      wsum s'.r (2 * i) + s'.carry * 2 ^ (64 * (2 * i))
        = wsum (fun j => if j = 0 then 0 else s0.r j) (2 * i) + sqsum s0.self i := by
  induction i with
  | zero => exact ⟨s0, rfl, hs0, rfl, fun _ _ => rfl, by simp [sqsum, hc]⟩
  | succ i ih =>
    obtain ⟨s1, e1, ok1, self1, fr1, sum1⟩ := ih
    refine ⟨_, rfl, ?_⟩
    rw [List.range_succ, List.flatMap_append, runBody_append, e1]
    simp only [List.flatMap_cons, List.flatMap_nil, List.append_nil, runBody_cons, runBody_nil]
    -- the `mac` into `r_{2i}`
    have ok2 := step_ok P (.mac (some (.r (2 * i))) (if i = 0 then .lit 0 else rr (2 * i)) (.selfL i)
      (.selfL i)) ok1
    obtain ⟨env2, fr2, sum2⟩ := step_mac P (2 * i) (if i = 0 then .lit 0 else rr (2 * i)) (.selfL i)
      (.selfL i) ok1 rfl
    generalize step P (.mac (some (.r (2 * i))) (if i = 0 then .lit 0 else rr (2 * i)) (.selfL i)
      (.selfL i)) s1 = s2 at ok2 env2 fr2 sum2 ⊢
    -- the `adc` into `r_{2i+1}`
    have ok3 := step_ok P (.adc (.r (2 * i + 1)) (rr (2 * i + 1)) (.lit 0)) ok2
    obtain ⟨env3, fr3, sum3⟩ := step_adc P (2 * i + 1) (rr (2 * i + 1)) (.lit 0) ok2 rfl
    generalize step P (.adc (.r (2 * i + 1)) (rr (2 * i + 1)) (.lit 0)) s2 = s3 at ok3 env3 fr3 sum3 ⊢
    refine ⟨ok3, env3.2.2.1.trans (env2.2.2.1.trans self1), fun j hj => ?_, ?_⟩
    · have hj' : 2 * i + 2 ≤ j := hj
      rw [fr3 j (Nat.ne_of_gt (Nat.lt_of_lt_of_le (Nat.lt_succ_self _) hj')),
        fr2 j (Nat.ne_of_gt (Nat.lt_of_lt_of_le (Nat.lt_add_of_pos_right Nat.two_pos) hj'))]
      exact fr1 j (Nat.le_trans (Nat.le_add_right _ 2) hj')
    · have low : wsum s3.r (2 * i) = wsum s1.r (2 * i) :=
        wsum_congr fun j hj => (fr3 j (Nat.ne_of_lt (Nat.lt_succ_of_lt hj))).trans (fr2 j (Nat.ne_of_lt hj))
      have hacc : evalOpd P s1 (if i = 0 then .lit 0 else rr (2 * i))
          = if 2 * i = 0 then 0 else s0.r (2 * i) := by
        by_cases hi : i = 0
        · subst hi; rfl
        · rw [if_neg hi, if_neg fun h => hi ((Nat.mul_eq_zero.1 h).resolve_left (by decide))]
          exact fr1 _ (le_refl _)
      have hodd : evalOpd P s2 (rr (2 * i + 1)) = s0.r (2 * i + 1) :=
        (fr2 _ (Nat.succ_ne_self _)).trans (fr1 _ (Nat.le_succ _))
      rw [hacc, show evalOpd P s1 (.selfL i) = s0.self i from congrFun self1 i] at sum2
      rw [hodd, show evalOpd P s2 (.lit 0) = 0 from rfl, Nat.add_zero] at sum3
      rw [show 2 * (i + 1) = 2 * i + 1 + 1 from rfl, wsum_succ, wsum_succ, wsum_succ, wsum_succ, sqsum, low,
        fr3 (2 * i) (Nat.ne_of_lt (Nat.lt_succ_self _)), if_neg (Nat.succ_ne_zero (2 * i)),
        pow64_succ (2 * i + 1), pow64_succ (2 * i)]
      linear_combination sum1 + 2 ^ (64 * (2 * i)) * sum2 + (2 ^ (64 * (2 * i)) * 2 ^ 64) * sum3

/-- `(r_0 … r_{2n-1}) := (0, r_1 … r_{2n-1}) + Σ self_i²·2^(128 i)`, final carry included -/
theorem sqDiag (P : Params) (n : Nat) (s : State) (hs : s.OK) :
    ∃ s', runBody P (genSqDiag n) s = s' ∧ s'.OK ∧ s'.self = s.self ∧
      wsum s'.r (2 * n) + s'.carry * 2 ^ (64 * (2 * n))
        = 2 ^ 64 * wsum (fun j => s.r (1 + j)) (2 * n - 1) + sqsum s.self n := by
  unfold genSqDiag
  rw [runBody_append, runBody_singleton]
  have ok0 : (step P (.mov .carry (.lit 0)) s).OK := step_ok P _ hs
  obtain ⟨s1, e1, ok1, self1, _, sum1⟩ := sqDiag_pairs P _ ok0 rfl n
  refine ⟨s1, e1, ok1, self1, ?_⟩
  rw [sum1]
  congr 1
  by_cases hn : n = 0
  · subst hn; rfl
  · rw [show 2 * n = (2 * n - 1) + 1 by omega, wsum_succ']
    simp only [if_true, Nat.zero_add, Nat.add_sub_cancel]
    congr 1
    apply wsum_congr; intro j _
    rw [if_neg (by omega)]; rfl

theorem genSqDouble_noCall (n : Nat) : ∀ i ∈ genSqDouble n, isCall i = false := by
  intro i hi
  simp only [genSqDouble, List.mem_append, List.mem_singleton, List.mem_map] at hi
  obtain (rfl | ⟨_, _, rfl⟩) | rfl := hi <;> rfl

theorem genSqDiag_noCall (n : Nat) : ∀ i ∈ genSqDiag n, isCall i = false := by
  intro i hi
  simp only [genSqDiag, List.mem_append, List.mem_flatMap, List.mem_cons,
    List.not_mem_nil, or_false] at hi
  obtain rfl | ⟨_, _, rfl | rfl⟩ := hi <;> rfl

/-! ## 5. `square` -/

/-- `square` up to the call: the arguments passed to `mont_reduce` are the limbs of `self²` -/
theorem genSquare_run (P : Params) (n : Nat) (hn : 2 ≤ n) (mr : List Instr) (s : State) (hs : s.OK) :
    ∃ s', s'.OK ∧ run P mr (genSquareProg n) s = runBody P mr s' ∧
      wsum s'.r (2 * n) = wsum s.self n * wsum s.self n := by
  obtain ⟨s1, e1, ok1, self1, sum1⟩ := sqRows P n s hs (n - 1) (by omega)
  obtain ⟨s2, e2, ok2, self2, sum2⟩ := sqDouble P n hn s1 ok1
  obtain ⟨s3, e3, ok3, self3, sum3⟩ := sqDiag P n s2 ok2
  refine ⟨bindArgs P (callArgs n) s3, bindArgs_ok P _ ok3, ?_, ?_⟩
  · unfold genSquareProg
    have hnc : ∀ i ∈ (List.range (n - 1)).flatMap (genSqRow n) ++ genSqDouble n ++ genSqDiag n,
        isCall i = false := by
      intro i hi
      simp only [List.mem_append] at hi
      obtain (hi | hi) | hi := hi
      · exact genSqRows_noCall n _ i hi
      · exact genSqDouble_noCall n i hi
      · exact genSqDiag_noCall n i hi
    rw [run_append, run_eq_runBody P mr _ hnc, runBody_append, runBody_append, e1, e2, e3, run_call]
  · have hw : wsum (bindArgs P (callArgs n) s3).r (2 * n) = wsum s3.r (2 * n) :=
      wsum_congr (fun j hj => bindArgs_callArgs_r P n s3 hj)
    rw [hw]
    have h1 := sum1 (by omega)
    rw [show n + (n - 1) - 1 = 2 * n - 2 by
      rw [Nat.add_sub_assoc (Nat.le_sub_one_of_lt hn), Nat.sub_sub, Nat.two_mul, Nat.add_sub_assoc hn]] at h1
    rw [sum2, self2, self1] at sum3
    have hsq := square_split n s.self (by omega)
    -- `T + carry·2^(128 n) = A²`, both `T` and `A²` below `2^(128 n)`, so the carry is `0`
    have hT : wsum s3.r (2 * n) < 2 ^ (64 * (2 * n)) := wsum_lt (fun j _ => ok3.r j)
    have hA : wsum s.self n < 2 ^ (64 * n) := wsum_lt (fun j _ => hs.self j)
    have hAA : wsum s.self n * wsum s.self n < 2 ^ (64 * (2 * n)) := by
      rw [show 64 * (2 * n) = 64 * n + 64 * n by ring, pow_add]
      exact Nat.mul_lt_mul'' hA hA
    have htot : wsum s3.r (2 * n) + s3.carry * 2 ^ (64 * (2 * n)) = wsum s.self n * wsum s.self n := by
      rw [sum3, ← hsq, ← h1]; ring
    have hc : s3.carry = 0 := by
      by_contra hne
      have : 1 ≤ s3.carry := Nat.one_le_iff_ne_zero.2 hne
      have : 2 ^ (64 * (2 * n)) ≤ s3.carry * 2 ^ (64 * (2 * n)) := Nat.le_mul_of_pos_left _ this
      omega
    rw [hc] at htot
    simpa using htot

theorem genSquare_correct {P : Params} (h : P.WF) (hn : 2 ≤ P.limbs) {a : List Nat} (ha : LimbsOK a)
    (la : a.length = P.limbs) :
    limbsToNat (runSquare P (genSquareProg P.limbs) (genMontReduceProg P.limbs) a)
      = Mont.square P (limbsToNat a) := by
  unfold runSquare
  obtain ⟨s1, ok1, e1, sum1⟩ := genSquare_run P P.limbs hn (genMontReduceProg P.limbs) (initState a [])
    (initState_ok ha (by simp))
  rw [e1, genMontReduce_run h s1 ok1, sum1]
  show Mont.montReduce P (wsum (limbFn a) P.limbs * wsum (limbFn a) P.limbs) = _
  rw [← la, wsum_limbFn]
  rfl

end PP.MontLimb
