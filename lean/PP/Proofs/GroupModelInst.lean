/-
The C01 theorems packaged as an instance of the `GroupModel` interface (`PP.Proofs.Interfaces`):
for every field `F` with lawful model operations and every `b` with `ShortW b`, the Jacobian/affine
arithmetic of `PP.Model.Curve` is a model of Mathlib's group `(W b).Point` of `y² = x³ + b`.

Then the instantiations: G1 (`g1Codec.b = 4` in `Fq`, `ShortW (4 : Fq)`, `g1Model`) and G2
(`g2Codec.b = 4 (1 + u)` in `Fq2`, `g2Model`; the `Field Fq2` / `LawfulFieldOps Fq2` instances, built
on the model's own operations, come from `PP.Proofs.Tower2`).
-/
import PP.Props.C01
import PP.Proofs.Interfaces
import PP.Proofs.Primes
import PP.Proofs.Tower2
import PP.Model.Enc


namespace PP

open WeierstrassCurve.Affine

section generic
variable {F : Type} [Field F] [DecidableEq F] [FieldOps F] [LawfulFieldOps F]

set_option linter.unusedSectionVars false in
/-- two affine curve points with the same denotation are the same record, up to the unused
    coordinates of the identity -/
theorem Aff.abs_injective {b : F} [ShortW b] {A B : Aff F} (hA : Aff.OnCurve b A)
    (hB : Aff.OnCurve b B) (h : Aff.abs b A = Aff.abs b B) :
    A.infinity = B.infinity ∧ (A.infinity = false → A.x = B.x ∧ A.y = B.y) := by
  by_cases hi : A.infinity = true
  · have hB0 : Aff.abs b B = 0 := by rw [← h]; exact Aff.abs_of_infinity hi
    have hj : B.infinity = true := (Aff.abs_eq_zero_iff hB).mp hB0
    exact ⟨by rw [hi, hj], fun hf => by rw [hi] at hf; cases hf⟩
  · have hi' : A.infinity = false := by simpa using hi
    have hj' : B.infinity = false := by
      by_contra hj
      have hj : B.infinity = true := by simpa using hj
      have hA0 : Aff.abs b A = 0 := by rw [h]; exact Aff.abs_of_infinity hj
      exact hi ((Aff.abs_eq_zero_iff hA).mp hA0)
    rw [Aff.abs_of_not_infinity hA hi', Aff.abs_of_not_infinity hB hj'] at h
    exact ⟨by rw [hi', hj'], fun _ => Point.some_eq_some.mp h⟩

/-- **The curve arithmetic of the model is a `GroupModel`** with values in Mathlib's group of points
    of `y² = x³ + b`; validity of a representative is just "satisfies the (projective/affine) curve
    equation". -/
noncomputable def curveModel (b : F) [ShortW b] : GroupModel F (W b).Point where
  ValidJ := Jac.OnCurve b
  ValidA := Aff.OnCurve b
  absJ := Jac.abs b
  absA := Aff.abs b
  zero_valid := Jac.onCurve_zero b
  zero_abs := Jac.abs_zero b
  isZero_iff _ hP := C01.isZero_iff hP
  double_valid _ hP := C01.double_onCurve hP
  double_abs _ hP := C01.double_correct hP
  add_valid _ _ hP hQ := C01.add_onCurve hP hQ
  add_abs _ _ hP hQ := C01.add_correct hP hQ
  addMixed_valid _ _ hP hA := C01.addMixed_onCurve hP hA
  addMixed_abs _ _ hP hA := C01.addMixed_correct hP hA
  neg_valid _ hP := C01.neg_onCurve hP
  neg_abs _ hP := C01.neg_correct hP
  affZero_valid := Aff.onCurve_zero b
  affZero_abs := Aff.abs_zero b
  affInf_iff _ hA := (Aff.abs_eq_zero_iff hA).symm
  affNeg_valid _ hA := C01.affNeg_onCurve hA
  affNeg_abs _ hA := C01.affNeg_correct hA
  toJac_valid _ hA := C01.toJac_onCurve hA
  toJac_abs _ hA := C01.toJac_correct hA
  toAffine_ok _ hP := C01.toAffine_correct hP
  absA_inj _ _ hA hB h := Aff.abs_injective hA hB h

@[simp] theorem curveModel_ValidJ (b : F) [ShortW b] : (curveModel b).ValidJ = Jac.OnCurve b := rfl
@[simp] theorem curveModel_ValidA (b : F) [ShortW b] : (curveModel b).ValidA = Aff.OnCurve b := rfl
@[simp] theorem curveModel_absJ (b : F) [ShortW b] : (curveModel b).absJ = Jac.abs b := rfl
@[simp] theorem curveModel_absA (b : F) [ShortW b] : (curveModel b).absA = Aff.abs b := rfl

end generic

/-! ## G1: `y² = x³ + 4` over `Fq` -/

/-- the extracted Montgomery literal `B_COEFF` is the field element `4` -/
theorem fq_B_COEFF_eq : Fq.ofMont Gen.B_COEFF = (4 : Fq) := by decide +kernel

theorem g1Codec_b : g1Codec.b = (4 : Fq) := fq_B_COEFF_eq

/- `g1Codec.b` equals `4` only by evaluation (`g1Codec_b`), so `W g1Codec.b` and `W 4` are different
   types: files that state results about the decoders' curve (C04-C10, C17, C19) use `instShortWG1` and
   `g1Model`; the pairing files, which write the curve as `W (4 : Fq)`, use `instShortWFq4`. -/
instance instShortWFq4 : ShortW (4 : Fq) := ⟨fq_two_ne_zero, fq_three_ne_zero, fq_four_ne_zero⟩

instance instShortWG1 : ShortW g1Codec.b := ⟨fq_two_ne_zero, fq_three_ne_zero, by
  rw [g1Codec_b]; exact fq_four_ne_zero⟩

/-- the G1 arithmetic of the model, as a model of the group `E(Fq)`, `E : y² = x³ + 4`
    (with the coefficient written as the decoders write it, `g1Codec.b`) -/
noncomputable def g1Model : GroupModel Fq (W g1Codec.b).Point := curveModel g1Codec.b

/-- the same with the coefficient written `4` -/
noncomputable def g1Model4 : GroupModel Fq (W (4 : Fq)).Point := curveModel 4

/-! ## G2: `y² = x³ + 4(1 + u)` over `Fq2` -/

/-- the G2 coefficient is `4 + 4u = 4 (1 + u)` -/
theorem g2Codec_b : g2Codec.b = ⟨4, 4⟩ := by decide +kernel

theorem g2Codec_b_eq_mul_xi : g2Codec.b = 4 * Fq2.xi := g2Codec_b.trans (by decide +kernel)

theorem g2Codec_b_ne_zero : g2Codec.b ≠ 0 := by rw [g2Codec_b]; decide +kernel

instance instShortWG2 : ShortW g2Codec.b := ⟨fq2_two_ne_zero, fq2_three_ne_zero, g2Codec_b_ne_zero⟩

/-- the G2 arithmetic of the model, as a model of the group `E'(Fq2)`, `E' : y² = x³ + 4(1 + u)` -/
noncomputable def g2Model : GroupModel Fq2 (W g2Codec.b).Point := curveModel g2Codec.b

end PP
