/-
Bilinearity of the pairing in its first argument, the algebra: RECIPROCITY OF TWO LINES on
`y² = x³ + b` (any field), elementary (Vieta), no divisors.

A non-vertical line `l : Y = λ X + ν` through `A`, `B` (`A = B`: tangent) meets the curve in `A`, `B` and
`-(A + B)`; the abscissae are the roots of `c_l(X) = X³ + b - (λX + ν)² = (X - x_A)(X - x_B)(X - x₃)`,
`x₃ = λ² - x_A - x_B`.  `LineZeros b λ A B` records `B ∈ l` and the two non-trivial Vieta relations.
For two such lines `l`, `m` (zeros `A, B, -C` resp. `A', B', -C'`):

    l(A') · l(B') · l(-C') = - m(A) · m(B) · m(-C)                    (`line_reciprocity`)

(both sides are `∏ (a xᵢ + δ)` over the roots of `c_m` resp. `c_l`, `a = μ - λ`, `δ = ν' - ν`, and the
two products agree by Vieta).  This is Weil reciprocity for the two functions `l`, `m`, with the
contributions of the point at infinity made explicit (the sign).
-/
import PP.Proofs.NegPair

namespace PP.BilinP

open Ate NegPair

section generic
variable {K : Type} [Field K]

/-- the line of slope `l` through `A` passes through `B`, and its three intersections with
    `y² = x³ + b` have abscissae `x_A`, `x_B`, `l² - x_A - x_B` (Vieta) -/
structure LineZeros (b l : K) (A B : K × K) : Prop where
  onB : B.2 = A.2 + l * (B.1 - A.1)
  e2 : A.1 * B.1 + A.1 * (l ^ 2 - A.1 - B.1) + B.1 * (l ^ 2 - A.1 - B.1) =
    -2 * l * (A.2 - l * A.1)
  e3 : A.1 * B.1 * (l ^ 2 - A.1 - B.1) = (A.2 - l * A.1) ^ 2 - b

theorem lineZeros_tangent {b : K} {A : K × K} (h2 : (2 : K) ≠ 0) (hA : A.2 ^ 2 = A.1 ^ 3 + b)
    (hy : A.2 ≠ 0) : LineZeros b (tangentSlope A) A A := by
  have hl := tangentSlope_mul h2 hy
  generalize tangentSlope A = l at hl
  have e2 : A.1 * A.1 + A.1 * (l ^ 2 - A.1 - A.1) + A.1 * (l ^ 2 - A.1 - A.1) =
      -2 * l * (A.2 - l * A.1) := by linear_combination hl
  exact ⟨by ring, e2, by linear_combination -hA + A.1 * e2⟩

theorem lineZeros_chord {b : K} {A B : K × K} (hA : A.2 ^ 2 = A.1 ^ 3 + b)
    (hB : B.2 ^ 2 = B.1 ^ 3 + b) (hx : A.1 ≠ B.1) : LineZeros b (chordSlope A B) A B := by
  have hd : B.1 - A.1 ≠ 0 := sub_ne_zero.mpr (Ne.symm hx)
  have hl := chordSlope_mul hx
  generalize chordSlope A B = l at hl
  have e2 : A.1 * B.1 + A.1 * (l ^ 2 - A.1 - B.1) + B.1 * (l ^ 2 - A.1 - B.1) =
      -2 * l * (A.2 - l * A.1) := by
    apply mul_left_cancel₀ hd
    linear_combination -hA + hB + (A.2 + B.2 + l * (B.1 - A.1)) * hl
  exact ⟨by linear_combination -hl, e2, by linear_combination -hA + A.1 * e2⟩

theorem LineZeros.map {L : Type} [Field L] (σ : K →+* L) {b l : K} {A B : K × K}
    (h : LineZeros b l A B) : LineZeros (σ b) (σ l) (σ A.1, σ A.2) (σ B.1, σ B.2) := by
  refine ⟨?_, ?_, ?_⟩
  · have := congrArg σ h.onB
    simpa only [RingHom.map_add, RingHom.map_mul, RingHom.map_sub] using this
  · have := congrArg σ h.e2
    simpa only [RingHom.map_add, RingHom.map_mul, RingHom.map_sub, RingHom.map_pow, RingHom.map_neg,
      map_ofNat] using this
  · have := congrArg σ h.e3
    simpa only [RingHom.map_mul, RingHom.map_sub, RingHom.map_pow] using this

/-- `A + B` (the reflected third point) is on the curve -/
theorem LineZeros.sum_onCurve {b l : K} {A B : K × K} (h : LineZeros b l A B) :
    (sumOfSlope l A B).2 ^ 2 = (sumOfSlope l A B).1 ^ 3 + b := by
  simp only [sumOfSlope]
  linear_combination (l ^ 2 - A.1 - B.1) * h.e2 - h.e3

/-- the value of the line `(l, A)` at a point of the line `(m, A')` with abscissa `x` -/
theorem lineAt_on_line (l m : K) (A A' : K × K) (x : K) :
    lineAt l A (x, A'.2 + m * (x - A'.1)) =
      (m - l) * x + ((A'.2 - m * A'.1) - (A.2 - l * A.1)) := by
  simp only [lineAt]; ring

/-- **reciprocity of two lines**: `l(A') l(B') l(-C') = - m(A) m(B) m(-C)` -/
theorem line_reciprocity {b l m : K} {A B A' B' : K × K} (h : LineZeros b l A B)
    (h' : LineZeros b m A' B') :
    lineAt l A A' * lineAt l A B' * lineAt l A (ngp (sumOfSlope m A' B')) =
      -(lineAt m A' A * lineAt m A' B * lineAt m A' (ngp (sumOfSlope l A B))) := by
  have hB := h.onB
  have hB' := h'.onB
  obtain ⟨a1, a2⟩ := A
  obtain ⟨b1, b2⟩ := B
  obtain ⟨a1', a2'⟩ := A'
  obtain ⟨b1', b2'⟩ := B'
  simp only at hB hB'
  subst hB hB'
  have e2 := h.e2
  have e3 := h.e3
  have e2' := h'.e2
  have e3' := h'.e3
  simp only at e2 e3 e2' e3'
  simp only [lineAt, sumOfSlope, ngp]
  linear_combination (m - l) ^ 3 * (e3' - e3)
    + (m - l) ^ 2 * ((a2' - m * a1') - (a2 - l * a1)) * (e2' - e2)

end generic

end PP.BilinP
