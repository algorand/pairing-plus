/-
Limb-level Montgomery multiplication, part 2: the unrolled `mont_reduce` (`genMontReduceProg n`)
computes the integer-level `Mont.montReduce`, for every limb count and ALL `u64` inputs; hence
`mul_assign` computes `Mont.mul`.
-/
import PP.Proofs.MontLimb
import PP.Proofs.Mont

namespace PP.MontLimb
open PP PP.Mont PP.Limbs

/-! ## 1. arithmetic facts -/

theorem wsum_modLimb {P : Params} (h : P.WF) : wsum (modLimb P) P.limbs = P.p := by
  have e : modLimb P = limbFn (limbsOf P.limbs P.p) := rfl
  have hl := limbsOf_length P.limbs P.p
  have := wsum_limbFn (limbsOf P.limbs P.p)
  rw [hl] at this
  rw [e, this, limbsToNat_limbsOf_of_lt]
  exact h.p_lt_W

theorem wsum_mask (f : Nat → Nat) (i b : Nat) :
    wsum (fun j => if j < i then 0 else f j) (i + b) = 2 ^ (64 * i) * wsum (fun j => f (i + j)) b := by
  rw [wsum_add]
  have h1 : wsum (fun j => if j < i then 0 else f j) i = 0 := by
    have : wsum (fun j => if j < i then 0 else f j) i = wsum (fun _ => 0) i :=
      wsum_congr (fun j hj => if_pos hj)
    rw [this, wsum_zero_fun]
  have h2 : wsum (fun j => if i + j < i then 0 else f (i + j)) b = wsum (fun j => f (i + j)) b := by
    apply wsum_congr; intro j _; rw [if_neg (by omega)]
  rw [h1, h2, Nat.zero_add]

/-! ## 2. one reduction round -/

/-- the double-width integer held by `r_i … r_{2n-1}` and the pending carry after `i` rounds -/
def val (n i : Nat) (s : State) : Nat :=
  wsum (fun j => if j < i then 0 else s.r j) (2 * n) + (if i = 0 then 0 else s.carry) * 2 ^ (64 * (n + i))

theorem val_zero (n : Nat) (s : State) : val n 0 s = wsum s.r (2 * n) := by
  unfold val; simp

/-- `val n i s = 2^(64 i) · (window + 2^(64(n+1)) · tail)`, `n = i + d + 1` -/
theorem val_split (i d : Nat) (s : State) :
    val (i + d + 1) i s = 2 ^ (64 * i) *
      (wsum (fun j => s.r (i + j)) (i + d + 1 + 1)
        + 2 ^ 64 * (2 ^ (64 * (i + d)) * (if i = 0 then 0 else s.carry))
        + 2 ^ 64 * (2 ^ 64 * (2 ^ (64 * (i + d)) * wsum (fun j => s.r (i + (i + d + 1 + 1) + j)) d))) := by
  unfold val
  rw [show 2 * (i + d + 1) = i + ((i + d + 1 + 1) + d) by omega, wsum_mask, wsum_add]
  have e : ∀ j, i + (i + d + 1 + 1 + j) = i + (i + d + 1 + 1) + j := fun j => (Nat.add_assoc _ _ _).symm
  simp only [e]
  rw [Nat.mul_add 64 (i + d + 1) i, pow_add, pow64_succ (i + d + 1), pow64_succ (i + d)]
  ring

theorem val_split_succ (i d : Nat) (s : State) :
    val (i + d + 1) (i + 1) s = 2 ^ (64 * i) *
      (2 ^ 64 * wsum (fun j => s.r (i + 1 + j)) (i + d + 1)
        + 2 ^ 64 * (2 ^ 64 * (2 ^ (64 * (i + d)) * s.carry))
        + 2 ^ 64 * (2 ^ 64 * (2 ^ (64 * (i + d)) * wsum (fun j => s.r (i + (i + d + 1 + 1) + j)) d))) := by
  unfold val
  rw [show 2 * (i + d + 1) = (i + 1) + ((i + d + 1) + d) by omega, wsum_mask, wsum_add,
    if_neg (Nat.succ_ne_zero i)]
  have e : ∀ j, i + 1 + (i + d + 1 + j) = i + (i + d + 1 + 1) + j := fun j => by omega
  simp only [e]
  rw [Nat.mul_add 64 (i + d + 1) (i + 1), pow_add, pow64_succ i, pow64_succ (i + d)]
  ring

/-- the quotient digit is computed from the right word -/
theorem val_digit (i d : Nat) (s : State) (hs : s.OK) :
    (val (i + d + 1) i s >>> (64 * i)) % 2 ^ 64 = s.r i := by
  rw [val_split, Nat.shiftRight_eq_div_pow, Nat.mul_div_cancel_left _ (Nat.two_pow_pos _), wsum_succ',
    Nat.add_zero, Nat.add_assoc, Nat.add_assoc, ← Nat.mul_add, ← Nat.mul_add, Nat.add_mul_mod_self_left,
    Nat.mod_eq_of_lt (hs.r i)]

/-- Round `i < n` of `mont_reduce`: `T ↦ T + k·p·2^(64 i)` with the quotient digit `k` of
    `Mont.redcRounds`. -/
theorem redcRound {P : Params} (h : P.WF) (i d : Nat) (hn : P.limbs = i + d + 1) (s : State) (hs : s.OK)
    (hc2 : i ≠ 0 → s.carry2 = s.carry) :
    ∃ s', runBody P (genRedcRound P.limbs i) s = s' ∧ s'.OK ∧
      (d ≠ 0 → s'.carry2 = s'.carry) ∧
      val P.limbs (i + 1) s' = val P.limbs i s +
        ((((val P.limbs i s) >>> (64 * i)) % W64) * P.INV) % W64 * P.p * 2 ^ (64 * i) := by
  refine ⟨_, rfl, ?_⟩
  rw [hn, W64_eq_pow, val_digit i d s hs, ← Nat.mul_mod_mod]
  -- the top register of the window, written by the `adc`
  have top : i + 1 + (i + d) = i + (i + d + 1) := by omega
  have hlt : i + 1 < i + d + 1 ↔ d ≠ 0 := by omega
  -- the modulus limbs
  have hp : P.p = modLimb P 0 + 2 ^ 64 * wsum (fun j => modLimb P (1 + j)) (i + d) := by
    rw [← wsum_succ', ← wsum_modLimb h, hn]
  unfold genRedcRound
  rw [Nat.add_sub_cancel]
  simp only [runBody_append, runBody_cons, runBody_nil]
  -- `k := r_i · INV`, `carry := 0`
  have ok0 : (step P (.mov .carry (.lit 0)) (step P (.wmul .k (rr i) .inv) s)).OK :=
    step_ok P _ (step_ok P _ hs)
  have hk : (step P (.mov .carry (.lit 0)) (step P (.wmul .k (rr i) .inv) s)).k
      = s.r i * (P.INV % 2 ^ 64) % 2 ^ 64 := rfl
  have r0 : (step P (.mov .carry (.lit 0)) (step P (.wmul .k (rr i) .inv) s)).r = s.r := rfl
  have c0 : (step P (.mov .carry (.lit 0)) (step P (.wmul .k (rr i) .inv) s)).carry = 0 := rfl
  have c20 : (step P (.mov .carry (.lit 0)) (step P (.wmul .k (rr i) .inv) s)).carry2 = s.carry2 := rfl
  rw [← hk]
  generalize step P (.mov .carry (.lit 0)) (step P (.wmul .k (rr i) .inv) s) = s0 at ok0 hk r0 c0 c20 ⊢
  -- the `mac` whose low word `r_i + k·p_0` vanishes
  have ok1 := step_ok P (.mac none (rr i) (.reg .k) (.modL 0)) ok0
  obtain ⟨env1, r1, c1⟩ := step_mac_none P (rr i) (.reg .k) (.modL 0) ok0 rfl
  generalize step P (.mac none (rr i) (.reg .k) (.modL 0)) s0 = s1 at ok1 env1 r1 c1 ⊢
  have r10 : s1.r = s.r := r1.trans r0
  have e0 : 2 ^ 64 * s1.carry = s.r i + s0.k * modLimb P 0 := by
    rw [c1, c0, Nat.add_zero]
    show 2 ^ 64 * ((s0.r i + _) / _) = _
    rw [r0]
    refine Nat.mul_div_cancel' (Nat.dvd_of_mod_eq_zero (inv_kills_low h.inv_spec ?_ ?_))
    · show s0.k ≡ _ [MOD _]
      rw [hk]
      exact (Nat.mod_modEq _ _).trans ((Nat.mod_modEq _ _).mul_left _)
    · show modLimb P 0 ≡ P.p [MOD _]
      rw [hp]
      exact (Nat.add_mul_mod_self_left _ _ _).symm
  clear hk c1 c0 r1 r0
  -- the row of `mac`s
  obtain ⟨s2, e2, ok2, env2, fr2, sum2⟩ := macChain P (i + 1) False (.reg .k) (fun j => .modL (j + 1))
    (stable_k P) (fun j => stable_modL P (j + 1)) s1 ok1 (i + d)
  simp only [if_false] at e2 sum2
  rw [e2]
  have hcj : (fun j => evalOpd P s1 (.modL (j + 1))) = fun j => modLimb P (1 + j) :=
    funext fun j => congrArg (modLimb P) (Nat.add_comm j 1)
  rw [hcj, show evalOpd P s1 (.reg .k) = s0.k from env1.1,
    show (fun j => evalOpd P s1 (rr (i + 1 + j))) = fun j => s.r (i + 1 + j) from
      funext fun j => congrFun r10 _] at sum2
  -- the `adc`
  have ok3 := step_ok P (.adc (.r (i + (i + d + 1))) (rr (i + (i + d + 1)))
    (if i = 0 then .lit 0 else .reg .carry2)) ok2
  obtain ⟨env3, fr3, sum3⟩ := step_adc P (i + (i + d + 1)) (rr (i + (i + d + 1)))
    (if i = 0 then .lit 0 else .reg .carry2) ok2 rfl
  have hc2val : evalOpd P s2 (if i = 0 then .lit 0 else .reg .carry2) = if i = 0 then 0 else s.carry := by
    split_ifs with hi
    · rfl
    · exact env2.2.1.trans (env1.2.1.trans (c20.trans (hc2 hi)))
  have hrin : evalOpd P s2 (rr (i + (i + d + 1))) = s.r (i + (i + d + 1)) :=
    (fr2 _ (Or.inr top.le)).trans (congrFun r10 _)
  rw [hc2val, hrin] at sum3
  generalize step P (.adc (.r (i + (i + d + 1))) (rr (i + (i + d + 1)))
    (if i = 0 then .lit 0 else .reg .carry2)) s2 = s3 at ok3 env3 fr3 sum3 ⊢
  have key : val (i + d + 1) (i + 1) s3 = val (i + d + 1) i s + s0.k * P.p * 2 ^ (64 * i) := by
    rw [val_split_succ, val_split]
    -- below the top register only the `mac`s wrote, above it nothing did
    have w1 : wsum (fun j => s3.r (i + 1 + j)) (i + d + 1)
        = wsum (fun j => s2.r (i + 1 + j)) (i + d) + s3.r (i + (i + d + 1)) * 2 ^ (64 * (i + d)) := by
      rw [wsum_succ, top]
      exact congrArg (· + _) (wsum_congr fun j hj =>
        fr3 _ (Nat.ne_of_lt (top ▸ Nat.add_lt_add_left hj (i + 1))))
    have w2 : wsum (fun j => s3.r (i + (i + d + 1 + 1) + j)) d
        = wsum (fun j => s.r (i + (i + d + 1 + 1) + j)) d :=
      wsum_congr fun j hj =>
        (fr3 _ (Nat.ne_of_gt (Nat.lt_of_lt_of_le (Nat.lt_succ_self _) (Nat.le_add_right _ j)))).trans
          ((fr2 _ (Or.inr (top ▸ Nat.le_trans (Nat.le_succ _) (Nat.le_add_right _ j)))).trans
            (congrFun r10 _))
    have w3 : wsum (fun j => s.r (i + j)) (i + d + 1 + 1)
        = s.r i + 2 ^ 64 * (wsum (fun j => s.r (i + 1 + j)) (i + d)
          + s.r (i + (i + d + 1)) * 2 ^ (64 * (i + d))) := by
      rw [wsum_succ', wsum_succ]
      have e : ∀ j, i + (1 + j) = i + 1 + j := fun j => (Nat.add_assoc i 1 j).symm
      simp only [e, Nat.add_zero, top]
    rw [w1, w2, w3, hp]
    -- only products of the powers of two occur
    generalize 2 ^ (64 * i) = A
    generalize 2 ^ (64 * (i + d)) = B at sum2 ⊢
    linear_combination (A * 2 ^ 64 * B) * sum3 + (A * 2 ^ 64) * sum2 + A * e0
  -- the optional `let carry2 = carry`
  by_cases hd : d = 0
  · rw [if_neg (fun h => hlt.1 h hd), runBody_nil]
    exact ⟨ok3, fun hd0 => absurd hd hd0, key⟩
  · rw [if_pos (hlt.2 hd), runBody_singleton]
    exact ⟨step_ok P _ ok3, fun _ => rfl, key⟩

/-! ## 3. all rounds -/

theorem redcRounds_run {P : Params} (h : P.WF) : ∀ (m i : Nat) (s : State), s.OK → i + m ≤ P.limbs →
    (m ≠ 0 → i ≠ 0 → s.carry2 = s.carry) →
    ∃ s', runBody P ((List.range' i m).flatMap (genRedcRound P.limbs)) s = s' ∧ s'.OK ∧
      val P.limbs (i + m) s' = redcRounds P m i (val P.limbs i s) := by
  intro m
  induction m with
  | zero => intro i s hs _ _; exact ⟨s, rfl, hs, rfl⟩
  | succ m ih =>
    intro i s hs him hc2
    obtain ⟨s1, e1, ok1, c1, v1⟩ := redcRound h i (P.limbs - i - 1) (by omega) s hs (hc2 (by omega))
    obtain ⟨s2, e2, ok2, v2⟩ := ih (i + 1) s1 ok1 (by omega) (fun hm _ => c1 (by omega))
    refine ⟨s2, ?_, ok2, ?_⟩
    · rw [List.range'_succ, List.flatMap_cons, runBody_append, e1, e2]
    · rw [show i + (m + 1) = i + 1 + m by omega, v2, v1]
      rfl

/-! ## 4. storing the result and the final conditional subtraction -/

theorem stores_run (P : Params) (n : Nat) (s : State) (t : Nat) :
    ∃ s', runBody P ((List.range t).map (fun i => Instr.store i (.r (n + i)))) s = s' ∧
      s'.r = s.r ∧ (∀ j, s'.self j = if j < t then s.r (n + j) else s.self j) := by
  induction t with
  | zero => exact ⟨s, rfl, rfl, fun j => by simp⟩
  | succ t ih =>
    obtain ⟨s1, e1, r1, self1⟩ := ih
    refine ⟨_, rfl, ?_, ?_⟩
    · rw [List.range_succ, List.map_append, runBody_append, e1]
      exact r1
    · intro j
      rw [List.range_succ, List.map_append, runBody_append, e1]
      show (if j = t then s1.r (n + t) else s1.self j) = _
      rw [self1, r1]
      by_cases hj : j = t
      · subst hj; simp
      · rw [if_neg hj]
        by_cases h2 : j < t
        · rw [if_pos h2, if_pos (by omega)]
        · rw [if_neg h2, if_neg (by omega)]

theorem reduceLimbs_spec {P : Params} (h : P.WF) {ls : List Nat} (hok : LimbsOK ls)
    (hl : ls.length = P.limbs) :
    limbsToNat (reduceLimbs P ls) = Mont.reduce P (limbsToNat ls) ∧
      (reduceLimbs P ls).length = P.limbs := by
  have hm : limbsToNat (limbsOf P.limbs P.p) = P.p := limbsToNat_limbsOf_of_lt h.p_lt_W
  have hmok := limbsOf_ok P.limbs P.p
  have hml : ls.length = (limbsOf P.limbs P.p).length := by rw [hl, limbsOf_length]
  have hiff := cmp_eq_neg_one_iff hok hmok hml
  rw [hm] at hiff
  unfold reduceLimbs Mont.reduce
  simp only
  by_cases hlt : limbsToNat ls < P.p
  · rw [if_pos (hiff.2 hlt), if_pos hlt]
    exact ⟨rfl, hl⟩
  · rw [if_neg (fun hc => hlt (hiff.1 hc)), if_neg hlt]
    rw [limbsToNat_subNoborrow hok hmok hml, hm, hl, subNoborrow_length 0 hml]
    exact ⟨rfl, hl⟩

/-- `mont_reduce(r_0, …, r_{2n-1})` computes `Mont.montReduce` of the double-width integer held by its
    arguments -- for all `u64` argument values. -/
theorem genMontReduce_run {P : Params} (h : P.WF) (s : State) (hs : s.OK) :
    limbsToNat ((runBody P (genMontReduceProg P.limbs) s).out P)
      = Mont.montReduce P (wsum s.r (2 * P.limbs)) := by
  have hn := h.limbs_pos
  obtain ⟨s1, e1, ok1, v1⟩ := redcRounds_run h P.limbs 0 s hs (by omega) (fun _ h0 => absurd rfl h0)
  obtain ⟨s2, e2, r2, self2⟩ := stores_run P P.limbs s1 P.limbs
  unfold genMontReduceProg
  rw [runBody_append, runBody_append, List.range_eq_range', e1, ← List.range_eq_range', e2, runBody_singleton]
  -- the limbs handed to `reduce`
  have hls : (List.range P.limbs).map s2.self = (List.range P.limbs).map (fun j => s1.r (P.limbs + j)) := by
    apply List.map_congr_left
    intro j hj
    rw [self2, if_pos (List.mem_range.1 hj)]
  have hlsok : LimbsOK ((List.range P.limbs).map (fun j => s1.r (P.limbs + j))) := by
    intro l hl; simp only [List.mem_map] at hl; obtain ⟨i, _, rfl⟩ := hl; exact ok1.r _
  have hlslen : ((List.range P.limbs).map (fun j => s1.r (P.limbs + j))).length = P.limbs := by simp
  obtain ⟨red1, red2⟩ := reduceLimbs_spec h hlsok hlslen
  show limbsToNat ((List.range P.limbs).map (limbFn (reduceLimbs P ((List.range P.limbs).map s2.self)))) = _
  rw [hls]
  have hmr := map_range_limbFn (reduceLimbs P ((List.range P.limbs).map (fun j => s1.r (P.limbs + j))))
  rw [red2] at hmr
  rw [hmr, red1, limbsToNat_map_range]
  -- the integer side
  rw [Nat.zero_add, val_zero] at v1
  unfold Mont.montReduce
  rw [← v1]
  have hv : val P.limbs P.limbs s1
      = P.W * (wsum (fun j => s1.r (P.limbs + j)) P.limbs + s1.carry * P.W) := by
    unfold val Params.W
    rw [show 2 * P.limbs = P.limbs + P.limbs by omega, wsum_mask, if_neg (by omega),
      show 64 * (P.limbs + P.limbs) = 64 * P.limbs + 64 * P.limbs by ring, pow_add]
    ring
  have hlt : wsum (fun j => s1.r (P.limbs + j)) P.limbs < P.W :=
    wsum_lt (fun j _ => ok1.r _)
  rw [hv, Nat.mul_div_cancel_left _ (W_pos P), Nat.add_mul_mod_self_right, Nat.mod_eq_of_lt hlt]

/-! ## 5. `mont_reduce` and `mul_assign` on limb lists -/

theorem limbFn_nil (i : Nat) : limbFn [] i = 0 := by simp [limbFn]

theorem initState_ok {a b : List Nat} (ha : LimbsOK a) (hb : LimbsOK b) : (initState a b).OK :=
  ⟨fun _ => by show (0 : Nat) < _; norm_num, by show (0 : Nat) < _; norm_num,
   by show (0 : Nat) < _; norm_num, by show (0 : Nat) < _; norm_num,
   fun i => limbFn_lt ha i, fun i => limbFn_lt hb i⟩

theorem genMontReduce_correct {P : Params} (h : P.WF) {rs : List Nat} (hrs : LimbsOK rs)
    (hl : rs.length = 2 * P.limbs) :
    limbsToNat (runMontReduce P (genMontReduceProg P.limbs) rs) = Mont.montReduce P (limbsToNat rs) := by
  unfold runMontReduce
  have ok : ({ initState [] [] with r := limbFn rs } : State).OK := by
    have h0 := initState_ok (a := []) (b := []) (by simp) (by simp)
    exact ⟨fun i => limbFn_lt hrs i, h0.k, h0.carry, h0.carry2, h0.self, h0.other⟩
  rw [genMontReduce_run h _ ok]
  show Mont.montReduce P (wsum (limbFn rs) (2 * P.limbs)) = _
  rw [← hl, wsum_limbFn]

theorem genMul_correct {P : Params} (h : P.WF) {a b : List Nat} (ha : LimbsOK a) (hb : LimbsOK b)
    (la : a.length = P.limbs) (lb : b.length = P.limbs) :
    limbsToNat (runMul P (genMulProg P.limbs) (genMontReduceProg P.limbs) a b)
      = Mont.mul P (limbsToNat a) (limbsToNat b) := by
  unfold runMul
  obtain ⟨s1, ok1, e1, sum1⟩ := genMul_run P P.limbs (genMontReduceProg P.limbs) (initState a b)
    (initState_ok ha hb) h.limbs_pos
  rw [e1, genMontReduce_run h s1 ok1, sum1]
  show Mont.montReduce P (wsum (limbFn a) P.limbs * wsum (limbFn b) P.limbs) = _
  conv_lhs => rw [← la]
  rw [wsum_limbFn, la, ← lb, wsum_limbFn]
  rfl

end PP.MontLimb
