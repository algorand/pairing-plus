/-
C16, homomorphism law of the 3-isogeny, layer 2: instantiation at `Fq2`.

With `s = −1 + u` (`s2`, defined in `SswuG2NoRoot.lean`) the curves and the map of `PP/Proofs/IsoHom.lean` are `E₂' : y² = x³ + 240u·x +
1012(1+u)`, `E₂ : y² = x³ + 4(1+u)` and the rational map given by the coefficient tables of
`isogeny/g2.rs` (`Iso.iso3XNum`, …): all of this is checked by kernel computation on the extracted
constants (`g2EllpA_s`, …, `xnum_s`, `ynum_s`), and so are the hypotheses `Hyp s`:
`2s³ = 4(1+u)` is not a square in `Fq2` (`Fq2.sqrt` returns `none`, C18), the target curve has no
point of order two (`g2_no_two_torsion`).

`iso3Pt : E₂'(Fq2) → E₂(Fq2)` is the RFC's `iso_map` (`isoMapPoint`, `PP/Proofs/Assembly.lean`) on
Mathlib's group of points of `E₂'`; `iso3Pt_add` is the homomorphism law.  `absE2'` sends a Jacobian
triple to the point of `E₂'` it denotes, and `abs_iso3_eq_iso3Pt` says that the model's `iso3`
computes `iso3Pt` on every representative of every point of `E₂'`.
-/
import PP.Proofs.IsoHom
import PP.Proofs.Assembly

namespace PP
namespace IsoHom

open WeierstrassCurve.Affine IsoPoly Iso

local notation "b₂" => g2Codec.b

/-- the kernel polynomial is `x − 6s` -/
theorem ker_s : iso3Ker = [-6 * s2, 1] := by decide +kernel
/-- `9·XN = x³ − 12s·x² + 12s²·x + 152s³` -/
theorem xnum_s : scaleP 9 iso3XNum = [152 * s2 ^ 3, 12 * s2 ^ 2, -12 * s2, 1] := by decide +kernel
/-- `27·YN = −(x³ − 18s·x² + 132s²·x − 376s³)` -/
theorem ynum_s : scaleP 27 iso3YNum = [376 * s2 ^ 3, -132 * s2 ^ 2, 18 * s2, -1] := by
  decide +kernel
/-- `4(1+u)` is not a square: `Fq2::sqrt` fails on it -/
theorem sqrt_b : Fq2.sqrt b₂ = none := by decide +kernel

theorem hyp_s2 : Hyp s2 where
  two_ne := fq2_two_ne_zero
  three_ne := fq2_three_ne_zero
  nonsq := by
    intro y h
    have hsq : IsSquare b₂ := ⟨y, by rw [g2b_s, ← h]; ring⟩
    exact (Fq2Sqrt.fq2_sqrt_none_iff_of fq2FieldHyp b₂).mp sqrt_b hsq
  no2 := by
    intro x h
    apply g2_no_two_torsion x
    rw [g2b_s]; linear_combination h

theorem evalP_ker (x : Fq2) : evalP iso3Ker x = x - 6 * s2 := by
  rw [ker_s]; simp only [evalP_cons, evalP_nil]; ring

theorem evalP_xden (x : Fq2) : evalP iso3XDen x = (x - 6 * s2) ^ 2 := by
  rw [iso3_xden_ker, evalP_sqP, evalP_ker]

theorem evalP_yden (x : Fq2) : evalP iso3YDen x = (x - 6 * s2) ^ 3 := by
  rw [iso3_yden_ker, evalP_cubeP, evalP_ker]

theorem evalP_xnum (x : Fq2) : 9 * evalP iso3XNum x = nS s2 (x - 6 * s2) := by
  have h := congrArg (fun l => evalP l x) xnum_s
  simp only [evalP_scaleP, evalP_cons, evalP_nil] at h
  unfold nS
  linear_combination h

theorem evalP_ynum (x : Fq2) : 27 * evalP iso3YNum x = -mS s2 (x - 6 * s2) := by
  have h := congrArg (fun l => evalP l x) ynum_s
  simp only [evalP_scaleP, evalP_cons, evalP_nil] at h
  unfold mS
  linear_combination h

theorem xmap_eq (x : Fq2) (hx : x - 6 * s2 ≠ 0) :
    evalP iso3XNum x / evalP iso3XDen x = phiX s2 (x - 6 * s2) := by
  have h9 := nine_ne fq2_three_ne_zero
  rw [evalP_xden]
  unfold phiX
  rw [← evalP_xnum]
  field_simp

theorem ymap_eq (x y : Fq2) (hx : x - 6 * s2 ≠ 0) :
    y * evalP iso3YNum x / evalP iso3YDen x = y * phiY s2 (x - 6 * s2) := by
  have h27 := twentyseven_ne fq2_three_ne_zero
  have e : -mS s2 (x - 6 * s2) = 27 * evalP iso3YNum x := (evalP_ynum x).symm
  rw [evalP_yden]
  unfold phiY
  rw [e]
  field_simp

abbrev E2' : WeierstrassCurve.Affine Fq2 := Wab g2EllpA g2EllpB

/-- the RFC's `iso_map` on the group of points of `E₂'` -/
noncomputable def iso3Pt : E2'.Point → (W b₂).Point
  | .zero => 0
  | .some x y _ => isoMapPoint b₂ iso3XNum iso3XDen iso3YNum iso3YDen x y

theorem iso3Pt_zero : iso3Pt 0 = 0 := rfl

theorem iso3Pt_some {x y : Fq2} (h : E2'.Nonsingular x y) :
    iso3Pt (Point.some x y h) = isoMapPoint b₂ iso3XNum iso3XDen iso3YNum iso3YDen x y := rfl

theorem E2'_to_src {x y : Fq2} (h : E2'.Nonsingular x y) : (Wsrc s2).Nonsingular x y := by
  have h' := h
  unfold E2' at h'
  rw [g2EllpA_s, g2EllpB_s] at h'
  exact h'

/-- on an affine point of `E₂'` the RFC's `iso_map` is given by the formulas of `φ` (no pole) -/
theorem iso3Pt_some_eq {x y : Fq2} (h : E2'.Nonsingular x y) :
    ∃ h' : (W b₂).Nonsingular (phiX s2 (x - 6 * s2)) (y * phiY s2 (x - 6 * s2)),
      iso3Pt (Point.some x y h) = Point.some _ _ h' := by
  have hs := E2'_to_src h
  have hk := no_ker hyp_s2 hs
  have hns : (W b₂).Nonsingular (phiX s2 (x - 6 * s2)) (y * phiY s2 (x - 6 * s2)) := by
    have := phi_nonsingular hyp_s2 hs
    rw [← g2b_s] at this
    exact this
  refine ⟨hns, ?_⟩
  have hxd : evalP iso3XDen x ≠ 0 := by rw [evalP_xden]; exact pow_ne_zero 2 hk
  have hyd : evalP iso3YDen x ≠ 0 := by rw [evalP_yden]; exact pow_ne_zero 3 hk
  have hns' : (W b₂).Nonsingular (evalP iso3XNum x / evalP iso3XDen x)
      (y * evalP iso3YNum x / evalP iso3YDen x) := by
    rw [xmap_eq x hk, ymap_eq x y hk]; exact hns
  rw [iso3Pt_some]
  unfold isoMapPoint
  rw [dif_pos ⟨hxd, hyd, hns'⟩, PP.Point.some_eq_some]
  exact ⟨xmap_eq x hk, ymap_eq x y hk⟩

theorem iso3Pt_hom :
    (∀ P Q, iso3Pt (P + Q) = iso3Pt P + iso3Pt Q) ∧ (∀ P, iso3Pt (-P) = -iso3Pt P) ∧
      (∀ P, iso3Pt P = 0 ↔ P = 0) :=
  hom_of_eq_phi hyp_s2 g2EllpA_s g2EllpB_s g2b_s iso3Pt iso3Pt_zero
    (fun _ _ h => iso3Pt_some_eq h)

theorem iso3Pt_add (P Q : E2'.Point) : iso3Pt (P + Q) = iso3Pt P + iso3Pt Q := iso3Pt_hom.1 P Q

theorem iso3Pt_neg (P : E2'.Point) : iso3Pt (-P) = -iso3Pt P := iso3Pt_hom.2.1 P

/-- no rational point other than the identity is sent to the identity -/
theorem iso3Pt_eq_zero_iff (P : E2'.Point) : iso3Pt P = 0 ↔ P = 0 := iso3Pt_hom.2.2 P

noncomputable def iso3Hom : E2'.Point →+ (W b₂).Point := AddMonoidHom.mk' iso3Pt iso3Pt_add

theorem iso3Hom_injective : Function.Injective iso3Hom := by
  rw [injective_iff_map_eq_zero]
  exact fun P h => (iso3Pt_eq_zero_iff P).mp h

/-- every affine solution of the equation of `E₂'` is a nonsingular point (`E₂'` has no rational
    point of order two, so `y ≠ 0`) -/
theorem E2'_nonsingular {x y : Fq2} (h : y ^ 2 = x ^ 3 + g2EllpA * x + g2EllpB) :
    E2'.Nonsingular x y :=
  Wab_nonsingular fq2_two_ne_zero Sswu.g2_no_root h

/-- a Jacobian triple denotes a point of `E₂'`: `z = 0` (the identity) or the weighted equation -/
def OnE2' (p : Jac Fq2) : Prop :=
  p.z = 0 ∨ p.y ^ 2 = p.x ^ 3 + g2EllpA * p.x * p.z ^ 4 + g2EllpB * p.z ^ 6

theorem OnE2'.affine {p : Jac Fq2} (h : OnE2' p) (hz : p.z ≠ 0) :
    (p.y / p.z ^ 3) ^ 2 = (p.x / p.z ^ 2) ^ 3 + g2EllpA * (p.x / p.z ^ 2) + g2EllpB := by
  have := h.resolve_left hz
  field_simp
  linear_combination this

open Classical in
/-- the point of `E₂'` denoted by a Jacobian triple (`0` for `z = 0` and for off-curve triples) -/
noncomputable def absE2' (p : Jac Fq2) : E2'.Point :=
  if h : p.z ≠ 0 ∧ E2'.Nonsingular (p.x / p.z ^ 2) (p.y / p.z ^ 3) then Point.some _ _ h.2 else 0

theorem absE2'_of_z_eq_zero {p : Jac Fq2} (hz : p.z = 0) : absE2' p = 0 := by
  unfold absE2'; rw [dif_neg]; exact fun h => h.1 hz

theorem absE2'_of_z_ne_zero {p : Jac Fq2} (h : OnE2' p) (hz : p.z ≠ 0) :
    absE2' p = Point.some (p.x / p.z ^ 2) (p.y / p.z ^ 3) (E2'_nonsingular (h.affine hz)) := by
  unfold absE2'
  rw [dif_pos ⟨hz, E2'_nonsingular (h.affine hz)⟩]

/-- every point of `E₂'` is denoted by a Jacobian triple (`(0, 0, 0)` or `z = 1`) -/
theorem absE2'_surjective (P : E2'.Point) : ∃ p, OnE2' p ∧ absE2' p = P := by
  rcases P with _ | ⟨x, y, h⟩
  · exact ⟨⟨0, 0, 0⟩, Or.inl rfl, absE2'_of_z_eq_zero rfl⟩
  · have e := (Wab_equation_iff _ _ x y).mp h.1
    have hon : OnE2' ⟨x, y, 1⟩ := by
      right
      show y ^ 2 = x ^ 3 + g2EllpA * x * 1 ^ 4 + g2EllpB * 1 ^ 6
      linear_combination e
    refine ⟨⟨x, y, 1⟩, hon, ?_⟩
    rw [absE2'_of_z_ne_zero hon (by show (1 : Fq2) ≠ 0; exact one_ne_zero), PP.Point.some_eq_some]
    constructor
    · show x / 1 ^ 2 = x; simp
    · show y / 1 ^ 3 = y; simp

/-- the model's `iso3` computes `iso3Pt` on every Jacobian representative of every point of
    `E₂'` (identity included) -/
theorem abs_iso3_eq_iso3Pt (p : Jac Fq2) (hp : OnE2' p) :
    Jac.abs b₂ (iso3 p) = iso3Pt (absE2' p) := by
  by_cases hz : p.z = 0
  · rw [absE2'_of_z_eq_zero hz, iso3Pt_zero]
    exact Jac.abs_of_z_eq_zero
      ((jac_isZero_iff _).mp (C16Inst.iso3_identity p ((jac_isZero_iff p).mpr hz)))
  · rw [absE2'_of_z_ne_zero hp hz, iso3Pt_some]
    exact abs_iso3_eq p hz (hp.resolve_left hz)

end IsoHom
end PP
