/-
Curve orders, G2: the kernel computations on `E'(Fq2) : y² = x³ + 4(1 + u)` and the resulting
structure theorem.  As in `CurveOrderG1`, the numbers were computed outside Lean and each enters only
through a fact re-checked by the Lean kernel (`decide +kernel`) in the executable model of the Rust
arithmetic.

`h₂ = 13²·23²·2713·11953·262069·c`, `A = 13·23`, `S = 13·23·2713·11953·262069`, `B = S·c·r`,
`A·B = h₂·r`.  `P1 = (u, y)` has order `B`; `C = c·P1`; `T = r·C` has order `S`; `R = S·C` has
order `r`;  `E'(Fq2) = ⟨P1⟩ ⊕ ⟨ω((B/A)·P1)⟩ ≅ Z/B × Z/A`.
-/
import PP.Proofs.CurveOrderG1
import PP.Proofs.CurveOrderPrimes

namespace PP.CurveOrder.G2

open PP PP.CurveOrder PP.CurveOrder.Primes WeierstrassCurve.Affine

local notation "b₂" => g2Codec.b

def A : ℕ := 299
def S : ℕ := 2541052003438559
/-- `h₂·r / 299` -/
def B : ℕ := S * c * Gen.r

/-- the cube root of unity of `Fq`, in `Fq2` -/
def beta : Fq2 := ⟨G1.beta, 0⟩

/-- a point of order `B` -/
def P1 : Aff Fq2 :=
  ⟨⟨Zp.ofNat 0x0,
    Zp.ofNat 0x1⟩,
   ⟨Zp.ofNat 0x135203e60180a68ee2e9c448d77a2cd91c3dedd930b1cf60ef396489f61eb45e304466cf3e67fa0af1ee7b04121bdea2,
    Zp.ofNat 0x140d2a0ca7fdc0223895aa4843747ffad8ac19034879ca1b67e64a4501b6c551cb36cb8e58c411de58318ef3c9ab641b⟩, false⟩

/-- `c·P1` -/
def C : Aff Fq2 :=
  ⟨⟨Zp.ofNat 0x18dfc1f77f99cdb818415732f18918cd499a5fde918e2ac4e7b0864806f28358f7d865a691a8b78f60cfea813352c733,
    Zp.ofNat 0xbcf0e1d99e358571f0526ec2f3ca1e2c03e6c2db47d5ab6f30a75b134fd524031589082f2efb0cf706e20d1cfcacbc8⟩,
   ⟨Zp.ofNat 0x8531e8d8625dd52574df68278e52e16b7a2dc2b09f511f59e2a501174a2dfa1b112a093e86979a780d4d1ef67cd76d9,
    Zp.ofNat 0x80eeb59298329c05b8df38b64a8b0ca1b34d150bcf4f8eca67293669d2d58469f7b52eb4545582e231fb826237ccfe6⟩, false⟩

/-- `S·C = (S·c)·P1`, a generator of the subgroup of order `r` -/
def R : Aff Fq2 :=
  ⟨⟨Zp.ofNat 0xd92ecd015c966d00e4a3808038e0144be7d267d2adf76930213db0a4c048793f82640ff24e9ef7d13690e1bd72e4c60,
    Zp.ofNat 0x7298a227497c889347cb494f79033e70051a4e39d26ca4fd61d65a78f64ac7f9850823e48e6df4f5f6e6015e50ab5e0⟩,
   ⟨Zp.ofNat 0x3a0075099b5e0eeeb860b01c1504b3556becb69b43f7be51924db29424b756ff4e5cae1bc2ddef8070ef9f3f5303622,
    Zp.ofNat 0xf0abba1f67965b50f07afd811e9b5a93e47da98f44e368bc8293b38b6ea05607a4a4c7e45a962f180e17a6de2a2530f⟩, false⟩

/-- `r·C = (c·r)·P1` -/
def T : Aff Fq2 :=
  ⟨⟨Zp.ofNat 0x7840388da2c6aea5f7b82aa19fc62ef984e481814884c14259d53f7f91d00f2dddb1ff68775acc791704cb5ddc257b,
    Zp.ofNat 0xf6b87154aaaeea826a1aa9b9a2ade10e1537d08371bc2485c9f0f711178541943fb9462a717821f220aa0cae5cde182⟩,
   ⟨Zp.ofNat 0x1794a98a388f4a7d642a5570446af7cdcd2c1697ac7da6e1449f9c91add9969fec406f839ee3eeb80a7d88dd50000032,
    Zp.ofNat 0x16444b06b1cd7ecca1048f0931a31bed5047887db376f27e057f938cccbf5f821db45bccba75e67121303180f6b9d5cb⟩, false⟩

/-- `(B/13)·P1 = (S/13)·T` -/
def Y13 : Aff Fq2 :=
  ⟨⟨Zp.ofNat 0x16dc1d49fd9ec2103e990636ba57f6d0c38a01304e503c8b821d3efdb7adc74a6ba456c7600e1affdd68171b52c0c8b5,
    Zp.ofNat 0x14917c708fd82299f81041e8de947a2219854970c5548e585afd3b0d378f98b781e8be39905e6f1c7a27f4c37a735e45⟩,
   ⟨Zp.ofNat 0x11b7a1e250a1352f9fda5c2eec0cc5fcf50e55ede021fa6def9912ea35d88d5bcdabf0944c8081349668c4a01e7a0b6b,
    Zp.ofNat 0x81ea47e1317e9277c0858a19dd6c824a3d4f0fdd3da71267829056f1d28418858d9854319827752b8914c17cfe6afd0⟩, false⟩

/-! ### numbers -/

theorem B_pos : 0 < B := by decide +kernel
theorem B_eq : B = S * (c * Gen.r) := Nat.mul_assoc S c Gen.r
theorem B_factor : B = [13, 23, 2713, 11953, 262069, c, Gen.r].prod := by decide +kernel
theorem A_factor : A = [13, 23].prod := by decide +kernel
theorem A_dvd_B : A ∣ B := ⟨2713 * 11953 * 262069 * c * Gen.r, by decide +kernel⟩
theorem AB_eq : A * B = Gen.G2_COFACTOR * Gen.r := by decide +kernel
/-- the trace of Frobenius is negative: `2·h₂·r > 2q² + 1` -/
theorem card_lt : 2 * (Gen.q * Gen.q) + 1 < 2 * (A * B) := by decide +kernel

theorem primesA : [13, 23].Forall Nat.Prime := ⟨PP.Primes.prime_13, PP.Primes.prime_23⟩

theorem primesB : [13, 23, 2713, 11953, 262069, c, Gen.r].Forall Nat.Prime :=
  ⟨PP.Primes.prime_13, PP.Primes.prime_23, prime_2713, prime_11953, prime_262069, c_prime,
    PP.Primes.r_prime⟩

/-! ### kernel computations -/

theorem beta_quad : beta ^ 2 + beta + 1 = 0 := by decide +kernel

theorem P1_onCurve : Aff.OnCurve b₂ P1 := Or.inr (by decide +kernel)

theorem k_C : (smulJ P1 c).beq C.toJac = true := by decide +kernel
theorem k_T : (smulJ C Gen.r).beq T.toJac = true := by decide +kernel
theorem k_R : (smulJ C S).beq R.toJac = true := by decide +kernel
theorem k_c : (smulJ P1 (B / c)).isZero = false := by decide +kernel
theorem k_S : (smulJ T S).isZero = true := by decide +kernel
theorem k_13 : (smulJ T (S / 13)).beq Y13.toJac = true := by decide +kernel
theorem k_23 : (smulJ T (S / 23)).isZero = false := by decide +kernel
theorem k_2713 : (smulJ T (S / 2713)).isZero = false := by decide +kernel
theorem k_11953 : (smulJ T (S / 11953)).isZero = false := by decide +kernel
theorem k_262069 : (smulJ T (S / 262069)).isZero = false := by decide +kernel

theorem k_13_m1 : (smulJ Y13 3).beq (omegaA beta Y13).toJac = false := by decide +kernel
theorem k_13_m2 : (smulJ Y13 9).beq (omegaA beta Y13).toJac = false := by decide +kernel

/-! ### the structure of `E'(Fq2)` -/

/-- the point `P1` of Mathlib's group -/
noncomputable def P : (W b₂).Point := Aff.abs b₂ P1

theorem C_spec : Aff.OnCurve b₂ C ∧ c • P = Aff.abs b₂ C := nsmul_eq_record_of_beq P1_onCurve rfl k_C

theorem T_spec : Aff.OnCurve b₂ T ∧ (c * Gen.r) • P = Aff.abs b₂ T := by
  rw [mul_nsmul, C_spec.2]
  exact nsmul_eq_record_of_beq C_spec.1 rfl k_T

theorem R_spec : Aff.OnCurve b₂ R ∧ (S * c) • P = Aff.abs b₂ R := by
  rw [mul_nsmul', C_spec.2]
  exact nsmul_eq_record_of_beq C_spec.1 rfl k_R

theorem Y13_spec : Aff.OnCurve b₂ Y13 ∧ (B / 13) • P = Aff.abs b₂ Y13 :=
  div_nsmul_eq_record B_eq T_spec (by decide) rfl k_13

theorem P_order : addOrderOf P = B := by
  have h0 : B • P = 0 := by
    rw [B_eq, mul_nsmul', T_spec.2]
    exact nsmul_eq_zero_of_isZero T_spec.1 k_S
  have hr : (B / Gen.r) • P ≠ 0 := by
    rw [B, Nat.mul_div_cancel _ PP.Primes.r_prime.pos]
    exact ne_zero_of_record R_spec rfl
  exact addOrderOf_eq_of_primes primesB B_factor h0
    ⟨ne_zero_of_record Y13_spec rfl, div_nsmul_ne_zero B_eq T_spec (by decide) k_23,
      div_nsmul_ne_zero B_eq T_spec (by decide) k_2713,
      div_nsmul_ne_zero B_eq T_spec (by decide) k_11953,
      div_nsmul_ne_zero B_eq T_spec (by decide) k_262069,
      nsmul_ne_zero_of_isZero P1_onCurve k_c, hr⟩

theorem indep : ∀ p : ℕ, p.Prime → p ∣ A →
    omega beta_quad ((B / p) • P) ∉ AddSubgroup.zmultiples P :=
  forall_prime_dvd_prod primesA A_factor
    ⟨omega_notMem_of_record beta_quad P_order B_pos PP.Primes.prime_13 (by decide +kernel)
        (m₁ := 3) (m₂ := 9) (by decide) (by decide) Y13_spec k_13_m1 k_13_m2,
      omega_notMem_of_mod_three (omega_quadratic beta_quad) P_order B_pos PP.Primes.prime_23
        (by decide +kernel) (by decide)⟩

/-- the second generator, of order `A` -/
noncomputable def P₂ : (W b₂).Point := omega beta_quad ((B / A) • P)

/-- **`#E'(Fq2) = A·B = h₂·r` and `B = h₂·r/299` kills `E'(Fq2)`**; the group is
    `⟨P⟩ ⊕ ⟨P₂⟩ ≅ Z/B × Z/A` -/
theorem structure_thm :
    Nat.card (W b₂).Point = A * B ∧ (∀ g : (W b₂).Point, B • g = 0) ∧ addOrderOf P = B ∧
      addOrderOf P₂ = A ∧ ∀ g : (W b₂).Point, ∃ i j : ℤ, g = i • P + j • P₂ := by
  refine curve_structure beta_quad P_order B_pos A_dvd_B indep ?_
  rw [Nat.card_eq_fintype_card, Fq2.card]
  exact card_lt

end PP.CurveOrder.G2
