/-
C01, the abstraction: the curve `y² = x³ + b` as a Mathlib `WeierstrassCurve.Affine`, its group of
(nonsingular) points `(W b).Point` with Mathlib's chord-and-tangent `AddCommGroup`, and the maps
sending a model point (`Jac F`, `Aff F`) to the abstract point it denotes.

`Jac.abs b P` is total (off-curve triples are sent to `0`), so that it can be mapped over register
files; every theorem about it carries the explicit hypothesis `Jac.OnCurve b P`.  A dependently typed
version `Jac.absOf b P h` is also given and shown equal.
-/
import Mathlib.AlgebraicGeometry.EllipticCurve.Affine.Point
import Mathlib.Tactic.FieldSimp
import Mathlib.Tactic.Ring
import Mathlib.Tactic.LinearCombination
import PP.Model.Curve
import PP.Proofs.Lawful


namespace PP

open WeierstrassCurve.Affine

/-- Hypotheses on the coefficient field and on `b` under which `y² = x³ + b` is an elliptic curve
    (discriminant `-432 b²`). -/
class ShortW {F : Type} [Field F] (b : F) : Prop where
  two_ne : (2 : F) ≠ 0
  three_ne : (3 : F) ≠ 0
  b_ne : b ≠ 0

variable {F : Type} [Field F]

/-- The curve `y² = x³ + b`. -/
def W (b : F) : WeierstrassCurve.Affine F := ⟨0, 0, 0, 0, b⟩

@[simp] theorem W_a₁ (b : F) : (W b).a₁ = 0 := rfl
@[simp] theorem W_a₂ (b : F) : (W b).a₂ = 0 := rfl
@[simp] theorem W_a₃ (b : F) : (W b).a₃ = 0 := rfl
@[simp] theorem W_a₄ (b : F) : (W b).a₄ = 0 := rfl
@[simp] theorem W_a₆ (b : F) : (W b).a₆ = b := rfl

theorem W_equation_iff (b x y : F) : (W b).Equation x y ↔ y ^ 2 = x ^ 3 + b := by
  rw [equation_iff]; simp

theorem W_negY (b x y : F) : (W b).negY x y = -y := by simp [negY]

/-- Every affine point of `y² = x³ + b` is nonsingular (`b ≠ 0`, characteristic not 2 or 3). -/
theorem W_nonsingular_iff (b : F) [ShortW b] (x y : F) :
    (W b).Nonsingular x y ↔ y ^ 2 = x ^ 3 + b := by
  rw [nonsingular_iff', W_equation_iff]
  refine ⟨fun h => h.1, fun h => ⟨h, ?_⟩⟩
  simp only [W_a₁, W_a₂, W_a₃, W_a₄, zero_mul, mul_zero, add_zero, zero_sub]
  by_cases hy : y = 0
  · left
    subst hy
    have hx : x ≠ 0 := by
      rintro rfl
      have : b = 0 := by linear_combination -h
      exact ShortW.b_ne this
    simpa using ⟨ShortW.three_ne (b := b), hx⟩
  · right
    simpa using ⟨ShortW.two_ne (b := b), hy⟩

theorem W_nonsingular (b : F) [ShortW b] {x y : F} (h : y ^ 2 = x ^ 3 + b) :
    (W b).Nonsingular x y := (W_nonsingular_iff b x y).mpr h

theorem Point.some_eq_some {W' : WeierstrassCurve.Affine F} {x y x' y' : F}
    {h : W'.Nonsingular x y} {h' : W'.Nonsingular x' y'} :
    Point.some x y h = Point.some x' y' h' ↔ x = x' ∧ y = y' := by
  constructor
  · intro e; injection e with e1 e2; exact ⟨e1, e2⟩
  · rintro ⟨rfl, rfl⟩; rfl

/-- A Jacobian triple denotes a point of `y² = x³ + b`: any triple with `z = 0` is the identity
    (exactly the Rust `is_zero`), otherwise `(x/z², y/z³)` satisfies the equation. -/
def Jac.OnCurve (b : F) (P : Jac F) : Prop :=
  P.z = 0 ∨ P.y ^ 2 = P.x ^ 3 + b * P.z ^ 6

/-- An affine pair denotes a point: the `infinity` flag, or the equation. -/
def Aff.OnCurve (b : F) (A : Aff F) : Prop :=
  A.infinity = true ∨ A.y ^ 2 = A.x ^ 3 + b

theorem Jac.affine_eq_of_onCurve {b : F} {P : Jac F} (h : Jac.OnCurve b P) (hz : P.z ≠ 0) :
    (P.y / P.z ^ 3) ^ 2 = (P.x / P.z ^ 2) ^ 3 + b := by
  rcases h with h | h
  · exact absurd h hz
  · field_simp
    linear_combination h

theorem Jac.onCurve_of_affine_eq {b : F} {P : Jac F} (hz : P.z ≠ 0)
    (h : (P.y / P.z ^ 3) ^ 2 = (P.x / P.z ^ 2) ^ 3 + b) : Jac.OnCurve b P := by
  right
  field_simp at h
  linear_combination h

open Classical in
/-- The abstract point denoted by a Jacobian triple (`0` for `z = 0`, and for off-curve triples). -/
noncomputable def Jac.abs (b : F) (P : Jac F) : (W b).Point :=
  if h : P.z ≠ 0 ∧ (W b).Nonsingular (P.x / P.z ^ 2) (P.y / P.z ^ 3) then
    Point.some _ _ h.2
  else 0

open Classical in
/-- The abstract point denoted by an affine pair. -/
noncomputable def Aff.abs (b : F) (A : Aff F) : (W b).Point :=
  if h : A.infinity = false ∧ (W b).Nonsingular A.x A.y then Point.some _ _ h.2 else 0

/-- Dependently typed version of `Jac.abs`. -/
noncomputable def Jac.absOf (b : F) [ShortW b] [DecidableEq F] (P : Jac F) (h : Jac.OnCurve b P) :
    (W b).Point :=
  if hz : P.z = 0 then 0
  else Point.some (P.x / P.z ^ 2) (P.y / P.z ^ 3) (W_nonsingular b (Jac.affine_eq_of_onCurve h hz))

/-- Dependently typed version of `Aff.abs`. -/
noncomputable def Aff.absOf (b : F) [ShortW b] (A : Aff F) (h : Aff.OnCurve b A) : (W b).Point :=
  if hi : A.infinity = true then 0
  else Point.some A.x A.y (W_nonsingular b (h.resolve_left hi))

section basic
variable {b : F} [ShortW b]

omit [ShortW b] in
theorem Jac.abs_of_z_eq_zero {P : Jac F} (hz : P.z = 0) : Jac.abs b P = 0 := by
  unfold Jac.abs; rw [dif_neg]; exact fun h => h.1 hz

theorem Jac.abs_of_z_ne_zero {P : Jac F} (h : Jac.OnCurve b P) (hz : P.z ≠ 0) :
    Jac.abs b P = Point.some (P.x / P.z ^ 2) (P.y / P.z ^ 3)
      (W_nonsingular b (Jac.affine_eq_of_onCurve h hz)) := by
  unfold Jac.abs
  rw [dif_pos ⟨hz, W_nonsingular b (Jac.affine_eq_of_onCurve h hz)⟩]

theorem Jac.abs_eq_absOf [DecidableEq F] {P : Jac F} (h : Jac.OnCurve b P) :
    Jac.abs b P = Jac.absOf b P h := by
  unfold Jac.absOf
  split
  · next hz => exact Jac.abs_of_z_eq_zero hz
  · next hz => exact Jac.abs_of_z_ne_zero h hz

theorem Jac.abs_eq_zero_iff {P : Jac F} (h : Jac.OnCurve b P) : Jac.abs b P = 0 ↔ P.z = 0 := by
  constructor
  · intro e
    by_contra hz
    rw [Jac.abs_of_z_ne_zero h hz] at e
    exact Point.some_ne_zero _ e
  · exact Jac.abs_of_z_eq_zero

/-- The workhorse: a triple with `z ≠ 0` whose affine coordinates are those of a curve point is on
    the curve and denotes that point. -/
theorem Jac.abs_eq_some {P : Jac F} (hz : P.z ≠ 0) {x y : F} (hx : P.x / P.z ^ 2 = x)
    (hy : P.y / P.z ^ 3 = y) (h : (W b).Nonsingular x y) :
    Jac.OnCurve b P ∧ Jac.abs b P = Point.some x y h := by
  subst hx hy
  have hoc : Jac.OnCurve b P := Jac.onCurve_of_affine_eq hz ((W_nonsingular_iff b _ _).mp h)
  exact ⟨hoc, Jac.abs_of_z_ne_zero hoc hz⟩

omit [ShortW b] in
theorem Aff.abs_of_infinity {A : Aff F} (hi : A.infinity = true) : Aff.abs b A = 0 := by
  unfold Aff.abs; rw [dif_neg]; simp [hi]

theorem Aff.abs_of_not_infinity {A : Aff F} (h : Aff.OnCurve b A) (hi : A.infinity = false) :
    Aff.abs b A = Point.some A.x A.y (W_nonsingular b (h.resolve_left (by simp [hi]))) := by
  unfold Aff.abs
  rw [dif_pos ⟨hi, W_nonsingular b (h.resolve_left (by simp [hi]))⟩]

theorem Aff.abs_eq_absOf {A : Aff F} (h : Aff.OnCurve b A) : Aff.abs b A = Aff.absOf b A h := by
  unfold Aff.absOf
  split
  · next hi => exact Aff.abs_of_infinity hi
  · next hi => exact Aff.abs_of_not_infinity h (by simpa using hi)

theorem Aff.abs_eq_zero_iff {A : Aff F} (h : Aff.OnCurve b A) :
    Aff.abs b A = 0 ↔ A.infinity = true := by
  constructor
  · intro e
    by_contra hi
    rw [Aff.abs_of_not_infinity h (by simpa using hi)] at e
    exact Point.some_ne_zero _ e
  · exact Aff.abs_of_infinity

end basic

section formulas
variable [DecidableEq F]

theorem W_slope_chord (b : F) {x₁ x₂ : F} (y₁ y₂ : F) (hx : x₁ ≠ x₂) :
    (W b).slope x₁ x₂ y₁ y₂ = (y₁ - y₂) / (x₁ - x₂) := slope_of_X_ne hx

omit [DecidableEq F] in
theorem W_y_ne_negY (b : F) [ShortW b] (x : F) {y : F} (hy : y ≠ 0) : y ≠ (W b).negY x y := by
  rw [W_negY]; intro h
  have : 2 * y = 0 := by linear_combination h
  exact (mul_ne_zero (ShortW.two_ne (b := b)) hy) this

theorem W_slope_tangent (b : F) [ShortW b] (x : F) {y : F} (hy : y ≠ 0) :
    (W b).slope x x y y = 3 * x ^ 2 / (2 * y) := by
  rw [slope_of_Y_ne rfl (W_y_ne_negY b x hy), W_negY]
  simp only [W_a₁, W_a₂, W_a₄]
  congr 1 <;> ring

omit [DecidableEq F] in
theorem W_addX_eq (b x₁ x₂ ℓ : F) : (W b).addX x₁ x₂ ℓ = ℓ ^ 2 - x₁ - x₂ := by
  simp [addX]

omit [DecidableEq F] in
theorem W_addY_eq (b x₁ x₂ y₁ ℓ : F) :
    (W b).addY x₁ x₂ y₁ ℓ = ℓ * (x₁ - (ℓ ^ 2 - x₁ - x₂)) - y₁ := by
  simp [addY, negAddY, addX]; ring

end formulas

end PP
