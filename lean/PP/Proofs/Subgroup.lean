/-
C07, lemmas: the prime-order subgroup.

* the points killed by `n` form a subgroup of any abelian group (closure under everything the group
  offers: `+`, `-`, `k •`, finite sums) — `killedBy`;
* the double-and-add loop `Aff.mulBits` of the model computes `[value of the bits] A` on every curve
  point (for every bit string), hence `Aff.mul k = [k mod 2^256]`, `Aff.mul r = [r]`;
* the executable subgroup test `Aff.inSubgroup` decides "identity, or on the curve and killed by `r`"
  on ALL coordinate records, on or off the curve;
* the invariant `InSub` ("curve equation and `r • P = 0`") and its preservation by every operation
  of the model's curve API;
* multiplication by a cofactor lands in the subgroup, conditionally on the group order;
* `get_point_from_x` returns a finite curve point with the requested abscissa
  (`Aff.getPointFromX_spec`, the candidates of `random`).

Generic in the field `F` (lawful model operations) and in `b` (`ShortW b`).
-/
import Mathlib.GroupTheory.OrderOfElement
import Mathlib.Algebra.BigOperators.Group.Finset.Basic
import PP.Proofs.GroupModelInst
import PP.Proofs.ScalarMul


namespace PP

open WeierstrassCurve.Affine

section abstract
variable {G : Type} [AddCommGroup G]

/-- the elements killed by `n`, as a subgroup -/
def killedBy (G : Type) [AddCommGroup G] (n : ℕ) : AddSubgroup G where
  carrier := {g | n • g = 0}
  zero_mem' := nsmul_zero n
  add_mem' := fun {a c} (ha : n • a = 0) (hc : n • c = 0) =>
    show n • (a + c) = 0 by rw [nsmul_add, ha, hc, add_zero]
  neg_mem' := fun {a} (ha : n • a = 0) =>
    show n • (-a) = 0 by rw [smul_neg, ha, neg_zero]

@[simp] theorem mem_killedBy {n : ℕ} {g : G} : g ∈ killedBy G n ↔ n • g = 0 := Iff.rfl

theorem killed_add {n : ℕ} {g h : G} (hg : n • g = 0) (hh : n • h = 0) : n • (g + h) = 0 :=
  (killedBy G n).add_mem hg hh

theorem killed_neg {n : ℕ} {g : G} (hg : n • g = 0) : n • (-g) = 0 :=
  (killedBy G n).neg_mem hg

theorem killed_sub {n : ℕ} {g h : G} (hg : n • g = 0) (hh : n • h = 0) : n • (g - h) = 0 :=
  (killedBy G n).sub_mem hg hh

theorem killed_nsmul {n : ℕ} {g : G} (hg : n • g = 0) (k : ℕ) : n • (k • g) = 0 :=
  (killedBy G n).nsmul_mem hg k

theorem killed_zsmul {n : ℕ} {g : G} (hg : n • g = 0) (k : ℤ) : n • (k • g) = 0 :=
  (killedBy G n).zsmul_mem hg k

/-- a linear combination (as the MSM theorems state their result: a list of (point, scalar) pairs)
    of elements killed by `n` is killed by `n` -/
theorem killed_list_sum {α : Type} {n : ℕ} (f : α → G) (l : List (α × ℕ))
    (h : ∀ pk ∈ l, n • f pk.1 = 0) : n • (l.map (fun pk => pk.2 • f pk.1)).sum = 0 := by
  refine (killedBy G n).list_sum_mem ?_
  intro x hx
  obtain ⟨pk, hpk, rfl⟩ := List.mem_map.mp hx
  exact killed_nsmul (h pk hpk) pk.2

/-- the same for a `Finset` sum `Σ kᵢ • Pᵢ` -/
theorem killed_finset_sum {ι : Type} {n : ℕ} (s : Finset ι) (k : ι → ℕ) (P : ι → G)
    (h : ∀ i ∈ s, n • P i = 0) : n • (∑ i ∈ s, k i • P i) = 0 :=
  (killedBy G n).sum_mem fun i hi => killed_nsmul (h i hi) (k i)

/-- an element killed by two coprime numbers is the identity -/
theorem eq_zero_of_coprime_nsmul {g : G} {m n : ℕ} (hm : m • g = 0) (hn : n • g = 0)
    (hc : Nat.Coprime m n) : g = 0 := by
  have h1 : addOrderOf g ∣ Nat.gcd m n :=
    Nat.dvd_gcd (addOrderOf_dvd_of_nsmul_eq_zero hm) (addOrderOf_dvd_of_nsmul_eq_zero hn)
  rw [hc.gcd_eq_one, Nat.dvd_one] at h1
  exact AddMonoid.addOrderOf_eq_one_iff.mp h1

/-- a non-identity element killed by a prime has exactly that order -/
theorem addOrderOf_eq_of_prime {g : G} {p : ℕ} (hp : p.Prime) (h : p • g = 0) (hne : g ≠ 0) :
    addOrderOf g = p :=
  haveI := Fact.mk hp
  addOrderOf_eq_prime h hne

/-- multiplying by the cofactor lands in the `n`-torsion when `cof * n` kills the group -/
theorem killed_cofactor_nsmul {cof n : ℕ} (hord : ∀ g : G, (cof * n) • g = 0) (g : G) :
    n • (cof • g) = 0 := by
  rw [← mul_nsmul, hord]

end abstract

/-! `GroupModel` has no fields for `sub`, `subMixed`, `beq` and `batchNormalize`, so what follows is
about `Jac.abs b` and uses the C01 lemmas (`Jac.sub_spec`, `Jac.batchNormalize_spec`, …) directly;
results of `PP.Proofs.ScalarMul` enter through `curveModel b`. -/

section curve
variable {F : Type} [Field F] [DecidableEq F] [FieldOps F] [LawfulFieldOps F]
variable {b : F} [ShortW b]

/-- `mul_bits` over ANY MSB-first bit string computes `[value of the bits] A`, for every curve
    point `A` (identity and small-order points included) -/
theorem Aff.mulBits_spec {A : Aff F} (hA : Aff.OnCurve b A) (bits : List Bool) :
    Jac.OnCurve b (A.mulBits bits) ∧
      Jac.abs b (A.mulBits bits) = ofBitsMSB bits • Aff.abs b A :=
  mulBits_correct (curveModel b) A hA bits

/-- `mul_bits` with the `n` limbs of `k` computes `[k mod 2^(64 n)]` -/
theorem Aff.mulBits_limbs_spec {A : Aff F} (hA : Aff.OnCurve b A) (n k : ℕ) :
    Jac.OnCurve b (A.mulBits (bitsMSB (limbsOf n k))) ∧
      Jac.abs b (A.mulBits (bitsMSB (limbsOf n k))) = (k % 2 ^ (64 * n)) • Aff.abs b A := by
  have h := Aff.mulBits_spec hA (bitsMSB (limbsOf n k))
  rwa [ofBitsMSB_bitsMSB_limbsOf] at h

theorem Aff.mul_spec {A : Aff F} (hA : Aff.OnCurve b A) (k : ℕ) :
    Jac.OnCurve b (A.mul k) ∧ Jac.abs b (A.mul k) = (k % 2 ^ 256) • Aff.abs b A :=
  Aff.mul_correct (curveModel b) A hA k

theorem r_lt_two_pow_256 : Gen.r < 2 ^ 256 := by decide +kernel

/-- `self.mul(Fr::char())` is `[r] A` -/
theorem Aff.mul_r_spec {A : Aff F} (hA : Aff.OnCurve b A) :
    Jac.OnCurve b (A.mul Gen.r) ∧ Jac.abs b (A.mul Gen.r) = Gen.r • Aff.abs b A := by
  have h := Aff.mul_spec hA Gen.r
  rwa [Nat.mod_eq_of_lt r_lt_two_pow_256] at h

/-- `is_in_correct_subgroup_assuming_on_curve` on a curve point: "killed by `r`" -/
theorem Aff.inSubgroupAssumingOnCurve_iff {A : Aff F} (hA : Aff.OnCurve b A) :
    A.inSubgroupAssumingOnCurve = true ↔ Gen.r • Aff.abs b A = 0 := by
  have h := Aff.mul_r_spec hA
  unfold Aff.inSubgroupAssumingOnCurve
  rw [C01.isZero_iff h.1, h.2]

/-- `in_subgroup`, for every coordinate record whatsoever: on the curve and killed by `r` -/
theorem Aff.inSubgroup_iff_onCurve (A : Aff F) :
    Aff.inSubgroup b A = true ↔ Aff.OnCurve b A ∧ Gen.r • Aff.abs b A = 0 := by
  unfold Aff.inSubgroup
  rw [Bool.and_eq_true, Aff.isOnCurve_iff]
  constructor
  · rintro ⟨hA, h⟩; exact ⟨hA, (Aff.inSubgroupAssumingOnCurve_iff hA).mp h⟩
  · rintro ⟨hA, h⟩; exact ⟨hA, (Aff.inSubgroupAssumingOnCurve_iff hA).mpr h⟩

/-- `in_subgroup`, for every coordinate record `(x, y, infinity)` whatsoever: the identity (flag set,
    `x`, `y` ignored — exactly the short-circuits of the code), or `(x, y)` satisfies the curve
    equation and `r` times the point is the identity -/
theorem Aff.inSubgroup_iff (A : Aff F) :
    Aff.inSubgroup b A = true ↔
      A.infinity = true ∨ (A.y ^ 2 = A.x ^ 3 + b ∧ Gen.r • Aff.abs b A = 0) := by
  rw [Aff.inSubgroup_iff_onCurve]
  constructor
  · rintro ⟨hA, h⟩
    rcases hA with hi | he
    · exact Or.inl hi
    · exact Or.inr ⟨he, h⟩
  · rintro (hi | ⟨he, h⟩)
    · exact ⟨Or.inl hi, by rw [Aff.abs_of_infinity hi, nsmul_zero]⟩
    · exact ⟨Or.inr he, h⟩

/-- an off-curve pair is rejected -/
theorem Aff.inSubgroup_eq_false_of_not_onCurve {A : Aff F} (hi : A.infinity = false)
    (he : A.y ^ 2 ≠ A.x ^ 3 + b) : Aff.inSubgroup b A = false := by
  rw [← Bool.not_eq_true, Aff.inSubgroup_iff]
  rintro (h | ⟨h, -⟩)
  · rw [hi] at h; cases h
  · exact he h

/-- a point of a different curve `y² = x³ + b'` (a twist, for instance) is rejected -/
theorem Aff.inSubgroup_eq_false_of_twist {A : Aff F} {b' : F} (hi : A.infinity = false)
    (he : A.y ^ 2 = A.x ^ 3 + b') (hb : b' ≠ b) : Aff.inSubgroup b A = false := by
  apply Aff.inSubgroup_eq_false_of_not_onCurve hi
  rw [he]
  intro h
  exact hb (add_left_cancel h)

/-- a non-identity curve point killed by a number coprime to `r` is rejected -/
theorem Aff.inSubgroup_eq_false_of_coprime {A : Aff F} {n : ℕ} (hn : n • Aff.abs b A = 0)
    (hc : Nat.Coprime n Gen.r) (hne : Aff.abs b A ≠ 0) : Aff.inSubgroup b A = false := by
  rw [← Bool.not_eq_true, Aff.inSubgroup_iff_onCurve]
  rintro ⟨-, h⟩
  exact hne (eq_zero_of_coprime_nsmul hn h hc)

/-- … in particular a non-identity point whose order divides a cofactor coprime to `r` -/
theorem Aff.inSubgroup_eq_false_of_dvd_cofactor {A : Aff F} {n cof : ℕ}
    (hn : n • Aff.abs b A = 0) (hd : n ∣ cof) (hc : Nat.Coprime cof Gen.r)
    (hne : Aff.abs b A ≠ 0) : Aff.inSubgroup b A = false :=
  Aff.inSubgroup_eq_false_of_coprime hn (Nat.Coprime.coprime_dvd_left hd hc) hne

theorem g1_cofactor_coprime : Nat.Coprime Gen.G1_COFACTOR Gen.r := by decide +kernel
theorem g2_cofactor_coprime : Nat.Coprime Gen.G2_COFACTOR Gen.r := by decide +kernel

/-- a projective triple denotes a point of the order-`r` subgroup -/
def Jac.InSub (b : F) (P : Jac F) : Prop := Jac.OnCurve b P ∧ Gen.r • Jac.abs b P = 0

/-- an affine record denotes a point of the order-`r` subgroup -/
def Aff.InSub (b : F) (A : Aff F) : Prop := Aff.OnCurve b A ∧ Gen.r • Aff.abs b A = 0

/-- the executable test decides the invariant -/
theorem Aff.inSubgroup_iff_inSub (A : Aff F) : Aff.inSubgroup b A = true ↔ Aff.InSub b A :=
  Aff.inSubgroup_iff_onCurve A

theorem Jac.InSub.zero : Jac.InSub b (Jac.zero : Jac F) :=
  ⟨Jac.onCurve_zero b, by rw [Jac.abs_zero, nsmul_zero]⟩

theorem Aff.InSub.zero : Aff.InSub b (Aff.zero : Aff F) :=
  ⟨Aff.onCurve_zero b, by rw [Aff.abs_zero, nsmul_zero]⟩

theorem Jac.InSub.double {P : Jac F} (h : Jac.InSub b P) : Jac.InSub b P.double :=
  ⟨(Jac.double_spec h.1).1, by rw [(Jac.double_spec h.1).2]; exact killed_add h.2 h.2⟩

theorem Jac.InSub.add {P Q : Jac F} (hP : Jac.InSub b P) (hQ : Jac.InSub b Q) :
    Jac.InSub b (P.add Q) :=
  ⟨(Jac.add_spec hP.1 hQ.1).1, by rw [(Jac.add_spec hP.1 hQ.1).2]; exact killed_add hP.2 hQ.2⟩

theorem Jac.InSub.neg {P : Jac F} (h : Jac.InSub b P) : Jac.InSub b P.neg :=
  ⟨(Jac.neg_spec h.1).1, by rw [(Jac.neg_spec h.1).2]; exact killed_neg h.2⟩

theorem Jac.InSub.sub {P Q : Jac F} (hP : Jac.InSub b P) (hQ : Jac.InSub b Q) :
    Jac.InSub b (P.sub Q) :=
  ⟨(Jac.sub_spec hP.1 hQ.1).1, by rw [(Jac.sub_spec hP.1 hQ.1).2]; exact killed_sub hP.2 hQ.2⟩

theorem Jac.InSub.addMixed {P : Jac F} {A : Aff F} (hP : Jac.InSub b P) (hA : Aff.InSub b A) :
    Jac.InSub b (P.addMixed A) :=
  ⟨(Jac.addMixed_spec hP.1 hA.1).1, by
    rw [(Jac.addMixed_spec hP.1 hA.1).2]; exact killed_add hP.2 hA.2⟩

theorem Jac.InSub.subMixed {P : Jac F} {A : Aff F} (hP : Jac.InSub b P) (hA : Aff.InSub b A) :
    Jac.InSub b (P.subMixed A) :=
  ⟨(Jac.subMixed_spec hP.1 hA.1).1, by
    rw [(Jac.subMixed_spec hP.1 hA.1).2]; exact killed_sub hP.2 hA.2⟩

theorem Aff.InSub.neg {A : Aff F} (h : Aff.InSub b A) : Aff.InSub b A.neg :=
  ⟨(Aff.neg_spec h.1).1, by rw [(Aff.neg_spec h.1).2]; exact killed_neg h.2⟩

theorem Aff.InSub.toJac {A : Aff F} (h : Aff.InSub b A) : Jac.InSub b A.toJac :=
  ⟨(Aff.toJac_spec h.1).1, by rw [(Aff.toJac_spec h.1).2]; exact h.2⟩

/-- projective → affine never panics on a subgroup point and stays in the subgroup -/
theorem Jac.InSub.toAffine {P : Jac F} (h : Jac.InSub b P) :
    ∃ A, P.toAffine = some A ∧ Aff.InSub b A ∧ Aff.abs b A = Jac.abs b P := by
  obtain ⟨A, hA, hoc, habs⟩ := Jac.toAffine_spec h.1
  exact ⟨A, hA, ⟨hoc, by rw [habs]; exact h.2⟩, habs⟩

/-- the affine result of `toAffine` passes the executable subgroup test -/
theorem Jac.InSub.toAffine_inSubgroup {P : Jac F} (h : Jac.InSub b P) :
    ∃ A, P.toAffine = some A ∧ Aff.inSubgroup b A = true := by
  obtain ⟨A, hA, hs, -⟩ := h.toAffine
  exact ⟨A, hA, (Aff.inSubgroup_iff_inSub A).mpr hs⟩

theorem Aff.InSub.mulBits {A : Aff F} (h : Aff.InSub b A) (bits : List Bool) :
    Jac.InSub b (A.mulBits bits) :=
  ⟨(Aff.mulBits_spec h.1 bits).1, by
    rw [(Aff.mulBits_spec h.1 bits).2]; exact killed_nsmul h.2 _⟩

theorem Aff.InSub.mul {A : Aff F} (h : Aff.InSub b A) (k : ℕ) : Jac.InSub b (A.mul k) :=
  h.mulBits _

theorem Jac.InSub.mulAssign {P : Jac F} (hP : Jac.InSub b P) (k : ℕ) :
    Jac.InSub b (P.mulAssign k) :=
  have h := Jac.mulAssign_correct (curveModel b) P hP.1 k
  ⟨h.1, by rw [show Jac.abs b (P.mulAssign k) = _ from h.2]; exact killed_nsmul hP.2 _⟩

/-- batch normalisation never panics on subgroup points and keeps every entry in the subgroup -/
theorem Jac.InSub.batchNormalize (v : List (Jac F)) (hv : ∀ P ∈ v, Jac.InSub b P) :
    ∃ out, Jac.batchNormalize v = some out ∧ out.length = v.length ∧
      ∀ Q ∈ out, Jac.InSub b Q := by
  obtain ⟨out, ho, hl, hall⟩ := Jac.batchNormalize_spec (b := b) v (fun P hP => (hv P hP).1)
  refine ⟨out, ho, hl, ?_⟩
  intro Q hQ
  obtain ⟨i, hi, rfl⟩ := List.getElem_of_mem hQ
  have hi' : i < v.length := hl ▸ hi
  obtain ⟨hoc, habs, -, -⟩ := hall i hi hi'
  exact ⟨hoc, by rw [habs]; exact (hv _ (List.getElem_mem hi')).2⟩

omit [FieldOps F] [LawfulFieldOps F] [ShortW b] in
theorem killed_getD {n : ℕ} {regs : List (W b).Point} (h : ∀ g ∈ regs, n • g = 0) (i : ℕ) :
    n • regs.getD i 0 = 0 := by
  by_cases hi : i < regs.length
  · rw [List.getD_eq_getElem _ _ hi]; exact h _ (List.getElem_mem hi)
  · rw [List.getD_eq_default _ _ (Nat.le_of_not_lt hi), nsmul_zero]

omit [FieldOps F] [LawfulFieldOps F] [ShortW b] in
theorem killed_set {n : ℕ} {regs : List (W b).Point} (h : ∀ g ∈ regs, n • g = 0) (i : ℕ)
    {v : (W b).Point} (hv : n • v = 0) : ∀ g ∈ regs.set i v, n • g = 0 := by
  intro g hg
  rcases List.mem_or_eq_of_mem_set hg with h' | h'
  · exact h g h'
  · exact h' ▸ hv

omit [FieldOps F] [LawfulFieldOps F] [ShortW b] in
/-- one abstract instruction keeps all registers killed by `n` -/
theorem C01.stepP_killed {n : ℕ} {regs : List (W b).Point} (h : ∀ g ∈ regs, n • g = 0)
    (ins : C01.Instr) : ∀ g ∈ C01.stepP regs ins, n • g = 0 := by
  cases ins with
  | add i j => exact killed_set h i (killed_add (killed_getD h i) (killed_getD h j))
  | sub i j => exact killed_set h i (killed_sub (killed_getD h i) (killed_getD h j))
  | dbl i => exact killed_set h i (killed_add (killed_getD h i) (killed_getD h i))
  | neg i => exact killed_set h i (killed_neg (killed_getD h i))
  | addm i j => exact killed_set h i (killed_add (killed_getD h i) (killed_getD h j))
  | subm i j => exact killed_set h i (killed_sub (killed_getD h i) (killed_getD h j))
  | aff i => exact h
  | norm => exact h
  | cp i j => exact killed_set h i (killed_getD h j)

omit [FieldOps F] [LawfulFieldOps F] [ShortW b] in
theorem C01.runP_killed {n : ℕ} (prog : List C01.Instr) {regs : List (W b).Point}
    (h : ∀ g ∈ regs, n • g = 0) : ∀ g ∈ C01.runP prog regs, n • g = 0 := by
  induction prog generalizing regs with
  | nil => exact h
  | cons ins rest ih => exact ih (C01.stepP_killed h ins)

/-- **Any sequence of curve operations** (add, sub, double, negate, mixed add/sub, affine round
    trip, batch normalisation, copy) started on subgroup points runs without panic and ends on
    subgroup points. -/
theorem C01.runJ_inSub (prog : List C01.Instr) {regs : List (Jac F)}
    (h : ∀ P ∈ regs, Jac.InSub b P) :
    ∃ regs', C01.runJ prog regs = some regs' ∧ ∀ P ∈ regs', Jac.InSub b P := by
  obtain ⟨regs', hr, hoc, habs⟩ := C01.runJ_refines (b := b) prog (fun P hP => (h P hP).1)
  refine ⟨regs', hr, fun P hP => ⟨hoc P hP, ?_⟩⟩
  have hk : ∀ g ∈ C01.runP prog (regs.map (Jac.abs b)), Gen.r • g = 0 := by
    apply C01.runP_killed
    intro g hg
    obtain ⟨Q, hQ, rfl⟩ := List.mem_map.mp hg
    exact (h Q hQ).2
  rw [← habs] at hk
  exact hk _ (List.mem_map.mpr ⟨P, hP, rfl⟩)

/-- `mul_bits` with the `n` limbs of a cofactor `cof < 2^(64 n)` computes `[cof] A` … -/
theorem Aff.scaleByCofactor_spec {A : Aff F} (hA : Aff.OnCurve b A) {n cof : ℕ}
    (hcof : cof < 2 ^ (64 * n)) :
    Jac.OnCurve b (A.mulBits (bitsMSB (limbsOf n cof))) ∧
      Jac.abs b (A.mulBits (bitsMSB (limbsOf n cof))) = cof • Aff.abs b A := by
  have h := Aff.mulBits_limbs_spec hA n cof
  rwa [Nat.mod_eq_of_lt hcof] at h

/-- … which lies in the order-`r` subgroup IF `cof * r` kills the group of the curve
    (the curve order is kept as an explicit hypothesis) -/
theorem Aff.scaleByCofactor_inSub {A : Aff F} (hA : Aff.OnCurve b A) {n cof : ℕ}
    (hcof : cof < 2 ^ (64 * n)) (hord : ∀ g : (W b).Point, (cof * Gen.r) • g = 0) :
    Jac.InSub b (A.mulBits (bitsMSB (limbsOf n cof))) :=
  ⟨(Aff.scaleByCofactor_spec hA hcof).1, by
    rw [(Aff.scaleByCofactor_spec hA hcof).2]; exact killed_cofactor_nsmul hord _⟩

theorem g1_cofactor_lt : Gen.G1_COFACTOR < 2 ^ (64 * Gen.G1_COFACTOR_LIMBS) := by decide +kernel
theorem g2_cofactor_lt : Gen.G2_COFACTOR < 2 ^ (64 * Gen.G2_COFACTOR_LIMBS) := by decide +kernel

omit [DecidableEq F] [ShortW b] in
/-- `get_point_from_x` returns a finite point of the curve with the requested abscissa -/
theorem Aff.getPointFromX_spec [SqrtOps F] [LawfulSqrtOps F] {x : F} {greatest : Bool} {p : Aff F}
    (h : Aff.getPointFromX b x greatest = some p) :
    Aff.OnCurve b p ∧ p.infinity = false ∧ p.x = x := by
  unfold Aff.getPointFromX at h
  simp only [LawfulFieldOps.sq_eq] at h
  split at h
  · cases h
  · next y hy =>
    have hyy : y * y = x * x * x + b := LawfulSqrtOps.sqrt_sound _ _ hy
    simp only [Option.some.injEq] at h
    subst h
    refine ⟨Or.inr ?_, rfl, rfl⟩
    simp only
    split
    · rw [← show y * y = y ^ 2 by ring, hyy]; ring
    · rw [neg_sq, ← show y * y = y ^ 2 by ring, hyy]; ring

end curve

end PP
