/-
The generic `Field::pow` of the model (`powLoop`/`powBits`/`powLimbs`/`powNat`: MSB-first
square-and-multiply with the `found_one` flag over the bits of a limb array) is exponentiation.

Stated for any monoid whose model squaring `sq` is `a * a` (`powBits_eq_pow`, `powLimbs_eq_pow`,
`powNat_eq_pow_mod`, `powNat_eq_pow`) and specialised to lawful fields (`Lawful.powNat_eq_pow`, …).
`PowLoop.ofBitsMSBAux` is the value of a bit list written by structural recursion, so that it unfolds
in step with `powLoop` in `powLoop_fst`; `ofBitsMSBAux_eq` identifies it with the fold `PP.ofBitsMSBAux`
of PP/Proofs/Limbs.lean, from where the facts about limbs and bit lists come.
-/
import Mathlib.Algebra.Group.Defs
import Mathlib.Algebra.Group.Basic
import PP.Model.Field
import PP.Proofs.Lawful
import PP.Proofs.Limbs

namespace PP
namespace PowLoop

/-! ### the number denoted by an MSB-first bit list -/

/-- Horner evaluation of an MSB-first bit list on top of an accumulator. -/
def ofBitsMSBAux : Nat → List Bool → Nat
  | n, [] => n
  | n, b :: bs => ofBitsMSBAux (2 * n + b.toNat) bs

/-- The natural number whose binary digits, most significant first, are `bits`. -/
def ofBitsMSB (bits : List Bool) : Nat := ofBitsMSBAux 0 bits

theorem ofBitsMSBAux_eq : ∀ (bs : List Bool) (n : Nat), ofBitsMSBAux n bs = PP.ofBitsMSBAux n bs
  | [], _ => rfl
  | _ :: bs, _ => ofBitsMSBAux_eq bs _

theorem ofBitsMSB_bitsMSB (ls : List Nat) (h : Limbs.LimbsOK ls) :
    ofBitsMSB (bitsMSB ls) = limbsToNat ls :=
  (ofBitsMSBAux_eq _ 0).trans (PP.ofBitsMSB_bitsMSB ls h)

theorem limbsOf_length : ∀ (k n : Nat), (limbsOf k n).length = k := Limbs.limbsOf_length

theorem limbsToNat_limbsOf_of_lt (k n : Nat) (h : n < 2 ^ (64 * k)) :
    limbsToNat (limbsOf k n) = n :=
  Limbs.limbsToNat_limbsOf_of_lt h

/-! ### `powLoop` over a monoid -/

section Monoid
variable {M : Type} [Monoid M] [FieldOps M]

/-- Loop invariant of `Field::pow`: the accumulator is `a ^ n`, and `found_one = false` only while
    `n = 0`. -/
theorem powLoop_fst (hsq : ∀ x : M, sq x = x * x) (a : M) :
    ∀ (bits : List Bool) (n : Nat) (found : Bool), (found = false → n = 0) →
      (powLoop a bits (a ^ n, found)).1 = a ^ ofBitsMSBAux n bits
  | [], n, found, _ => rfl
  | i :: bs, n, found, h => by
    rw [ofBitsMSBAux]
    cases found with
    | true =>
      cases i with
      | true =>
        have e : sq (a ^ n) * a = a ^ (2 * n + true.toNat) := by
          simp [hsq, pow_succ, two_mul, pow_add]
        show (powLoop a bs (sq (a ^ n) * a, true)).1 = _
        rw [e]
        exact powLoop_fst hsq a bs _ _ (fun h => absurd h (by decide))
      | false =>
        have e : sq (a ^ n) = a ^ (2 * n + false.toNat) := by
          simp [hsq, two_mul, pow_add]
        show (powLoop a bs (sq (a ^ n), true)).1 = _
        rw [e]
        exact powLoop_fst hsq a bs _ _ (fun h => absurd h (by decide))
    | false =>
      have hn : n = 0 := h rfl
      subst hn
      cases i with
      | true =>
        have e : (a ^ 0 * a : M) = a ^ (2 * 0 + true.toNat) := by simp
        show (powLoop a bs (a ^ 0 * a, true)).1 = _
        rw [e]
        exact powLoop_fst hsq a bs _ _ (fun h => absurd h (by decide))
      | false =>
        show (powLoop a bs (a ^ 0, false)).1 = _
        exact powLoop_fst hsq a bs _ _ (fun _ => rfl)

theorem powBits_eq_pow (hsq : ∀ x : M, sq x = x * x) (a : M) (bits : List Bool) :
    powBits a bits = a ^ ofBitsMSB bits := by
  have := powLoop_fst hsq a bits 0 false (fun _ => rfl)
  rw [pow_zero] at this
  exact this

theorem powLimbs_eq_pow (hsq : ∀ x : M, sq x = x * x) (a : M) (ls : List Nat)
    (h : Limbs.LimbsOK ls) : powLimbs a ls = a ^ limbsToNat ls := by
  rw [powLimbs, powBits_eq_pow hsq, ofBitsMSB_bitsMSB ls h]

theorem powNat_eq_pow_mod (hsq : ∀ x : M, sq x = x * x) (a : M) (e k : Nat) :
    powNat a e k = a ^ (e % 2 ^ (64 * k)) := by
  rw [powNat, powLimbs_eq_pow hsq a _ (Limbs.limbsOf_ok k e), Limbs.limbsToNat_limbsOf]

theorem powNat_eq_pow (hsq : ∀ x : M, sq x = x * x) (a : M) (e k : Nat) (h : e < 2 ^ (64 * k)) :
    powNat a e k = a ^ e := by
  rw [powNat_eq_pow_mod hsq, Nat.mod_eq_of_lt h]

/-- `sqN a n` (square `n` times) is `a ^ (2 ^ n)`. -/
theorem sqN_eq_pow (hsq : ∀ x : M, sq x = x * x) : ∀ (n : Nat) (a : M), sqN a n = a ^ (2 ^ n)
  | 0, a => by simp [sqN]
  | n + 1, a => by
    rw [sqN, sqN_eq_pow hsq n, hsq, ← pow_two, ← pow_mul, ← pow_succ']

end Monoid

/-! ### the same for lawful fields -/

namespace Lawful
variable {F : Type} [Field F] [FieldOps F] [LawfulFieldOps F]

theorem powBits_eq_pow (a : F) (bits : List Bool) : powBits a bits = a ^ ofBitsMSB bits :=
  PowLoop.powBits_eq_pow LawfulFieldOps.sq_eq a bits

theorem powLimbs_eq_pow (a : F) (ls : List Nat) (h : Limbs.LimbsOK ls) :
    powLimbs a ls = a ^ limbsToNat ls :=
  PowLoop.powLimbs_eq_pow LawfulFieldOps.sq_eq a ls h

theorem powNat_eq_pow_mod (a : F) (e k : Nat) : powNat a e k = a ^ (e % 2 ^ (64 * k)) :=
  PowLoop.powNat_eq_pow_mod LawfulFieldOps.sq_eq a e k

theorem powNat_eq_pow (a : F) (e k : Nat) (h : e < 2 ^ (64 * k)) : powNat a e k = a ^ e :=
  PowLoop.powNat_eq_pow LawfulFieldOps.sq_eq a e k h

theorem sqN_eq_pow (n : Nat) (a : F) : sqN a n = a ^ (2 ^ n) :=
  PowLoop.sqN_eq_pow LawfulFieldOps.sq_eq n a

end Lawful

end PowLoop
end PP
