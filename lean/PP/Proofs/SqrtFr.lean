/-
C18 for `Fr`: the Legendre symbol and the derive-generated Tonelli–Shanks square root (`S = 32`).
Soundness, exact failure condition, and adequacy of the fuel of the model (the Rust loops terminate
and `m - i - 1` never underflows).
-/
import PP.Proofs.Sqrt

namespace PP
namespace Fr
open Primes

theorem r_odd : Gen.r % 2 = 1 := r_mod_two

/-! ### the extracted constants -/

/-- `t`, the odd part of `r - 1` -/
theorem SQRT_T_EXP_eq : Gen.fr_SQRT_T_EXP = (Gen.r - 1) / 2 ^ 32 := Mont.fr_SQRT_T_EXP_eq
/-- `(t + 1) / 2` -/
theorem SQRT_R_EXP_eq : Gen.fr_SQRT_R_EXP = ((Gen.r - 1) / 2 ^ 32 + 1) / 2 := Mont.fr_SQRT_R_EXP_eq
theorem r_sub_one : Gen.r - 1 = 2 ^ 32 * Gen.fr_SQRT_T_EXP := by decide +kernel
theorem t_odd : Gen.fr_SQRT_T_EXP % 2 = 1 := by decide +kernel
theorem t_eq : 2 * Gen.fr_SQRT_R_EXP = Gen.fr_SQRT_T_EXP + 1 := by decide +kernel
theorem half_eq : (Gen.r - 1) / 2 = Gen.fr_SQRT_T_EXP * 2 ^ 31 := by decide +kernel
theorem LEGENDRE_EXP_lt : Gen.fr_LEGENDRE_EXP < 2 ^ (64 * 4) := by decide +kernel
theorem SQRT_T_EXP_lt : Gen.fr_SQRT_T_EXP < 2 ^ (64 * 4) := by decide +kernel
theorem SQRT_R_EXP_lt : Gen.fr_SQRT_R_EXP < 2 ^ (64 * 4) := by decide +kernel

/-- canonical value of a power, as a kernel-computable `powMod` -/
theorem pow_v (a : Fr) (n : Nat) : (a ^ n).v = powMod a.v n Gen.r := by
  rw [Zp.powMod_eq _ _ _ (by have := two_lt_r; omega)]
  rfl

theorem one_v : (1 : Fr).v = 1 := by decide +kernel

theorem neg_one_v : (-1 : Fr).v = Gen.r - 1 := by
  rw [Zp.neg_v_of_ne_zero 1 one_ne_zero, one_v]

/-- The `ROOT_OF_UNITY` constant has multiplicative order exactly `2^32`: its `2^31`-th power is
    `-1` (so `≠ 1`) … -/
theorem root_pow_half : (Fr.ofMont Gen.fr_ROOT_OF_UNITY) ^ (2 ^ 31) = -1 := by
  apply Zp.ext_v
  rw [pow_v, neg_one_v, Mont.Fr_ofMont_v, Mont.dec_fr_ROOT_OF_UNITY]
  exact Mont.frOmega_order_kernel.1

/-- … and its `2^32`-th power is `1`. -/
theorem root_pow_full : (Fr.ofMont Gen.fr_ROOT_OF_UNITY) ^ (2 ^ 32) = 1 := by
  rw [show (2 : Nat) ^ 32 = 2 ^ 31 * 2 from by norm_num, pow_mul, root_pow_half]; simp

theorem root_pow_half_ne_one : (Fr.ofMont Gen.fr_ROOT_OF_UNITY) ^ (2 ^ 31) ≠ 1 := by
  rw [root_pow_half]; exact (Zp.one_ne_neg_one r_odd).symm

/-! ### Legendre symbol -/

theorem legendre_eq (a : Fr) : Fr.legendre a =
    if a ^ ((Gen.r - 1) / 2) = 0 then .zero
    else if a ^ ((Gen.r - 1) / 2) = 1 then .residue else .nonResidue := by
  unfold Fr.legendre
  rw [PowLoop.Lawful.powNat_eq_pow a _ 4 LEGENDRE_EXP_lt, Mont.fr_LEGENDRE_EXP_eq]

theorem legendre_zero_iff (a : Fr) : Fr.legendre a = .zero ↔ a = 0 := by
  rw [legendre_eq]; exact (Zp.legendre_ite r_odd a).1

theorem legendre_residue_iff (a : Fr) : Fr.legendre a = .residue ↔ a ≠ 0 ∧ IsSquare a := by
  rw [legendre_eq]; exact (Zp.legendre_ite r_odd a).2.1

theorem legendre_nonResidue_iff (a : Fr) : Fr.legendre a = .nonResidue ↔ ¬ IsSquare a := by
  rw [legendre_eq]; exact (Zp.legendre_ite r_odd a).2.2

/-! ### Tonelli–Shanks -/

/-- The inner loop finds the least `j ≥ i` with `t^(2^j) = 1`, provided one exists within the
    fuel. -/
theorem findI_spec (t : Fr) : ∀ (fuel i k : Nat), i ≤ k → k < i + fuel → t ^ (2 ^ k) = 1 →
    ∃ j, Fr.findI fuel (t ^ (2 ^ i)) i = some j ∧ i ≤ j ∧ j ≤ k ∧ t ^ (2 ^ j) = 1 ∧
      ∀ l, i ≤ l → l < j → t ^ (2 ^ l) ≠ 1
  | 0, i, k, hik, hk, _ => by omega
  | fuel + 1, i, k, hik, hk, h1 => by
    rw [Fr.findI]
    by_cases hi : t ^ (2 ^ i) = 1
    · rw [if_pos hi]
      exact ⟨i, rfl, le_refl _, hik, hi, fun l h1 h2 => by omega⟩
    · rw [if_neg hi]
      have hne : i ≠ k := fun e => hi (e ▸ h1)
      have hsq : sq (t ^ (2 ^ i)) = t ^ (2 ^ (i + 1)) := by
        rw [Zp.sq_eq, ← pow_two, ← pow_mul, ← pow_succ]
      rw [hsq]
      obtain ⟨j, hj, hij, hjk, hj1, hmin⟩ := findI_spec t fuel (i + 1) k (by omega) (by omega) h1
      refine ⟨j, hj, by omega, hjk, hj1, fun l hl1 hl2 => ?_⟩
      by_cases hli : l = i
      · subst hli; exact hi
      · exact hmin l (by omega) hl2

theorem tsLoop_succ (fuel : Nat) (c r t : Fr) (m : Nat) :
    Fr.tsLoop (fuel + 1) c r t m =
      if t = 1 then some r else
      match Fr.findI (Gen.fr_S + 1) (sq t) 1 with
      | none => none
      | some i =>
        if m < i + 1 then none else
        Fr.tsLoop fuel (sq (sqN c (m - i - 1))) (r * sqN c (m - i - 1))
          (t * sq (sqN c (m - i - 1))) i := rfl

/-- Loop invariant of Tonelli–Shanks for `m = k + 1` (`r² = a·t`, `c^(2^k) = -1`, `t^(2^k) = 1`)
    implies that the outer loop terminates within `m` iterations with a square root of `a`, never
    taking the underflow / fuel-exhaustion exits.  `k < S` is what makes the inner fuel `S + 1` of the
    model enough: `findI` tests the exponents `1, …, k + 1`, at most `S` of them. -/
theorem tsLoop_spec (a : Fr) : ∀ (fuel : Nat) (c r t : Fr) (k : Nat),
    k < fuel → k < Gen.fr_S → r * r = a * t → c ^ (2 ^ k) = -1 → t ^ (2 ^ k) = 1 →
    ∃ x, Fr.tsLoop fuel c r t (k + 1) = some x ∧ x * x = a
  | 0, _, _, _, _, h1, _, _, _, _ => absurd h1 (Nat.not_lt_zero _)
  | fuel + 1, c, r, t, k, hkf, hk32, hr, hc, ht => by
    rw [tsLoop_succ]
    by_cases ht1 : t = 1
    · rw [if_pos ht1]
      exact ⟨r, rfl, by rw [hr, ht1, mul_one]⟩
    · rw [if_neg ht1]
      obtain ⟨i, hi, h1i, hik, hi1, hmin⟩ :=
        findI_spec t (Gen.fr_S + 1) 1 (k + 1) (Nat.succ_le_succ (Nat.zero_le k))
          (by omega) (by rw [pow_succ, pow_mul, ht, one_pow])
      -- `i = j + 1 ≤ k`: for `i = k + 1` the invariant `t^(2^k) = 1` contradicts minimality
      obtain ⟨j, rfl⟩ : ∃ j, i = j + 1 := ⟨i - 1, by omega⟩
      have hjk : j < k := by
        rcases Nat.lt_or_ge j k with h | h
        · exact h
        · by_cases hk0 : k = 0
          · subst hk0; exact absurd (by simpa using ht) ht1
          · exact absurd ht (hmin k (Nat.one_le_iff_ne_zero.2 hk0) (by omega))
      obtain ⟨d, rfl⟩ : ∃ d, k = j + d + 1 := ⟨k - j - 1, by omega⟩
      have hsqt : sq t = t ^ (2 ^ 1) := by rw [Zp.sq_eq, pow_one, pow_two]
      rw [hsqt, hi]
      show ∃ x, (if j + d + 1 + 1 < j + 1 + 1 then none else _) = some x ∧ x * x = a
      rw [if_neg (by omega), show j + d + 1 + 1 - (j + 1) - 1 = d by omega]
      -- the invariant is re-established with `k := j`
      have hc2 : (sq (sqN c d)) ^ (2 ^ j) = -1 := by
        rw [PowLoop.Lawful.sqN_eq_pow, Zp.sq_eq, ← pow_two, ← pow_mul, ← pow_mul, ← pow_succ', ← pow_add,
          show d + (j + 1) = j + d + 1 by omega, hc]
      -- `t^(2^j) = -1`: its square is `1` and it is not `1` by minimality of `j + 1`
      have htj : t ^ (2 ^ j) = -1 := by
        have hsq1 : t ^ (2 ^ j) * t ^ (2 ^ j) = 1 := by rw [← pow_two, ← pow_mul, ← pow_succ, hi1]
        have hne1 : t ^ (2 ^ j) ≠ 1 := by
          by_cases hj0 : j = 0
          · subst hj0; simpa using ht1
          · exact hmin j (Nat.one_le_iff_ne_zero.2 hj0) (Nat.lt_succ_self j)
        exact (mul_self_eq_one_iff.mp hsq1).resolve_left hne1
      refine tsLoop_spec a fuel _ _ _ j (by omega) (by omega) ?_ hc2 ?_
      · rw [mul_mul_mul_comm, hr, Zp.sq_eq, mul_assoc]
      · rw [mul_pow, htj, hc2, neg_one_mul, neg_neg]

/-- `sqrtFuel` by the value of the Legendre symbol.  Unfolding `sqrtFuel` makes the kernel try to
    evaluate `legendre a`, so this is done once for the three cases. -/
theorem sqrtFuel_cases (a : Fr) :
    (Fr.legendre a = .zero → Fr.sqrtFuel a = some (some a)) ∧
    (Fr.legendre a = .nonResidue → Fr.sqrtFuel a = some none) ∧
    (Fr.legendre a = .residue → Fr.sqrtFuel a =
      (Fr.tsLoop (Gen.fr_S + 1) (Fr.ofMont Gen.fr_ROOT_OF_UNITY) (powNat a Gen.fr_SQRT_R_EXP 4)
        (powNat a Gen.fr_SQRT_T_EXP 4) Gen.fr_S).map some) := by
  unfold Fr.sqrtFuel
  generalize Fr.legendre a = L
  cases L with
  | zero => exact ⟨fun _ => rfl, nofun, nofun⟩
  | nonResidue => exact ⟨nofun, fun _ => rfl, nofun⟩
  | residue =>
    refine ⟨nofun, nofun, fun _ => ?_⟩
    dsimp only
    cases Fr.tsLoop (Gen.fr_S + 1) (Fr.ofMont Gen.fr_ROOT_OF_UNITY) (powNat a Gen.fr_SQRT_R_EXP 4)
      (powNat a Gen.fr_SQRT_T_EXP 4) Gen.fr_S <;> rfl

/-- on a non-zero square the Tonelli–Shanks loop starts in its invariant: `r = a^((t+1)/2)`,
    `t₀ = a^t` with `t₀^(2^31) = a^((r-1)/2) = 1`, and `c` of order `2^32` -/
theorem tsLoop_of_residue (a : Fr) (ha0 : a ≠ 0) (hsq : IsSquare a) :
    ∃ x, Fr.tsLoop (Gen.fr_S + 1) (Fr.ofMont Gen.fr_ROOT_OF_UNITY) (powNat a Gen.fr_SQRT_R_EXP 4)
      (powNat a Gen.fr_SQRT_T_EXP 4) Gen.fr_S = some x ∧ x * x = a := by
  rw [PowLoop.Lawful.powNat_eq_pow a _ 4 SQRT_R_EXP_lt, PowLoop.Lawful.powNat_eq_pow a _ 4 SQRT_T_EXP_lt,
    Mont.fr_S_eq]
  refine tsLoop_spec a (32 + 1) _ _ _ 31 (by decide) (by decide) ?_ root_pow_half ?_
  · rw [← pow_add, ← two_mul, t_eq, pow_succ, mul_comm]
  · rw [← pow_mul, ← half_eq]
    exact (Zp.isSquare_iff_pow_half r_odd a ha0).mp hsq

/-- Full specification of the fuel-bounded model of `Fr::sqrt`: either `a` is a non-residue and the
    routine reports failure, or it returns a square root; the fuel is never exhausted. -/
theorem sqrtFuel_spec (a : Fr) :
    (¬ IsSquare a ∧ Fr.sqrtFuel a = some none) ∨ (∃ b, Fr.sqrtFuel a = some (some b) ∧ b * b = a) := by
  cases hL : Fr.legendre a with
  | zero => exact Or.inr ⟨a, (sqrtFuel_cases a).1 hL, by rw [(legendre_zero_iff a).mp hL, mul_zero]⟩
  | nonResidue => exact Or.inl ⟨(legendre_nonResidue_iff a).mp hL, (sqrtFuel_cases a).2.1 hL⟩
  | residue =>
    obtain ⟨ha0, hsq⟩ := (legendre_residue_iff a).mp hL
    obtain ⟨x, hx, hxx⟩ := tsLoop_of_residue a ha0 hsq
    exact Or.inr ⟨x, by rw [(sqrtFuel_cases a).2.2 hL, hx]; rfl, hxx⟩

/-- fuel adequacy: the Rust loops terminate on every input -/
theorem sqrtFuel_ne_none (a : Fr) : Fr.sqrtFuel a ≠ none := by
  rcases sqrtFuel_spec a with ⟨_, h⟩ | ⟨b, h, _⟩ <;> rw [h] <;> exact Option.some_ne_none _

theorem sqrtFuel_sound (a b : Fr) (h : Fr.sqrtFuel a = some (some b)) : b * b = a := by
  rcases sqrtFuel_spec a with ⟨_, h'⟩ | ⟨b', h', hb⟩
  · rw [h'] at h; exact nomatch h
  · rw [h'] at h
    exact Option.some.inj (Option.some.inj h) ▸ hb

theorem sqrtFuel_none_iff (a : Fr) : Fr.sqrtFuel a = some none ↔ ¬ IsSquare a := by
  rcases sqrtFuel_spec a with ⟨hn, h'⟩ | ⟨b', h', hb⟩
  · exact iff_of_true h' hn
  · rw [h']
    exact iff_of_false (fun h => nomatch h) (not_not.2 ⟨b', hb.symm⟩)

theorem sqrtFuel_eq_some_sqrt (a : Fr) : Fr.sqrtFuel a = some (Fr.sqrt a) := by
  unfold Fr.sqrt
  cases h : Fr.sqrtFuel a with
  | none => exact absurd h (sqrtFuel_ne_none a)
  | some o => rfl

theorem sqrt_sound (a b : Fr) (h : Fr.sqrt a = some b) : b * b = a :=
  sqrtFuel_sound a b (by rw [sqrtFuel_eq_some_sqrt, h])

theorem sqrt_none_iff (a : Fr) : Fr.sqrt a = none ↔ ¬ IsSquare a := by
  rw [← sqrtFuel_none_iff, sqrtFuel_eq_some_sqrt]
  exact ⟨fun h => by rw [h], fun h => Option.some.inj h⟩

theorem sqrt_complete (a : Fr) (h : IsSquare a) : ∃ b, Fr.sqrt a = some b ∧ b * b = a :=
  exists_sqrt_of_isSquare (sqrt_none_iff a).1 (sqrt_sound a) h

theorem sgn0_neg (y : Fr) (hy : y ≠ 0) : Zp.sgn0 (-y) ≠ Zp.sgn0 y := Zp.sgn0_neg r_odd y hy

end Fr

instance : LawfulSqrtOps Fr where
  sqrt_sound := Fr.sqrt_sound
  sqrt_complete a h := (Fr.sqrt_none_iff a).mp h
  lt_irrefl := Zp.lt_irrefl
  lt_asymm := Zp.lt_asymm
  lt_total := Zp.lt_total

end PP
