/-
C10: multi-scalar multiplication by the bucket method (`sum_of_products_pippinger`,
`sum_of_products`, `find_pippinger_window`) of `PP.Model.Mul`.

Everything about points is relative to an arbitrary `M : GroupModel F G` (PP.Proofs.Interfaces);
nothing here depends on the proofs of the Jacobian formulas.

The scalars are cut into windows from the top bit down (`digit k bsi w`, the window with top bit
`bsi`); one round of the loop fills the buckets with the points of equal digit (`pipAccumulate`),
adds `Σ d • bucket d` to the result by running sums (`pipReduce`), and leaves the doublings to the
next round.  `shiftSum l n = Σ (kᵢ >>> n) • Pᵢ` is what the result is once the windows above bit `n`
are done.
-/
import PP.Proofs.ScalarMul
import Mathlib.Algebra.BigOperators.Group.Finset.Basic
import Mathlib.Tactic.Ring
open PP
namespace PP.Pip

theorem shiftRight_six (n : Nat) : n >>> 6 = n / 64 := by
  rw [Nat.shiftRight_eq_div_pow]

theorem and_63 (n : Nat) : n &&& 63 = n % 64 :=
  Nat.and_two_pow_sub_one_eq_mod n 6

/-- lowest bit of the window whose top bit is `bsi` -/
def winLo (bsi w : Nat) : Nat := bsi + 1 - w
/-- number of bits of the window whose top bit is `bsi` -/
def winWidth (bsi w : Nat) : Nat := bsi + 1 - winLo bsi w
/-- the digit of `k` in the window whose top bit is `bsi` -/
def digit (k bsi w : Nat) : Nat := (k >>> winLo bsi w) % 2 ^ winWidth bsi w

/-- `m` bits of limb `j` from bit `s` on, not reaching its top, are bits of `k` -/
theorem limb_shiftRight_mod (k j : Nat) {s m : Nat} (h : s + m ≤ 64) :
    (limb k j >>> s) % 2 ^ m = (k >>> (64 * j + s)) % 2 ^ m := by
  have e : 2 ^ 64 = 2 ^ s * 2 ^ (64 - s) := by rw [← pow_add]; congr 1; omega
  rw [limb, Nat.shiftRight_add, Nat.shiftRight_eq_div_pow _ s, Nat.shiftRight_eq_div_pow _ s, e,
    Nat.mod_mul_right_div_self, Nat.mod_mod_of_dvd _ (pow_dvd_pow 2 (by omega))]

theorem limb_mod (k j : Nat) {m : Nat} (h : m ≤ 64) : limb k j % 2 ^ m = (k >>> (64 * j)) % 2 ^ m :=
  Nat.mod_mod_of_dvd _ (pow_dvd_pow 2 h)

theorem pipDigit_spec {k bsi w : Nat} (hw1 : 1 ≤ w) (hw : w ≤ 64) (hb : bsi < 256) :
    pipDigit (limbsOf 4 k) bsi w = digit k bsi w := by
  obtain ⟨j, b, hb64, rfl⟩ : ∃ j b, b < 64 ∧ bsi = 64 * j + b :=
    ⟨bsi / 64, bsi % 64, Nat.mod_lt _ (by decide), (Nat.div_add_mod bsi 64).symm⟩
  have hj : j < 4 := by omega
  unfold pipDigit digit winWidth winLo
  simp only [shiftRight_six, and_63, Nat.one_shiftLeft, Nat.and_two_pow_sub_one_eq_mod,
    Nat.mul_add_div (by decide : 0 < 64), Nat.mul_add_mod, Nat.div_eq_of_lt hb64, Nat.mod_eq_of_lt hb64,
    Nat.add_zero]
  split_ifs with h1 h2
  · -- low end of limb 0: the window is cut off at bit 0
    subst h2
    rw [getD_limbsOf4 k 0 hj, limb_mod k 0 (by omega : b + 1 ≤ 64),
      show 64 * 0 + b + 1 - w = 64 * 0 by omega, Nat.sub_zero, Nat.zero_add]
  · -- `t` low bits of the window are the top of limb `j - 1`, the rest the bottom of limb `j`
    obtain ⟨t, ht, rfl⟩ : ∃ t, 1 ≤ t ∧ w = b + 1 + t := ⟨w - 1 - b, by omega, by omega⟩
    obtain ⟨j, rfl⟩ : ∃ j', j = j' + 1 := ⟨j - 1, by omega⟩
    rw [show 64 * (j + 1) + b + 1 - (b + 1 + t) = 64 * j + (64 - t) by omega,
      show 64 * (j + 1) + b + 1 - (64 * j + (64 - t)) = t + (b + 1) by omega,
      getD_limbsOf4 k _ hj, getD_limbsOf4 k _ (by omega), show b + 1 + t - 1 - b = t by omega,
      show j + 1 - 1 = j from rfl, limb_shiftRight_mod k j (by omega : 64 - t + t ≤ 64),
      limb_mod k (j + 1) (by omega : b + 1 ≤ 64),
      show 64 * (j + 1) = 64 * j + (64 - t) + t by omega, Nat.shiftRight_add]
    generalize k >>> (64 * j + (64 - t)) = X
    have hlt : (X >>> t) % 2 ^ (b + 1) * 2 ^ t < 2 ^ 64 :=
      calc _ < 2 ^ (b + 1) * 2 ^ t := Nat.mul_lt_mul_of_pos_right (Nat.mod_lt _ (by positivity)) (by positivity)
        _ ≤ 2 ^ 64 := by rw [← pow_add]; exact Nat.pow_le_pow_right (by decide) (by omega)
    rw [Nat.shiftLeft_eq, Nat.mod_eq_of_lt hlt, Nat.mul_comm,
      ← Nat.two_pow_add_eq_or_of_lt (Nat.mod_lt _ (by positivity)), pow_add 2 t (b + 1), Nat.mod_mul,
      Nat.shiftRight_eq_div_pow, Nat.add_comm]
  · -- inside limb `j`
    rw [getD_limbsOf4 k j hj, limb_shiftRight_mod k j (by omega : b - (w - 1) + w ≤ 64),
      show 64 * j + b + 1 - w = 64 * j + (b - (w - 1)) by omega,
      show 64 * j + b + 1 - (64 * j + (b - (w - 1))) = w by omega]

theorem digit_lt (k bsi w : Nat) : digit k bsi w < 2 ^ w := by
  unfold digit
  refine Nat.lt_of_lt_of_le (Nat.mod_lt _ (by positivity)) (Nat.pow_le_pow_right (by decide) ?_)
  unfold winWidth winLo; omega

theorem pipDigit_lt {k bsi w : Nat} (hw1 : 1 ≤ w) (hw : w ≤ 64) (hb : bsi < 256) :
    pipDigit (limbsOf 4 k) bsi w < 2 ^ w := by
  rw [pipDigit_spec hw1 hw hb]; exact digit_lt k bsi w

theorem pipAssertFails_iff_testBit {k bsi w : Nat} (hw1 : 1 ≤ w) (hw : w ≤ 64) :
    pipAssertFails (limbsOf 4 k) bsi w = true ↔ (bsi = 255 ∧ k.testBit 255 = true) := by
  unfold pipAssertFails
  simp only [and_63, getD_limbsOf4 k 3 (by decide)]
  have hbit : (limb k 3 >>> 63 != 0) = k.testBit 255 := by
    have h1 : limb k 3 >>> 63 = (k >>> 255) % 2 := by
      apply Nat.eq_of_testBit_eq
      intro i
      rw [Nat.testBit_shiftRight, limb_testBit, show (2:Nat) = 2 ^ 1 by rfl,
        Nat.testBit_mod_two_pow, Nat.testBit_shiftRight]
      by_cases hi : i < 1
      · have : i = 0 := by omega
        subst this; simp
      · have : ¬ 63 + i < 64 := by omega
        simp [hi, this]
    rw [h1, Nat.testBit, Nat.one_and_eq_mod_two]
  split_ifs with h
  · constructor
    · intro h'; exact absurd h' (by simp)
    · rintro ⟨rfl, _⟩; omega
  · rw [hbit]; simp

theorem testBit_255_iff {k : Nat} (hk : k < 2 ^ 256) : k.testBit 255 = true ↔ 2 ^ 255 ≤ k := by
  constructor
  · intro h; exact Nat.ge_two_pow_of_testBit h
  · intro h
    have : k / 2 ^ 255 = 1 := by omega
    rw [Nat.testBit_eq_decide_div_mod_eq, this]; rfl

theorem pipAssertFails_iff {k bsi w : Nat} (hw1 : 1 ≤ w) (hw : w ≤ 64) (hk : k < 2 ^ 256) :
    pipAssertFails (limbsOf 4 k) bsi w = true ↔ (bsi = 255 ∧ 2 ^ 255 ≤ k) := by
  rw [pipAssertFails_iff_testBit hw1 hw, testBit_255_iff hk]

section arr
variable {α : Type}
theorem getD_set! (B : Array α) (i d : Nat) (v z : α) :
    (B.set! i v).getD d z = if i = d ∧ i < B.size then v else B.getD d z := by
  simp only [Array.set!_eq_setIfInBounds, Array.getD_eq_getD_getElem?, Array.getElem?_setIfInBounds]
  by_cases h1 : i = d
  · by_cases h2 : i < B.size
    · subst h1; simp [h2]
    · subst h1
      simp [h2]
  · simp [h1]

theorem getElem?_eq_some_getD (B : Array α) {i : Nat} (z : α) (h : i < B.size) :
    B[i]? = some (B.getD i z) := by
  simp [Array.getD_eq_getD_getElem?, h]

theorem size_set! (B : Array α) (i : Nat) (v : α) : (B.set! i v).size = B.size := by
  simp

theorem getD_replicate (n d : Nat) (z : α) : (Array.replicate n z).getD d z = z := by
  simp only [Array.getD_eq_getD_getElem?, Array.getElem?_replicate]
  split_ifs <;> rfl
end arr

variable {F : Type} [Field F] [DecidableEq F] [FieldOps F] {G : Type} [AddCommGroup G]
  (M : GroupModel F G)

/- Buckets are read with `getD … Jac.zero`: an index out of range reads as the identity, so `absB`,
   `AllValid` and the statements below need no bound on `d`.  `wsum B = Σ d • bucket d` is what one
   round has to add to the result. -/
def absB (B : Array (Jac F)) (d : Nat) : G := M.absJ (B.getD d Jac.zero)
def AllValid (B : Array (Jac F)) : Prop := ∀ d, M.ValidJ (B.getD d Jac.zero)
def wsum (B : Array (Jac F)) : G := ∑ d ∈ Finset.range B.size, d • absB M B d

theorem absB_set! (B : Array (Jac F)) (i d : Nat) (v : Jac F) :
    absB M (B.set! i v) d = if i = d ∧ i < B.size then M.absJ v else absB M B d := by
  unfold absB; rw [getD_set!]; split_ifs <;> rfl

theorem AllValid_set! {B : Array (Jac F)} (hB : AllValid M B) (i : Nat) {v : Jac F} (hv : M.ValidJ v) :
    AllValid M (B.set! i v) := by
  intro d; rw [getD_set!]; split_ifs
  · exact hv
  · exact hB d

theorem wsum_set! (B : Array (Jac F)) {i : Nat} (v : Jac F) (hi : i < B.size) :
    wsum M (B.set! i v) = wsum M B + i • (M.absJ v - absB M B i) := by
  unfold wsum
  rw [size_set!]
  have : ∀ d ∈ Finset.range B.size, d • absB M (B.set! i v) d
      = d • absB M B d + (if i = d then d • (M.absJ v - absB M B d) else 0) := by
    intro d _
    rw [absB_set!]
    by_cases h : i = d
    · subst h; simp [hi, nsmul_sub]
    · simp [h]
  rw [Finset.sum_congr rfl this, Finset.sum_add_distrib, Finset.sum_ite_eq]
  simp [hi]

def pairsOf (l : List (Aff F × Nat)) : List (Aff F × List Nat) :=
  l.map (fun pk => (pk.1, limbsOf 4 pk.2))

/-- the `assert!` does not fire for any scalar of `l` in the window with top bit `bsi` -/
def AssertOk (bsi : Nat) (l : List (Aff F × Nat)) : Prop :=
  ∀ pk ∈ l, ¬ (bsi = 255 ∧ pk.2.testBit 255 = true)

theorem pipAccumulate_cons (bsi w : Nat) (P : Aff F) (k : Nat) (l : List (Aff F × Nat))
    (B : Array (Jac F)) (m0 : Nat) :
    pipAccumulate bsi w (pairsOf ((P, k) :: l)) (B, m0) =
      if pipAssertFails (limbsOf 4 k) bsi w then none
      else if pipDigit (limbsOf 4 k) bsi w > 0 then
        match B[pipDigit (limbsOf 4 k) bsi w]? with
        | none => none
        | some b => pipAccumulate bsi w (pairsOf l)
            (B.set! (pipDigit (limbsOf 4 k) bsi w) (b.addMixed P), max m0 (pipDigit (limbsOf 4 k) bsi w))
      else pipAccumulate bsi w (pairsOf l) (B, m0) := by
  simp only [pairsOf, List.map_cons, pipAccumulate]
  rfl

theorem pipAccumulate_spec {w bsi : Nat} (hw1 : 1 ≤ w) (hw : w ≤ 64) (hb : bsi < 256) :
    ∀ (l : List (Aff F × Nat)) (B : Array (Jac F)) (m0 : Nat),
      B.size = 2 ^ w → AllValid M B → (∀ pk ∈ l, M.ValidA pk.1) → AssertOk bsi l → m0 < 2 ^ w →
      ∃ B' m', pipAccumulate bsi w (pairsOf l) (B, m0) = some (B', m') ∧ B'.size = 2 ^ w ∧
        AllValid M B' ∧
        wsum M B' = wsum M B + (l.map (fun pk => digit pk.2 bsi w • M.absA pk.1)).sum ∧
        absB M B' 0 = absB M B 0 ∧ m' < 2 ^ w ∧
        ((∀ d, m0 < d → absB M B d = 0) → ∀ d, m' < d → absB M B' d = 0) := by
  intro l
  induction l with
  | nil =>
    intro B m0 hs hv _ _ hm
    exact ⟨B, m0, by simp [pairsOf, pipAccumulate], hs, hv, by simp, rfl, hm, fun h => h⟩
  | cons pk l ih =>
    obtain ⟨P, k⟩ := pk
    intro B m0 hs hv hP hA hm
    have hnf : pipAssertFails (limbsOf 4 k) bsi w = false := by
      rw [Bool.eq_false_iff, Ne, pipAssertFails_iff_testBit hw1 hw]
      exact hA (P, k) (List.mem_cons_self ..)
    have hP' : ∀ pk ∈ l, M.ValidA pk.1 := fun pk h => hP pk (List.mem_cons_of_mem _ h)
    have hA' : AssertOk bsi l := fun pk h => hA pk (List.mem_cons_of_mem _ h)
    have hPv : M.ValidA P := hP (P, k) (List.mem_cons_self ..)
    rw [pipAccumulate_cons, hnf, pipDigit_spec hw1 hw hb]
    simp only [Bool.false_eq_true, if_false, List.map_cons, List.sum_cons]
    have hdl := digit_lt k bsi w
    generalize digit k bsi w = idx at hdl ⊢
    by_cases hpos : idx > 0
    · rw [if_pos hpos, getElem?_eq_some_getD B Jac.zero (by omega : idx < B.size)]
      simp only
      have hbv : M.ValidJ ((B.getD idx Jac.zero).addMixed P) := M.addMixed_valid _ _ (hv idx) hPv
      obtain ⟨B', m', h1, h2, h3, h4, h5, h6, h7⟩ :=
        ih (B.set! idx ((B.getD idx Jac.zero).addMixed P)) (max m0 idx)
          (by rw [size_set!, hs]) (AllValid_set! M hv idx hbv) hP' hA' (by omega)
      refine ⟨B', m', h1, h2, h3, ?_, ?_, h6, ?_⟩
      · rw [h4, wsum_set! M B _ (by omega), M.addMixed_abs _ _ (hv idx) hPv]
        unfold absB
        rw [add_sub_cancel_left, add_assoc]
      · rw [h5, absB_set!, if_neg (by omega)]
      · intro hz
        apply h7
        intro d hd
        rw [absB_set!, if_neg (by omega)]
        exact hz d (by omega)
    · rw [if_neg hpos]
      have : idx = 0 := by omega
      subst this
      obtain ⟨B', m', h1, h2, h3, h4, h5, h6, h7⟩ := ih B m0 hs hv hP' hA' hm
      exact ⟨B', m', h1, h2, h3, by rw [h4, zero_nsmul, zero_add], h5, h6, h7⟩

theorem pipAccumulate_eq_none_iff {w bsi : Nat} (hw1 : 1 ≤ w) (hw : w ≤ 64) (hb : bsi < 256) :
    ∀ (l : List (Aff F × Nat)) (B : Array (Jac F)) (m0 : Nat), B.size = 2 ^ w →
      (pipAccumulate bsi w (pairsOf l) (B, m0) = none ↔
        ∃ pk ∈ l, pipAssertFails (limbsOf 4 pk.2) bsi w = true) := by
  intro l
  induction l with
  | nil => intro B m0 _; simp [pairsOf, pipAccumulate]
  | cons pk l ih =>
    obtain ⟨P, k⟩ := pk
    intro B m0 hs
    rw [pipAccumulate_cons]
    by_cases hf : pipAssertFails (limbsOf 4 k) bsi w = true
    · simp [hf]
    · have hdl := pipDigit_lt (k := k) hw1 hw hb
      have hf' : pipAssertFails (limbsOf 4 k) bsi w = false := by simpa using hf
      simp only [hf', Bool.false_eq_true, if_false, List.mem_cons, exists_eq_or_imp, false_or]
      generalize pipDigit (limbsOf 4 k) bsi w = idx at hdl ⊢
      by_cases hpos : idx > 0
      · rw [if_pos hpos, getElem?_eq_some_getD B Jac.zero (by omega : idx < B.size)]
        exact ih _ _ (by rw [size_set!, hs])
      · rw [if_neg hpos]; exact ih _ _ hs

/-- The running sums: when the loop is at `i`, bucket `i + 1` holds the sum of the buckets above it
    (emptied on the way, hence the hypothesis that they denote `0`); a pass adds it into bucket `i`
    and the new bucket `i` into `res`.  So `res` still lacks `i` copies of bucket `i + 1` and `d`
    copies of every bucket `d ≤ i`, and nothing at `i = 0`. -/
theorem pipReduceLoop_spec : ∀ (i : Nat) (B : Array (Jac F)) (res : Jac F),
    AllValid M B → M.ValidJ res → i + 1 < B.size → (∀ d, i + 1 < d → absB M B d = 0) →
    ∃ B' res', pipReduceLoop i (B, res) = some (B', res') ∧ B'.size = B.size ∧ AllValid M B' ∧
      M.ValidJ res' ∧
      M.absJ res' = M.absJ res + i • absB M B (i + 1) + ∑ d ∈ Finset.range (i + 1), d • absB M B d ∧
      (∀ d, 2 ≤ d → absB M B' d = 0) ∧ absB M B' 0 = absB M B 0 := by
  intro i
  induction i with
  | zero =>
    intro B res hv hr _ hz
    exact ⟨B, res, by simp [pipReduceLoop], rfl, hv, hr, by simp, fun d hd => hz d (by omega), rfl⟩
  | succ i ih =>
    intro B res hv hr hs hz
    rw [pipReduceLoop, getElem?_eq_some_getD B Jac.zero hs,
      getElem?_eq_some_getD B Jac.zero (by omega : i + 1 < B.size)]
    simp only
    have hbv : M.ValidJ ((B.getD (i + 1) Jac.zero).add (B.getD (i + 1 + 1) Jac.zero)) :=
      M.add_valid _ _ (hv _) (hv _)
    have hba : M.absJ ((B.getD (i + 1) Jac.zero).add (B.getD (i + 1 + 1) Jac.zero))
        = absB M B (i + 1) + absB M B (i + 1 + 1) := M.add_abs _ _ (hv _) (hv _)
    generalize (B.getD (i + 1) Jac.zero).add (B.getD (i + 1 + 1) Jac.zero) = bi' at hbv hba ⊢
    have hB1 : ∀ d, absB M ((B.set! (i + 1) bi').set! (i + 1 + 1) Jac.zero) d
        = if i + 1 + 1 = d then 0 else if i + 1 = d then M.absJ bi' else absB M B d := by
      intro d
      rw [absB_set!, absB_set!, size_set!, M.zero_abs]
      by_cases h1 : i + 1 + 1 = d
      · subst h1; simp [hs]
      · by_cases h2 : i + 1 = d
        · have : i + 1 < B.size := by omega
          subst h2; simp [this]
        · simp [h1, h2]
    obtain ⟨B', res', h1, h2, h3, h4, h5, h6, h7⟩ :=
      ih ((B.set! (i + 1) bi').set! (i + 1 + 1) Jac.zero) (res.add bi')
        (AllValid_set! M (AllValid_set! M hv _ hbv) _ M.zero_valid) (M.add_valid _ _ hr hbv)
        (by rw [size_set!, size_set!]; omega)
        (by
          intro d hd
          rw [hB1]
          by_cases h1 : i + 1 + 1 = d
          · simp [h1]
          · rw [if_neg h1, if_neg (by omega)]; exact hz d (by omega))
    refine ⟨B', res', h1, by rw [h2, size_set!, size_set!], h3, h4, ?_, h6, ?_⟩
    · rw [h5, M.add_abs _ _ hr hbv, hba, hB1, if_neg (by omega), if_pos rfl, hba,
        Finset.sum_range_succ _ (i + 1)]
      have : ∀ d ∈ Finset.range (i + 1),
          d • absB M ((B.set! (i + 1) bi').set! (i + 1 + 1) Jac.zero) d = d • absB M B d := by
        intro d hd
        rw [Finset.mem_range] at hd
        rw [hB1, if_neg (by omega), if_neg (by omega)]
      rw [Finset.sum_congr rfl this]
      module
    · rw [h7, hB1, if_neg (by omega), if_neg (by omega)]

theorem wsum_eq_of_zero_above {B : Array (Jac F)} {m : Nat} (hm : m < B.size)
    (hz : ∀ d, m < d → absB M B d = 0) :
    wsum M B = ∑ d ∈ Finset.range (m + 1), d • absB M B d := by
  unfold wsum
  symm
  apply Finset.sum_subset
  · intro d; simp only [Finset.mem_range]; omega
  · intro d _ hd
    simp only [Finset.mem_range] at hd
    rw [hz d (by omega), nsmul_zero]

theorem pipReduce_spec (B : Array (Jac F)) (res : Jac F) (maxB : Nat)
    (hv : AllValid M B) (hr : M.ValidJ res) (hs2 : 2 ≤ B.size) (hm : maxB < B.size)
    (hz : ∀ d, maxB < d → absB M B d = 0) (h0 : absB M B 0 = 0) :
    ∃ B' res', pipReduce B res maxB = some (B', res') ∧ B'.size = B.size ∧ AllValid M B' ∧
      M.ValidJ res' ∧ M.absJ res' = M.absJ res + wsum M B ∧ ∀ d, absB M B' d = 0 := by
  unfold pipReduce
  rw [getElem?_eq_some_getD B Jac.zero hm]
  simp only [Option.bind_eq_bind, Option.bind_some]
  have hrv := M.add_valid _ _ hr (hv maxB)
  have hra : M.absJ (res.add (B.getD maxB Jac.zero)) = M.absJ res + absB M B maxB :=
    M.add_abs _ _ hr (hv maxB)
  obtain ⟨B', res', h1, h2, h3, h4, h5, h6, h7⟩ :=
    pipReduceLoop_spec M (maxB - 1) B (res.add (B.getD maxB Jac.zero)) hv hrv (by omega)
      (fun d hd => hz d (by omega))
  rw [h1]
  simp only [Option.bind_some, Option.pure_def]
  rw [if_neg (by omega)]
  refine ⟨_, _, rfl, by rw [size_set!, h2], AllValid_set! M h3 _ M.zero_valid, h4, ?_, ?_⟩
  · rw [h5, hra, wsum_eq_of_zero_above M hm hz]
    rcases Nat.eq_zero_or_pos maxB with h | h
    · subst h
      simp [h0]
    · obtain ⟨j, rfl⟩ : ∃ j, maxB = j + 1 := ⟨maxB - 1, by omega⟩
      rw [Finset.sum_range_succ _ (j + 1)]
      simp only [Nat.add_sub_cancel]
      module
  · intro d
    rw [absB_set!, M.zero_abs]
    split_ifs with h
    · rfl
    · by_cases hd : d = 0
      · subst hd; rw [h7, h0]
      · exact h6 d (by omega)

theorem shift_split (k bsi w : Nat) :
    k >>> winLo bsi w = 2 ^ winWidth bsi w * (k >>> (bsi + 1)) + digit k bsi w := by
  have e : bsi + 1 = winLo bsi w + winWidth bsi w := by unfold winWidth winLo; omega
  unfold digit
  rw [e, Nat.shiftRight_add, Nat.shiftRight_eq_div_pow (k >>> winLo bsi w)]
  exact (Nat.div_add_mod _ _).symm

/-- `Σ (k_i >>> n) • P_i` -/
def shiftSum (l : List (Aff F × Nat)) (n : Nat) : G :=
  (l.map (fun pk => (pk.2 >>> n) • M.absA pk.1)).sum

theorem shiftSum_split (l : List (Aff F × Nat)) (bsi w : Nat) :
    2 ^ winWidth bsi w • shiftSum M l (bsi + 1)
        + (l.map (fun pk => digit pk.2 bsi w • M.absA pk.1)).sum
      = shiftSum M l (winLo bsi w) := by
  unfold shiftSum
  induction l with
  | nil => simp
  | cons pk l ih =>
    simp only [List.map_cons, List.sum_cons]
    rw [← ih, shift_split pk.2 bsi w]
    module

theorem shiftSum_zero (l : List (Aff F × Nat)) :
    shiftSum M l 0 = (l.map (fun pk => pk.2 • M.absA pk.1)).sum := by
  simp [shiftSum]

theorem shiftSum_256 (l : List (Aff F × Nat)) (hk : ∀ pk ∈ l, pk.2 < 2 ^ 256) :
    shiftSum M l 256 = 0 := by
  unfold shiftSum
  induction l with
  | nil => simp
  | cons pk l ih =>
    simp only [List.map_cons, List.sum_cons]
    rw [ih (fun pk h => hk pk (List.mem_cons_of_mem _ h)), Nat.shiftRight_eq_div_pow,
      Nat.div_eq_of_lt (hk pk (List.mem_cons_self ..)), zero_nsmul, zero_add]

/-- Invariant on entry to the round for the window with top bit `bsi`: the buckets are empty and
    `res`, after the `nd` doublings this round starts with, is `2 ^ winWidth bsi w • shiftSum l (bsi + 1)`.
    `nd` is `0` in the first round (where `shiftSum l 256 = 0`) and otherwise the width of the
    window, `w` or less for the last one.  Accumulating and reducing add the digits of the window,
    which by `shiftSum_split` gives `shiftSum l (winLo bsi w)`, the invariant for the next round. -/
theorem pipLoop_spec {w : Nat} (hw1 : 1 ≤ w) (hw : w ≤ 64) (l : List (Aff F × Nat))
    (hP : ∀ pk ∈ l, M.ValidA pk.1) (hk : ∀ pk ∈ l, pk.2.testBit 255 = false) :
    ∀ (fuel bsi nd : Nat) (B : Array (Jac F)) (res : Jac F),
      bsi < 256 → bsi < fuel * w → B.size = 2 ^ w → AllValid M B → (∀ d, absB M B d = 0) →
      M.ValidJ res →
      M.absJ (res.doubleN nd) = 2 ^ winWidth bsi w • shiftSum M l (bsi + 1) →
      ∃ R, pipLoop (pairsOf l) w fuel bsi nd B res = some R ∧ M.ValidJ R ∧
        M.absJ R = shiftSum M l 0 := by
  intro fuel
  induction fuel with
  | zero => intro bsi nd B res _ h; omega
  | succ fuel ih =>
    intro bsi nd B res hb hf hs hv hz hr hres
    have hpow : 2 ≤ 2 ^ w := by
      calc 2 = 2 ^ 1 := rfl
        _ ≤ 2 ^ w := Nat.pow_le_pow_right (by decide) hw1
    have hA : AssertOk bsi l := by
      intro pk hpk ⟨_, h⟩
      rw [hk pk hpk] at h; exact absurd h (by decide)
    obtain ⟨B1, m, a1, a2, a3, a4, a5, a6, a7⟩ :=
      pipAccumulate_spec M hw1 hw hb l B 0 hs hv hP hA (by omega)
    have a7' := a7 (fun d _ => hz d)
    obtain ⟨hrv, _⟩ := doubleN_spec M res hr nd
    obtain ⟨B2, res2, r1, r2, r3, r4, r5, r6⟩ :=
      pipReduce_spec M B1 (res.doubleN nd) m a3 hrv (by omega) (by omega) a7' (by rw [a5, hz 0])
    have hw0 : wsum M B = 0 := by
      unfold wsum; apply Finset.sum_eq_zero; intro d _; rw [hz d, nsmul_zero]
    have hres2 : M.absJ res2 = shiftSum M l (winLo bsi w) := by
      rw [r5, hres, a4, hw0, zero_add, shiftSum_split]
    rw [pipLoop]
    simp only [Option.bind_eq_bind, a1, Option.bind_some, r1, Option.pure_def]
    by_cases hlt : bsi < w
    · rw [if_pos hlt]
      refine ⟨res2, rfl, r4, ?_⟩
      rw [hres2]
      have : winLo bsi w = 0 := by unfold winLo; omega
      rw [this]
    · rw [if_neg hlt]
      have hnd : (if bsi - w < w - 1 then bsi - w + 1 else w) = winWidth (bsi - w) w := by
        unfold winWidth winLo; split_ifs <;> omega
      have hlo : winLo bsi w = bsi - w + 1 := by unfold winLo; omega
      rw [hnd]
      apply ih (bsi - w) _ B2 res2 (by omega) _ (by rw [r2, a2]) r3 r6 r4
      · rw [(doubleN_spec M res2 r4 _).2, hres2, hlo]
      · have : (fuel + 1) * w = fuel * w + w := by ring
        omega

theorem pipLoop_main {w : Nat} (hw1 : 1 ≤ w) (hw : w ≤ 64) (l : List (Aff F × Nat))
    (hP : ∀ pk ∈ l, M.ValidA pk.1) (hk : ∀ pk ∈ l, pk.2 < 2 ^ 255) :
    ∃ R, pipLoop (pairsOf l) w 257 255 0 (Array.replicate (2 ^ w) Jac.zero) Jac.zero = some R ∧
      M.ValidJ R ∧ M.absJ R = (l.map (fun pk => pk.2 • M.absA pk.1)).sum := by
  rw [← shiftSum_zero]
  apply pipLoop_spec M hw1 hw l hP
  · intro pk hpk; exact Nat.testBit_lt_two_pow (hk pk hpk)
  · decide
  · omega
  · simp
  · intro d; rw [getD_replicate]; exact M.zero_valid
  · intro d; unfold absB; rw [getD_replicate]; exact M.zero_abs
  · exact M.zero_valid
  · rw [shiftSum_256 M l (fun pk h => Nat.lt_trans (hk pk h) (by decide)), nsmul_zero]
    exact M.zero_abs

omit [Field F] [DecidableEq F] [FieldOps F] in
theorem pairsOf_zip (points : List (Aff F)) (ks : List Nat) :
    List.zip points (ks.map (limbsOf 4)) = pairsOf (List.zip points ks) := by
  rw [List.zip_map_right]; rfl

theorem pippinger_correct_zip {w : Nat} (hw1 : 1 ≤ w) (hw : w ≤ 64) (points : List (Aff F))
    (ks : List Nat) (hk : ∀ pk ∈ List.zip points ks, pk.2 < 2 ^ 255)
    (hP : ∀ pk ∈ List.zip points ks, M.ValidA pk.1) :
    ∃ R, sumOfProductsPippinger points ks w = some R ∧ M.ValidJ R ∧
      M.absJ R = ((List.zip points ks).map (fun pk => pk.2 • M.absA pk.1)).sum := by
  unfold sumOfProductsPippinger
  rw [if_neg (by omega)]
  simp only [pairsOf_zip]
  exact pipLoop_main M hw1 hw _ hP hk

/-- `w ≤ 20` is the range the property names; the proof needs `w ≤ 64` only
    (`pippinger_correct_zip`), for the digit to fit a limb. -/
theorem pippinger_correct {w : Nat} (hw1 : 1 ≤ w) (hw : w ≤ 20) (points : List (Aff F))
    (ks : List Nat) (hk : ∀ k ∈ ks, k < 2 ^ 255) (hP : ∀ P ∈ points, M.ValidA P) :
    ∃ R, sumOfProductsPippinger points ks w = some R ∧ M.ValidJ R ∧
      M.absJ R = ((List.zip points ks).map (fun pk => pk.2 • M.absA pk.1)).sum :=
  pippinger_correct_zip M hw1 (by omega) points ks
    (fun pk h => hk _ (List.of_mem_zip (a := pk.1) (b := pk.2) h).2)
    (fun pk h => hP _ (List.of_mem_zip (a := pk.1) (b := pk.2) h).1)

theorem pippinger_panics_iff {w : Nat} (hw1 : 1 ≤ w) (hw : w ≤ 20) (points : List (Aff F))
    (ks : List Nat) (hk : ∀ k ∈ ks, k < 2 ^ 256) (hP : ∀ P ∈ points, M.ValidA P) :
    sumOfProductsPippinger points ks w = none ↔ ∃ pk ∈ List.zip points ks, 2 ^ 255 ≤ pk.2 := by
  have hw : w ≤ 64 := by omega
  constructor
  · intro hnone
    by_contra hne
    obtain ⟨R, hR, _⟩ := pippinger_correct_zip M hw1 hw points ks
      (fun pk h => Nat.lt_of_not_le (fun hh => hne ⟨pk, h, hh⟩))
      (fun pk h => hP _ (List.of_mem_zip (a := pk.1) (b := pk.2) h).1)
    rw [hnone] at hR; exact absurd hR (by simp)
  · rintro ⟨pk, hpk, hge⟩
    unfold sumOfProductsPippinger
    rw [if_neg (by omega)]
    simp only [pairsOf_zip]
    rw [pipLoop]
    have : pipAccumulate 255 w (pairsOf (List.zip points ks))
        (Array.replicate (2 ^ w) Jac.zero, 0) = none := by
      rw [pipAccumulate_eq_none_iff hw1 hw (by decide) _ _ _ (by simp)]
      refine ⟨pk, hpk, ?_⟩
      rw [pipAssertFails_iff hw1 hw (hk _ (List.of_mem_zip (a := pk.1) (b := pk.2) hpk).2)]
      exact ⟨rfl, hge⟩
    simp only [Option.bind_eq_bind, this, Option.bind_none]

theorem findPippingerWindowAux_pred (p : Nat → Prop) (n : Nat) :
    ∀ (l : List (Nat × Nat)) (prev : Nat), p prev → (∀ x ∈ l, p x.2) →
      p (findPippingerWindowAux n l prev) := by
  intro l
  induction l with
  | nil => intro prev h _; exact h
  | cons x l ih =>
    obtain ⟨b, w⟩ := x
    intro prev h hl
    unfold findPippingerWindowAux
    split_ifs
    · exact h
    · exact ih w (hl (b, w) (List.mem_cons_self ..)) (fun x hx => hl x (List.mem_cons_of_mem _ hx))

theorem findPippingerWindowAux_mem (n : Nat) (l : List (Nat × Nat)) (prev : Nat) :
    findPippingerWindowAux n l prev ∈ prev :: l.map Prod.snd :=
  findPippingerWindowAux_pred (fun r => r ∈ prev :: l.map Prod.snd) n l prev
    (List.mem_cons_self ..)
    (fun _ hx => List.mem_cons_of_mem _ (List.mem_map_of_mem hx))

theorem findPippingerWindow_range (n : Nat) :
    1 ≤ findPippingerWindow n ∧ findPippingerWindow n ≤ 16 := by
  unfold findPippingerWindow
  unfold Gen.PIPPINGER_BOUNDARIES
  simp only []
  apply findPippingerWindowAux_pred (fun r => 1 ≤ r ∧ r ≤ 16)
  · decide
  · decide

theorem sumOfProducts_correct (points : List (Aff F)) (ks : List Nat)
    (hk : ∀ k ∈ ks, k < 2 ^ 255) (hP : ∀ P ∈ points, M.ValidA P) :
    ∃ R, sumOfProducts points ks = some R ∧ M.ValidJ R ∧
      M.absJ R = ((List.zip points ks).map (fun pk => pk.2 • M.absA pk.1)).sum := by
  unfold sumOfProducts
  obtain ⟨h1, h2⟩ := findPippingerWindow_range (min points.length ks.length)
  exact pippinger_correct M h1 (by omega) points ks hk hP

theorem sumOfProducts_panics_iff (points : List (Aff F)) (ks : List Nat)
    (hk : ∀ k ∈ ks, k < 2 ^ 256) (hP : ∀ P ∈ points, M.ValidA P) :
    sumOfProducts points ks = none ↔ ∃ pk ∈ List.zip points ks, 2 ^ 255 ≤ pk.2 := by
  unfold sumOfProducts
  obtain ⟨h1, h2⟩ := findPippingerWindow_range (min points.length ks.length)
  exact pippinger_panics_iff M h1 (by omega) points ks hk hP

/-- `Σ digit · 2^lo` over the windows visited by `pipLoop` started at top bit `bsi` -/
def windowsVal (k w : Nat) : Nat → Nat → Nat
  | 0, _ => 0
  | fuel + 1, bsi =>
    digit k bsi w * 2 ^ winLo bsi w + if bsi < w then 0 else windowsVal k w fuel (bsi - w)

theorem windowsVal_eq (k : Nat) {w : Nat} (hw1 : 1 ≤ w) :
    ∀ (fuel bsi : Nat), bsi < fuel * w → windowsVal k w fuel bsi = k % 2 ^ (bsi + 1) := by
  intro fuel
  induction fuel with
  | zero => intro bsi h; omega
  | succ fuel ih =>
    intro bsi hf
    have e : bsi + 1 = winLo bsi w + winWidth bsi w := by unfold winWidth winLo; omega
    have hsplit : k % 2 ^ (bsi + 1) = digit k bsi w * 2 ^ winLo bsi w + k % 2 ^ winLo bsi w := by
      rw [e, pow_add, Nat.mod_mul, digit, Nat.shiftRight_eq_div_pow]
      ring
    unfold windowsVal
    rw [hsplit, Nat.add_left_cancel_iff]
    split_ifs with hlt
    · have : winLo bsi w = 0 := by unfold winLo; omega
      rw [this]; simp [Nat.mod_one]
    · have hlo : winLo bsi w = bsi - w + 1 := by unfold winLo; omega
      rw [hlo]
      apply ih
      have : (fuel + 1) * w = fuel * w + w := by ring
      omega

theorem digits_cover {k w : Nat} (hw1 : 1 ≤ w) (hk : k < 2 ^ 256) : windowsVal k w 257 255 = k := by
  rw [windowsVal_eq k hw1 257 255 (by omega)]
  exact Nat.mod_eq_of_lt hk

end PP.Pip
