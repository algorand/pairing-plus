/-
C18 for `Fq2`.

Part A (unconditional, `Fq2` as a plain pair over the field `Fq`): `sgn0`, the lexicographic order
`lt`, the interaction with the componentwise negation, `legendre` = Euler's criterion of the norm.

Part B (`Fq2.sqrt`, Algorithm 9 of eprint 2012/685): proved for an abstract field `K` (`alg9`), and
transported to the model's `Fq2.sqrt` under the explicit hypotheses `FieldHyp` (a `Field Fq2` whose
operations are the model's, `x^(q²-1) = 1`, `frobeniusMap x 1 = x^q`) — theorems
`fq2_sqrt_sound_of`, `fq2_sqrt_none_iff_of`.  `Field Fq2` is built in PP/Proofs/Tower*.lean by the
tower proofs; this file does not depend on them.

All names live in `namespace PP.Fq2Sqrt` (the tower files own `PP.Fq2.*`).
-/
import Mathlib.Tactic.Ring
import Mathlib.Tactic.FieldSimp
import PP.Proofs.Sqrt
import PP.Model.Tower

namespace PP
namespace Fq2Sqrt
open Primes

/-! ## Part A: sign, order, Legendre symbol -/

theorem ext' {a b : Fq2} (h0 : a.c0 = b.c0) (h1 : a.c1 = b.c1) : a = b := by
  cases a; cases b; simp_all

theorem ne_iff {a b : Fq2} : a ≠ b ↔ a.c0.v ≠ b.c0.v ∨ a.c1.v ≠ b.c1.v := by
  constructor
  · intro h
    by_contra hc
    have hc' : a.c0.v = b.c0.v ∧ a.c1.v = b.c1.v := by omega
    exact h (ext' (Zp.ext_v hc'.1) (Zp.ext_v hc'.2))
  · rintro h rfl; omega

theorem zero_def : (0 : Fq2) = ⟨0, 0⟩ := rfl
theorem neg_c0 (y : Fq2) : (-y).c0 = -y.c0 := rfl
theorem neg_c1 (y : Fq2) : (-y).c1 = -y.c1 := rfl

theorem ne_zero_iff {y : Fq2} : y ≠ 0 ↔ y.c0 ≠ 0 ∨ y.c1 ≠ 0 := by
  constructor
  · intro h
    by_contra hc
    have h0 : y.c0 = 0 := by by_contra h0; exact hc (Or.inl h0)
    have h1 : y.c1 = 0 := by by_contra h1; exact hc (Or.inr h1)
    exact h (ext' h0 h1)
  · rintro h rfl
    rcases h with h | h <;> exact h rfl

/-- `sgn0` is the sign of the first non-zero coefficient, real part first. -/
theorem sgn0_eq (a : Fq2) :
    Fq2.sgn0 a = if a.c0 = 0 then Zp.sgn0 a.c1 else Zp.sgn0 a.c0 := by
  unfold Fq2.sgn0
  by_cases h : a.c0 = 0
  · rw [if_pos h, if_pos ((Zp.isZero_iff _).mpr h)]
  · rw [if_neg h, if_neg (fun h' => h ((Zp.isZero_iff _).mp h'))]

theorem sgn0_negative_iff (a : Fq2) :
    Fq2.sgn0 a = .negative ↔ (if a.c0 = 0 then a.c1.v % 2 = 1 else a.c0.v % 2 = 1) := by
  rw [sgn0_eq]; split <;> exact Zp.sgn0_negative_iff _

/-- `lt` is the lexicographic order with the `u`-coefficient most significant. -/
theorem lt_iff (a b : Fq2) :
    Fq2.lt a b = true ↔ a.c1.v < b.c1.v ∨ (a.c1.v = b.c1.v ∧ a.c0.v < b.c0.v) := by
  unfold Fq2.lt
  split
  · simp; omega
  · split
    · simp; omega
    · simp; omega

theorem lt_eq_false_iff (a b : Fq2) :
    Fq2.lt a b = false ↔ b.c1.v < a.c1.v ∨ (a.c1.v = b.c1.v ∧ b.c0.v ≤ a.c0.v) := by
  rw [← Bool.not_eq_true, lt_iff]; omega

theorem lt_irrefl (a : Fq2) : Fq2.lt a a = false := by
  rw [lt_eq_false_iff]; omega

theorem lt_asymm (a b : Fq2) (h : Fq2.lt a b = true) : Fq2.lt b a = false := by
  rw [lt_iff] at h; rw [lt_eq_false_iff]; omega

theorem lt_trans (a b c : Fq2) (h1 : Fq2.lt a b = true) (h2 : Fq2.lt b c = true) :
    Fq2.lt a c = true := by
  rw [lt_iff] at *; omega

theorem lt_total (a b : Fq2) (h : a ≠ b) : Fq2.lt a b = true ∨ Fq2.lt b a = true := by
  rw [lt_iff, lt_iff]; have := ne_iff.mp h; omega

theorem ne_neg_self (y : Fq2) (hy : y ≠ 0) : y ≠ -y := by
  intro h
  rcases ne_zero_iff.mp hy with h0 | h1
  · exact Fq.ne_neg_self y.c0 h0 (by rw [← neg_c0, ← h])
  · exact Fq.ne_neg_self y.c1 h1 (by rw [← neg_c1, ← h])

theorem neg_order_fq2 (y : Fq2) (hy : y ≠ 0) :
    (Fq2.lt y (-y) = true ∧ Fq2.lt (-y) y = false) ∨
    (Fq2.lt (-y) y = true ∧ Fq2.lt y (-y) = false) := by
  rcases lt_total y (-y) (ne_neg_self y hy) with h | h
  · exact Or.inl ⟨h, lt_asymm _ _ h⟩
  · exact Or.inr ⟨h, lt_asymm _ _ h⟩

theorem neg_order_fq2_iff (y : Fq2) (hy : y ≠ 0) :
    Fq2.lt y (-y) = true ↔ Fq2.lt (-y) y = false := by
  rcases neg_order_fq2 y hy with ⟨h1, h2⟩ | ⟨h1, h2⟩ <;> simp [h1, h2]

theorem legendre_eq (a : Fq2) : Fq2.legendre a = Fq.legendre (Fq2.norm a) := rfl

theorem norm_eq (a : Fq2) : Fq2.norm a = a.c1 * a.c1 + a.c0 * a.c0 := rfl

theorem neg_one_not_square : ¬ IsSquare (-1 : Fq) := by
  rw [Zp.not_isSquare_iff_pow_half Fq.q_odd]
  apply Odd.neg_one_pow
  rw [Nat.odd_iff]
  have := q_mod_four; omega

theorem norm_eq_zero_iff (a : Fq2) : Fq2.norm a = 0 ↔ a = 0 := by
  rw [norm_eq]
  constructor
  · intro h
    have key : ∀ x y : Fq, y * y + x * x = 0 → y ≠ 0 → False := by
      intro x y hxy hy
      apply neg_one_not_square
      refine ⟨x / y, ?_⟩
      field_simp
      linear_combination (-1 : Fq) * hxy
    have h1 : a.c1 = 0 := by
      by_contra h1; exact key _ _ h h1
    have h0 : a.c0 = 0 := by
      by_contra h0; exact key a.c1 a.c0 (by rw [add_comm]; exact h) h0
    exact ext' h0 h1
  · rintro rfl; show (0 : Fq) * 0 + 0 * 0 = 0; simp

theorem legendre_zero_iff (a : Fq2) : Fq2.legendre a = .zero ↔ a = 0 := by
  rw [legendre_eq, Fq.legendre_zero_iff, norm_eq_zero_iff]

theorem legendre_residue_iff (a : Fq2) :
    Fq2.legendre a = .residue ↔ a ≠ 0 ∧ IsSquare (Fq2.norm a) := by
  rw [legendre_eq, Fq.legendre_residue_iff, Ne, norm_eq_zero_iff]

theorem legendre_nonResidue_iff (a : Fq2) :
    Fq2.legendre a = .nonResidue ↔ ¬ IsSquare (Fq2.norm a) := by
  rw [legendre_eq, Fq.legendre_nonResidue_iff]

/-! ## Part B: Algorithm 9 over an abstract field -/

section Generic
variable {K : Type} [Field K] [DecidableEq K]

/-- Algorithm 9 of eprint 2012/685 (`q ≡ 3 mod 4`, `u² = -1`), as `Fq2::sqrt` computes it. -/
def alg9 (q : Nat) (u : K) (a : K) : Option K :=
  if a = 0 then some 0 else
    if (a ^ ((q - 1) / 2)) ^ q * a ^ ((q - 1) / 2) = -1 then none
    else if a ^ ((q - 1) / 2) = -1 then some (a ^ ((q - 3) / 4) * a * u)
    else some (a ^ ((q - 3) / 4) * a * (a ^ ((q - 1) / 2) + 1) ^ ((q - 1) / 2))

variable (q : Nat) (u : K)

theorem sq_sub_one_exp (hq : q % 4 = 3) : ((q - 1) / 2 * q + (q - 1) / 2) * 2 = q ^ 2 - 1 := by
  obtain ⟨k, rfl⟩ : ∃ k, q = 4 * k + 3 := ⟨q / 4, by omega⟩
  have e : (4 * k + 3 - 1) / 2 = 2 * k + 1 := by omega
  rw [e]
  symm
  apply Nat.sub_eq_of_eq_add
  ring

theorem twice_half_succ (hq : q % 4 = 3) : (q - 1) / 2 * 2 + 1 = q := by omega

structure Alg9Hyp : Prop where
  hq : q % 4 = 3
  card : ∀ x : K, x ≠ 0 → x ^ (q ^ 2 - 1) = 1
  frob_add_one : ∀ x : K, (x + 1) ^ q = x ^ q + 1
  hu : u * u = -1
  char_ne_two : (1 : K) ≠ -1

variable {q u}

omit [DecidableEq K] in
theorem alg9_a0 (H : Alg9Hyp q u) (a : K) (ha : a ≠ 0) :
    (a ^ ((q - 1) / 2)) ^ q * a ^ ((q - 1) / 2) = 1 ∨
    (a ^ ((q - 1) / 2)) ^ q * a ^ ((q - 1) / 2) = -1 := by
  rw [← mul_self_eq_one_iff, ← pow_mul, ← pow_add, ← pow_add, ← two_mul, mul_comm 2,
    sq_sub_one_exp q H.hq]
  exact H.card a ha

theorem alg9_sound (H : Alg9Hyp q u) (a b : K) (h : alg9 q u a = some b) : b * b = a := by
  unfold alg9 at h
  by_cases ha : a = 0
  · rw [if_pos ha] at h
    have : b = 0 := (Option.some.inj h).symm
    rw [this, ha, mul_zero]
  · rw [if_neg ha] at h
    by_cases h0 : (a ^ ((q - 1) / 2)) ^ q * a ^ ((q - 1) / 2) = -1
    · rw [if_pos h0] at h; exact absurd h (by simp)
    · rw [if_neg h0] at h
      have h01 := (alg9_a0 H a ha).resolve_right h0
      -- `x0² = α · a`
      have hx0 : a ^ ((q - 3) / 4) * a * (a ^ ((q - 3) / 4) * a) = a ^ ((q - 1) / 2) * a := by
        rw [← sqrt_exp_arith H.hq, pow_succ, two_mul, pow_add]; ring
      by_cases hα : a ^ ((q - 1) / 2) = -1
      · rw [if_pos hα] at h
        have hb : b = a ^ ((q - 3) / 4) * a * u := (Option.some.inj h).symm
        have : b * b = a ^ ((q - 3) / 4) * a * (a ^ ((q - 3) / 4) * a) * (u * u) := by
          rw [hb]; ring
        rw [this, hx0, hα, H.hu]; ring
      · rw [if_neg hα] at h
        have hb : b = a ^ ((q - 3) / 4) * a * (a ^ ((q - 1) / 2) + 1) ^ ((q - 1) / 2) :=
          (Option.some.inj h).symm
        generalize hαdef : a ^ ((q - 1) / 2) = α at *
        have hα1 : α + 1 ≠ 0 := fun h' => hα (eq_neg_of_add_eq_zero_left h')
        -- `(α+1)^(q-1) · α = 1`
        have hkey : ((α + 1) ^ ((q - 1) / 2)) * ((α + 1) ^ ((q - 1) / 2)) * α = 1 := by
          have e1 : ((α + 1) ^ ((q - 1) / 2)) * ((α + 1) ^ ((q - 1) / 2)) * (α + 1)
              = α ^ q + 1 := by
            rw [← pow_add, ← two_mul, mul_comm 2, ← pow_succ, twice_half_succ q H.hq, H.frob_add_one]
          have e2 : ((α + 1) ^ ((q - 1) / 2) * (α + 1) ^ ((q - 1) / 2) * α) * (α + 1)
              = 1 * (α + 1) := by
            calc _ = ((α + 1) ^ ((q - 1) / 2) * (α + 1) ^ ((q - 1) / 2) * (α + 1)) * α := by ring
              _ = (α ^ q + 1) * α := by rw [e1]
              _ = α ^ q * α + α := by ring
              _ = 1 * (α + 1) := by rw [h01]; ring
          exact mul_right_cancel₀ hα1 e2
        have : b * b = (a ^ ((q - 3) / 4) * a * (a ^ ((q - 3) / 4) * a)) *
            ((α + 1) ^ ((q - 1) / 2) * (α + 1) ^ ((q - 1) / 2)) := by
          rw [hb]; ring
        rw [this, hx0]
        calc α * a * ((α + 1) ^ ((q - 1) / 2) * (α + 1) ^ ((q - 1) / 2))
            = a * ((α + 1) ^ ((q - 1) / 2) * (α + 1) ^ ((q - 1) / 2) * α) := by ring
          _ = a := by rw [hkey, mul_one]

theorem alg9_none_iff (H : Alg9Hyp q u) (a : K) : alg9 q u a = none ↔ ¬ IsSquare a := by
  constructor
  · intro h ⟨c, hc⟩
    unfold alg9 at h
    by_cases ha : a = 0
    · rw [if_pos ha] at h; exact absurd h (by simp)
    · rw [if_neg ha] at h
      by_cases h0 : (a ^ ((q - 1) / 2)) ^ q * a ^ ((q - 1) / 2) = -1
      · have hc0 : c ≠ 0 := by rintro rfl; exact ha (by rw [hc, mul_zero])
        have : (a ^ ((q - 1) / 2)) ^ q * a ^ ((q - 1) / 2) = 1 := by
          rw [hc, ← pow_two, ← pow_mul, ← pow_mul, ← pow_mul, ← pow_add, ← mul_add,
            mul_comm 2, sq_sub_one_exp q H.hq]
          exact H.card c hc0
        exact H.char_ne_two (this.symm.trans h0)
      · rw [if_neg h0] at h
        split at h <;> exact absurd h (by simp)
  · intro hns
    cases hs : alg9 q u a with
    | none => rfl
    | some b => exact absurd ⟨b, (alg9_sound H a b hs).symm⟩ hns

end Generic

/-! ### model-level facts about `Fq2` used by the bridge (no `Field Fq2` needed) -/

theorem square_eq_mul (a : Fq2) : Fq2.square a = Fq2.mul a a := by
  apply ext'
  · show (-a.c1 + a.c0) * (a.c0 + a.c1) - a.c0 * a.c1 + a.c0 * a.c1 = a.c0 * a.c0 - a.c1 * a.c1
    ring
  · show a.c0 * a.c1 + a.c0 * a.c1 =
      (a.c1 + a.c0) * (a.c0 + a.c1) - a.c0 * a.c0 - a.c1 * a.c1
    ring

theorem isZero_iff (a : Fq2) : Fq2.isZero a = true ↔ a = ⟨0, 0⟩ := by
  unfold Fq2.isZero
  rw [Bool.and_eq_true, Zp.isZero_iff, Zp.isZero_iff]
  constructor
  · rintro ⟨h0, h1⟩; exact ext' h0 h1
  · intro h; rw [h]; exact ⟨rfl, rfl⟩

theorem negOne_eq : Fq2.negOne = Fq2.neg ⟨1, 0⟩ := by
  unfold Fq2.negOne Fq2.neg
  rw [Fq.NEGATIVE_ONE_eq]
  simp only [neg_zero]

theorem u_mul_u : Fq2.mul ⟨0, 1⟩ ⟨0, 1⟩ = Fq2.neg ⟨1, 0⟩ := by
  apply ext'
  · show (0 : Fq) * 0 - 1 * 1 = -1; ring
  · show ((1 : Fq) + 0) * (0 + 1) - 0 * 0 - 1 * 1 = -0; ring

theorem frob_add (x y : Fq2) :
    Fq2.frobeniusMap (Fq2.add x y) 1 = Fq2.add (Fq2.frobeniusMap x 1) (Fq2.frobeniusMap y 1) := by
  unfold Fq2.frobeniusMap Fq2.add
  generalize Fq2.frobCoeffC1.getD (1 % 2) 0 = k
  dsimp only
  rw [add_mul]

theorem frob_one : Fq2.frobeniusMap ⟨1, 0⟩ 1 = ⟨1, 0⟩ := by
  unfold Fq2.frobeniusMap
  generalize Fq2.frobCoeffC1.getD (1 % 2) 0 = k
  dsimp only
  rw [zero_mul]

theorem EXP1_lt : Gen.FQ2_SQRT_EXP1 < 2 ^ (64 * 6) := by decide +kernel
theorem EXP2_lt : Gen.FQ2_SQRT_EXP2 < 2 ^ (64 * 6) := by decide +kernel

section Bridge
attribute [-instance] Fq2.instMul Fq2.instOne Fq2.instZero Fq2.instAdd Fq2.instNeg Fq2.instSub
  Fq2.instInhabited

/-- The hypotheses under which `Fq2.sqrt` is verified here, to be discharged by the tower proofs:
    a `Field Fq2` whose `* + - 0 1` are the model's (each of the first five fields holds by `rfl`
    for an instance built on the model's operations), Fermat's little theorem in `Fq2`, and
    `frobenius_map(1)` being the `q`-power map.  (Inside this section the model's own notation
    instances on `Fq2` are switched off, so `a * b`, `0`, `1`, … below are the field's.) -/
structure FieldHyp [Field Fq2] : Prop where
  mul_eq : ∀ a b : Fq2, a * b = Fq2.mul a b
  add_eq : ∀ a b : Fq2, a + b = Fq2.add a b
  neg_eq : ∀ a : Fq2, -a = Fq2.neg a
  zero_eq : (0 : Fq2) = ⟨0, 0⟩
  one_eq : (1 : Fq2) = ⟨1, 0⟩
  card : ∀ x : Fq2, x ≠ 0 → x ^ (Gen.q ^ 2 - 1) = 1
  frob1 : ∀ x : Fq2, Fq2.frobeniusMap x 1 = x ^ Gen.q

theorem instMul_eq [i : Mul Fq2] (h : ∀ a b : Fq2, a * b = Fq2.mul a b) : Fq2.instMul = i := by
  cases i with | mk f =>
  show Mul.mk Fq2.mul = Mul.mk f
  congr; funext a b; exact (h a b).symm

theorem instAdd_eq [i : Add Fq2] (h : ∀ a b : Fq2, a + b = Fq2.add a b) : Fq2.instAdd = i := by
  cases i with | mk f =>
  show Add.mk Fq2.add = Add.mk f
  congr; funext a b; exact (h a b).symm

theorem instOne_eq [i : One Fq2] (h : (1 : Fq2) = ⟨1, 0⟩) : Fq2.instOne = i := by
  cases i with | mk f =>
  exact congrArg One.mk h.symm

theorem instZero_eq [i : Zero Fq2] (h : (0 : Fq2) = ⟨0, 0⟩) : Fq2.instZero = i := by
  cases i with | mk f =>
  exact congrArg Zero.mk h.symm

variable [Field Fq2]

theorem alg9Hyp_of (H : FieldHyp) : Alg9Hyp (K := Fq2) Gen.q ⟨0, 1⟩ where
  hq := q_mod_four
  card := H.card
  frob_add_one x := by
    rw [← H.frob1, ← H.frob1, H.add_eq, H.add_eq, H.one_eq, frob_add, frob_one]
  hu := by rw [H.mul_eq, H.neg_eq, H.one_eq]; exact u_mul_u
  char_ne_two := by
    rw [H.neg_eq, H.one_eq]
    intro h
    have : (1 : Fq) = -1 := congrArg Fq2.c0 h
    exact Zp.one_ne_neg_one Fq.q_odd this

theorem sqrt_eq_alg9 (H : FieldHyp) (a : Fq2) : Fq2.sqrt a = alg9 Gen.q ⟨0, 1⟩ a := by
  have hM := instMul_eq H.mul_eq
  have hA := instAdd_eq H.add_eq
  have hO := instOne_eq H.one_eq
  have hZ := instZero_eq H.zero_eq
  unfold Fq2.sqrt
  rw [hM, hA, hO, hZ]
  have hsq : ∀ x : Fq2, sq x = x * x := fun x => by rw [H.mul_eq]; exact square_eq_mul x
  have hp1 : ∀ x : Fq2, powNat x Gen.FQ2_SQRT_EXP1 6 = x ^ ((Gen.q - 3) / 4) := fun x => by
    rw [PowLoop.powNat_eq_pow hsq x _ 6 EXP1_lt, Mont.FQ2_SQRT_EXP1_eq]
  have hp2 : ∀ x : Fq2, powNat x Gen.FQ2_SQRT_EXP2 6 = x ^ ((Gen.q - 1) / 2) := fun x => by
    rw [PowLoop.powNat_eq_pow hsq x _ 6 EXP2_lt, Mont.FQ2_SQRT_EXP2_eq]
  have hneg : Fq2.negOne = -1 := by rw [H.neg_eq, H.one_eq]; exact negOne_eq
  have hα : sq (a ^ ((Gen.q - 3) / 4)) * a = a ^ ((Gen.q - 1) / 2) := by
    rw [hsq, ← pow_add, ← pow_succ, ← two_mul, sqrt_exp_arith q_mod_four]
  simp only [hp1, hp2, hα, hneg, H.frob1]
  unfold alg9
  by_cases ha : a = 0
  · rw [if_pos ha, if_pos ((isZero_iff a).mpr (ha.trans H.zero_eq))]
  · rw [if_neg ha, if_neg (fun h => ha (((isZero_iff a).mp h).trans H.zero_eq.symm))]

theorem fq2_sqrt_sound_of (H : FieldHyp) (a b : Fq2) (h : Fq2.sqrt a = some b) : b * b = a :=
  alg9_sound (alg9Hyp_of H) a b (by rw [← sqrt_eq_alg9 H]; exact h)

theorem fq2_sqrt_none_iff_of (H : FieldHyp) (a : Fq2) : Fq2.sqrt a = none ↔ ¬ IsSquare a := by
  rw [sqrt_eq_alg9 H]; exact alg9_none_iff (alg9Hyp_of H) a

theorem fq2_sqrt_complete_of (H : FieldHyp) (a : Fq2) (h : IsSquare a) :
    ∃ b, Fq2.sqrt a = some b ∧ b * b = a :=
  exists_sqrt_of_isSquare (fq2_sqrt_none_iff_of H a).1 (fq2_sqrt_sound_of H a) h

/-- the decoder interface for `Fq2` (under `FieldHyp`) -/
theorem lawfulSqrtOps_of (H : FieldHyp) : LawfulSqrtOps Fq2 where
  sqrt_sound := fq2_sqrt_sound_of H
  sqrt_complete a h := (fq2_sqrt_none_iff_of H a).mp h
  lt_irrefl := lt_irrefl
  lt_asymm := lt_asymm
  lt_total := lt_total

end Bridge

end Fq2Sqrt
end PP
