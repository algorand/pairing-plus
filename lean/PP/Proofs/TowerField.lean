/-
C09: `Fq6` and `Fq12` are fields (for prime `q`), the model's `inverse` is the field inverse and
fails exactly on zero.

Mathematical content: `ξ = 1 + u` is neither a square nor a cube in `Fq2`
(`ξ^((q²-1)/2) ≠ 1`, `ξ^((q²-1)/3) ≠ 1`, kernel computations, together with `x^(q²-1) = 1`),
hence the norm form of `Fq6/Fq2` is anisotropic, and `v` is not a square in `Fq6`
(its norm down to `Fq2` is `ξ`).
-/
import Mathlib.FieldTheory.Finite.Basic
import PP.Proofs.Tower12

namespace PP

/-! ### square-and-multiply that the kernel can run, in any monoid -/

/-- `acc * b^e` by binary square-and-multiply; structural recursion on `fuel` -/
def fastPowAux {M : Type} [Mul M] : Nat → M → Nat → M → M
  | 0, _, _, acc => acc
  | fuel + 1, b, e, acc =>
    if e = 0 then acc
    else fastPowAux fuel (b * b) (e / 2) (if e % 2 = 1 then acc * b else acc)

theorem fastPowAux_eq {M : Type} [Monoid M] : ∀ (fuel : Nat) (b : M) (e : Nat) (acc : M),
    e < 2 ^ fuel → fastPowAux fuel b e acc = acc * b ^ e := by
  intro fuel
  induction fuel with
  | zero =>
    intro b e acc he
    have : e = 0 := by omega
    subst this; simp [fastPowAux]
  | succ n ih =>
    intro b e acc he
    unfold fastPowAux
    split
    · next h => subst h; simp
    · next h =>
      have he2 : e / 2 < 2 ^ n := by
        rw [Nat.div_lt_iff_lt_mul (by norm_num)]; rw [pow_succ] at he; omega
      rw [ih _ _ _ he2]
      split
      · next hodd =>
        have hdec : e = 2 * (e / 2) + 1 := by omega
        conv_rhs => rw [hdec]
        have hc : Commute b ((b * b) ^ (e / 2)) :=
          ((Commute.refl b).mul_right (Commute.refl b)).pow_right _
        rw [pow_succ, pow_mul, pow_two, mul_assoc, hc.eq]
      · next heven =>
        have hdec : e = 2 * (e / 2) := by omega
        conv_rhs => rw [hdec]
        rw [pow_mul, pow_two]

/-- `b^e` with 4096 bits of fuel -/
def fastPow {M : Type} [Mul M] [One M] (b : M) (e : Nat) : M := fastPowAux 4096 b e 1

theorem fastPow_eq {M : Type} [Monoid M] (b : M) (e : Nat) (he : e < 2 ^ 4096) :
    fastPow b e = b ^ e := by
  unfold fastPow; rw [fastPowAux_eq _ _ _ _ he, one_mul]

/-- Where every nonzero element has order dividing `n` (a finite field with `n + 1` elements), a
    nonzero `a` is a `k`-th power only if `a ^ (n / k) = 1`: for `a = c ^ k` that power is `c ^ n`.
    So one evaluation of `fastPow` shows that `a` is not a `k`-th power. -/
theorem not_pow_of_fastPow_ne_one {M : Type} [MonoidWithZero M] {n k : ℕ} {a : M}
    (hn : n < 2 ^ 4096) (hpow : ∀ x : M, x ≠ 0 → x ^ n = 1) (hk : k ∣ n)
    (hfast : fastPow a (n / k) ≠ 1) (ha : a ≠ 0) (c : M) : c ^ k ≠ a := by
  rintro rfl
  have hk0 : k ≠ 0 := by
    rintro rfl
    rw [Nat.div_zero] at hfast
    exact hfast rfl
  have hc : c ≠ 0 := by
    rintro rfl
    exact ha (zero_pow hk0)
  apply hfast
  rw [fastPow_eq _ _ (lt_of_le_of_lt (Nat.div_le_self _ _) hn), ← pow_mul, Nat.mul_div_cancel' hk]
  exact hpow c hc

/-! ### cardinalities -/

namespace Zp
variable {p : Nat}

def equivFin : Zp p ≃ Fin p where
  toFun a := ⟨a.v, a.h⟩
  invFun a := ⟨a.1, a.2⟩
  left_inv _ := rfl
  right_inv _ := rfl

instance : Fintype (Zp p) := Fintype.ofEquiv (Fin p) equivFin.symm

theorem card : Fintype.card (Zp p) = p := by
  rw [Fintype.card_congr equivFin, Fintype.card_fin]

end Zp

namespace Fq2

def equivProd : Fq2 ≃ Fq × Fq where
  toFun a := (a.c0, a.c1)
  invFun a := ⟨a.1, a.2⟩
  left_inv _ := rfl
  right_inv _ := rfl

instance : Fintype Fq2 := Fintype.ofEquiv (Fq × Fq) equivProd.symm

theorem card : Fintype.card Fq2 = Gen.q * Gen.q := by
  rw [Fintype.card_congr equivProd, Fintype.card_prod, Zp.card]

end Fq2

namespace Fq2

/-! ### `ξ` is neither a square nor a cube in `Fq2` -/

theorem q_sq_sub_one_lt : Gen.q * Gen.q - 1 < 2 ^ 4096 := by decide +kernel
theorem three_dvd : 3 ∣ Gen.q * Gen.q - 1 := by decide +kernel
theorem two_dvd : 2 ∣ Gen.q * Gen.q - 1 := by decide +kernel

theorem xi_pow_third_fast : fastPow xi ((Gen.q * Gen.q - 1) / 3) ≠ 1 := by decide +kernel
theorem xi_pow_half_fast : fastPow xi ((Gen.q * Gen.q - 1) / 2) ≠ 1 := by decide +kernel

section Prime
variable [hq : Fact (Nat.Prime Gen.q)]

theorem pow_card_sub_one (x : Fq2) (hx : x ≠ 0) : x ^ (Gen.q * Gen.q - 1) = 1 := by
  have := FiniteField.pow_card_sub_one_eq_one x hx
  rwa [card] at this

theorem pow_card_sub_one' (x : Fq2) (hx : x ≠ 0) : x ^ (Gen.q ^ 2 - 1) = 1 := by
  rw [pow_two]; exact pow_card_sub_one x hx

theorem xi_ne_zero : xi ≠ 0 := fun h => by
  have : (1 : Fq) = 0 := congrArg Fq2.c0 h
  exact one_ne_zero this

theorem xi_not_cube (c : Fq2) : c ^ 3 ≠ xi :=
  not_pow_of_fastPow_ne_one q_sq_sub_one_lt pow_card_sub_one three_dvd xi_pow_third_fast xi_ne_zero c

theorem xi_not_square (c : Fq2) : c ^ 2 ≠ xi :=
  not_pow_of_fastPow_ne_one q_sq_sub_one_lt pow_card_sub_one two_dvd xi_pow_half_fast xi_ne_zero c

end Prime
end Fq2

/-! ## `Fq6` -/

namespace Fq6
open Fq2 (xi)

/-- the adjugate `a' ` with `a · a' = N(a)`; its components are the `c0 c1 c2` of `Fq6.inverse` -/
def adj (a : Fq6) : Fq6 :=
  ⟨a.c0 * a.c0 - xi * (a.c1 * a.c2), xi * (a.c2 * a.c2) - a.c0 * a.c1, a.c1 * a.c1 - a.c0 * a.c2⟩

/-- the relative norm `Fq6 → Fq2`, `N(a) = a0³ + ξ a1³ + ξ² a2³ - 3 ξ a0 a1 a2`
    (this is `tmp1` of `Fq6.inverse`) -/
def norm (a : Fq6) : Fq2 :=
  a.c0 * (adj a).c0 + xi * (a.c2 * (adj a).c1 + a.c1 * (adj a).c2)

theorem norm_eq (a : Fq6) : norm a =
    a.c0 ^ 3 + xi * a.c1 ^ 3 + xi ^ 2 * a.c2 ^ 3 - 3 * xi * (a.c0 * a.c1 * a.c2) := by
  simp only [norm, adj]; ring

theorem mul_adj (a : Fq6) : a * adj a = ofFq2 (norm a) := by
  ext1
  · rw [mul_c0, ofFq2_c0]; simp only [norm, adj]; ring
  · rw [mul_c1, ofFq2_c1]; simp only [adj]; ring
  · rw [mul_c2, ofFq2_c2]; simp only [adj]; ring

theorem norm_mul (a b : Fq6) : norm (a * b) = norm a * norm b := by
  simp only [norm_eq, mul_c0, mul_c1, mul_c2]; ring

theorem norm_one : norm 1 = 1 := by simp [norm_eq]
theorem norm_zero : norm 0 = 0 := by simp [norm_eq]
theorem norm_v : norm v = xi := by simp [norm_eq, v]
theorem norm_ofFq2 (c : Fq2) : norm (ofFq2 c) = c ^ 3 := by simp [norm_eq]

-- `Fq2.inverse` stays folded, so that the `show` below is checked by unfolding `Fq6.inverse` once
-- and not the inversion inside it
attribute [local irreducible] Fq2.inverse in
/-- the model's `inverse` inverts the norm in `Fq2` and multiplies by the adjugate -/
theorem inverse_eq (a : Fq6) : inverse a = (Fq2.inverse (norm a)).map (ofFq2 · * adj a) := by
  have h0 : -(a.c2.mulByNonresidue * a.c1) + sq a.c0 = (adj a).c0 := by
    rw [Fq2.mulByNonresidue_eq, Fq2.sq_eq]; simp only [adj]; ring
  have h1 : (sq a.c2).mulByNonresidue - a.c0 * a.c1 = (adj a).c1 := by
    rw [Fq2.mulByNonresidue_eq, Fq2.sq_eq]; simp only [adj]; ring
  have h2 : sq a.c1 - a.c0 * a.c2 = (adj a).c2 := by
    rw [Fq2.sq_eq]; simp only [adj]
  have ht : (a.c2 * (adj a).c1 + a.c1 * (adj a).c2).mulByNonresidue + a.c0 * (adj a).c0
      = norm a := by
    rw [Fq2.mulByNonresidue_eq]; simp only [norm]; ring
  show (match Fq2.inverse
      ((a.c2 * ((sq a.c2).mulByNonresidue - a.c0 * a.c1)
        + a.c1 * (sq a.c1 - a.c0 * a.c2)).mulByNonresidue
        + a.c0 * (-(a.c2.mulByNonresidue * a.c1) + sq a.c0)) with
    | none => none
    | some t => some (⟨t * (-(a.c2.mulByNonresidue * a.c1) + sq a.c0),
        t * ((sq a.c2).mulByNonresidue - a.c0 * a.c1), t * (sq a.c1 - a.c0 * a.c2)⟩ : Fq6)) = _
  rw [h0, h1, h2, ht]
  cases Fq2.inverse (norm a) with
  | none => rfl
  | some t => exact congrArg some (ofFq2_mul t (adj a)).symm

instance : Inv Fq6 := ⟨fun a => (inverse a).getD 0⟩
theorem inv_def (a : Fq6) : a⁻¹ = (inverse a).getD 0 := rfl

/-- integer powers (`zpowRec` spelled out so that its laws hold syntactically: the default
    `rfl` proofs make the unifier evaluate `inverse` on open terms) -/
def zpow (z : ℤ) (a : Fq6) : Fq6 :=
  match z with
  | Int.ofNat n => a ^ n
  | Int.negSucc n => (a ^ (n + 1))⁻¹

theorem zpow_ofNat (n : ℕ) (a : Fq6) : zpow (n : ℤ) a = a ^ n := rfl
theorem zpow_negSucc (n : ℕ) (a : Fq6) : zpow (Int.negSucc n) a = (a ^ (n + 1))⁻¹ := rfl
section Prime
variable [hq : Fact (Nat.Prime Gen.q)]

/-- the norm form is anisotropic: this is "`X³ - ξ` is irreducible over `Fq2`" -/
theorem norm_eq_zero_iff (a : Fq6) : norm a = 0 ↔ a = 0 := by
  constructor
  · intro h
    -- `a · (a2 v - a1) = c1' - c2' v` has degree ≤ 1 in `v` and norm `0`
    have key : (adj a).c1 ^ 3 = xi * (adj a).c2 ^ 3 := by
      have : (adj a).c1 ^ 3 - xi * (adj a).c2 ^ 3 = norm a * (xi * a.c2 ^ 3 - a.c1 ^ 3) := by
        simp only [norm_eq, adj]; ring
      rw [h, zero_mul] at this
      exact sub_eq_zero.mp this
    obtain ⟨e1, e2⟩ := eq_zero_of_pow_eq_mul_pow three_ne_zero Fq2.xi_not_cube key
    simp only [adj] at e1 e2
    -- `ξ a2² = a0 a1` and `a1² = a0 a2` give `a1³ = ξ a2³`
    obtain ⟨h1, h2⟩ := eq_zero_of_pow_eq_mul_pow three_ne_zero Fq2.xi_not_cube
      (show a.c1 ^ 3 = xi * a.c2 ^ 3 by linear_combination a.c1 * e2 - a.c2 * e1)
    have h0 : a.c0 = 0 := by
      rw [norm_eq, h1, h2] at h
      have : a.c0 ^ 3 = 0 := by simpa using h
      simpa using this
    exact ext h0 h1 h2
  · rintro rfl; exact norm_zero

theorem isInverse : IsInverse inverse := .of_norm ofFq2 mul_adj norm_eq_zero_iff inverse_eq

theorem inverse_zero : inverse (0 : Fq6) = none := isInverse.zero

theorem inverse_of_ne (a : Fq6) (h : a ≠ 0) :
    inverse a = some ⟨(norm a)⁻¹ * (adj a).c0, (norm a)⁻¹ * (adj a).c1, (norm a)⁻¹ * (adj a).c2⟩ := by
  rw [inverse_eq, Fq2.inverse_eq_some _ (mt (norm_eq_zero_iff a).mp h), Option.map_some, ofFq2_mul]

theorem inverse_some_mul {a b : Fq6} (h : inverse a = some b) : a * b = 1 := isInverse.some_mul h

set_option linter.unusedSectionVars false in
theorem zpow_neg' (n : ℕ) (a : Fq6) : zpow (Int.negSucc n) a = (zpow (n.succ : ℕ) a)⁻¹ := by
  rw [zpow_negSucc, zpow_ofNat]

instance instField : Field Fq6 where
  __ := instCommRing
  inv := Inv.inv
  zpow := zpow
  zpow_zero' a := pow_zero a
  zpow_succ' n a := pow_succ a n
  zpow_neg' := zpow_neg'
  exists_pair_ne := ⟨0, 1, fun h => by
    have : (0 : Fq2) = 1 := congrArg Fq6.c0 h
    exact zero_ne_one this⟩
  mul_inv_cancel a h := by
    rw [inv_def]
    have := inverse_of_ne a h
    exact inverse_some_mul (by rw [this]; rfl)
  inv_zero := by rw [inv_def, inverse_zero]; rfl
  nnqsmul := _
  nnqsmul_def := fun _ _ => rfl
  qsmul := _
  qsmul_def := fun _ _ => rfl

theorem inverse_eq_some (a : Fq6) (h : a ≠ 0) : inverse a = some a⁻¹ := isInverse.eq_some_inv a h

instance : LawfulFieldOps Fq6 where
  sq_eq := sq_eq
  dbl_eq := dbl_eq
  inv_zero := inverse_zero
  inv_ne := inverse_eq_some
  isZero_iff := isZero_iff

/-- `v` is not a square in `Fq6` (its norm `ξ` is not a square in `Fq2`) -/
theorem v_not_square (s : Fq6) : s ^ 2 ≠ v := by
  intro h
  apply Fq2.xi_not_square (norm s)
  rw [pow_two, ← norm_mul, ← pow_two, h, norm_v]

end Prime
end Fq6

/-! ## `Fq12` -/

namespace Fq12
open Fq6 (v)

/-- the relative norm `Fq12 → Fq6`, `c0² - v c1²` (this is `c0s` of `Fq12.inverse`) -/
def norm (a : Fq12) : Fq6 := a.c0 * a.c0 - v * (a.c1 * a.c1)

theorem norm_mul (a b : Fq12) : norm (a * b) = norm a * norm b := by
  simp only [norm, mul_c0, mul_c1]; ring

theorem norm_zero : norm 0 = 0 := by simp [norm]
theorem norm_one : norm 1 = 1 := by simp [norm]

-- as for `Fq6.inverse_eq`
attribute [local irreducible] Fq6.inverse in
/-- the model's `inverse` inverts the norm in `Fq6` and multiplies by the conjugate -/
theorem inverse_eq (a : Fq12) :
    inverse a = (Fq6.inverse (norm a)).map (ofFq6 · * conjugate a) := by
  have hn : sq a.c0 - (sq a.c1).mulByNonresidue = norm a := by
    rw [Fq6.mulByNonresidue_eq, Fq6.sq_eq, Fq6.sq_eq]; simp only [norm]; ring
  show (match Fq6.inverse (sq a.c0 - (sq a.c1).mulByNonresidue) with
    | none => none
    | some t => some (⟨t * a.c0, -(t * a.c1)⟩ : Fq12)) = _
  rw [hn]
  cases Fq6.inverse (norm a) with
  | none => rfl
  | some t =>
    refine congrArg some ?_
    show _ = ofFq6 t * conjugate a
    rw [ofFq6_mul, conjugate_c0, conjugate_c1, mul_neg]

instance : Inv Fq12 := ⟨fun a => (inverse a).getD 0⟩
theorem inv_def (a : Fq12) : a⁻¹ = (inverse a).getD 0 := rfl

/-- integer powers (`zpowRec` spelled out so that its laws hold syntactically: the default
    `rfl` proofs make the unifier evaluate `inverse` on open terms) -/
def zpow (z : ℤ) (a : Fq12) : Fq12 :=
  match z with
  | Int.ofNat n => a ^ n
  | Int.negSucc n => (a ^ (n + 1))⁻¹

theorem zpow_ofNat (n : ℕ) (a : Fq12) : zpow (n : ℤ) a = a ^ n := rfl
theorem zpow_negSucc (n : ℕ) (a : Fq12) : zpow (Int.negSucc n) a = (a ^ (n + 1))⁻¹ := rfl
section Prime
variable [hq : Fact (Nat.Prime Gen.q)]

/-- the norm form is anisotropic: this is "`X² - v` is irreducible over `Fq6`" -/
theorem norm_eq_zero_iff (a : Fq12) : norm a = 0 ↔ a = 0 := by
  constructor
  · intro h
    obtain ⟨h0, h1⟩ := eq_zero_of_pow_eq_mul_pow two_ne_zero Fq6.v_not_square
      (show a.c0 ^ 2 = v * a.c1 ^ 2 by simp only [norm] at h; linear_combination h)
    exact ext h0 h1
  · rintro rfl; exact norm_zero

theorem isInverse : IsInverse inverse :=
  .of_norm (N := norm) ofFq6 mul_conjugate norm_eq_zero_iff inverse_eq

theorem inverse_zero : inverse (0 : Fq12) = none := isInverse.zero

theorem inverse_of_ne (a : Fq12) (h : a ≠ 0) :
    inverse a = some ⟨(norm a)⁻¹ * a.c0, -((norm a)⁻¹ * a.c1)⟩ := by
  rw [inverse_eq, Fq6.inverse_eq_some _ (mt (norm_eq_zero_iff a).mp h), Option.map_some, ofFq6_mul,
    conjugate_c0, conjugate_c1, mul_neg]

theorem inverse_some_mul {a b : Fq12} (h : inverse a = some b) : a * b = 1 := isInverse.some_mul h

set_option linter.unusedSectionVars false in
theorem zpow_neg' (n : ℕ) (a : Fq12) : zpow (Int.negSucc n) a = (zpow (n.succ : ℕ) a)⁻¹ := by
  rw [zpow_negSucc, zpow_ofNat]

instance instField : Field Fq12 where
  __ := instCommRing
  inv := Inv.inv
  zpow := zpow
  zpow_zero' a := pow_zero a
  zpow_succ' n a := pow_succ a n
  zpow_neg' := zpow_neg'
  exists_pair_ne := ⟨0, 1, fun h => by
    have : (0 : Fq6) = 1 := congrArg Fq12.c0 h
    exact zero_ne_one this⟩
  mul_inv_cancel a h := by
    rw [inv_def]
    have := inverse_of_ne a h
    exact inverse_some_mul (by rw [this]; rfl)
  inv_zero := by rw [inv_def, inverse_zero]; rfl
  nnqsmul := _
  nnqsmul_def := fun _ _ => rfl
  qsmul := _
  qsmul_def := fun _ _ => rfl

theorem inverse_eq_some (a : Fq12) (h : a ≠ 0) : inverse a = some a⁻¹ := isInverse.eq_some_inv a h

instance : LawfulFieldOps Fq12 where
  sq_eq := sq_eq
  dbl_eq := dbl_eq
  inv_zero := inverse_zero
  inv_ne := inverse_eq_some
  isZero_iff := isZero_iff

end Prime
end Fq12

end PP
