/-
C09: the extension tower `Fq2`, `Fq6`, `Fq12` of the model.  Umbrella import.
* `Tower2`, `Tower6`, `Tower12`: `CommRing` instances on the model's own operations, schoolbook specs,
  derived operations (`square`, `double`, `mulByNonresidue`, `norm`, `conjugate`, sparse products);
  `Tower2` also has `Field Fq2` and `LawfulFieldOps Fq2` (`q` prime);
* `TowerField`: `Field Fq6`, `Field Fq12` (`q` prime), `inverse` fails exactly on zero;
* `TowerQuot`: ring isomorphisms with Mathlib's quotient rings `AdjoinRoot _`;
* `TowerFrob`: `frobeniusMap x k = x^(q^k)` for every `k`.
-/
import PP.Proofs.Tower2
import PP.Proofs.Tower6
import PP.Proofs.Tower12
import PP.Proofs.TowerField
import PP.Proofs.TowerQuot
import PP.Proofs.TowerFrob
