/-
Tactics for PP/Proofs/GenArith.lean: prove `generated definition = model definition` ROBUSTLY, i.e.
also after a semantics-preserving ALGEBRAIC rewrite of the Rust source (commuted operands, `double`
for `x + x`, squaring by `mul_assign(&self)`, another association, a product distributed, a common
subexpression computed twice, ...).  Non-algebraic rewrites (reordered independent statements,
temporaries introduced or removed) never needed more than unfolding `let`s, which the first,
syntactic, alternative does; it is always tried FIRST, so that nothing else runs while the generated
code is syntactically the model.

  gen_eq G M by lo        proves `G = M`   (`G` generated constant, `M` model constant, `lo` the tactic
                          rewriting the generated lower-layer functions called by `G` into the model's)
    first | (unfold G M; lo; all_goals with_reducible_and_instances rfl)
          | (unfold G M; lo; gen_opaque; gen_funext; first | (gen_fold2; gen_finish) | (gen_unfold; gen_finish))

Second alternative: extensionality over the arguments; first an attempt over the ring `Fq2` (`gen_fold2`:
the named `Fq2` operations as ring operations; enough, and much cheaper, for code over `Fq2` values);
else the model's tower operations are UNFOLDED down to the operations of the base field (`gen_unfold`: `Fq12` -> `Fq6` -> `Fq2` -> `Fq`, all by the
defining equations; generic code: `sq a = a * a`, `dbl a = a + a`); conditions of `if`s and
discriminants of `match`es of the two sides are proved equal and identified (`gen_align`), then `split`;
equalities of structures are reduced to equalities of base-field components (`gen_leaves`), and each
of those is a polynomial identity decided by the core solver `grobner` (`grind`'s commutative-ring
module) over the `Lean.Grind.CommRing` instance for the model's `Zp p` that is built below ON the
model's own `+ * - neg 0 1`, from `Nat` lemmas.

Core Lean only: no Mathlib (PP/Proofs/GenArith.lean is imported by `GenEnc`, `GenIso` and `GenRest`,
which are written against the core environment).  The ring instances are `scoped`: they exist only where
`PP.GenArithTactic` is opened.  This file does not depend on PP/Gen/Arith.lean.

Soundness: every step is an ordinary tactic producing a kernel-checked term; a wrong equation makes
`grobner` fail (quickly).  Nothing evaluates concrete field arithmetic: no `decide`, no `rfl` at default
transparency in the second alternative, the inversion functions are generalised to variables first.
-/
import Lean
import PP.Model.Pairing

set_option linter.unusedSectionVars false
set_option linter.unusedSimpArgs false
set_option linter.unusedVariables false

namespace PP.GenArithTactic
open PP
open Lean Elab Tactic Meta

/-! ## `Zp p` is a commutative ring for `grind` (core classes, proofs from `Nat` lemmas) -/

namespace ZpRing
variable {p : Nat} [PosNat p]

theorem ext {a b : Zp p} (h : a.v = b.v) : a = b := by cases a; cases b; simp_all

theorem add_v (a b : Zp p) : (a + b).v = (a.v + b.v) % p := rfl
theorem mul_v (a b : Zp p) : (a * b).v = (a.v * b.v) % p := rfl
theorem neg_v (a : Zp p) : (-a).v = (p - a.v) % p := rfl
theorem sub_v (a b : Zp p) : (a - b).v = (a.v + (p - b.v)) % p := rfl
theorem zero_v : (0 : Zp p).v = 0 := Nat.zero_mod p
theorem one_v : (1 : Zp p).v = 1 % p := rfl
theorem v_mod (a : Zp p) : a.v % p = a.v := Nat.mod_eq_of_lt a.h

theorem add_zero (a : Zp p) : a + 0 = a := ext (by rw [add_v, zero_v, Nat.add_zero, v_mod])
theorem add_comm (a b : Zp p) : a + b = b + a := ext (by rw [add_v, add_v, Nat.add_comm])
theorem add_assoc (a b c : Zp p) : a + b + c = a + (b + c) :=
  ext (by rw [add_v, add_v, add_v, add_v, Nat.mod_add_mod, Nat.add_mod_mod, Nat.add_assoc])
theorem mul_comm (a b : Zp p) : a * b = b * a := ext (by rw [mul_v, mul_v, Nat.mul_comm])
theorem mul_assoc (a b c : Zp p) : a * b * c = a * (b * c) :=
  ext (by rw [mul_v, mul_v, mul_v, mul_v, Nat.mod_mul_mod, Nat.mul_mod_mod, Nat.mul_assoc])
theorem mul_one (a : Zp p) : a * 1 = a := ext (by rw [mul_v, one_v, Nat.mul_mod_mod, Nat.mul_one, v_mod])
theorem left_distrib (a b c : Zp p) : a * (b + c) = a * b + a * c :=
  ext (by rw [mul_v, add_v, add_v, mul_v, mul_v, Nat.mul_mod_mod, ← Nat.add_mod, Nat.mul_add])
theorem zero_mul (a : Zp p) : 0 * a = 0 := ext (by rw [mul_v, zero_v, Nat.zero_mul, Nat.zero_mod])
theorem neg_add_cancel (a : Zp p) : -a + a = 0 :=
  ext (by rw [add_v, neg_v, Nat.mod_add_mod, Nat.sub_add_cancel (Nat.le_of_lt a.h), Nat.mod_self, zero_v])
theorem sub_eq_add_neg (a b : Zp p) : a - b = a + -b := ext (by rw [sub_v, add_v, neg_v, Nat.add_mod_mod])
theorem neg_zero : -(0 : Zp p) = 0 := ext (by rw [neg_v, zero_v, Nat.sub_zero, Nat.mod_self])
theorem neg_neg (a : Zp p) : -(-a) = a := by
  have h : -(-a) + -a = 0 := neg_add_cancel (-a)
  calc -(-a) = -(-a) + 0 := (add_zero _).symm
    _ = -(-a) + (-a + a) := by rw [neg_add_cancel]
    _ = (-(-a) + -a) + a := (add_assoc _ _ _).symm
    _ = 0 + a := by rw [h]
    _ = a := by rw [add_comm, add_zero]

def npow (a : Zp p) : Nat → Zp p
  | 0 => 1
  | n + 1 => npow a n * a
def intCast : Int → Zp p
  | .ofNat n => Zp.ofNat n
  | .negSucc n => -(Zp.ofNat (n + 1))
def zsmul : Int → Zp p → Zp p
  | .ofNat n, a => Zp.ofNat n * a
  | .negSucc n, a => -(Zp.ofNat (n + 1) * a)

theorem intCast_neg (i : Int) : (intCast (-i) : Zp p) = -intCast i := by
  match i with
  | .ofNat 0 => exact neg_zero.symm
  | .ofNat (n + 1) => rfl
  | .negSucc n => exact (neg_neg _).symm
theorem neg_zsmul (i : Int) (a : Zp p) : zsmul (-i) a = -zsmul i a := by
  match i with
  | .ofNat 0 =>
    show Zp.ofNat 0 * a = -(Zp.ofNat 0 * a)
    rw [show (Zp.ofNat 0 : Zp p) = 0 from rfl, zero_mul, neg_zero]
  | .ofNat (n + 1) => rfl
  | .negSucc n => exact (neg_neg _).symm

end ZpRing

open ZpRing in
/-- the model's `Zp p` (`Fq`, `Fr`) with the model's own `+ * - neg 0 1` as a commutative ring for the
    core solver `grind` / `grobner` -/
@[reducible] def zpCommRing {p : Nat} [PosNat p] : Lean.Grind.CommRing (Zp p) where
  natCast := ⟨Zp.ofNat⟩
  ofNat := fun n => ⟨Zp.ofNat n⟩
  nsmul := ⟨fun n a => Zp.ofNat n * a⟩
  npow := ⟨npow⟩
  intCast := ⟨intCast⟩
  zsmul := ⟨zsmul⟩
  add_zero := add_zero
  add_comm := add_comm
  add_assoc := add_assoc
  mul_assoc := mul_assoc
  mul_one := mul_one
  one_mul := fun a => by rw [mul_comm]; exact mul_one a
  left_distrib := left_distrib
  right_distrib := fun a b c => by rw [mul_comm, left_distrib, mul_comm c, mul_comm c]
  zero_mul := zero_mul
  mul_zero := fun a => by rw [mul_comm]; exact zero_mul a
  pow_zero := fun _ => rfl
  pow_succ := fun _ _ => rfl
  ofNat_succ := fun n => ext (by show (n + 1) % p = (n % p + 1 % p) % p; rw [← Nat.add_mod])
  ofNat_eq_natCast := fun _ => rfl
  nsmul_eq_natCast_mul := fun _ _ => rfl
  neg_add_cancel := neg_add_cancel
  sub_eq_add_neg := sub_eq_add_neg
  neg_zsmul := neg_zsmul
  zsmul_natCast_eq_nsmul := fun _ _ => rfl
  intCast_ofNat := fun _ => rfl
  intCast_neg := intCast_neg
  mul_comm := mul_comm

scoped instance instZpCommRing {p : Nat} [PosNat p] : Lean.Grind.CommRing (Zp p) := zpCommRing

/-! ## extensionality of the structures -/

theorem Fq2_ext {a b : Fq2} (h0 : a.c0 = b.c0) (h1 : a.c1 = b.c1) : a = b := by
  cases a; cases b; simp_all
theorem Fq6_ext {a b : Fq6} (h0 : a.c0 = b.c0) (h1 : a.c1 = b.c1) (h2 : a.c2 = b.c2) : a = b := by
  cases a; cases b; simp_all
theorem Fq12_ext {a b : Fq12} (h0 : a.c0 = b.c0) (h1 : a.c1 = b.c1) : a = b := by
  cases a; cases b; simp_all
theorem Jac_ext {F : Type} {p q : Jac F} (hx : p.x = q.x) (hy : p.y = q.y) (hz : p.z = q.z) : p = q := by
  cases p; cases q; simp_all
theorem Aff_ext {F : Type} {p q : Aff F} (hx : p.x = q.x) (hy : p.y = q.y) (hi : p.infinity = q.infinity) :
    p = q := by
  cases p; cases q; simp_all
theorem eq_iff_of_eq {α : Sort _} {a a' b b' : α} (h1 : a = a') (h2 : b = b') : (a = b) ↔ (a' = b') := by
  subst h1; subst h2; exact Iff.rfl
theorem eq_eq_of_eq {α : Sort _} {a a' b b' : α} (h1 : a = a') (h2 : b = b') : (a = b) = (a' = b') := by
  subst h1; subst h2; rfl

/-! ## the tower operations by their defining equations (everything here is `rfl`) -/

theorem Zp_sq {p : Nat} [PosNat p] (a : Zp p) : sq a = a * a := rfl
theorem Zp_dbl {p : Nat} [PosNat p] (a : Zp p) : dbl a = a + a := rfl

theorem Fq2_hadd (a b : Fq2) : a + b = Fq2.add a b := rfl
theorem Fq2_hsub (a b : Fq2) : a - b = Fq2.sub a b := rfl
theorem Fq2_hmul (a b : Fq2) : a * b = Fq2.mul a b := rfl
theorem Fq2_hneg (a : Fq2) : -a = Fq2.neg a := rfl
theorem Fq2_sq (a : Fq2) : sq a = Fq2.square a := rfl
theorem Fq2_dbl (a : Fq2) : dbl a = Fq2.double a := rfl
theorem Fq2_zero : (0 : Fq2) = ⟨0, 0⟩ := rfl
theorem Fq2_one : (1 : Fq2) = ⟨1, 0⟩ := rfl
theorem Fq2_frob (a : Fq2) (n : Nat) : FieldOps.frob a n = Fq2.frobeniusMap a n := rfl

theorem Fq6_hadd (a b : Fq6) : a + b = Fq6.add a b := rfl
theorem Fq6_hsub (a b : Fq6) : a - b = Fq6.sub a b := rfl
theorem Fq6_hmul (a b : Fq6) : a * b = Fq6.mul a b := rfl
theorem Fq6_hneg (a : Fq6) : -a = Fq6.neg a := rfl
theorem Fq6_sq (a : Fq6) : sq a = Fq6.square a := rfl
theorem Fq6_dbl (a : Fq6) : dbl a = Fq6.double a := rfl
theorem Fq6_zero : (0 : Fq6) = ⟨0, 0, 0⟩ := rfl
theorem Fq6_one : (1 : Fq6) = ⟨1, 0, 0⟩ := rfl
theorem Fq6_frob (a : Fq6) (n : Nat) : FieldOps.frob a n = Fq6.frobeniusMap a n := rfl

theorem Fq12_hadd (a b : Fq12) : a + b = Fq12.add a b := rfl
theorem Fq12_hsub (a b : Fq12) : a - b = Fq12.sub a b := rfl
theorem Fq12_hmul (a b : Fq12) : a * b = Fq12.mul a b := rfl
theorem Fq12_hneg (a : Fq12) : -a = Fq12.neg a := rfl
theorem Fq12_sq (a : Fq12) : sq a = Fq12.square a := rfl
theorem Fq12_dbl (a : Fq12) : dbl a = Fq12.double a := rfl
theorem Fq12_zero : (0 : Fq12) = ⟨0, 0⟩ := rfl
theorem Fq12_one : (1 : Fq12) = ⟨1, 0⟩ := rfl
theorem Fq12_frob (a : Fq12) (n : Nat) : FieldOps.frob a n = Fq12.frobeniusMap a n := rfl

/-! ## the tactics -/

/-- `funext` over all arguments, then beta.  (Not `repeat (apply funext ..)`: a FAILING unification of
    `funext` with an equation between non-functions can send `whnf` into the bodies.) -/
elab "gen_funext" : tactic => do
  repeat
    let g ← getMainGoal
    let t ← instantiateMVars (← g.getType)
    match t.eq? with
    | some (ty, _, _) =>
      let ty ← whnfR ty
      if ty.isForall then evalTactic (← `(tactic| (apply funext; intro _)))
      else break
    | none => break
  let g ← getMainGoal
  let t ← instantiateMVars (← g.getType)
  let g' ← g.replaceTargetDefEq (← Core.betaReduce t)
  replaceMainGoal [g']

/-- the inversion functions as opaque variables: a `match` on `Fq6.inverse e` in a proof term makes the
    kernel (and `whnf`) unfold the whole tower below it -/
macro "gen_opaque" : tactic => `(tactic| (
  try rw [show @FieldOps.inv Fq12 _ = PP.Fq12.inverse from rfl]
  try rw [show @FieldOps.inv Fq6 _ = PP.Fq6.inverse from rfl]
  try rw [show @FieldOps.inv Fq2 _ = PP.Fq2.inverse from rfl]
  try generalize PP.Fq12.inverse = inv12
  try generalize PP.Fq6.inverse = inv6
  try generalize PP.Fq2.inverse = inv2
  try generalize (@FieldOps.inv Fq _) = inv0))

/-- `let`s and projections of constructors (a step of its own), then the tower operations down to the
    base field by their defining equations.  The inversions, `is_zero`, square roots, `sgn0` are NOT
    unfolded. -/
macro "gen_unfold" : tactic => `(tactic| (
  (try simp only [])
  (try simp only [
    Fq12_hadd, Fq12_hsub, Fq12_hmul, Fq12_hneg, Fq12_sq, Fq12_dbl, Fq12_zero, Fq12_one, Fq12_frob,
    Fq12.add, Fq12.sub, Fq12.neg, Fq12.double, Fq12.mul, Fq12.square, Fq12.conjugate, Fq12.mulBy014, Fq12.frobeniusMap,
    Fq6_hadd, Fq6_hsub, Fq6_hmul, Fq6_hneg, Fq6_sq, Fq6_dbl, Fq6_zero, Fq6_one, Fq6_frob,
    Fq6.add, Fq6.sub, Fq6.neg, Fq6.double, Fq6.mul, Fq6.square, Fq6.mulByNonresidue, Fq6.mulBy1, Fq6.mulBy01,
    Fq6.frobeniusMap,
    Fq2_hadd, Fq2_hsub, Fq2_hmul, Fq2_hneg, Fq2_sq, Fq2_dbl, Fq2_zero, Fq2_one, Fq2_frob,
    Fq2.add, Fq2.sub, Fq2.neg, Fq2.double, Fq2.mul, Fq2.square, Fq2.mulByNonresidue, Fq2.norm, Fq2.frobeniusMap,
    Zp_sq, Zp_dbl])))

/-- one equation between base-field elements, or structures of them: `grobner` on a field element,
    component-wise on a structure.  Every alternative fails at once when the type of the goal is not the
    one it is for. -/
syntax "gen_close" : tactic
macro_rules | `(tactic| gen_close) => `(tactic| first
  | done
  | (with_reducible rfl)
  | grobner
  | (refine Fq12_ext ?_ ?_ <;> ((try dsimp only []); gen_close))
  | (refine Fq6_ext ?_ ?_ ?_ <;> ((try dsimp only []); gen_close))
  | (refine Fq2_ext ?_ ?_ <;> ((try dsimp only []); gen_close))
  | (refine Jac_ext ?_ ?_ ?_ <;> ((try dsimp only []); gen_close))
  | (refine Aff_ext ?_ ?_ ?_ <;> ((try dsimp only []); gen_close))
  | (refine Prod.ext ?_ ?_ <;> ((try dsimp only []); gen_close))
  | (refine congrArg some ?_; gen_close)
  | (refine decide_eq_decide.mpr (eq_iff_of_eq ?_ ?_) <;> gen_close))

/-- equalities of constructor applications to equalities of the arguments, then `gen_close` -/
macro "gen_leaves" : tactic => `(tactic| (
  try simp only [Fq2.mk.injEq, Fq6.mk.injEq, Fq12.mk.injEq, Jac.mk.injEq, Aff.mk.injEq, Prod.mk.injEq,
    OsswuHelp.mk.injEq, Option.some.injEq, true_and, and_true]
  repeat' apply And.intro
  all_goals gen_close))

/-- conditions / discriminants of the two sides are equal: propositions structurally (`∧`, `¬`, `=`),
    data by `gen_close`, applications of a function (`is_zero e`, `inverse e`) by congruence (at most two
    levels: an unbounded descent into a wrong equation would only exhaust the recursion limit) -/
syntax "gen_side" : tactic
macro_rules | `(tactic| gen_side) => `(tactic| first
  | (with_reducible rfl)
  | (refine congr (congrArg And ?_) ?_ <;> gen_side)
  | (refine congrArg Not ?_; gen_side)
  | (refine eq_eq_of_eq ?_ ?_ <;> gen_side)
  | gen_close
  | (with_reducible congr 1 <;> first | gen_close | (with_reducible congr 1 <;> gen_close)))

/-- the condition of the first `if` / the discriminant of the first `match` (exactly one
    discriminant), outermost first, with no loose bound variables -/
def firstCtrl? (env : Environment) (e : Expr) : Option Expr := do
  let t ← e.find? fun t =>
    !t.hasLooseBVars &&
      ((t.isAppOf ``ite && t.getAppNumArgs ≥ 5) || (t.isAppOf ``dite && t.getAppNumArgs ≥ 5) ||
        (match isMatcherAppCore? env t with
         | some info => info.numDiscrs == 1 && t.getAppNumArgs ≥ info.arity
         | none => false))
  if t.isAppOf ``ite || t.isAppOf ``dite then
    pure (t.getArg! 1)
  else
    let info ← isMatcherAppCore? env t
    pure (t.getArg! info.getFirstDiscrPos)

/-- Goal `L = R`.  Takes the first `if` / `match` of `L` and of `R`, proves their conditions /
    discriminants equal (`gen_side`) and rewrites the one of `L` into the one of `R`.  Fails if one of
    the sides has no control flow, or if the two are not equal. -/
elab "gen_align" : tactic => withMainContext do
  let g ← getMainGoal
  let t ← instantiateMVars (← g.getType)
  let some (_, lhs, rhs) := t.eq? | throwError "gen_align: not an equation"
  let env ← getEnv
  let some d := firstCtrl? env lhs | throwError "gen_align: no control flow on the left"
  let some d' := firstCtrl? env rhs | throwError "gen_align: no control flow on the right"
  if d == d' then return
  unless ← withReducible (isDefEq (← inferType d) (← inferType d')) do
    throwError "gen_align: different kinds of control flow"
  let eqT ← mkEq d d'
  let hd ← mkFreshExprSyntheticOpaqueMVar eqT
  -- in THIS tactic context (no error recovery under `first`): a failure of `gen_side` is an exception
  let saved ← getGoals
  setGoals [hd.mvarId!]
  withoutRecover (evalTactic (← `(tactic| gen_side)))
  unless (← getGoals).isEmpty do throwError "gen_align: the conditions of the two sides differ"
  setGoals saved
  let g1 ← g.assert `gen_hd eqT hd
  let (_, g2) ← g1.intro `gen_hd
  replaceMainGoal [g2]
  let id := mkIdent `gen_hd
  evalTactic (← `(tactic| (simp only [$id:ident] <;> clear $id)))

/-- case analysis on every `if` / `match`, the two sides in step -/
macro "gen_split" : tactic =>
  `(tactic| repeat' (gen_align <;> (split <;> try simp only [*, ↓reduceIte])))

/-- straight-line code: `gen_leaves`; with control flow: `gen_split`, then the leaves -/
macro "gen_finish" : tactic => `(tactic| first
  | done
  | gen_leaves
  | (gen_split;
     all_goals (first
       | done | gen_leaves | contradiction
       | fail "gen_eq: generated definition and model differ (not equal up to commutative-ring identities)")))

/-! ## generic code: a coefficient field with ring laws -/

/-- What the robust comparison needs from the coefficient field of the generic code (`curve_impl!`,
    `osswu_help`): ring laws for the notation classes the code is instantiated with (a core class, so
    that no Mathlib is needed here; Mathlib's `CommRing`/`Field` give it by
    `Mathlib/Algebra/Ring/GrindInstances.lean`), and `square` / `double` being what they say.  No
    inverse, no primality.  Instances below (`scoped`): `Zp p`, `Fq2`. -/
class LawfulSqDbl (F : Type) [Lean.Grind.CommRing F] [FieldOps F] : Prop where
  sq_eq : ∀ a : F, sq a = a * a
  dbl_eq : ∀ a : F, dbl a = a + a

theorem sq_eq {F : Type} [Lean.Grind.CommRing F] [FieldOps F] [LawfulSqDbl F] (a : F) : sq a = a * a :=
  LawfulSqDbl.sq_eq a
theorem dbl_eq {F : Type} [Lean.Grind.CommRing F] [FieldOps F] [LawfulSqDbl F] (a : F) : dbl a = a + a :=
  LawfulSqDbl.dbl_eq a

scoped instance {p : Nat} [PosNat p] : LawfulSqDbl (Zp p) := ⟨fun _ => rfl, fun _ => rfl⟩

/-! ## `Fq2` is a commutative ring for `grind` too (for the generic code instantiated at `Fq2`): each ring
    law is two polynomial identities over `Fq` -/

namespace Fq2Ring

theorem Zp_ofNat_zero {p : Nat} [PosNat p] : (Zp.ofNat 0 : Zp p) = 0 := rfl
theorem Zp_ofNat_one {p : Nat} [PosNat p] : (Zp.ofNat 1 : Zp p) = 1 := rfl

def npow (a : Fq2) : Nat → Fq2
  | 0 => 1
  | n + 1 => npow a n * a
@[reducible] def ofNat (n : Nat) : Fq2 := ⟨Zp.ofNat n, 0⟩
def intCast (i : Int) : Fq2 := ⟨ZpRing.intCast i, 0⟩
def zsmul (i : Int) (a : Fq2) : Fq2 := intCast i * a

/-- a multiplicative law of `Fq2`: the Karatsuba product written out, the two components are polynomial
    identities over `Fq` -/
macro "fq2_ax" : tactic => `(tactic| (intros; refine Fq2_ext ?_ ?_ <;>
  (simp only [Fq2_hadd, Fq2_hmul, Fq2_zero, Fq2_one, Fq2.add, Fq2.mul, ofNat, Zp_ofNat_zero, Zp_ofNat_one]
   grobner)))

theorem intCast_neg (i : Int) : intCast (-i) = -intCast i := by
  refine Fq2_ext ?_ ?_
  · exact ZpRing.intCast_neg i
  · show (0 : Fq) = -0; exact ZpRing.neg_zero.symm

end Fq2Ring

open Fq2Ring in
@[reducible] def fq2CommRing : Lean.Grind.CommRing Fq2 where
  natCast := ⟨ofNat⟩
  ofNat := fun n => ⟨ofNat n⟩
  nsmul := ⟨fun n a => ofNat n * a⟩
  npow := ⟨npow⟩
  intCast := ⟨intCast⟩
  zsmul := ⟨zsmul⟩
  add_zero := fun _ => Fq2_ext (ZpRing.add_zero _) (ZpRing.add_zero _)
  add_comm := fun _ _ => Fq2_ext (ZpRing.add_comm _ _) (ZpRing.add_comm _ _)
  add_assoc := fun _ _ _ => Fq2_ext (ZpRing.add_assoc _ _ _) (ZpRing.add_assoc _ _ _)
  mul_assoc := by fq2_ax
  mul_one := by fq2_ax
  one_mul := by fq2_ax
  left_distrib := by fq2_ax
  right_distrib := by fq2_ax
  zero_mul := by fq2_ax
  mul_zero := by fq2_ax
  pow_zero := fun _ => rfl
  pow_succ := fun _ _ => rfl
  ofNat_succ := fun n => Fq2_ext
    (ZpRing.ext (by show (n + 1) % Gen.q = (n % Gen.q + 1 % Gen.q) % Gen.q; rw [← Nat.add_mod]))
    (ZpRing.add_zero 0).symm
  ofNat_eq_natCast := fun _ => rfl
  nsmul_eq_natCast_mul := fun _ _ => rfl
  neg_add_cancel := fun _ => Fq2_ext (ZpRing.neg_add_cancel _) (ZpRing.neg_add_cancel _)
  sub_eq_add_neg := fun _ _ => Fq2_ext (ZpRing.sub_eq_add_neg _ _) (ZpRing.sub_eq_add_neg _ _)
  neg_zsmul := fun i a => by
    show intCast (-i) * a = -(intCast i * a)
    rw [intCast_neg]; generalize intCast i = c
    refine Fq2_ext ?_ ?_ <;> (simp only [Fq2_hmul, Fq2_hneg, Fq2.mul, Fq2.neg]; grobner)
  zsmul_natCast_eq_nsmul := fun _ _ => rfl
  intCast_ofNat := fun _ => rfl
  intCast_neg := intCast_neg
  mul_comm := by fq2_ax

scoped instance instFq2CommRing : Lean.Grind.CommRing Fq2 := fq2CommRing
open Fq2Ring in
scoped instance : LawfulSqDbl Fq2 :=
  ⟨fun _ => Fq2_ext (by simp only [Fq2_sq, Fq2_hmul, Fq2.square, Fq2.mul]; grobner)
    (by simp only [Fq2_sq, Fq2_hmul, Fq2.square, Fq2.mul]; grobner), fun _ => rfl⟩


/-! ## the comparison at the level of `Fq2` (code over `Fq2` values: `doubling_step`, `addition_step`, the
    `Fq6` functions).  Curve-like formulas have high degree: unfolded to `Fq` their polynomials get big
    (slow for `addition_step`), over the ring `Fq2` they are as small as the source. -/

theorem Fq2_add_fold (a b : Fq2) : Fq2.add a b = a + b := rfl
theorem Fq2_sub_fold (a b : Fq2) : Fq2.sub a b = a - b := rfl
theorem Fq2_mul_fold (a b : Fq2) : Fq2.mul a b = a * b := rfl
theorem Fq2_neg_fold (a : Fq2) : Fq2.neg a = -a := rfl
theorem Fq2_double_fold (a : Fq2) : Fq2.double a = a + a := rfl
theorem Fq2_square_fold (a : Fq2) : Fq2.square a = a * a := (Fq2_sq a).symm.trans (sq_eq a)

/-- the named `Fq2` operations of the model as ring operations of `Fq2` (`mul_by_nonresidue`, Frobenius,
    inversion stay function symbols) -/
macro "gen_fold2" : tactic => `(tactic| (
  (try simp only [])
  (try simp only [Fq2_add_fold, Fq2_sub_fold, Fq2_mul_fold, Fq2_neg_fold, Fq2_double_fold, Fq2_square_fold,
    sq_eq, dbl_eq])))

/-- `gen_eq G M by lo`: see the header -/
macro "gen_eq " g:ident m:ident " by " lo:tactic : tactic => `(tactic| first
  | (unfold $g:ident $m:ident; $lo; all_goals with_reducible_and_instances rfl)
  | (unfold $g:ident $m:ident; $lo; gen_opaque; gen_funext
     first
     | (gen_fold2; gen_finish)
     | (gen_unfold; gen_finish)
     trace "gen_eq: generated code is not syntactically the model; proved equal up to commutative-ring identities"))

/-- `gen_eq` for the generic code: `sq`, `dbl` by `LawfulSqDbl` instead of the tower.  (First alternative:
    plain `rfl` as in the theorems over bare notation classes; over an abstract `F` there is no concrete
    arithmetic a failing `rfl` could start to evaluate.) -/
macro "gen_eq_ring " g:ident m:ident " by " lo:tactic : tactic => `(tactic| first
  | (unfold $g:ident; $lo; all_goals rfl)
  | (unfold $g:ident $m:ident; $lo; gen_funext; (try simp only []); (try simp only [sq_eq, dbl_eq]); gen_finish
     trace "gen_eq: generated code is not syntactically the model; proved equal up to commutative-ring identities"))

end PP.GenArithTactic
