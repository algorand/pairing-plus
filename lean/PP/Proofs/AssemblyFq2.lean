/-
The `Fq2` instances and facts that are hypotheses elsewhere, without curve-arithmetic imports, so
that the byte-level modules C04/C05/C19 can use them:

* `fq2FieldHyp : Fq2Sqrt.FieldHyp` and `instLawfulSqrtOpsFq2 : LawfulSqrtOps Fq2` (C18 for `Fq2`,
  unconditional);
* `fq2_two_ne_zero`, `g2_no_two_torsion`: the two hypotheses of C05's
  `encode_decode_compressed_g2_partial`.
-/
import PP.Proofs.Tower
import PP.Props.C18
import PP.Model.Enc

namespace PP

theorem fq2FieldHyp : @Fq2Sqrt.FieldHyp Fq2.instField :=
  ⟨fun _ _ => rfl, fun _ _ => rfl, fun _ => rfl, rfl, rfl, Fq2.pow_card_sub_one',
    Fq2.frobeniusMap_one_eq_pow⟩

/-- `Fq2::sqrt` and the order on `Fq2` are lawful (C18, unconditional) -/
instance instLawfulSqrtOpsFq2 : LawfulSqrtOps Fq2 := Fq2Sqrt.lawfulSqrtOps_of fq2FieldHyp

theorem g2Codec_b_ne_zero' : g2Codec.b ≠ 0 := by decide +kernel

theorem neg_g2b_pow_third_fast :
    fastPow (-g2Codec.b) ((Gen.q * Gen.q - 1) / 3) ≠ 1 := by decide +kernel

/-- `E₂ : y² = x³ + 4(1+u)` has no point of order 2 over `Fq2`: `−4(1+u)` is not a cube -/
theorem g2_no_two_torsion (x : Fq2) : x * x * x + g2Codec.b ≠ 0 := fun h =>
  not_pow_of_fastPow_ne_one Fq2.q_sq_sub_one_lt Fq2.pow_card_sub_one Fq2.three_dvd
    neg_g2b_pow_third_fast (neg_ne_zero.mpr g2Codec_b_ne_zero') x (by linear_combination h)

end PP
