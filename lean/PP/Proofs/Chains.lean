/-
Exponent tracking for the straight-line addition chains of `PP.Model.Map`.

The chain interpreter `runChain0`/`runChain` is generic in the carrier `M` and its three operations.
We run THE SAME interpreter a second time over a carrier of exponents

* `Option ℕ` with `sq e = 2e`, `mul = +`, `div = ⊥`, `none` = "unknown/uninitialised register"
  (field chains: registers start at `default = 0 : F`, which is not a power of the input, so a
  register that is read before being written must poison the result), and
* `ℤ` with `sq e = 2e`, `mul = +`, `div = −`  (point chains: registers start at `Jac.zero`, which
  abstracts to `0 = 0 • g`, so no initialisation condition is needed),

and prove one simulation theorem (`runChain0_sim`, `runChain_sim`): any relation between two carriers
that is respected by the three operations and by `default` is respected by the whole run, register
by register (both runs use the same indices, so out-of-range reads/writes behave identically).

Consequences:
* `fieldChain_pow`  : `natExpO prog = some e → chainFn0 fieldChainOps prog a = a ^ e`
* `pointChain0_smul`, `pointChain_smul` : relative to a `GroupModel`, a point chain maps a valid point
  `P` to a valid point abstracting to `(intExp …) • absJ P`.
* the exponents of the four EXTRACTED chains, evaluated by the kernel (`decide +kernel`).
-/
import PP.Proofs.ScalarMul
import PP.Proofs.Primes
import PP.Model.Map
import PP.Gen.Curve

namespace PP
namespace Chains

theorem get!_eq {α : Type} [Inhabited α] (xs : Array α) (i : Nat) :
    xs[i]! = xs[i]?.getD default := by
  rw [getElem!_def]; cases xs[i]? <;> rfl

/-- Two register files of the same size whose registers are pointwise related (reads outside the
file return `default` on both sides). -/
def ArrRel {M N : Type} [Inhabited M] [Inhabited N] (R : M → N → Prop)
    (rm : Array M) (rn : Array N) : Prop :=
  rm.size = rn.size ∧ ∀ i : Nat, R rm[i]! rn[i]!

section sim
variable {M N : Type} [Inhabited M] [Inhabited N] {R : M → N → Prop}

theorem ArrRel.get {rm : Array M} {rn : Array N} (h : ArrRel R rm rn) (i : Nat) :
    R rm[i]! rn[i]! := h.2 i

theorem ArrRel.set {rm : Array M} {rn : Array N} (h : ArrRel R rm rn) (d : Nat) {a : M} {b : N}
    (hab : R a b) : ArrRel R (rm.set! d a) (rn.set! d b) := by
  refine ⟨by simp [Array.set!_eq_setIfInBounds, h.1], fun i => ?_⟩
  rw [get!_eq, get!_eq, Array.set!_eq_setIfInBounds, Array.set!_eq_setIfInBounds,
    Array.getElem?_setIfInBounds, Array.getElem?_setIfInBounds, ← h.1]
  by_cases hdi : d = i
  · subst hdi
    by_cases hlt : d < rm.size
    · simpa [hlt] using hab
    · have := h.2 d
      rw [get!_eq, get!_eq] at this
      have hm : rm[d]? = none := by
        rw [Array.getElem?_eq_none_iff]; omega
      have hn : rn[d]? = none := by
        rw [Array.getElem?_eq_none_iff]; rw [← h.1]; omega
      rw [hm, hn] at this
      simpa [hlt] using this
  · have := h.2 i
    rw [get!_eq, get!_eq] at this
    simpa [hdi] using this

theorem ArrRel.replicate (hdef : R default default) (n : Nat) :
    ArrRel R (Array.replicate n (default : M)) (Array.replicate n (default : N)) := by
  refine ⟨by simp, fun i => ?_⟩
  rw [get!_eq, get!_eq, Array.getElem?_replicate, Array.getElem?_replicate]
  by_cases h : i < n <;> simpa [h] using hdef

omit [Inhabited M] [Inhabited N] in
theorem sqTimes_sim {f : M → M} {g : N → N} (hfg : ∀ a b, R a b → R (f a) (g b)) :
    ∀ (n : Nat) (a : M) (b : N), R a b → R (sqTimes f n a) (sqTimes g n b)
  | 0, _, _, h => h
  | n + 1, a, b, h => sqTimes_sim hfg n (f a) (g b) (hfg a b h)

/-- The three operations of two carriers respect a relation. -/
structure OpsRel (R : M → N → Prop) (opsM : ChainOps M) (opsN : ChainOps N) : Prop where
  dflt : R default default
  sq : ∀ a b, R a b → R (opsM.sq a) (opsN.sq b)
  mul : ∀ a b c d, R a b → R c d → R (opsM.mul a c) (opsN.mul b d)
  div : ∀ a b c d, R a b → R c d → R (opsM.div a c) (opsN.div b d)

variable {opsM : ChainOps M} {opsN : ChainOps N}

theorem runChain0_sim (H : OpsRel R opsM opsN) :
    ∀ (prog : Prog) (rm : Array M) (rn : Array N), ArrRel R rm rn →
      ArrRel R (runChain0 opsM prog rm) (runChain0 opsN prog rn)
  | [], _, _, h => h
  | (op, d, x) :: rest, rm, rn, h => by
    unfold runChain0
    apply runChain0_sim H rest
    match op with
    | 0 => exact h.set d (h.get x)
    | 1 => exact h.set d (sqTimes_sim H.sq x _ _ (h.get d))
    | 2 => exact h.set d (H.mul _ _ _ _ (h.get d) (h.get x))
    | 3 => exact h.set d (H.div _ _ _ _ (h.get d) (h.get x))
    | _ + 4 => exact h

theorem chainFn0_sim (H : OpsRel R opsM opsN) (prog : Prog) {a : M} {b : N} (hab : R a b) :
    R (chainFn0 opsM prog a) (chainFn0 opsN prog b) := by
  unfold chainFn0
  exact (runChain0_sim H prog _ _ ((ArrRel.replicate H.dflt 32).set 0 hab)).get 1

theorem runChain_sim (H : OpsRel R opsM opsN) (callee : Prog) :
    ∀ (prog : Prog) (rm : Array M) (rn : Array N), ArrRel R rm rn →
      ArrRel R (runChain opsM callee prog rm) (runChain opsN callee prog rn)
  | [], _, _, h => h
  | (op, d, x) :: rest, rm, rn, h => by
    unfold runChain
    apply runChain_sim H callee rest
    match op with
    | 0 => exact h.set d (h.get x)
    | 1 => exact h.set d (sqTimes_sim H.sq x _ _ (h.get d))
    | 2 => exact h.set d (H.mul _ _ _ _ (h.get d) (h.get x))
    | 3 => exact h.set d (H.div _ _ _ _ (h.get d) (h.get x))
    | 4 => exact h.set d (chainFn0_sim H callee (h.get x))
    | _ + 5 => exact h

theorem chainFn_sim (H : OpsRel R opsM opsN) (callee prog : Prog) {a : M} {b : N} (hab : R a b) :
    R (chainFn opsM callee prog a) (chainFn opsN callee prog b) := by
  unfold chainFn
  exact (runChain_sim H callee prog _ _ ((ArrRel.replicate H.dflt 32).set 0 hab)).get 1

end sim

/-- Exponents of a multiplicative chain whose registers start out with an unusable value:
`none` = "not (known to be) a power of the input".  Division is not tracked (`none`). -/
def optOps : ChainOps (Option Nat) :=
  ⟨fun a => a.map (2 * ·), fun a b => a.bind fun x => b.map (x + ·), fun _ _ => none⟩

/-- The exponent computed by a call-free multiplicative chain, `none` if the output depends on a
register that was read before it was written (or on an untracked operation). -/
def natExpO (prog : Prog) : Option Nat := chainFn0 optOps prog (some 1)

/-- The exponent as a number (`0` when `natExpO` is `none`; every theorem below that uses `natExp`
carries the hypothesis that it is not). -/
def natExp (prog : Prog) : Nat := (natExpO prog).getD 0

/-- Exponents of an additive chain over an abelian group. -/
def intOps : ChainOps Int := ⟨(2 * ·), (· + ·), (· - ·)⟩

/-- The integer multiplier computed by a call-free chain. -/
def intExp0 (prog : Prog) : Int := chainFn0 intOps prog 1

/-- The integer multiplier computed by a chain `prog` calling the call-free chain `callee`. -/
def intExp (callee prog : Prog) : Int := chainFn intOps callee prog 1

section monoid
variable {M : Type} [Monoid M] [Inhabited M]

/-- register `a` holds the power `x ^ e`, or anything if the exponent is unknown -/
def PowRel (x : M) (a : M) : Option Nat → Prop
  | none => True
  | some e => a = x ^ e

theorem powOpsRel (ops : ChainOps M) (hsq : ∀ a, ops.sq a = a * a) (hmul : ∀ a b, ops.mul a b = a * b)
    (x : M) : OpsRel (PowRel x) ops optOps where
  dflt := trivial
  sq a b h := by
    cases b with
    | none => trivial
    | some e =>
      change ops.sq a = x ^ (2 * e)
      rw [hsq, show a = x ^ e from h, two_mul, pow_add]
  mul a b c d h h' := by
    cases b with
    | none => trivial
    | some e =>
      cases d with
      | none => trivial
      | some e' =>
        change ops.mul a c = x ^ (e + e')
        rw [hmul, show a = x ^ e from h, show c = x ^ e' from h', pow_add]
  div _ _ _ _ _ _ := trivial

/-- A call-free chain over any monoid whose `sq`/`mul` are the monoid's computes the power
`natExpO prog`, whenever the exponent run succeeds (no read of an unwritten register, no
division on the data path to the output).  The `default` element of `M` is arbitrary. -/
theorem monoidChain_pow (ops : ChainOps M) (hsq : ∀ a, ops.sq a = a * a)
    (hmul : ∀ a b, ops.mul a b = a * b) (prog : Prog) (e : Nat) (he : natExpO prog = some e) (x : M) :
    chainFn0 ops prog x = x ^ e := by
  have h := chainFn0_sim (powOpsRel ops hsq hmul x) prog (a := x) (b := some 1)
    (show x = x ^ 1 from (pow_one x).symm)
  rw [show chainFn0 optOps prog (some 1) = some e from he] at h
  exact h

end monoid

/-- **Field chains compute powers.**  For every lawful field model and every program whose exponent
run succeeds, the chain over `fieldChainOps` is `a ↦ a ^ e`. -/
theorem fieldChain_pow {F : Type} [Field F] [FieldOps F] [LawfulFieldOps F] [Inhabited F]
    (prog : Prog) (e : Nat) (he : natExpO prog = some e) (a : F) :
    chainFn0 fieldChainOps prog a = a ^ e :=
  monoidChain_pow fieldChainOps (fun a => LawfulFieldOps.sq_eq a) (fun _ _ => rfl) prog e he a

theorem fieldChain_pow_natExp {F : Type} [Field F] [FieldOps F] [LawfulFieldOps F] [Inhabited F]
    (prog : Prog) (he : (natExpO prog).isSome = true) (a : F) :
    chainFn0 fieldChainOps prog a = a ^ natExp prog := by
  obtain ⟨e, he'⟩ := Option.isSome_iff_exists.mp he
  rw [fieldChain_pow prog e he' a, natExp, he']; rfl

section point
variable {F : Type} [Field F] [DecidableEq F] [FieldOps F] {G : Type} [AddCommGroup G]

theorem smulOpsRel (M : GroupModel F G) (g : G) :
    OpsRel (IsZMulJ M g) (pointChainOps (F := F)) intOps where
  dflt := IsZMulJ.zero
  sq _ _ h := h.double
  mul _ _ _ _ h h' := h.add h'
  div _ _ _ _ h h' := h.sub h'

/-- **Call-free point chains are scalar multiplications** by `intExp0 prog`, on EVERY valid point. -/
theorem pointChain0_smul (M : GroupModel F G) (prog : Prog) (P : Jac F) (hP : M.ValidJ P) :
    M.ValidJ (chainFn0 pointChainOps prog P) ∧
      M.absJ (chainFn0 pointChainOps prog P) = intExp0 prog • M.absJ P := by
  have h := chainFn0_sim (smulOpsRel M (M.absJ P)) prog (a := P) (b := (1 : Int))
    ⟨hP, (one_zsmul _).symm⟩
  exact h

/-- **Point chains with calls are scalar multiplications** by `intExp callee prog`. -/
theorem pointChain_smul (M : GroupModel F G) (callee prog : Prog) (P : Jac F) (hP : M.ValidJ P) :
    M.ValidJ (chainFn pointChainOps callee prog P) ∧
      M.absJ (chainFn pointChainOps callee prog P) = intExp callee prog • M.absJ P := by
  have h := chainFn_sim (smulOpsRel M (M.absJ P)) callee prog (a := P) (b := (1 : Int))
    ⟨hP, (one_zsmul _).symm⟩
  exact h

end point

/-! The exponents of the extracted chains, by kernel evaluation.  Each chain is run once; the other
forms of its exponent are arithmetic on the result. -/

theorem natExpO_pm3div4 : natExpO Gen.CHAIN_PM3DIV4 = some ((Gen.q - 3) / 4) := by decide +kernel

theorem natExp_pm3div4 : natExp Gen.CHAIN_PM3DIV4 = (Gen.q - 3) / 4 := by
  rw [natExp, natExpO_pm3div4, Option.getD_some]

theorem natExpO_p2m9div16 : natExpO Gen.CHAIN_P2M9DIV16 = some ((Gen.q ^ 2 - 9) / 16) := by
  decide +kernel

theorem natExp_p2m9div16 : natExp Gen.CHAIN_P2M9DIV16 = (Gen.q ^ 2 - 9) / 16 := by
  rw [natExp, natExpO_p2m9div16, Option.getD_some]

/-- the divisions are exact -/
theorem pm3div4_exact : 4 * ((Gen.q - 3) / 4) + 3 = Gen.q := by decide +kernel
theorem p2m9div16_exact : 16 * ((Gen.q ^ 2 - 9) / 16) + 9 = Gen.q ^ 2 := by decide +kernel

theorem intExp0_z : intExp0 Gen.CHAIN_Z = 0xd201000000010000 := by decide +kernel

theorem intExp0_z_eq_x : intExp0 Gen.CHAIN_Z = (Gen.BLS_X : Int) := intExp0_z

theorem runChain_eq_runChain0 {M : Type} [Inhabited M] (ops : ChainOps M) (callee : Prog) :
    ∀ (prog : Prog) (regs : Array M), (∀ ins ∈ prog, ins.1 ≠ 4) →
      runChain ops callee prog regs = runChain0 ops prog regs
  | [], _, _ => rfl
  | (op, d, x) :: rest, regs, h => by
    have h4 : op ≠ 4 := h _ List.mem_cons_self
    unfold runChain runChain0
    rw [runChain_eq_runChain0 ops callee rest _ fun ins hi => h ins (List.mem_cons_of_mem _ hi)]
    match op, h4 with
    | 0, _ | 1, _ | 2, _ | 3, _ | _ + 5, _ => rfl

theorem intExp_z : intExp [] Gen.CHAIN_Z = 0xd201000000010000 := by
  rw [intExp, chainFn, runChain_eq_runChain0 _ _ _ _ (by decide)]
  exact intExp0_z

theorem intExp_z_eq_x : intExp [] Gen.CHAIN_Z = (Gen.BLS_X : Int) := intExp_z

/-- the multiplier of `chain_h2_eff` is RFC 9380 §8.8.2 `h_eff` for G2 (636 bits), as spelled in the
header of `src/bls12_381/cofactor.rs` -/
theorem intExp_h2eff_lit : intExp Gen.CHAIN_Z Gen.CHAIN_H2_EFF =
    0xbc69f08f2ee75b3584c6a0ea91b352888e2a8e9145ad7689986ff031508ffe1329c2f178731db956d82bf015d1212b02ec0ec69d7477c1ae954cbc06689f6a359894c0adebbf6b4e8020005aaa95551 := by
  decide +kernel

/-- `h_eff = 3 (x² − 1) h₂` -/
theorem intExp_h2eff_formula : intExp Gen.CHAIN_Z Gen.CHAIN_H2_EFF =
    3 * ((Gen.BLS_X : Int) ^ 2 - 1) * (Gen.G2_COFACTOR : Int) :=
  intExp_h2eff_lit.trans (by decide +kernel)

/-- `chain_pm3div4` computes `a ^ ((q − 3) / 4)` on all of `Fq`. -/
theorem chainPm3div4_eq (a : Fq) : chainPm3div4 a = a ^ ((Gen.q - 3) / 4) :=
  fieldChain_pow Gen.CHAIN_PM3DIV4 _ natExpO_pm3div4 a

/-- `chain_p2m9div16` computes `a ^ ((q² − 9) / 16)` over any lawful field model (in particular over
`Fq2` with the `Field`/`LawfulFieldOps` instances of `PP.Proofs.Tower2`: `chainP2m9div16` unfolds to
the left-hand side at `F := Fq2`). -/
theorem chainP2m9div16_generic {F : Type} [Field F] [FieldOps F] [LawfulFieldOps F] [Inhabited F]
    (a : F) : chainFn0 fieldChainOps Gen.CHAIN_P2M9DIV16 a = a ^ ((Gen.q ^ 2 - 9) / 16) :=
  fieldChain_pow Gen.CHAIN_P2M9DIV16 _ natExpO_p2m9div16 a

section point
variable {F : Type} [Field F] [DecidableEq F] [FieldOps F] {G : Type} [AddCommGroup G]

/-- `chain_z` is multiplication by `|x| = 0xd201000000010000` on every valid point. -/
theorem chainZ_smul (M : GroupModel F G) (P : Jac F) (hP : M.ValidJ P) :
    M.ValidJ (chainZ P) ∧ M.absJ (chainZ P) = (0xd201000000010000 : ℕ) • M.absJ P := by
  have h := pointChain0_smul M Gen.CHAIN_Z P hP
  refine ⟨h.1, ?_⟩
  rw [show chainZ P = chainFn0 pointChainOps Gen.CHAIN_Z P from rfl, h.2, intExp0_z,
    ← natCast_zsmul]
  rfl

end point

example : natExpO [(0, 1, 0), (1, 1, 3), (2, 1, 0)] = some 9 := by decide
example : natExp [(0, 1, 0), (1, 1, 3), (2, 1, 0)] = 9 := by decide
/-- reading the never-written register 5 poisons the exponent -/
example : natExpO [(0, 1, 0), (2, 1, 5)] = none := by decide
example : intExp0 [(0, 1, 0), (1, 1, 3), (3, 1, 0)] = 7 := by decide
example : intExp [(0, 1, 0), (1, 1, 1)] [(4, 2, 0), (4, 1, 2), (3, 1, 0)] = 3 := by decide

end Chains
end PP
