/-
C16, homomorphism law of the 3-isogeny, layer 1: the point map is additive.

For a field `F`, `s : F` and the hypotheses `Hyp s` (characteristic not 2, 3; `2s³` is not a square,
i.e. the kernel points `(6s, ±√(2s³))` are not rational; the target curve has no rational point of
order 2) the map

    φ : E'_s(F) → E_s(F),   O ↦ O,   (x, y) ↦ (N(ξ)/(9ξ²), −y·M(ξ)/(27ξ³)),   ξ = x − 6s

between Mathlib's groups of points of `E'_s : y² = x³ − 120s²x + 506s³` (`Wab (−120s²) (506s³)`) and
`E_s : y² = x³ + 2s³` (`W (2s³)`) is a group homomorphism (`phiPt_add`).

Proof.  Chord case: `ξ(P₁+P₂)·ξ(P₁−P₂)·(ξ₁−ξ₂)² = G(ξ₁,ξ₂)`, and `P₁ ± P₂` are rational points, hence not
kernel points, so `G ≠ 0` and the images have different abscissae (`phiX_sub`); then the abscissa of
`φ(P₁+P₂)` is that of `φ(P₁)+φ(P₂)` (`IsoHom.add_x`).  Tangent case: `IsoHom.dbl_x`.  So
`φ(P+Q) = ±(φ(P)+φ(Q))` for all `P, Q` (`addUpToSign_of_affine`), `φ(−P) = −φ(P)`, and on a group without
2-torsion this forces additivity (`additive_of_weak`).
-/
import PP.Proofs.CurveSpec
import PP.Proofs.IsoHomAlg

set_option linter.unusedSectionVars false

namespace PP
namespace IsoHom

open WeierstrassCurve.Affine

/-- `φ` is additive at `(a, b)` up to sign -/
def AddUpToSign {G H : Type} [Add G] [Add H] [Neg H] (φ : G → H) (a b : G) : Prop :=
  φ (a + b) = φ a + φ b ∨ φ (a + b) = -(φ a + φ b)

theorem additive_of_weak {G H : Type} [AddCommGroup G] [AddCommGroup H] (φ : G → H)
    (h2 : ∀ h : H, h + h = 0 → h = 0) (hneg : ∀ a, φ (-a) = -φ a)
    (hw : ∀ a b, AddUpToSign φ a b) (a b : G) :
    φ (a + b) = φ a + φ b := by
  rcases hw a b with h | h
  · exact h
  -- `φ(a+b) = −(φa + φb)`; decompose `a = (a+b) + (−b)` and `b = (a+b) + (−a)`
  have ha := hw (a + b) (-b)
  have hb := hw (a + b) (-a)
  unfold AddUpToSign at ha hb
  rw [add_neg_cancel_right, hneg, h] at ha
  rw [add_comm a b, add_neg_cancel_right, hneg, add_comm b a, h] at hb
  -- in each case `φa + φb = 0` or `φa = 0` / `φb = 0`
  generalize φ a = α at *
  generalize φ b = β at *
  have key : α + β = 0 := by
    rcases ha with ha | ha
    · -- `α = −(α+β) − β`  ⇒  `2(α + β) = 0`
      apply h2
      calc α + β + (α + β) = α - (-(α + β) + -β) := by abel
        _ = α - α := by rw [← ha]
        _ = 0 := sub_self _
    · -- `α = α + 2β`  ⇒  `β = 0`
      have hb0 : β = 0 := by
        apply h2
        calc β + β = -(-(α + β) + -β) - α := by abel
          _ = α - α := by rw [← ha]
          _ = 0 := sub_self _
      rcases hb with hb | hb
      · apply h2
        calc α + β + (α + β) = β - (-(α + β) + -α) := by abel
          _ = β - β := by rw [← hb]
          _ = 0 := sub_self _
      · have ha0 : α = 0 := by
          apply h2
          calc α + α = -(-(α + β) + -α) - β := by abel
            _ = β - β := by rw [← hb]
            _ = 0 := sub_self _
        rw [ha0, hb0, add_zero]
  rw [h, key, neg_zero]

variable {F : Type} [Field F]

/-- the short Weierstrass curve `y² = x³ + A x + B` -/
def Wab (A B : F) : WeierstrassCurve.Affine F := ⟨0, 0, 0, A, B⟩

@[simp] theorem Wab_a₁ (A B : F) : (Wab A B).a₁ = 0 := rfl
@[simp] theorem Wab_a₂ (A B : F) : (Wab A B).a₂ = 0 := rfl
@[simp] theorem Wab_a₃ (A B : F) : (Wab A B).a₃ = 0 := rfl
@[simp] theorem Wab_a₄ (A B : F) : (Wab A B).a₄ = A := rfl
@[simp] theorem Wab_a₆ (A B : F) : (Wab A B).a₆ = B := rfl

theorem Wab_equation_iff (A B x y : F) : (Wab A B).Equation x y ↔ y ^ 2 = x ^ 3 + A * x + B := by
  rw [equation_iff]; simp

theorem Wab_negY (A B x y : F) : (Wab A B).negY x y = -y := by simp [negY]

theorem Wab_addX (A B x₁ x₂ ℓ : F) : (Wab A B).addX x₁ x₂ ℓ = ℓ ^ 2 - x₁ - x₂ := by simp [addX]

/-- on a curve `y² = x³ + Ax + B` whose cubic has no root every affine solution is a nonsingular
    point (`y ≠ 0`) -/
theorem Wab_nonsingular {A B : F} (h2 : (2 : F) ≠ 0) (hroot : ∀ x : F, x ^ 3 + A * x + B ≠ 0) {x y : F}
    (h : y ^ 2 = x ^ 3 + A * x + B) : (Wab A B).Nonsingular x y := by
  rw [nonsingular_iff', Wab_equation_iff]
  refine ⟨h, Or.inr ?_⟩
  simp only [Wab_a₁, Wab_a₃, zero_mul, add_zero]
  have hy : y ≠ 0 := by
    rintro rfl
    apply hroot x
    rw [← h]; ring
  exact mul_ne_zero h2 hy

structure Hyp (s : F) : Prop where
  two_ne : (2 : F) ≠ 0
  three_ne : (3 : F) ≠ 0
  /-- `2s³`, the value of the cubic of `E'_s` at `x = 6s`, is not a square: the kernel points
      `(6s, ±√(2s³))` of the isogeny are not rational -/
  nonsq : ∀ y : F, y ^ 2 ≠ 2 * s ^ 3
  /-- the target curve has no rational point of order two -/
  no2 : ∀ x : F, x ^ 3 + 2 * s ^ 3 ≠ 0

variable {s : F}

theorem Hyp.b_ne (H : Hyp s) : 2 * s ^ 3 ≠ 0 := by
  have := H.nonsq 0
  intro h
  apply this
  rw [h]; ring

theorem Hyp.shortW (H : Hyp s) : ShortW (2 * s ^ 3) := ⟨H.two_ne, H.three_ne, H.b_ne⟩

abbrev Wsrc (s : F) : WeierstrassCurve.Affine F := Wab (-120 * s ^ 2) (506 * s ^ 3)

/-- the equation of `E'_s` in the shifted abscissa -/
theorem src_eq {x y : F} (h : (Wsrc s).Nonsingular x y) : y ^ 2 = fS s (x - 6 * s) := by
  have := (Wab_equation_iff _ _ x y).mp h.1
  unfold fS
  linear_combination this

/-- a rational point of `E'_s` is not a kernel point -/
theorem no_ker (H : Hyp s) {x y : F} (h : (Wsrc s).Nonsingular x y) : x - 6 * s ≠ 0 := by
  intro h0
  have e := src_eq h
  rw [h0] at e
  apply H.nonsq y
  rw [e]; unfold fS; ring

/-- the image of an affine point is an affine point of `E_s` -/
theorem phi_nonsingular (H : Hyp s) {x y : F} (h : (Wsrc s).Nonsingular x y) :
    (W (2 * s ^ 3)).Nonsingular (phiX s (x - 6 * s)) (y * phiY s (x - 6 * s)) :=
  @W_nonsingular F _ (2 * s ^ 3) H.shortW _ _
    (phi_onCurve s (x - 6 * s) y H.three_ne (no_ker H h) (src_eq h))

def phiPt (H : Hyp s) : (Wsrc s).Point → (W (2 * s ^ 3)).Point
  | .zero => .zero
  | .some _ _ h => .some _ _ (phi_nonsingular H h)

theorem phiPt_zero (H : Hyp s) : phiPt H (0 : (Wsrc s).Point) = 0 := rfl

theorem phiPt_some (H : Hyp s) {x y : F} (h : (Wsrc s).Nonsingular x y) :
    phiPt H (Point.some x y h) = Point.some _ _ (phi_nonsingular H h) := rfl

theorem phiPt_neg (H : Hyp s) (P : (Wsrc s).Point) : phiPt H (-P) = -phiPt H P := by
  rcases P with _ | ⟨x, y, h⟩
  · rfl
  · rw [Point.neg_some, phiPt_some, phiPt_some, Point.neg_some, PP.Point.some_eq_some]
    refine ⟨rfl, ?_⟩
    rw [Wab_negY, W_negY]; ring

/-- the image of an affine point has a nonzero ordinate (no 2-torsion on the target) -/
theorem phi_y_ne (H : Hyp s) {x y : F} (h : (Wsrc s).Nonsingular x y) :
    y * phiY s (x - 6 * s) ≠ 0 := by
  intro h0
  have e := phi_onCurve s (x - 6 * s) y H.three_ne (no_ker H h) (src_eq h)
  rw [h0] at e
  apply H.no2 (phiX s (x - 6 * s))
  linear_combination -e

variable [DecidableEq F]

/-- a map between groups of points that sends `O` to `O` and opposite points to opposite points is
    additive up to sign everywhere if it is so on a point and itself (tangent) and on two affine
    points with different abscissae (chord) -/
theorem addUpToSign_of_affine {W₁ W₂ : WeierstrassCurve.Affine F} (φ : W₁.Point → W₂.Point)
    (h0 : φ 0 = 0) (hneg : ∀ P, φ (-P) = -φ P)
    (hdbl : ∀ {x y : F} (h : W₁.Nonsingular x y), AddUpToSign φ (Point.some x y h) (Point.some x y h))
    (hchord : ∀ {x₁ y₁ x₂ y₂ : F} (h₁ : W₁.Nonsingular x₁ y₁) (h₂ : W₁.Nonsingular x₂ y₂), x₁ ≠ x₂ →
      AddUpToSign φ (Point.some x₁ y₁ h₁) (Point.some x₂ y₂ h₂))
    (P Q : W₁.Point) : AddUpToSign φ P Q := by
  rcases P with _ | ⟨x₁, y₁, h₁⟩
  · left
    show φ (0 + Q) = φ 0 + φ Q
    rw [zero_add, h0, zero_add]
  rcases Q with _ | ⟨x₂, y₂, h₂⟩
  · left
    show φ (_ + 0) = _ + φ 0
    rw [add_zero, h0, add_zero]
  by_cases hx : x₁ = x₂
  · subst hx
    rcases Y_eq_of_X_eq h₁.1 h₂.1 rfl with rfl | hy
    · exact hdbl h₁
    · -- opposite points
      left
      have hneg' : Point.some x₁ y₁ h₁ = -Point.some x₁ y₂ h₂ := by
        rw [Point.neg_some, PP.Point.some_eq_some]
        exact ⟨rfl, hy⟩
      rw [hneg', neg_add_cancel, hneg, neg_add_cancel, h0]
  · exact hchord h₁ h₂ hx

section target
variable {b : F} [ShortW b]

/-- if `x³ + b` has no root, the group of points has no element of order two -/
theorem W_no_order_two (hb : ∀ x : F, x ^ 3 + b ≠ 0) (Q : (W b).Point) (h : Q + Q = 0) : Q = 0 := by
  rcases Q with _ | ⟨x, y, hq⟩
  · rfl
  · exfalso
    have e : y ^ 2 = x ^ 3 + b := (W_nonsingular_iff _ x y).mp hq
    have hy : y ≠ 0 := by
      rintro rfl
      apply hb x
      linear_combination -e
    rw [Point.add_self_of_Y_ne (W_y_ne_negY b x hy)] at h
    exact Point.some_ne_zero _ h

end target

theorem target_no2 (H : Hyp s) (Q : (W (2 * s ^ 3)).Point) (h : Q + Q = 0) : Q = 0 :=
  haveI := H.shortW
  W_no_order_two H.no2 Q h

theorem phiPt_dbl (H : Hyp s) {x₁ y₁ : F} (h₁ : (Wsrc s).Nonsingular x₁ y₁) :
    AddUpToSign (phiPt H) (Point.some x₁ y₁ h₁) (Point.some x₁ y₁ h₁) := by
  have h2 := H.two_ne
  have h3 := H.three_ne
  have := H.shortW
  have e₁ := src_eq h₁
  have k₁ := no_ker H h₁
  have hY := phi_y_ne H h₁
  have hy0 : y₁ ≠ 0 := left_ne_zero_of_mul hY
  have hy : y₁ ≠ (Wsrc s).negY x₁ y₁ := by
    rw [Wab_negY]
    intro hc
    apply hy0
    have : 2 * y₁ = 0 := by linear_combination hc
    exact (mul_eq_zero.mp this).resolve_left h2
  have hm : mS s (x₁ - 6 * s) ≠ 0 := by
    intro h0
    apply hY
    unfold phiY
    rw [h0]; simp
  have hY' : y₁ * phiY s (x₁ - 6 * s) ≠
      (W (2 * s ^ 3)).negY (phiX s (x₁ - 6 * s)) (y₁ * phiY s (x₁ - 6 * s)) := W_y_ne_negY _ _ hY
  unfold AddUpToSign
  rw [Point.add_self_of_Y_ne hy, phiPt_some, phiPt_some, Point.add_self_of_Y_ne hY']
  apply Point.X_eq_iff.mp
  -- abscissae
  have hsl : (Wsrc s).slope x₁ x₁ y₁ y₁ =
      (3 * (x₁ - 6 * s) ^ 2 + 36 * s * (x₁ - 6 * s) - 12 * s ^ 2) / (2 * y₁) := by
    rw [slope_of_Y_ne rfl hy, Wab_negY]
    simp only [Wab_a₁, Wab_a₂, Wab_a₄]
    congr 1 <;> ring
  have hxi : (Wsrc s).addX x₁ x₁ ((Wsrc s).slope x₁ x₁ y₁ y₁) - 6 * s =
      xiDbl s (x₁ - 6 * s) y₁ := by
    rw [Wab_addX, hsl]; unfold xiDbl; ring
  rw [hxi, dbl_x s (x₁ - 6 * s) y₁ h2 h3 k₁ hy0 hm e₁, W_slope_tangent _ _ hY]
  simp [addX]
  ring

theorem phiPt_chord (H : Hyp s) {x₁ y₁ x₂ y₂ : F} (h₁ : (Wsrc s).Nonsingular x₁ y₁)
    (h₂ : (Wsrc s).Nonsingular x₂ y₂) (hx : x₁ ≠ x₂) :
    AddUpToSign (phiPt H) (Point.some x₁ y₁ h₁) (Point.some x₂ y₂ h₂) := by
  have h3 := H.three_ne
  have e₁ := src_eq h₁
  have e₂ := src_eq h₂
  have k₁ := no_ker H h₁
  have k₂ := no_ker H h₂
  have hxy : ¬(x₁ = x₂ ∧ y₁ = (Wsrc s).negY x₂ y₂) := fun h => hx h.1
  have hxy' : ¬(x₁ = x₂ ∧ y₁ = (Wsrc s).negY x₂ ((Wsrc s).negY x₂ y₂)) := fun h => hx h.1
  have hδ : x₁ - 6 * s ≠ x₂ - 6 * s := fun h => hx (by linear_combination h)
  -- `P₁ + P₂` and `P₁ − P₂` are rational points, hence not kernel points
  have nP := nonsingular_add h₁ h₂ hxy
  have nM := nonsingular_add h₁ ((nonsingular_neg ..).mpr h₂) hxy'
  have hxiP : (Wsrc s).addX x₁ x₂ ((Wsrc s).slope x₁ x₂ y₁ y₂) - 6 * s =
      xiAdd s (x₁ - 6 * s) (x₂ - 6 * s) y₁ y₂ := by
    rw [Wab_addX, slope_of_X_ne hx]; unfold xiAdd; ring
  have hxiM : (Wsrc s).addX x₁ x₂ ((Wsrc s).slope x₁ x₂ y₁ ((Wsrc s).negY x₂ y₂)) - 6 * s =
      xiAdd s (x₁ - 6 * s) (x₂ - 6 * s) y₁ (-y₂) := by
    rw [Wab_addX, slope_of_X_ne hx, Wab_negY]; unfold xiAdd; ring
  have kP := no_ker H nP
  have kM := no_ker H nM
  rw [hxiP] at kP
  rw [hxiM] at kM
  have hG : gS s (x₁ - 6 * s) (x₂ - 6 * s) ≠ 0 := by
    rw [← sum_mul_diff s _ _ y₁ y₂ hδ e₁ e₂]
    exact mul_ne_zero (mul_ne_zero kP kM) (pow_ne_zero 2 (sub_ne_zero.mpr hδ))
  have hX : phiX s (x₁ - 6 * s) ≠ phiX s (x₂ - 6 * s) := by
    intro hc
    have := phiX_sub s (x₁ - 6 * s) (x₂ - 6 * s) k₁ k₂ h3
    rw [hc, sub_self] at this
    have h9 := nine_ne h3
    have hne : (x₁ - 6 * s - (x₂ - 6 * s)) * gS s (x₁ - 6 * s) (x₂ - 6 * s) /
        (9 * (x₁ - 6 * s) ^ 2 * (x₂ - 6 * s) ^ 2) ≠ 0 :=
      div_ne_zero (mul_ne_zero (sub_ne_zero.mpr hδ) hG)
        (mul_ne_zero (mul_ne_zero h9 (pow_ne_zero 2 k₁)) (pow_ne_zero 2 k₂))
    exact hne this.symm
  unfold AddUpToSign
  rw [Point.add_of_X_ne hx, phiPt_some, phiPt_some, phiPt_some, Point.add_of_X_ne hX]
  apply Point.X_eq_iff.mp
  rw [hxiP, add_x s _ _ y₁ y₂ h3 k₁ k₂ hδ hG e₁ e₂, slope_of_X_ne hX]
  simp [addX]

theorem phiPt_add (H : Hyp s) (P Q : (Wsrc s).Point) :
    phiPt H (P + Q) = phiPt H P + phiPt H Q :=
  additive_of_weak (phiPt H) (target_no2 H) (phiPt_neg H)
    (addUpToSign_of_affine (phiPt H) rfl (phiPt_neg H) (phiPt_dbl H) (phiPt_chord H)) P Q

def phiHom (H : Hyp s) : (Wsrc s).Point →+ (W (2 * s ^ 3)).Point :=
  AddMonoidHom.mk' (phiPt H) (phiPt_add H)

/-- the kernel is trivial on rational points (the kernel points are not rational) -/
theorem phiPt_eq_zero_iff (H : Hyp s) (P : (Wsrc s).Point) : phiPt H P = 0 ↔ P = 0 := by
  rcases P with _ | ⟨x, y, h⟩
  · exact ⟨fun _ => rfl, fun _ => rfl⟩
  · constructor
    · intro e
      rw [phiPt_some] at e
      exact absurd e (Point.some_ne_zero _)
    · intro e
      exact absurd e (Point.some_ne_zero _)

/-- a map `ψ : E'(F) → E(F)` between `y² = x³ + Ax + B` and `y² = x³ + b` that is given by the formulas
    of `φ`, where `A = −120s²`, `B = 506s³`, `b = 2s³`, is additive, odd, and has trivial kernel -/
theorem hom_of_eq_phi {A B b : F} (H : Hyp s) (hA : A = -120 * s ^ 2) (hB : B = 506 * s ^ 3)
    (hb : b = 2 * s ^ 3) (ψ : (Wab A B).Point → (W b).Point) (h0 : ψ 0 = 0)
    (hsome : ∀ (x y : F) (h : (Wab A B).Nonsingular x y),
      ∃ h' : (W b).Nonsingular (phiX s (x - 6 * s)) (y * phiY s (x - 6 * s)),
        ψ (Point.some x y h) = Point.some _ _ h') :
    (∀ P Q, ψ (P + Q) = ψ P + ψ Q) ∧ (∀ P, ψ (-P) = -ψ P) ∧ (∀ P, ψ P = 0 ↔ P = 0) := by
  subst hA hB hb
  have e : ψ = phiPt H := by
    funext P
    rcases P with _ | ⟨x, y, h⟩
    · exact h0
    · obtain ⟨h', e⟩ := hsome x y h
      rw [e, phiPt_some]
  rw [e]
  exact ⟨phiPt_add H, phiPt_neg H, phiPt_eq_zero_iff H⟩

end IsoHom
end PP
