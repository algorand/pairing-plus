/-
The affine chord-and-tangent formulas of `PP/Spec/Ate.lean` under the change of coordinates
`cmap σ t : (x, y) ↦ (t² σ x, t³ σ y)`, `σ` a field homomorphism: the isomorphism of `y² = x³ + b` onto
`y² = x³ + t⁶ σ b`.  Slopes are multiplied by `t`, sums go to sums, values of lines are multiplied by `t³`.
Instances: Jacobian coordinates (`t = Z⁻¹`), the untwist (`σ = ι`, `t = w⁻¹`), the twisted Frobenius
(`σ = conj`, `t = γ⁻¹`), the automorphism of order three (`t = β²`).

Second part, Mathlib's group `(W b).Point` in these terms.  `CoordOf b T R`: the finite point `R` has the
coordinates `T`; the sum of two points that are not opposite has the coordinates `addAB` (by the line of
Mathlib's `slope`: tangent or chord); a coordinate map with `t⁶ σ b = b` is an endomorphism of the group
(`twHom`; there the factor is called `d`, and `σ = id` is allowed: `CurveOrderOmega`).

Nothing here is about pairings.  `ngp`, `On`, `NotOpp`, `addAB` are in namespace `BilinQ` and `TwFrob`,
`twHom` in `BilinP` because those are the namespaces that the files `BilinQ*` (linearity in the second
argument) and `BilinP*` (in the first) work in; `CurveOrderOmega` uses them for the curve orders as well.
-/
import PP.Spec.Ate
import PP.Proofs.CurveSpec

set_option linter.unusedSectionVars false

namespace PP

open Ate

/-! ## the formulas -/

section formulas
variable {K L : Type} [Field K] [Field L]

theorem tangentSlope_mul {A : K × K} (h2 : (2 : K) ≠ 0) (hy : A.2 ≠ 0) :
    tangentSlope A * (2 * A.2) = 3 * A.1 ^ 2 :=
  div_mul_cancel₀ _ (mul_ne_zero h2 hy)

theorem chordSlope_mul {A B : K × K} (hx : A.1 ≠ B.1) : chordSlope A B * (B.1 - A.1) = B.2 - A.2 :=
  div_mul_cancel₀ _ (sub_ne_zero.mpr (Ne.symm hx))

/-- `(x, y) ↦ (t² σ x, t³ σ y)` -/
def cmap (σ : K →+* L) (t : L) (A : K × K) : L × L := (t ^ 2 * σ A.1, t ^ 3 * σ A.2)

theorem cmap_cmap {M : Type} [Field M] (σ : K →+* L) (τ : L →+* M) (t : L) (s : M) (A : K × K) :
    cmap τ s (cmap σ t A) = cmap (τ.comp σ) (s * τ t) A := by
  simp only [cmap, RingHom.comp_apply, map_mul, map_pow, Prod.mk.injEq]
  constructor
  · ring
  · ring

theorem cmap_inv_cmap {u : K} (hu : u ≠ 0) (P : K × K) :
    cmap (RingHom.id K) u⁻¹ (cmap (RingHom.id K) u P) = P := by
  simp only [cmap, RingHom.id_apply, inv_pow, inv_mul_cancel_left₀ (pow_ne_zero _ hu)]

/-- scaling by `s⁻¹` and then by `z⁻¹` -/
theorem cmap_inv_inv (s z : K) (N : K × K) :
    cmap (RingHom.id K) z⁻¹ (cmap (RingHom.id K) s⁻¹ N) = cmap (RingHom.id K) (s * z)⁻¹ N := by
  rw [cmap_cmap, RingHom.id_comp, RingHom.id_apply, mul_inv, mul_comm]

/-- a pair whose coordinates multiplied by `s²`, `s³` are `N` -/
theorem eq_cmap_inv {s : K} (hs : s ≠ 0) {D N : K × K} (h1 : s ^ 2 * D.1 = N.1)
    (h2 : s ^ 3 * D.2 = N.2) : D = cmap (RingHom.id K) s⁻¹ N := by
  simp only [cmap, RingHom.id_apply, inv_pow, ← h1, ← h2, inv_mul_cancel_left₀ (pow_ne_zero _ hs)]

variable (σ : K →+* L) {t : L}

theorem cmap_onCurve (t : L) {b : K} {A : K × K} (h : A.2 ^ 2 = A.1 ^ 3 + b) :
    (cmap σ t A).2 ^ 2 = (cmap σ t A).1 ^ 3 + t ^ 6 * σ b := by
  have e : σ A.2 ^ 2 = σ A.1 ^ 3 + σ b := by rw [← map_pow, h, map_add, map_pow]
  simp only [cmap]
  linear_combination t ^ 6 * e

theorem cmap_fst_eq_iff (ht : t ≠ 0) {A B : K × K} : (cmap σ t A).1 = (cmap σ t B).1 ↔ A.1 = B.1 :=
  ⟨fun h => σ.injective (mul_left_cancel₀ (pow_ne_zero 2 ht) h), fun h => by simp only [cmap, h]⟩

theorem cmap_snd_ne_zero (ht : t ≠ 0) {A : K × K} (hy : A.2 ≠ 0) : (cmap σ t A).2 ≠ 0 :=
  mul_ne_zero (pow_ne_zero 3 ht) ((map_ne_zero σ).mpr hy)

theorem tangentSlope_cmap (ht : t ≠ 0) (A : K × K) :
    tangentSlope (cmap σ t A) = t * σ (tangentSlope A) := by
  simp only [tangentSlope, cmap, map_div₀, map_mul, map_pow, map_ofNat]
  have e1 : 3 * (t ^ 2 * σ A.1) ^ 2 = t ^ 3 * (t * (3 * σ A.1 ^ 2)) := by ring
  have e2 : 2 * (t ^ 3 * σ A.2) = t ^ 3 * (2 * σ A.2) := by ring
  rw [e1, e2, mul_div_mul_left _ _ (pow_ne_zero 3 ht), mul_div_assoc]

theorem chordSlope_cmap (ht : t ≠ 0) (A B : K × K) :
    chordSlope (cmap σ t A) (cmap σ t B) = t * σ (chordSlope A B) := by
  simp only [chordSlope, cmap, map_div₀, map_sub]
  have e1 : t ^ 3 * σ B.2 - t ^ 3 * σ A.2 = t ^ 2 * (t * (σ B.2 - σ A.2)) := by ring
  rw [e1, ← mul_sub, mul_div_mul_left _ _ (pow_ne_zero 2 ht), mul_div_assoc]

theorem sumOfSlope_cmap (t : L) (l : K) (A B : K × K) :
    sumOfSlope (t * σ l) (cmap σ t A) (cmap σ t B) = cmap σ t (sumOfSlope l A B) := by
  simp only [sumOfSlope, cmap, map_sub, map_mul, map_pow, Prod.mk.injEq]
  constructor
  · ring
  · ring

theorem lineAt_cmap (t : L) (l : K) (A P : K × K) :
    lineAt (t * σ l) (cmap σ t A) (cmap σ t P) = t ^ 3 * σ (lineAt l A P) := by
  simp only [lineAt, cmap, map_sub, map_mul]
  ring

theorem affDouble_cmap (ht : t ≠ 0) (A : K × K) :
    affDouble (cmap σ t A) = cmap σ t (affDouble A) := by
  simp only [affDouble, tangentSlope_cmap σ ht, sumOfSlope_cmap]

theorem affAdd_cmap (ht : t ≠ 0) (A B : K × K) :
    affAdd (cmap σ t A) (cmap σ t B) = cmap σ t (affAdd A B) := by
  simp only [affAdd, chordSlope_cmap σ ht, sumOfSlope_cmap]

theorem tangentAt_cmap (ht : t ≠ 0) (A P : K × K) :
    tangentAt (cmap σ t A) (cmap σ t P) = t ^ 3 * σ (tangentAt A P) := by
  simp only [tangentAt, tangentSlope_cmap σ ht, lineAt_cmap]

theorem chordAt_cmap (ht : t ≠ 0) (A B P : K × K) :
    chordAt (cmap σ t A) (cmap σ t B) (cmap σ t P) = t ^ 3 * σ (chordAt A B P) := by
  simp only [chordAt, chordSlope_cmap σ ht, lineAt_cmap]

end formulas

open WeierstrassCurve.Affine

/-! ## points of the curve as pairs -/

namespace BilinQ

variable {K : Type} [Field K] [DecidableEq K] {b : K} [ShortW b]

/-- `(x, y) ↦ (x, -y)`; `NegPair.ngp` is the same map for a type with `Neg` only, and the two unfold
    to the same pair -/
def ngp (A : K × K) : K × K := (A.1, -A.2)

def On (b : K) (A : K × K) : Prop := (W b).Equation A.1 A.2

theorem On.ngp {A : K × K} (h : On b A) : On b (ngp A) := by
  unfold On at h ⊢
  rw [W_equation_iff] at h ⊢
  simp only [BilinQ.ngp]
  linear_combination h

theorem On.nonsingular {A : K × K} (h : On b A) : (W b).Nonsingular A.1 A.2 :=
  W_nonsingular b ((W_equation_iff b _ _).mp h)

/-- the slope of the line through `A` and `B` (tangent if `A = B`), Mathlib's `slope` -/
def slopeAB (b : K) (A B : K × K) : K := (W b).slope A.1 B.1 A.2 B.2

/-- `A + B` by the line of slope `slopeAB` -/
def addAB (b : K) (A B : K × K) : K × K := sumOfSlope (slopeAB b A B) A B

theorem addAB_eq (A B : K × K) :
    addAB b A B = ((W b).addX A.1 B.1 (slopeAB b A B), (W b).addY A.1 B.1 A.2 (slopeAB b A B)) := by
  simp only [addAB, sumOfSlope, W_addX_eq, W_addY_eq]

/-- `A ≠ -B` -/
def NotOpp (A B : K × K) : Prop := ¬(A.1 = B.1 ∧ A.2 = -B.2)

theorem notOpp_iff (A B : K × K) : NotOpp A B ↔ ¬(A.1 = B.1 ∧ A.2 = (W b).negY B.1 B.2) := by
  rw [W_negY]; rfl

theorem On.addAB {A B : K × K} (hA : On b A) (hB : On b B) (h : NotOpp A B) : On b (addAB b A B) := by
  rw [addAB_eq]
  exact equation_add hA hB ((notOpp_iff A B).mp h)

theorem slopeAB_tangent {A : K × K} (hy : A.2 ≠ 0) : slopeAB b A A = tangentSlope A := by
  simp only [slopeAB, W_slope_tangent b _ hy, tangentSlope]

theorem slopeAB_chord {A B : K × K} (hx : A.1 ≠ B.1) : slopeAB b A B = chordSlope A B := by
  simp only [slopeAB, W_slope_chord b _ _ hx, chordSlope]
  rw [← neg_sub B.2, ← neg_sub B.1, neg_div_neg_eq]

theorem addAB_tangent {A : K × K} (hy : A.2 ≠ 0) : addAB b A A = affDouble A := by
  simp only [addAB, slopeAB_tangent hy, affDouble]

theorem addAB_chord {A B : K × K} (hx : A.1 ≠ B.1) : addAB b A B = affAdd A B := by
  simp only [addAB, slopeAB_chord hx, affAdd]

theorem notOpp_self (b : K) [ShortW b] {A : K × K} (hy : A.2 ≠ 0) : NotOpp A A := by
  rintro ⟨-, h⟩
  have : 2 * A.2 = 0 := by linear_combination h
  exact (mul_ne_zero (ShortW.two_ne (b := b)) hy) this

theorem notOpp_of_x_ne {A B : K × K} (hx : A.1 ≠ B.1) : NotOpp A B := fun h => hx h.1

/-- two points of the curve with the same abscissa that are not opposite coincide, and `y ≠ 0` -/
theorem eq_of_x_eq {A B : K × K} (hA : On b A) (hB : On b B) (h : NotOpp A B) (hx : A.1 = B.1) :
    A = B ∧ A.2 ≠ 0 := by
  have e1 := (W_equation_iff b _ _).mp hA
  have e2 := (W_equation_iff b _ _).mp hB
  have hne : A.2 ≠ -B.2 := fun hy => h ⟨hx, hy⟩
  have h1 : (A.2 - B.2) * (A.2 + B.2) = 0 := by rw [hx] at e1; linear_combination e1 - e2
  have hy : A.2 = B.2 := by
    rcases mul_eq_zero.mp h1 with h2 | h2
    · exact sub_eq_zero.mp h2
    · exact absurd (eq_neg_of_add_eq_zero_left h2) hne
  refine ⟨Prod.ext hx hy, ?_⟩
  intro h0
  apply hne
  rw [← hy, h0, neg_zero]

/-! ### under a coordinate map -/

section cmap
-- `b'` is not tied to `b`: the slope and sum formulas do not contain the coefficient, which only says
-- whose `slope` Mathlib computes; the callers put in `t⁶ σ b`
variable {L : Type} [Field L] [DecidableEq L] {b' : L} [ShortW b'] (σ : K →+* L) {t : L}

theorem notOpp_cmap (ht : t ≠ 0) {A B : K × K} :
    NotOpp (cmap σ t A) (cmap σ t B) ↔ NotOpp A B := by
  have h2 : (cmap σ t A).2 = -(cmap σ t B).2 ↔ A.2 = -B.2 := by
    simp only [cmap, ← mul_neg, ← map_neg]
    exact ⟨fun h => σ.injective (mul_left_cancel₀ (pow_ne_zero 3 ht) h), fun h => by rw [h]⟩
  unfold NotOpp
  rw [cmap_fst_eq_iff σ ht, h2]

theorem slopeAB_cmap (ht : t ≠ 0) {A B : K × K} (hA : On b A) (hB : On b B) (h : NotOpp A B) :
    slopeAB b' (cmap σ t A) (cmap σ t B) = t * σ (slopeAB b A B) := by
  by_cases hx : A.1 = B.1
  · obtain ⟨rfl, hy⟩ := eq_of_x_eq hA hB h hx
    rw [slopeAB_tangent (cmap_snd_ne_zero σ ht hy), slopeAB_tangent hy, tangentSlope_cmap σ ht]
  · rw [slopeAB_chord (mt (cmap_fst_eq_iff σ ht).mp hx), slopeAB_chord hx, chordSlope_cmap σ ht]

theorem addAB_cmap (ht : t ≠ 0) {A B : K × K} (hA : On b A) (hB : On b B) (h : NotOpp A B) :
    addAB b' (cmap σ t A) (cmap σ t B) = cmap σ t (addAB b A B) := by
  simp only [addAB]
  rw [slopeAB_cmap σ ht hA hB h, sumOfSlope_cmap]

end cmap

end BilinQ

/-! ## the group of points in coordinates -/

section coord
variable {F : Type} [Field F] [DecidableEq F] {b : F} [ShortW b]

open BilinQ

/-- `T` is the pair of affine coordinates of the finite point `R` -/
def CoordOf (b : F) (T : F × F) (R : (W b).Point) : Prop :=
  ∃ h : (W b).Nonsingular T.1 T.2, R = Point.some T.1 T.2 h

namespace CoordOf
variable {A B T Q : F × F} {R S : (W b).Point}

/-- with equations for the coordinates, so that it applies where they are those of `T` only after a
    rewrite -/
theorem of_eq {x y : F} (h : (W b).Nonsingular x y) (T : F × F) (hx : x = T.1) (hy : y = T.2) :
    CoordOf b T (Point.some x y h) := by
  obtain ⟨t1, t2⟩ := T
  simp only at hx hy
  subst hx hy
  exact ⟨h, rfl⟩

theorem onCurve (h : CoordOf b T R) : T.2 ^ 2 = T.1 ^ 3 + b := by
  obtain ⟨hns, -⟩ := h
  exact (W_nonsingular_iff b _ _).mp hns

theorem on (h : CoordOf b T R) : On b T := (W_equation_iff _ _ _).mpr h.onCurve

theorem ne_zero (h : CoordOf b T R) : R ≠ 0 := by
  obtain ⟨hns, rfl⟩ := h
  exact Point.some_ne_zero _

theorem unique (hA : CoordOf b A R) (hB : CoordOf b B R) : A = B := by
  obtain ⟨hns, rfl⟩ := hA
  obtain ⟨hns', e⟩ := hB
  obtain ⟨h1, h2⟩ := PP.Point.some_eq_some.mp e
  exact Prod.ext h1 h2

theorem point_eq (hR : CoordOf b T R) (hS : CoordOf b T S) : R = S := by
  obtain ⟨_, rfl⟩ := hR
  obtain ⟨_, rfl⟩ := hS
  rfl

theorem neg (h : CoordOf b T R) : CoordOf b (ngp T) (-R) := by
  obtain ⟨hns, rfl⟩ := h
  rw [Point.neg_some]
  exact of_eq _ _ rfl (by rw [W_negY]; rfl)

/-- opposite points add to `0` -/
theorem add_eq_zero (hA : CoordOf b A R) (hB : CoordOf b B S) (h : ¬NotOpp A B) : R + S = 0 := by
  obtain ⟨hns, rfl⟩ := hA
  obtain ⟨hns', rfl⟩ := hB
  obtain ⟨h1, h2⟩ := not_not.mp h
  exact Point.add_of_Y_eq h1 (by rw [W_negY]; exact h2)

theorem notOpp (hA : CoordOf b A R) (hB : CoordOf b B S) (h0 : R + S ≠ 0) : NotOpp A B :=
  not_not.mp fun h => h0 (hA.add_eq_zero hB h)

/-- the coordinates of `R + S` for points that are not opposite -/
theorem add (hA : CoordOf b A R) (hB : CoordOf b B S) (h : NotOpp A B) : CoordOf b (addAB b A B) (R + S) := by
  obtain ⟨hns, rfl⟩ := hA
  obtain ⟨hns', rfl⟩ := hB
  rw [Point.add_some ((notOpp_iff (b := b) A B).mp h)]
  apply of_eq
  · rw [addAB_eq]; rfl
  · rw [addAB_eq]; rfl

/-- `affDouble` is the doubling of the group -/
theorem double (h : CoordOf b T R) (hy : T.2 ≠ 0) : CoordOf b (affDouble T) (R + R) :=
  addAB_tangent (b := b) hy ▸ h.add h (notOpp_self b hy)

/-- `affAdd` is the addition of the group -/
theorem chord (hT : CoordOf b T R) (hQ : CoordOf b Q S) (hx : T.1 ≠ Q.1) : CoordOf b (affAdd T Q) (R + S) :=
  addAB_chord (b := b) hx ▸ hT.add hQ (notOpp_of_x_ne hx)

/-- the tangent is vertical only at points of order two -/
theorem y_ne (h : CoordOf b T R) (h2 : R + R ≠ 0) : T.2 ≠ 0 := fun hy =>
  h2 (h.add_eq_zero h (fun hn => hn ⟨rfl, by rw [hy, neg_zero]⟩))

/-- the chord is vertical only for `R = ±S` -/
theorem x_ne (hT : CoordOf b T R) (hQ : CoordOf b Q S) (h1 : R ≠ S) (h2 : R ≠ -S) : T.1 ≠ Q.1 := by
  intro hx
  by_cases h : NotOpp T Q
  · exact h1 (((eq_of_x_eq hT.on hQ.on h hx).1 ▸ hT).point_eq hQ)
  · exact h2 (eq_neg_of_add_eq_zero_left (hT.add_eq_zero hQ h))

/-- a finite point with `x = 0` has order three: its tangent is horizontal -/
theorem three_nsmul (h : CoordOf b T R) (hx : T.1 = 0) : 3 • R = 0 := by
  have hy : T.2 ≠ 0 := by
    intro hy
    have e := h.onCurve
    rw [hx, hy] at e
    exact ShortW.b_ne (b := b) (by linear_combination -e)
  have hd : affDouble T = ngp T := by
    simp [affDouble, sumOfSlope, tangentSlope, ngp, hx]
  have e : R + R = -R := (h.double hy).point_eq (hd ▸ h.neg)
  rw [succ_nsmul, two_nsmul, e, neg_add_cancel]

/-- so a finite point killed by `n` prime to 3 has `x ≠ 0` -/
theorem x_ne_zero {n : ℕ} (hn : Nat.Coprime 3 n) (h : CoordOf b T R) (hr : n • R = 0) : T.1 ≠ 0 := by
  intro hx
  have h1 : addOrderOf R = 1 :=
    Nat.eq_one_of_dvd_coprimes hn (addOrderOf_dvd_of_nsmul_eq_zero (h.three_nsmul hx))
      (addOrderOf_dvd_of_nsmul_eq_zero hr)
  exact h.ne_zero (AddMonoid.addOrderOf_eq_one_iff.mp h1)

end CoordOf
end coord

/-! ## a twisted field endomorphism acts on the group of `y² = x³ + b` -/

namespace BilinP

section generic
variable {F : Type} [Field F] [DecidableEq F] {b : F} [ShortW b] {σ : F →+* F} {d : F}

/-- `(x, y) ↦ (d² σ x, d³ σ y)` maps `y² = x³ + b` to itself when `d⁶ σ(b) = b` -/
structure TwFrob (b : F) (σ : F →+* F) (d : F) : Prop where
  d_ne : d ≠ 0
  hb : d ^ 6 * σ b = b

theorem tw_equation (H : TwFrob b σ d) {x y : F} (e : y ^ 2 = x ^ 3 + b) :
    (d ^ 3 * σ y) ^ 2 = (d ^ 2 * σ x) ^ 3 + b := by
  have := cmap_onCurve σ d (A := (x, y)) e
  rwa [H.hb] at this

theorem tw_nonsingular (H : TwFrob b σ d) {x y : F} (h : (W b).Nonsingular x y) :
    (W b).Nonsingular (d ^ 2 * σ x) (d ^ 3 * σ y) :=
  W_nonsingular b (tw_equation H ((W_nonsingular_iff b x y).mp h))

def twFun (H : TwFrob b σ d) : (W b).Point → (W b).Point
  | .zero => .zero
  | .some x y h => .some (d ^ 2 * σ x) (d ^ 3 * σ y) (tw_nonsingular H h)

theorem twFun_some (H : TwFrob b σ d) {x y : F} (h : (W b).Nonsingular x y) :
    twFun H (Point.some x y h) = Point.some (d ^ 2 * σ x) (d ^ 3 * σ y) (tw_nonsingular H h) := rfl

theorem coord_twFun (H : TwFrob b σ d) {T : F × F} {R : (W b).Point} (h : CoordOf b T R) :
    CoordOf b (cmap σ d T) (twFun H R) := by
  obtain ⟨hns, rfl⟩ := h
  exact ⟨tw_nonsingular H hns, rfl⟩

theorem twFun_add (H : TwFrob b σ d) (P Q : (W b).Point) :
    twFun H (P + Q) = twFun H P + twFun H Q := by
  rcases P with _ | ⟨x₁, y₁, h₁⟩
  · change twFun H (0 + Q) = 0 + twFun H Q
    rw [zero_add, zero_add]
  rcases Q with _ | ⟨x₂, y₂, h₂⟩
  · change twFun H (_ + 0) = _ + 0
    rw [add_zero, add_zero]
  have hP : CoordOf b (x₁, y₁) (Point.some x₁ y₁ h₁) := ⟨h₁, rfl⟩
  have hQ : CoordOf b (x₂, y₂) (Point.some x₂ y₂ h₂) := ⟨h₂, rfl⟩
  by_cases h : BilinQ.NotOpp (x₁, y₁) (x₂, y₂)
  · have h2 := (coord_twFun H hP).add (coord_twFun H hQ) ((BilinQ.notOpp_cmap σ H.d_ne).mpr h)
    rw [BilinQ.addAB_cmap σ H.d_ne hP.on hQ.on h] at h2
    exact (coord_twFun H (hP.add hQ h)).point_eq h2
  · rw [hP.add_eq_zero hQ h, (coord_twFun H hP).add_eq_zero (coord_twFun H hQ)
      (mt (BilinQ.notOpp_cmap σ H.d_ne).mp h)]
    rfl

/-- the twisted endomorphism of the group of points -/
def twHom (H : TwFrob b σ d) : (W b).Point →+ (W b).Point :=
  AddMonoidHom.mk' (twFun H) (twFun_add H)

theorem twHom_some (H : TwFrob b σ d) {x y : F} (h : (W b).Nonsingular x y) :
    twHom H (Point.some x y h) = Point.some (d ^ 2 * σ x) (d ^ 3 * σ y) (tw_nonsingular H h) := rfl

end generic

end BilinP

end PP
