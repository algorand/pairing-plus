/-
C03, complements on the textbook side (`PP/Spec/Ate.lean`):

* the untwist `ψ(x', y') = (x'/w², y'/w³)` maps `E' : y² = x³ + 4(1+u)` to `E : y² = x³ + 4`
  (`untwist_onCurve`) and commutes with the affine chord-and-tangent formulas (`untwist_affDouble`,
  `untwist_affAdd`): updating `T` on the twist, as the specification does, is the same as updating
  `ψ(T)` on `E(Fq12)`;
* the values of the omitted vertical lines lie in the subfield `Fq6` (`vertical_mem_Fq6`; `Lines4` has
  the explicit value, `vertical_eq`, which is what the other files use);
* a tangent or chord line never vanishes at a point `P` with `y_P ≠ 0` (`tangentAt_ne_zero`,
  `chordAt_ne_zero`), hence `textbookMiller P Q ≠ 0` (`textbookMiller_ne_zero`);
* `E(Fq)` has no point with `y = 0`: `-4` is not a cube in `Fq` (`g1_y_ne_zero`);
* `finalExponentiation (conj (c · m)) = (conj m)^(3(q¹²-1)/r)` for unitish `c` (`fe_conjugate_unitish_mul`).
-/
import PP.Proofs.Lines

namespace PP
namespace Lines

open Ate Miller

/-! ## the untwist -/

/-- `w⁻¹`; irreducible: the unifier must never evaluate the inverse of the constant `w` -/
@[irreducible] def wInv : Fq12 := 1 / Fq12.w

theorem wInv_mul_w : wInv * Fq12.w = 1 := by
  unfold wInv; exact div_mul_cancel₀ 1 w_ne_zero

theorem wInv_ne_zero : wInv ≠ 0 := left_ne_zero_of_mul_eq_one wInv_mul_w

theorem wInv_pow_mul (n : ℕ) : wInv ^ n * Fq12.w ^ n = 1 := by rw [← mul_pow, wInv_mul_w, one_pow]

/-- `ψ` is the coordinate map with `σ = ι`, `t = w⁻¹` -/
theorem untwist_eq_cmap (T : Fq2 × Fq2) : untwist T = cmap ι wInv T := by
  simp only [untwist, cmap, div_eq_iff (pow_ne_zero _ w_ne_zero), Prod.mk.injEq]
  exact ⟨by rw [mul_right_comm, wInv_pow_mul, one_mul], by rw [mul_right_comm, wInv_pow_mul, one_mul]⟩

/-- `ψ` maps `E'` to `E`: `w⁻⁶ · 4ξ = 4` -/
theorem untwist_onCurve {T : Fq2 × Fq2} (h : T.2 ^ 2 = T.1 ^ 3 + g2Codec.b) :
    (untwist T).2 ^ 2 = (untwist T).1 ^ 3 + 4 := by
  have e : wInv ^ 6 * ι g2Codec.b = 4 := by
    rw [g2Codec_b_eq_mul_xi, map_mul, ← w_pow_six, map_ofNat, mul_left_comm, wInv_pow_mul, mul_one]
  have := cmap_onCurve ι wInv h
  rwa [e, ← untwist_eq_cmap] at this

theorem tangentSlope_untwist (T : Fq2 × Fq2) :
    tangentSlope (untwist T) = wInv * ι (tangentSlope T) := by
  rw [untwist_eq_cmap, tangentSlope_cmap ι wInv_ne_zero]

theorem chordSlope_untwist (T Q : Fq2 × Fq2) :
    chordSlope (untwist T) (untwist Q) = wInv * ι (chordSlope T Q) := by
  rw [untwist_eq_cmap, untwist_eq_cmap, chordSlope_cmap ι wInv_ne_zero]

theorem untwist_affDouble (T : Fq2 × Fq2) : untwist (affDouble T) = affDouble (untwist T) := by
  rw [untwist_eq_cmap, untwist_eq_cmap, affDouble_cmap ι wInv_ne_zero]

theorem untwist_affAdd (T Q : Fq2 × Fq2) : untwist (affAdd T Q) = affAdd (untwist T) (untwist Q) := by
  rw [untwist_eq_cmap, untwist_eq_cmap, untwist_eq_cmap, affAdd_cmap ι wInv_ne_zero]

theorem untwist_snd_ne_zero {T : Fq2 × Fq2} (hy : T.2 ≠ 0) : (untwist T).2 ≠ 0 :=
  untwist_eq_cmap T ▸ cmap_snd_ne_zero ι wInv_ne_zero hy

theorem untwist_fst_ne {A B : Fq2 × Fq2} (h : A.1 ≠ B.1) : (untwist A).1 ≠ (untwist B).1 := by
  rw [untwist_eq_cmap, untwist_eq_cmap]
  exact mt (cmap_fst_eq_iff ι wInv_ne_zero).mp h

/-- the value at `P` of the vertical line through `ψ(T)` lies in `Fq6`: denominator elimination -/
theorem vertical_mem_Fq6 (T : Fq2 × Fq2) (P : Fq × Fq) :
    ∃ a : Fq6, (embed P).1 - (untwist T).1 = Fq12.ofFq6 a := by
  refine ⟨Fq6.ofFq2 (Fq2.ofFq P.1) - Fq6.ofFq2 T.1 / Fq6.v, ?_⟩
  simp only [embed, untwist, κ, ι, RingHom.comp_apply, map_sub, map_div₀, Fq12.w_pow_two]

/-! ## the lines do not vanish -/

/-- a line through `ψ(T)` whose slope is `w⁻¹ ι l` (as for tangents and chords), multiplied by `w³`, is
    the sparse element `(l x_T - y_T) - l x_P w² + y_P w³` -/
theorem lineAt_untwist (l : Fq2) (T : Fq2 × Fq2) (P : Fq × Fq) :
    lineAt (wInv * ι l) (untwist T) (embed P) * Fq12.w ^ 3 =
      line (1, -l, l * T.1 - T.2) ⟨P.1, P.2, false⟩ := by
  rw [line_eq, untwist_eq_cmap]
  simp only [lineAt, cmap, embed, map_sub, map_mul, map_neg, map_one]
  linear_combination (((wInv * Fq12.w) ^ 2 + wInv * Fq12.w + 1) * (ι l * ι T.1 - ι T.2)
    - ι l * κ P.1 * Fq12.w ^ 2) * wInv_mul_w

theorem line_ne_zero (c : Coeff) (p : Aff Fq) (hc : c.1 ≠ 0) (hy : p.y ≠ 0) : line c p ≠ 0 := by
  intro h
  have h1 : (⟨c.1.c0 * p.y, c.1.c1 * p.y⟩ : Fq2) = 0 := congrArg (fun a : Fq12 => a.c1.c1) h
  rw [← Fq2.mul_ofFq_eq] at h1
  rcases mul_eq_zero.mp h1 with h2 | h2
  · exact hc h2
  · exact hy (Fq2.ofFq_injective (by rw [h2, map_zero]))

theorem lineAt_untwist_ne_zero (l : Fq2) (T : Fq2 × Fq2) (P : Fq × Fq) (hy : P.2 ≠ 0) :
    lineAt (wInv * ι l) (untwist T) (embed P) ≠ 0 := by
  intro h
  have := lineAt_untwist l T P
  rw [h, zero_mul] at this
  exact line_ne_zero _ ⟨P.1, P.2, false⟩ one_ne_zero hy this.symm

/-- no tangent to `E` at a point `ψ(T)` passes through a point `P ∈ E(Fq)` with `y_P ≠ 0` -/
theorem tangentAt_ne_zero (T : Fq2 × Fq2) (P : Fq × Fq) (hy : P.2 ≠ 0) :
    tangentAt (untwist T) (embed P) ≠ 0 := by
  rw [tangentAt, tangentSlope_untwist]; exact lineAt_untwist_ne_zero _ T P hy

theorem chordAt_ne_zero (T Q : Fq2 × Fq2) (P : Fq × Fq) (hy : P.2 ≠ 0) :
    chordAt (untwist T) (untwist Q) (embed P) ≠ 0 := by
  rw [chordAt, chordSlope_untwist]; exact lineAt_untwist_ne_zero _ T P hy

theorem millerStep_ne_zero (P : Fq × Fq) (Q : Fq2 × Fq2) (hy : P.2 ≠ 0) (bs : List Bool) (F : Fq12)
    (T : Fq2 × Fq2) (hF : F ≠ 0) : (bs.foldl (millerStep P Q) (F, T)).1 ≠ 0 := by
  induction bs generalizing F T with
  | nil => exact hF
  | cons b bs ih =>
    rw [List.foldl_cons]
    have h1 : F ^ 2 * tangentAt (untwist T) (embed P) ≠ 0 :=
      mul_ne_zero (pow_ne_zero _ hF) (tangentAt_ne_zero T P hy)
    cases b with
    | false => exact ih _ _ h1
    | true => exact ih _ _ (mul_ne_zero h1 (chordAt_ne_zero _ Q P hy))

theorem textbookMiller_ne_zero (P : Fq × Fq) (Q : Fq2 × Fq2) (hy : P.2 ≠ 0) :
    textbookMiller P Q ≠ 0 :=
  millerStep_ne_zero P Q hy _ 1 Q one_ne_zero

/-! ## `E(Fq)` has no point of order two -/

theorem q_sub_one_div_lt : (Gen.q - 1) / 3 < 2 ^ 4096 := by decide +kernel
theorem three_dvd_q_sub_one : 3 ∣ Gen.q - 1 := by decide +kernel

theorem neg_four_pow_fast : fastPow (-4 : Fq) ((Gen.q - 1) / 3) ≠ 1 := by decide +kernel

/-- `-4` is not a cube in `Fq`: `(-4)^((q-1)/3) ≠ 1` -/
theorem neg_four_not_cube (x : Fq) : x ^ 3 ≠ -4 := by
  intro h
  have hx : x ≠ 0 := by
    rintro rfl
    have : (4 : Fq) = 0 := by
      have : (-4 : Fq) = 0 := by rw [← h]; ring
      exact neg_eq_zero.mp this
    exact fq_four_ne_zero this
  have h1 : x ^ (Gen.q - 1) = 1 := by
    apply Zp.toZ_injective
    rw [Zp.toZ_pow, Zp.toZ_one]
    apply ZMod.pow_card_sub_one_eq_one
    intro h0
    exact hx (Zp.toZ_injective (by rw [h0, Zp.toZ_zero]))
  apply neg_four_pow_fast
  rw [fastPow_eq _ _ q_sub_one_div_lt, ← h, ← pow_mul, Nat.mul_div_cancel' three_dvd_q_sub_one, h1]

theorem g1_y_ne_zero {p : Aff Fq} (hp : Aff.OnCurve g1Codec.b p) (hpi : p.infinity = false) :
    p.y ≠ 0 := by
  intro hy
  rcases hp with h | h
  · rw [hpi] at h; cases h
  · rw [g1Codec_b, hy] at h
    exact neg_four_not_cube p.x (by linear_combination -h)

/-! ## the final exponentiation of `conj(c · m)`, `c` unitish -/

theorem Unitish.fe_conjugate {c : Fq12} (hc : Unitish c) :
    finalExponentiation (Fq12.conjugate c) = some 1 := by
  have h1 := FinalExp.pow_of_fe_one hc.fe
  have hne : Fq12.conjugate c ≠ 0 := fun h =>
    hc.ne_zero (by rw [← Fq12.conjugate_conjugate c, h, Fq12.conjugate_zero])
  rw [FinalExp.fe_spec hne]
  have : Fq12.conjugate c ^ (3 * (Gen.q ^ 12 - 1) / Gen.r) =
      Fq12.conjugate (c ^ (3 * (Gen.q ^ 12 - 1) / Gen.r)) :=
    (map_pow Fq12.conjugateEquiv c _).symm
  rw [this, h1, Fq12.conjugate_one]

/-- final exponentiation of `conj(c · m)`, `c` unitish: the factor disappears; failure exactly for
    `m = 0` -/
theorem fe_conjugate_unitish_mul {c : Fq12} (hc : Unitish c) (m : Fq12) :
    finalExponentiation (Fq12.conjugate (c * m)) =
      if m = 0 then none else some (Fq12.conjugate m ^ finalExponent) := by
  split
  · next h => rw [h, mul_zero, Fq12.conjugate_zero]; exact FinalExp.fe_zero
  · next h =>
    have hne : Fq12.conjugate m ≠ 0 := fun h0 =>
      h (by rw [← Fq12.conjugate_conjugate m, h0, Fq12.conjugate_zero])
    rw [Fq12.conjugate_mul, FinalExp.fe_mul_all, hc.fe_conjugate, FinalExp.fe_spec hne]
    simp [finalExponent]

end Lines
end PP
