/-
A certificate that a cubic `g = x³ + A x + B` has no root in a finite field of `N` elements.  A root
`a` in the field satisfies `a^N = a`, so it is a common root of `x^N − x` and `g`; if
`gcd(x^N − x, g) = 1` there is none.  The certificate is `r = x^N mod g`, computed by square and
multiply in `F[x]/(g)` (`xPow`), and Bézout cofactors `S·(r − x) + T·g = 1` (`no_root`).  Used for
`E₁'` over `Fq` (`SswuG1.lean`); for `E₂'` over `Fq2` the isogeny gives the same fact without a
computation (`SswuG2NoRoot.lean`).
-/
import Mathlib.Tactic.Ring
import Mathlib.Tactic.LinearCombination
import Mathlib.Algebra.Field.Defs
import PP.Proofs.Primes

namespace PP
namespace Sswu
namespace Cubic

variable {F : Type} [Field F]

/-- product in `F[x]/(x³ + A x + B)`, elements written `c0 + c1 x + c2 x²` -/
def mul (A B : F) (p r : F × F × F) : F × F × F :=
  (p.1 * r.1 - B * (p.2.1 * r.2.2 + p.2.2 * r.2.1),
   p.1 * r.2.1 + p.2.1 * r.1 - A * (p.2.1 * r.2.2 + p.2.2 * r.2.1) - B * (p.2.2 * r.2.2),
   p.1 * r.2.2 + p.2.1 * r.2.1 + p.2.2 * r.1 - A * (p.2.2 * r.2.2))

def eval (p : F × F × F) (a : F) : F := p.1 + p.2.1 * a + p.2.2 * a ^ 2

theorem eval_mul {A B a : F} (hg : a ^ 3 + A * a + B = 0) (p r : F × F × F) :
    eval (mul A B p r) a = eval p a * eval r a := by
  unfold eval mul
  linear_combination (-(p.2.1 * r.2.2 + p.2.2 * r.2.1) - p.2.2 * r.2.2 * a) * hg

/-- square-and-multiply in `F[x]/(g)`, structural on `fuel` -/
def powAux (A B : F) : Nat → F × F × F → F × F × F → Nat → F × F × F
  | 0, _, acc, _ => acc
  | fuel + 1, b, acc, e =>
    if e = 0 then acc
    else powAux A B fuel (mul A B b b) (if e % 2 = 1 then mul A B acc b else acc) (e / 2)

theorem eval_powAux {A B a : F} (hg : a ^ 3 + A * a + B = 0) :
    ∀ (fuel : Nat) (b acc : F × F × F) (e : Nat), e < 2 ^ fuel →
      eval (powAux A B fuel b acc e) a = eval acc a * eval b a ^ e := by
  intro fuel
  induction fuel with
  | zero =>
    intro b acc e he
    have : e = 0 := by omega
    subst this; simp [powAux]
  | succ n ih =>
    intro b acc e he
    unfold powAux
    split
    · next h => subst h; simp
    · next h =>
      have he2 : e / 2 < 2 ^ n := by
        rw [Nat.div_lt_iff_lt_mul (by norm_num)]; rw [pow_succ] at he; omega
      rw [ih _ _ _ he2, eval_mul hg]
      split
      · next hodd =>
        rw [eval_mul hg]
        have hdec : e = 2 * (e / 2) + 1 := by omega
        conv_rhs => rw [hdec]
        rw [pow_succ, pow_mul]; ring
      · next heven =>
        have hdec : e = 2 * (e / 2) := by omega
        conv_rhs => rw [hdec]
        rw [pow_mul]; ring

/-- `x^e mod g` -/
def xPow (A B : F) (e : Nat) : F × F × F := powAux A B (e.log2 + 1) (0, 1, 0) (1, 0, 0) e

theorem eval_xPow {A B a : F} (hg : a ^ 3 + A * a + B = 0) (e : Nat) :
    eval (xPow A B e) a = a ^ e := by
  unfold xPow
  rw [eval_powAux hg _ _ _ _ Nat.lt_log2_self]
  simp [eval]

/-- certificate that `g = x³ + A x + B` has no root `a` with `a^N = a`: `x^N ≡ r (mod g)` and
Bézout cofactors `S·(r − x) + T·g = 1` -/
theorem no_root {A B : F} {N : Nat} (r : F × F × F) (hr : xPow A B N = r)
    (s0 s1 s2 t0 t1 : F)
    (e0 : s0 * r.1 + t0 * B = 1)
    (e1 : s0 * (r.2.1 - 1) + s1 * r.1 + t0 * A + t1 * B = 0)
    (e2 : s0 * r.2.2 + s1 * (r.2.1 - 1) + s2 * r.1 + t1 * A = 0)
    (e3 : s1 * r.2.2 + s2 * (r.2.1 - 1) + t0 = 0)
    (e4 : s2 * r.2.2 + t1 = 0)
    (a : F) (ha : a ^ N = a) : a ^ 3 + A * a + B ≠ 0 := by
  intro hg
  have h := eval_xPow hg N
  rw [hr, ha] at h
  unfold eval at h
  have : (1 : F) = 0 := by
    linear_combination (-1) * e0 - a * e1 - a ^ 2 * e2 - a ^ 3 * e3 - a ^ 4 * e4
      + (s0 + s1 * a + s2 * a ^ 2) * h + (t0 + t1 * a) * hg
  exact one_ne_zero this

end Cubic
end Sswu
end PP
