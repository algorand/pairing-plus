/-
C15-C18 are stated relative to interfaces (`GroupModel`, `LawfulSqrtOps`) or to explicit hypotheses
(`Fq2Sqrt.FieldHyp`, the `hchain1 / hchain2 / hcard` hypotheses of C15).  Here those hypotheses are
discharged with the tower's instances (`PP/Proofs/AssemblyFq2.lean` has `fq2FieldHyp`,
`instLawfulSqrtOpsFq2`, `g2_no_two_torsion`), and the glue for the composition properties C14 and
C06 is proved: `sswu(−u) = −sswu(u)`, that `iso11`/`iso3` of an SSWU output is a point of the target
curve, and `isoMapPoint`, the RFC's `iso_map` as a function from affine coordinates on `E'` to
`E(F)`, which the model's `iso11`/`iso3` compute (`abs_iso11_eq`, `abs_iso3_eq`).

The order/exponent of the curve groups (`hexp`, `hord` of C17) is a hypothesis here; it is proved in
`PP/Props/CurveOrder.lean`.
-/
import PP.Proofs.AssemblyFq2
import PP.Proofs.Tower
import PP.Proofs.GroupModelInst
import PP.Props.C15
import PP.Props.C16
import PP.Props.C17
import PP.Props.C18

set_option linter.unusedSectionVars false

namespace PP

open WeierstrassCurve.Affine

/-- C15's `hchain2`; its `hchain1` is `Chains.chainPm3div4_eq`, its `hcard` is
    `Fq2.pow_card_sub_one'` -/
theorem chainP2m9div16_eq (a : Fq2) : chainP2m9div16 a = a ^ ((Gen.q ^ 2 - 9) / 16) :=
  Chains.chainP2m9div16_generic a

section generic
variable {F : Type} [Field F] [DecidableEq F] [FieldOps F] [LawfulFieldOps F]

theorem Jac.abs_scale {b : F} [ShortW b] {Q : Jac F} (hQ : Jac.OnCurve b Q) {μ : F} (hμ : μ ≠ 0) :
    Jac.OnCurve b ⟨μ ^ 2 * Q.x, μ ^ 3 * Q.y, μ * Q.z⟩ ∧
      Jac.abs b ⟨μ ^ 2 * Q.x, μ ^ 3 * Q.y, μ * Q.z⟩ = Jac.abs b Q := by
  have hoc : Jac.OnCurve b ⟨μ ^ 2 * Q.x, μ ^ 3 * Q.y, μ * Q.z⟩ := by
    rcases hQ with h | h
    · left; show μ * Q.z = 0; rw [h, mul_zero]
    · right; show (μ ^ 3 * Q.y) ^ 2 = (μ ^ 2 * Q.x) ^ 3 + b * (μ * Q.z) ^ 6
      linear_combination μ ^ 6 * h
  refine ⟨hoc, (Jac.abs_eq_abs_iff hoc hQ).mpr ?_⟩
  by_cases hz : Q.z = 0
  · left; exact ⟨by show μ * Q.z = 0; rw [hz, mul_zero], hz⟩
  · right
    refine ⟨mul_ne_zero hμ hz, hz, ?_, ?_⟩
    · show μ ^ 2 * Q.x * Q.z ^ 2 = Q.x * (μ * Q.z) ^ 2; ring
    · show μ ^ 3 * Q.y * Q.z ^ 3 = Q.y * (μ * Q.z) ^ 3; ring

theorem Jac.neg_of_z_ne {P : Jac F} (hz : P.z ≠ 0) : P.neg = ⟨P.x, -P.y, P.z⟩ := by
  simp [Jac.neg, Jac.isZero, LawfulFieldOps.isZero_iff, hz]

/-- a finite triple `P'` with the affine abscissa of `P` and the opposite ordinate is a rescaling of
    `P.neg` -/
theorem Jac.eq_scale_neg {P P' : Jac F} (hz : P.z ≠ 0) (hz' : P'.z ≠ 0)
    (hx : P'.x / P'.z ^ 2 = P.x / P.z ^ 2) (hy : P'.y / P'.z ^ 3 = -(P.y / P.z ^ 3)) :
    P' = ⟨(P'.z / P.z) ^ 2 * P.neg.x, (P'.z / P.z) ^ 3 * P.neg.y, (P'.z / P.z) * P.neg.z⟩ := by
  rw [Jac.neg_of_z_ne hz]
  rw [div_eq_iff (pow_ne_zero _ hz')] at hx hy
  cases P' with
  | mk x' y' z' =>
    simp only at hx hy hz' ⊢
    congr 1
    · rw [hx]; field_simp
    · rw [hy]; field_simp
    · field_simp

open PP.Spec in
theorem sswu_eq_or_neg {S : Type} {sgn0 : F → S} {A B Z u u' x y x' y' : F}
    (h : IsSswu sgn0 A B Z u x y) (h' : IsSswu sgn0 A B Z u' x' y')
    (e1 : sswuX1 A B Z u' = sswuX1 A B Z u) (e2 : sswuX2 A B Z u' = sswuX2 A B Z u) :
    x' = x ∧ (y' = y ∨ y' = -y) := by
  obtain ⟨h1, h2, h3, -⟩ := h
  obtain ⟨h1', h2', h3', -⟩ := h'
  rw [e1] at h1' h2'
  rw [e2] at h2'
  have hx : x' = x := by
    by_cases hs : IsSquare (sswuG A B (sswuX1 A B Z u))
    · rw [h1 hs, h1' hs]
    · rw [h2 hs, h2' hs]
  rw [hx, ← h3] at h3'
  exact ⟨hx, sq_eq_sq_iff_eq_or_eq_neg.mp h3'⟩

open PP.Spec in
/-- `map_to_curve_simple_swu(−u)` is the opposite of `map_to_curve_simple_swu(u)` (for `u ≠ 0` and a
    sign function that flips under negation): same `x` (it depends on `u²` only), and `y` is
    determined by its sign. -/
theorem sswu_neg {S : Type} (sgn0 : F → S) (hflip : ∀ y : F, y ≠ 0 → sgn0 (-y) ≠ sgn0 y)
    {A B Z u x y x' y' : F} (hu : u ≠ 0)
    (h : IsSswu sgn0 A B Z u x y) (h' : IsSswu sgn0 A B Z (-u) x' y') :
    x' = x ∧ y' = -y := by
  have hX1 : sswuX1 A B Z (-u) = sswuX1 A B Z u := by
    unfold sswuX1 sswuTv1
    rw [show (-u) ^ 4 = u ^ 4 by ring, show (-u) ^ 2 = u ^ 2 by ring]
  have hX2 : sswuX2 A B Z (-u) = sswuX2 A B Z u := by
    unfold sswuX2
    rw [hX1, show (-u) ^ 2 = u ^ 2 by ring]
  obtain ⟨hx, e | e⟩ := sswu_eq_or_neg h h' hX1 hX2
  · -- `sgn0 y = sgn0 u` and `sgn0 y = sgn0 (-u)`
    have h4 := h.2.2.2
    have h4' := h'.2.2.2
    rw [e, h4] at h4'
    exact absurd h4'.symm (hflip u hu)
  · exact ⟨hx, e⟩

open PP.Spec in
/-- the relation `IsSswu` is functional: on a curve without 2-torsion the RFC's
    `map_to_curve_simple_swu(u)` is a single point -/
theorem sswu_unique {S : Type} (sgn0 : F → S) (hflip : ∀ y : F, y ≠ 0 → sgn0 (-y) ≠ sgn0 y)
    {A B Z u x y x' y' : F} (hroot : ∀ x : F, sswuG A B x ≠ 0)
    (h : IsSswu sgn0 A B Z u x y) (h' : IsSswu sgn0 A B Z u x' y') :
    x = x' ∧ y = y' := by
  obtain ⟨hx, e | e⟩ := sswu_eq_or_neg h h' rfl rfl
  · exact ⟨hx.symm, e.symm⟩
  · -- `y' = -y` and both have the sign of `u`, so `y = 0`, a root of `g`
    have hy : y ≠ 0 := by
      rintro rfl
      exact hroot x (by rw [← h.2.2.1]; ring)
    have h4' := h'.2.2.2
    rw [e] at h4'
    exact absurd (h4'.trans h.2.2.2.symm) (hflip y hy)

end generic

open Classical in
/-- RFC 9380 appendix E: `(x, y) ↦ (XN(x)/XD(x), y·YN(x)/YD(x))`, the identity when a denominator
    vanishes (and, to make the function total, when the image is not a point of `E_b`, which does not
    happen for `(x, y)` on the isogenous curve: `abs_iso11_eq`, `abs_iso3_eq`) -/
noncomputable def isoMapPoint {F : Type} [Field F] (b : F) (xn xd yn yd : List F) (x y : F) :
    (W b).Point :=
  if h : IsoPoly.evalP xd x ≠ 0 ∧ IsoPoly.evalP yd x ≠ 0 ∧
      (W b).Nonsingular (IsoPoly.evalP xn x / IsoPoly.evalP xd x)
        (y * IsoPoly.evalP yn x / IsoPoly.evalP yd x)
  then Point.some _ _ h.2.2 else 0

section isoabs
variable {F : Type} [Field F] [DecidableEq F] [FieldOps F] [LawfulFieldOps F]

/-- packaging of `iso_affine` + `iso_z_eq_zero_iff` at the level of denoted points: if a map
    `iso : Jac F → Jac F` sends points of `E'` to `E_b`, poles to `z = 0` and finite non-poles to the
    rational-map image, then `Jac.abs b (iso p) = isoMapPoint … (x, y)` -/
theorem abs_eq_isoMapPoint {b : F} [ShortW b] (xn xd yn yd : List F) (p r : Jac F)
    (hr : Jac.OnCurve b r)
    (hpole : r.z = 0 ↔ p.z = 0 ∨ IsoPoly.evalP xd (p.x / p.z ^ 2) = 0 ∨
      IsoPoly.evalP yd (p.x / p.z ^ 2) = 0)
    (hz : p.z ≠ 0)
    (haff : IsoPoly.evalP xd (p.x / p.z ^ 2) ≠ 0 → IsoPoly.evalP yd (p.x / p.z ^ 2) ≠ 0 →
      r.x / r.z ^ 2 = IsoPoly.evalP xn (p.x / p.z ^ 2) / IsoPoly.evalP xd (p.x / p.z ^ 2) ∧
      r.y / r.z ^ 3 = (p.y / p.z ^ 3) * IsoPoly.evalP yn (p.x / p.z ^ 2)
        / IsoPoly.evalP yd (p.x / p.z ^ 2)) :
    Jac.abs b r = isoMapPoint b xn xd yn yd (p.x / p.z ^ 2) (p.y / p.z ^ 3) := by
  unfold isoMapPoint
  by_cases hd : IsoPoly.evalP xd (p.x / p.z ^ 2) ≠ 0 ∧ IsoPoly.evalP yd (p.x / p.z ^ 2) ≠ 0
  · have hrz : r.z ≠ 0 := by
      intro h0
      rcases hpole.mp h0 with h | h | h
      · exact hz h
      · exact hd.1 h
      · exact hd.2 h
    obtain ⟨ex, ey⟩ := haff hd.1 hd.2
    have hns : (W b).Nonsingular (r.x / r.z ^ 2) (r.y / r.z ^ 3) :=
      W_nonsingular b (Jac.affine_eq_of_onCurve hr hrz)
    have hns' := hns
    rw [ex, ey] at hns'
    rw [dif_pos ⟨hd.1, hd.2, hns'⟩, Jac.abs_of_z_ne_zero hr hrz, Point.some_eq_some]
    exact ⟨ex, ey⟩
  · have hrz : r.z = 0 := by
      apply hpole.mpr
      right
      by_contra hc
      exact hd ⟨fun h => hc (Or.inl h), fun h => hc (Or.inr h)⟩
    rw [dif_neg (fun h => hd ⟨h.1, h.2.1⟩), Jac.abs_of_z_eq_zero hrz]

end isoabs

section G1

local notation "b₁" => g1Codec.b

theorem sswuG1_onE' (u : Fq) :
    (osswuG1 u).z ≠ 0 ∧
      (osswuG1 u).y ^ 2 = (osswuG1 u).x ^ 3 + g1EllpA * (osswuG1 u).x * (osswuG1 u).z ^ 4
        + g1EllpB * (osswuG1 u).z ^ 6 := C15.osswuG1_onCurve Chains.chainPm3div4_eq u

theorem isoSswuG1_onCurve (u : Fq) : Jac.OnCurve b₁ (iso11 (osswuG1 u)) :=
  Or.inr (C16.iso11_onCurve _ (Or.inr (sswuG1_onE' u).2))

theorem iso11_onCurve' (p : Jac Fq)
    (hp : p.z = 0 ∨ p.y ^ 2 = p.x ^ 3 + g1EllpA * p.x * p.z ^ 4 + g1EllpB * p.z ^ 6) :
    Jac.OnCurve b₁ (iso11 p) := Or.inr (C16.iso11_onCurve p hp)

/-- `iso11` computes the RFC's `iso_map` (at the level of denoted points) on finite points of `E₁'` -/
theorem abs_iso11_eq (p : Jac Fq) (hz : p.z ≠ 0)
    (hp : p.y ^ 2 = p.x ^ 3 + g1EllpA * p.x * p.z ^ 4 + g1EllpB * p.z ^ 6) :
    Jac.abs b₁ (iso11 p) =
      isoMapPoint b₁ Iso.iso11XNum Iso.iso11XDen Iso.iso11YNum Iso.iso11YDen
        (p.x / p.z ^ 2) (p.y / p.z ^ 3) := by
  refine abs_eq_isoMapPoint _ _ _ _ p (iso11 p) (iso11_onCurve' p (Or.inr hp)) ?_ hz ?_
  · have := C16.iso11_isZero_iff p
    rwa [Iso.jac_isZero_iff, Iso.jac_isZero_iff] at this
  · intro hxd hyd
    exact (C16.iso11_affine p hz hxd hyd).2

theorem sswuG1_neg_affine (u : Fq) (hu : u ≠ 0) :
    Sswu.affX (osswuG1 (-u)) = Sswu.affX (osswuG1 u) ∧
      Sswu.affY (osswuG1 (-u)) = -Sswu.affY (osswuG1 u) :=
  sswu_neg Zp.sgn0 Sswu.Fq.sgn0_neg hu (C15.osswuG1_eq_rfc Chains.chainPm3div4_eq u)
    (C15.osswuG1_eq_rfc Chains.chainPm3div4_eq (-u))

theorem isoSswuG1_neg (u : Fq) (hu : u ≠ 0) :
    Jac.abs b₁ (iso11 (osswuG1 (-u))) = -Jac.abs b₁ (iso11 (osswuG1 u)) := by
  obtain ⟨hz, hc⟩ := sswuG1_onE' u
  obtain ⟨hz', _⟩ := sswuG1_onE' (-u)
  obtain ⟨hx, hy⟩ := sswuG1_neg_affine u hu
  have hl : (osswuG1 (-u)).z / (osswuG1 u).z ≠ 0 := div_ne_zero hz' hz
  have hQ : Jac.OnCurve b₁ (iso11 (osswuG1 u).neg) := by
    rw [C16.iso11_neg]; exact C01.neg_onCurve (isoSswuG1_onCurve u)
  -- `osswuG1 (-u)` is `(osswuG1 u).neg` rescaled by `l = z'/z`, and `iso11` turns a rescaling of its
  -- argument by `l` into a rescaling of its value by a power of `l`
  rw [Jac.eq_scale_neg hz hz' hx hy, C16.iso11_homogeneous,
    (Jac.abs_scale hQ (pow_ne_zero _ hl)).2, C16.iso11_neg, C01.neg_correct (isoSswuG1_onCurve u)]

theorem g1_clearH (P : Jac Fq) (hP : Jac.OnCurve b₁ P) :
    Jac.OnCurve b₁ (clearHG1 P) ∧ Jac.abs b₁ (clearHG1 P) = C17.hEffG1 • Jac.abs b₁ P :=
  C17.clearH_G1 g1Model P hP

theorem g1_clearH_killed (hexp : ∀ g : (W b₁).Point, (0xd201000000010001 * Gen.r) • g = 0)
    (P : Jac Fq) (hP : Jac.OnCurve b₁ P) : Gen.r • Jac.abs b₁ (clearHG1 P) = 0 :=
  C17.clearH_G1_in_subgroup_of g1Model hexp P hP

theorem mapToCurveG1_eq (u : Fq) : mapToCurveG1 u = clearHG1 (iso11 (osswuG1 u)) := by
  unfold mapToCurveG1; rfl

theorem map2ToCurveG1_eq (u0 u1 : Fq) :
    map2ToCurveG1 u0 u1 = clearHG1 ((iso11 (osswuG1 u0)).add (iso11 (osswuG1 u1))) := by
  unfold map2ToCurveG1; rfl

end G1

section G2

local notation "b₂" => g2Codec.b

theorem sswuG2_ex (u : Fq2) :
    ∃ P, osswuG2 u = some P ∧ P.z ≠ 0 ∧
      P.y ^ 2 = P.x ^ 3 + g2EllpA * P.x * P.z ^ 4 + g2EllpB * P.z ^ 6 :=
  C15.osswuG2_onCurve Fq2.pow_card_sub_one' chainP2m9div16_eq u

theorem iso3_onCurve' (p : Jac Fq2)
    (hp : p.z = 0 ∨ p.y ^ 2 = p.x ^ 3 + g2EllpA * p.x * p.z ^ 4 + g2EllpB * p.z ^ 6) :
    Jac.OnCurve b₂ (iso3 p) := Or.inr (C16Inst.iso3_onCurve p hp)

theorem abs_iso3_eq (p : Jac Fq2) (hz : p.z ≠ 0)
    (hp : p.y ^ 2 = p.x ^ 3 + g2EllpA * p.x * p.z ^ 4 + g2EllpB * p.z ^ 6) :
    Jac.abs b₂ (iso3 p) =
      isoMapPoint b₂ Iso.iso3XNum Iso.iso3XDen Iso.iso3YNum Iso.iso3YDen
        (p.x / p.z ^ 2) (p.y / p.z ^ 3) := by
  refine abs_eq_isoMapPoint _ _ _ _ p (iso3 p) (iso3_onCurve' p (Or.inr hp)) ?_ hz ?_
  · have := C16Inst.iso3_isZero_iff p
    rwa [Iso.jac_isZero_iff, Iso.jac_isZero_iff] at this
  · intro hxd hyd
    exact (C16Inst.iso3_affine p hz hxd hyd).2

theorem isoSswuG2_neg (u : Fq2) (hu : u ≠ 0) {P P' : Jac Fq2} (hP : osswuG2 u = some P)
    (hP' : osswuG2 (-u) = some P') :
    Jac.abs b₂ (iso3 P') = -Jac.abs b₂ (iso3 P) := by
  obtain ⟨Q, hQ, hz, hc⟩ := sswuG2_ex u
  obtain ⟨Q', hQ', hz', _⟩ := sswuG2_ex (-u)
  obtain ⟨R, hR, hrfc⟩ := C15.osswuG2_eq_rfc Fq2.pow_card_sub_one' chainP2m9div16_eq u
  obtain ⟨R', hR', hrfc'⟩ := C15.osswuG2_eq_rfc Fq2.pow_card_sub_one' chainP2m9div16_eq (-u)
  obtain rfl : Q = P := Option.some.inj (hQ.symm.trans hP)
  obtain rfl : R = Q := Option.some.inj (hR.symm.trans hP)
  obtain rfl : Q' = P' := Option.some.inj (hQ'.symm.trans hP')
  obtain rfl : R' = Q' := Option.some.inj (hR'.symm.trans hP')
  obtain ⟨hx, hy⟩ := sswu_neg Fq2.sgn0 Sswu.Fq2.sgn0_neg hu hrfc hrfc'
  have hl : R'.z / R.z ≠ 0 := div_ne_zero hz' hz
  have hon : Jac.OnCurve b₂ (iso3 R) := iso3_onCurve' R (Or.inr hc)
  have hQn : Jac.OnCurve b₂ (iso3 R.neg) := by
    rw [C16Inst.iso3_neg]; exact C01.neg_onCurve hon
  rw [Jac.eq_scale_neg hz hz' hx hy, C16Inst.iso3_homogeneous,
    (Jac.abs_scale hQn (pow_ne_zero _ hl)).2, C16Inst.iso3_neg, C01.neg_correct hon]

theorem g2_clearH (P : Jac Fq2) (hP : Jac.OnCurve b₂ P) :
    Jac.OnCurve b₂ (clearHG2 P) ∧ Jac.abs b₂ (clearHG2 P) = C17.hEffG2 • Jac.abs b₂ P :=
  C17.clearH_G2 g2Model P hP

theorem g2_clearH_killed (hord : ∀ g : (W b₂).Point, (Gen.G2_COFACTOR * Gen.r) • g = 0)
    (P : Jac Fq2) (hP : Jac.OnCurve b₂ P) : Gen.r • Jac.abs b₂ (clearHG2 P) = 0 :=
  C17.clearH_G2_in_subgroup g2Model hord P hP

theorem mapToCurveG2_eq {u : Fq2} {P : Jac Fq2} (hP : osswuG2 u = some P) :
    mapToCurveG2 u = some (clearHG2 (iso3 P)) := by
  unfold mapToCurveG2; rw [hP]; rfl

theorem map2ToCurveG2_eq {u0 u1 : Fq2} {P0 P1 : Jac Fq2} (hP0 : osswuG2 u0 = some P0)
    (hP1 : osswuG2 u1 = some P1) :
    map2ToCurveG2 u0 u1 = some (clearHG2 ((iso3 P0).add (iso3 P1))) := by
  unfold map2ToCurveG2; rw [hP0, hP1]; rfl

end G2

end PP
