/-
C04 / C05 lemmas: the model's point decoders and encoders (PP.Model.Enc) against the declarative ZCash
format (PP.Spec.ZCash).

* `ZCash.Coord.Lawful`, `Codec.Lawful`: what the generic proofs use about a coordinate format and about a
  model `Codec` implementing it; proved for `g1Codec`/`fqCoord` and `g2Codec`/`fq2Coord` (the latter uses
  facts about `Fq` only — `Fq2` is a plain pair — so no field structure on `Fq2` is needed).
* curve-level facts: `Aff.isOnCurve_iff_eq`, `Aff.inSubgroup_of_infinity`, the characterisation of
  `Aff.getPointFromX` by the spec's `root?`/`Selected` (with the `y = 0` case).
* the decoders by themselves: `decode…Unchecked_outcome` (what each outcome says about the input), from
  which lengths, flags and (in `PP.Props.C04`) error classes and `badLength` are read off.
* `decode…_eq`: each of the four decoders, on inputs of the right length, IS the ordered validation
  `ZCash.validate`; `encode…_eq`: the encoders are `ZCash.encode`.
* the format itself, at spec level: `validate_checked_eq` (checked = unchecked + curve/subgroup tests),
  `validate_…_ok_iff` (acceptance spelled out as a conjunction), `flags_encode`/`clearFlags_encode`;
  encoding then validating gives the point back, and an accepted string is the encoding of its point,
  because a string is `setFlags (flags bs) (clearFlags bs)` and coordinates in range are canonical.
  The round trips of the model functions are these statements transported (as are canonicity and
  injectivity, in `PP.Props.C05`).
* G1: `y² = x³ + 4` has no point with `y = 0` over `Fq` (so the `y ≠ −y` side condition of the compressed
  canonicity theorem is discharged for G1).
-/
import PP.Proofs.ByteLemmas
import PP.Proofs.Interfaces
import PP.Proofs.Primes

namespace PP

open ZCash (Coord Form Flags)

/-! ## lawful coordinate formats and codecs -/

/-- What the generic proofs use about a coordinate format. -/
structure ZCash.Coord.Lawful {F : Type} (C : Coord F) : Prop where
  size_pos : 0 < C.size
  bytes_length : ∀ a, (C.bytes a).length = C.size
  /-- the three flag bits of an encoded coordinate are clear (`q < 2^381`) -/
  bytes_top : ∀ a, (C.bytes a).headD 0 &&& 0xe0 = 0
  range_bytes : ∀ name a, C.rangeFailure name (C.bytes a) = none
  value_bytes : ∀ a, C.value (C.bytes a) = a
  /-- canonicity: a string in range is the encoding of its value -/
  bytes_value : ∀ name bs, bs.length = C.size → C.rangeFailure name bs = none → C.bytes (C.value bs) = bs

/-- The model's `Codec` implements the coordinate format `C`. -/
structure Codec.Lawful {F : Type} (cc : Codec F) (C : Coord F) : Prop where
  coord : C.Lawful
  size_eq : cc.size = C.size
  write_eq : ∀ a, cc.write a = C.bytes a
  read_eq : ∀ name bs, bs.length = cc.size →
    cc.read name bs = match C.rangeFailure name bs with
      | some e => .error e
      | none => .ok (C.value bs)

theorem fqCoord_size : ZCash.fqCoord.size = 48 := rfl
theorem fqCoord_bytes (a : Fq) : ZCash.fqCoord.bytes a = Fq.toBytes a := by
  show ZCash.I2OSP a.v 48 = _; rw [I2OSP_eq_beBytes]; rfl
theorem fqCoord_rangeFailure (name : String) (bs : Bytes) :
    ZCash.fqCoord.rangeFailure name bs = if beToNat bs < Gen.q then none else some (name ++ " coordinate") := by
  show (if ZCash.OS2IP bs < ZCash.q then none else some (name ++ " coordinate")) = _
  rw [OS2IP_eq_beToNat, zcash_q_eq]
theorem fqCoord_value (bs : Bytes) : ZCash.fqCoord.value bs = Zp.ofNat (beToNat bs) := by
  show Zp.ofNat (ZCash.OS2IP bs) = _; rw [OS2IP_eq_beToNat]

theorem Fq.ofNat_v_self (a : Fq) : (Zp.ofNat a.v : Fq) = a := by
  cases a with
  | mk v h => simp [Zp.ofNat, Nat.mod_eq_of_lt h]

theorem Fq.toBytes_ofNat_beToNat (bs : Bytes) (hl : bs.length = 48) (h : beToNat bs < Gen.q) :
    Fq.toBytes (Zp.ofNat (beToNat bs)) = bs := by
  rw [Fq.toBytes, Zp.ofNat_v, Nat.mod_eq_of_lt h, Limbs.beBytes_beToNat hl]

theorem fqCoord_lawful : ZCash.fqCoord.Lawful where
  size_pos := by rw [fqCoord_size]; omega
  bytes_length a := by rw [fqCoord_bytes, fqCoord_size]; simp
  bytes_top a := by rw [fqCoord_bytes]; exact Fq.toBytes_top a
  range_bytes name a := by
    rw [fqCoord_rangeFailure, fqCoord_bytes, Fq.beToNat_toBytes, if_pos a.h]
  value_bytes a := by
    rw [fqCoord_value, fqCoord_bytes, Fq.beToNat_toBytes, Fq.ofNat_v_self]
  bytes_value name bs hl hr := by
    rw [fqCoord_rangeFailure] at hr
    rw [fqCoord_size] at hl
    have hlt : beToNat bs < Gen.q := by
      by_contra h; rw [if_neg h] at hr; cases hr
    rw [fqCoord_value, fqCoord_bytes, Fq.toBytes_ofNat_beToNat bs hl hlt]

theorem g1Codec_size : g1Codec.size = 48 := rfl
theorem g1Codec_write (a : Fq) : g1Codec.write a = Fq.toBytes a := rfl
theorem g1Codec_read (name : String) (bs : Bytes) : g1Codec.read name bs =
    match Fq.fromBytes bs with
    | some a => .ok a
    | none => .error (name ++ " coordinate") := rfl

theorem g1Codec_lawful : g1Codec.Lawful ZCash.fqCoord where
  coord := fqCoord_lawful
  size_eq := rfl
  write_eq a := by rw [fqCoord_bytes, g1Codec_write]
  read_eq name bs _ := by
    rw [g1Codec_read, fqCoord_rangeFailure, fqCoord_value]
    by_cases h : beToNat bs < Gen.q
    · rw [Fq.fromBytes_of_lt bs h, if_pos h]
      simp [Zp.ofNat, Nat.mod_eq_of_lt h]
    · rw [(Fq.fromBytes_eq_none_iff bs).mpr h, if_neg h]

theorem fq2Coord_size : ZCash.fq2Coord.size = 96 := rfl
theorem fq2Coord_bytes (a : Fq2) : ZCash.fq2Coord.bytes a = Fq.toBytes a.c1 ++ Fq.toBytes a.c0 := by
  show ZCash.I2OSP a.c1.v 48 ++ ZCash.I2OSP a.c0.v 48 = _; rw [I2OSP_eq_beBytes, I2OSP_eq_beBytes]; rfl
theorem fq2Coord_rangeFailure (name : String) (bs : Bytes) :
    ZCash.fq2Coord.rangeFailure name bs =
      if ¬ beToNat (bs.drop 48) < Gen.q then some (name ++ " coordinate (c0)")
      else if ¬ beToNat (bs.take 48) < Gen.q then some (name ++ " coordinate (c1)") else none := by
  show (if ¬ ZCash.OS2IP (bs.drop 48) < ZCash.q then some (name ++ " coordinate (c0)")
      else if ¬ ZCash.OS2IP (bs.take 48) < ZCash.q then some (name ++ " coordinate (c1)") else none) = _
  rw [OS2IP_eq_beToNat, OS2IP_eq_beToNat, zcash_q_eq]
theorem fq2Coord_value (bs : Bytes) :
    ZCash.fq2Coord.value bs = ⟨Zp.ofNat (beToNat (bs.drop 48)), Zp.ofNat (beToNat (bs.take 48))⟩ := by
  show (⟨Zp.ofNat (ZCash.OS2IP (bs.drop 48)), Zp.ofNat (ZCash.OS2IP (bs.take 48))⟩ : Fq2) = _
  rw [OS2IP_eq_beToNat, OS2IP_eq_beToNat]

theorem fq2Coord_lawful : ZCash.fq2Coord.Lawful where
  size_pos := by rw [fq2Coord_size]; omega
  bytes_length a := by rw [fq2Coord_bytes, fq2Coord_size]; simp
  bytes_top a := by
    rw [fq2Coord_bytes]
    have h := Fq.toBytes_top a.c1
    have hl := Fq.toBytes_length a.c1
    cases hx : Fq.toBytes a.c1 with
    | nil => rw [hx] at hl; cases hl
    | cons b r => rw [hx] at h; exact h
  range_bytes name a := by
    rw [fq2Coord_rangeFailure, fq2Coord_bytes, List.take_left' (Fq.toBytes_length a.c1), List.drop_left' (Fq.toBytes_length a.c1), Fq.beToNat_toBytes, Fq.beToNat_toBytes]
    simp [a.c0.h, a.c1.h]
  value_bytes a := by
    rw [fq2Coord_value, fq2Coord_bytes, List.take_left' (Fq.toBytes_length a.c1), List.drop_left' (Fq.toBytes_length a.c1), Fq.beToNat_toBytes, Fq.beToNat_toBytes,
      Fq.ofNat_v_self, Fq.ofNat_v_self]
  bytes_value name bs hl hr := by
    rw [fq2Coord_rangeFailure] at hr
    rw [fq2Coord_size] at hl
    have h0 : beToNat (bs.drop 48) < Gen.q := by
      by_contra h; rw [if_pos h] at hr; cases hr
    have h1 : beToNat (bs.take 48) < Gen.q := by
      by_contra h; rw [if_neg (not_not.mpr h0), if_pos h] at hr; cases hr
    rw [fq2Coord_value, fq2Coord_bytes]
    show Fq.toBytes (Zp.ofNat (beToNat (bs.take 48))) ++ Fq.toBytes (Zp.ofNat (beToNat (bs.drop 48))) = bs
    rw [Fq.toBytes_ofNat_beToNat _ (by simp [hl]) h1, Fq.toBytes_ofNat_beToNat _ (by simp [hl]) h0,
      List.take_append_drop]

theorem g2Codec_size : g2Codec.size = 96 := rfl
theorem g2Codec_write (a : Fq2) : g2Codec.write a = Fq.toBytes a.c1 ++ Fq.toBytes a.c0 := rfl
theorem g2Codec_read (name : String) (bs : Bytes) : g2Codec.read name bs =
    match Fq.fromBytes ((bs.drop 48).take 48) with
    | none => .error (name ++ " coordinate (c0)")
    | some c0 =>
      match Fq.fromBytes (bs.take 48) with
      | none => .error (name ++ " coordinate (c1)")
      | some c1 => .ok ⟨c0, c1⟩ := rfl

/-- only facts about `Fq` are used: `Fq2` is a plain pair -/
theorem g2Codec_lawful : g2Codec.Lawful ZCash.fq2Coord where
  coord := fq2Coord_lawful
  size_eq := rfl
  write_eq a := by rw [fq2Coord_bytes, g2Codec_write]
  read_eq name bs hl := by
    rw [g2Codec_size] at hl
    rw [g2Codec_read, fq2Coord_rangeFailure, fq2Coord_value]
    have : (bs.drop 48).take 48 = bs.drop 48 := List.take_of_length_le (by simp [hl])
    rw [this]
    by_cases h0 : beToNat (bs.drop 48) < Gen.q
    · by_cases h1 : beToNat (bs.take 48) < Gen.q
      · rw [Fq.fromBytes_of_lt _ h0, Fq.fromBytes_of_lt _ h1, if_neg (not_not.mpr h0), if_neg (not_not.mpr h1)]
        simp [Zp.ofNat, Nat.mod_eq_of_lt h0, Nat.mod_eq_of_lt h1]
      · rw [Fq.fromBytes_of_lt _ h0, (Fq.fromBytes_eq_none_iff _).mpr h1, if_neg (not_not.mpr h0), if_pos h1]
    · rw [(Fq.fromBytes_eq_none_iff _).mpr h0, if_pos h0]

section infinity
variable {F : Type} [Add F] [Sub F] [Mul F] [Neg F] [Zero F] [One F] [FieldOps F] [DecidableEq F]

-- `h0` below: the field's `is_zero` recognises `0`
omit [Neg F] [DecidableEq F] in
theorem Jac.double_zero (h0 : FieldOps.isZero (0 : F) = true) : (Jac.zero : Jac F).double = Jac.zero := by
  unfold Jac.double
  rw [if_pos]
  exact h0

omit [Neg F] in
theorem Aff.mulBits_of_infinity (h0 : FieldOps.isZero (0 : F) = true) (A : Aff F) (hA : A.infinity = true)
    (bits : List Bool) : A.mulBits bits = Jac.zero := by
  unfold Aff.mulBits
  induction bits with
  | nil => rfl
  | cons i bs ih =>
    rw [List.foldl_cons]
    have : (let res := (Jac.zero : Jac F).double; if i then res.addMixed A else res) = Jac.zero := by
      simp only [Jac.double_zero h0]
      cases i
      · rfl
      · show Jac.addMixed Jac.zero A = Jac.zero
        unfold Jac.addMixed
        rw [if_pos hA]
    rw [this, ih]

omit [Neg F] in
/-- a record flagged `infinity` passes the model's subgroup check, whatever its coordinates -/
theorem Aff.inSubgroup_of_infinity (h0 : FieldOps.isZero (0 : F) = true) (b : F) (A : Aff F)
    (hA : A.infinity = true) : Aff.inSubgroup b A = true := by
  unfold Aff.inSubgroup Aff.inSubgroupAssumingOnCurve Aff.mul
  rw [Aff.mulBits_of_infinity h0 A hA]
  have h1 : Aff.isOnCurve b A = true := by unfold Aff.isOnCurve; rw [if_pos hA]
  rw [h1]
  show (true && FieldOps.isZero (0 : F)) = true
  rw [h0]; rfl

omit [Neg F] in
theorem Aff.isOnCurve_of_inSubgroup (b : F) (A : Aff F) (h : Aff.inSubgroup b A = true) :
    Aff.isOnCurve b A = true := by
  unfold Aff.inSubgroup at h
  rw [Bool.and_eq_true] at h; exact h.1

omit [Add F] [Sub F] [Neg F] in
/-- what `into_affine` returns is either `Aff.zero` or a finite record -/
theorem Jac.toAffine_infinity (P : Jac F) (A : Aff F) (h : P.toAffine = some A) (hi : A.infinity = true) :
    A = Aff.zero := by
  unfold Jac.toAffine at h
  split at h
  · cases h; rfl
  · split at h
    · cases h; cases hi
    · split at h
      · cases h
      · cases h; cases hi

end infinity

section curve
variable {F : Type} [Field F] [DecidableEq F] [FieldOps F] [LawfulFieldOps F]

theorem Aff.isOnCurve_iff_eq (b : F) (A : Aff F) :
    Aff.isOnCurve b A = true ↔ A.infinity = true ∨ A.y * A.y = A.x * A.x * A.x + b := by
  unfold Aff.isOnCurve
  cases h : A.infinity <;> simp [LawfulFieldOps.sq_eq]

theorem Aff.isOnCurve_finite (b x y : F) :
    Aff.isOnCurve b ⟨x, y, false⟩ = true ↔ y * y = x * x * x + b := by
  rw [Aff.isOnCurve_iff_eq]; simp

omit [LawfulFieldOps F] in
theorem Aff.isOnCurve_zero (b : F) : Aff.isOnCurve b (Aff.zero : Aff F) = true := rfl

theorem Aff.inSubgroup_zero (b : F) : Aff.inSubgroup b (Aff.zero : Aff F) = true :=
  Aff.inSubgroup_of_infinity ((LawfulFieldOps.isZero_iff 0).mpr rfl) b _ rfl

end curve

section sqrt
variable {F : Type} [Field F] [DecidableEq F] [FieldOps F] [LawfulFieldOps F] [SqrtOps F] [LawfulSqrtOps F]

open ZCash (Selected root?)

set_option linter.unusedSectionVars false in
theorem Selected_iff (s : Bool) (y : F) :
    Selected (SqrtOps.lt : F → F → Bool) s y ↔
      (s = true → SqrtOps.lt y (-y) = false) ∧ (s = false → SqrtOps.lt (-y) y = false) := by
  unfold Selected; cases s <;> simp

omit [DecidableEq F] [FieldOps F] [LawfulFieldOps F] in
/-- `Selected` in terms of the strict order: for `y ≠ −y`, the flag says whether `y` is the larger root -/
theorem selected_iff_of_ne (g : Bool) (y : F) (hy : -y ≠ y) :
    Selected (SqrtOps.lt : F → F → Bool) g y ↔ (SqrtOps.lt (-y) y = g) := by
  cases g
  · exact Iff.rfl
  · show SqrtOps.lt y (-y) = false ↔ _
    constructor
    · intro h
      rcases LawfulSqrtOps.lt_total (-y) y hy with ht | ht
      · exact ht
      · rw [h] at ht; cases ht
    · intro h; exact LawfulSqrtOps.lt_asymm _ _ h

omit [FieldOps F] [LawfulFieldOps F] in
theorem Selected_unique (s : Bool) (y y' : F) (h : y * y = y' * y')
    (hy : Selected (SqrtOps.lt : F → F → Bool) s y) (hy' : Selected (SqrtOps.lt : F → F → Bool) s y') : y = y' := by
  have h0 : (y - y') * (y + y') = 0 := by ring_nf; rw [show y ^ 2 = y * y by ring, h]; ring
  rcases mul_eq_zero.mp h0 with h1 | h1
  · exact sub_eq_zero.mp h1
  · have e : y' = -y := by rw [← sub_eq_zero]; rw [← h1]; ring
    by_contra hne
    subst e
    -- `y ≠ −y` and both are selected by `s`: `lt (−y) y = s = lt y (−y)`, against a strict total order
    have h1 := (selected_iff_of_ne s y (fun e => hne e.symm)).mp hy
    have h2 := (selected_iff_of_ne s (-y) (by rw [neg_neg]; exact hne)).mp hy'
    rw [neg_neg] at h2
    cases s
    · rcases LawfulSqrtOps.lt_total y (-y) hne with ht | ht
      · rw [h2] at ht; cases ht
      · rw [h1] at ht; cases ht
    · rw [LawfulSqrtOps.lt_asymm _ _ h1] at h2; cases h2

omit [FieldOps F] [LawfulFieldOps F] in
theorem root?_eq_some_iff (a : F) (s : Bool) (y : F) :
    root? (SqrtOps.lt : F → F → Bool) a s = some y ↔ y * y = a ∧ Selected (SqrtOps.lt : F → F → Bool) s y := by
  unfold root?
  split
  · next h =>
    have hc := Classical.choose_spec h
    rw [Option.some.injEq]
    constructor
    · intro e; rw [← e]; exact hc
    · intro ⟨h1, h2⟩
      exact Selected_unique s _ _ (hc.1.trans h1.symm) hc.2 h2
  · next h =>
    constructor
    · intro e; cases e
    · intro hy; exact absurd ⟨y, hy⟩ h

omit [DecidableEq F] [FieldOps F] [LawfulFieldOps F] in
theorem exists_selected (s : Bool) (y : F) :
    Selected (SqrtOps.lt : F → F → Bool) s y ∨ Selected (SqrtOps.lt : F → F → Bool) s (-y) := by
  cases h : (SqrtOps.lt y (-y) : Bool)
  · cases h' : (SqrtOps.lt (-y) y : Bool)
    · cases s
      · left; simp [Selected, h']
      · left; simp [Selected, h]
    · cases s
      · right; simp [Selected, h]
      · left; simp [Selected, h]
  · have := LawfulSqrtOps.lt_asymm _ _ h
    cases s
    · left; simp [Selected, this]
    · right; simp [Selected, this]

omit [DecidableEq F] [FieldOps F] [LawfulFieldOps F] in
theorem root?_eq_none_iff (a : F) (s : Bool) :
    root? (SqrtOps.lt : F → F → Bool) a s = none ↔ ¬ IsSquare a := by
  unfold root?
  split
  · next h =>
    obtain ⟨y, hy, _⟩ := h
    constructor
    · intro e; cases e
    · intro hn; exact absurd ⟨y, hy.symm⟩ hn
  · next h =>
    constructor
    · intro _ ⟨y, hy⟩
      rcases exists_selected s y with hs | hs
      · exact h ⟨y, hy.symm, hs⟩
      · exact h ⟨-y, by rw [hy]; ring, hs⟩
    · intro _; rfl

/-- what `get_point_from_x` returns: the root of `x³ + b` selected by `greatest` -/
theorem Aff.getPointFromX_eq (b x : F) (g : Bool) :
    Aff.getPointFromX b x g =
      (root? (SqrtOps.lt : F → F → Bool) (x * x * x + b) g).map (fun y => ⟨x, y, false⟩) := by
  unfold Aff.getPointFromX
  simp only [LawfulFieldOps.sq_eq]
  cases hs : (SqrtOps.sqrt (x * x * x + b) : Option F) with
  | none =>
    have := (root?_eq_none_iff (x * x * x + b) g).mpr (LawfulSqrtOps.sqrt_complete _ hs)
    rw [this]; rfl
  | some y0 =>
    have hy0 := LawfulSqrtOps.sqrt_sound _ _ hs
    simp only
    have key : root? (SqrtOps.lt : F → F → Bool) (x * x * x + b) g =
        some (if (SqrtOps.lt y0 (-y0) != g) = true then y0 else -y0) := by
      rw [root?_eq_some_iff]
      cases hlt : (SqrtOps.lt y0 (-y0) : Bool) <;> cases g <;> simp [Selected, hy0, hlt]
      · exact LawfulSqrtOps.lt_asymm _ _ hlt
      · exact LawfulSqrtOps.lt_asymm _ _ hlt
    rw [key]; rfl

theorem Aff.getPointFromX_eq_some_iff (b x : F) (g : Bool) (A : Aff F) :
    Aff.getPointFromX b x g = some A ↔
      ∃ y, y * y = x * x * x + b ∧ A = ⟨x, y, false⟩ ∧ Selected (SqrtOps.lt : F → F → Bool) g y := by
  rw [Aff.getPointFromX_eq]
  constructor
  · intro h
    cases hr : root? (SqrtOps.lt : F → F → Bool) (x * x * x + b) g with
    | none => rw [hr] at h; cases h
    | some y =>
      rw [hr] at h
      have := (root?_eq_some_iff _ _ _).mp hr
      exact ⟨y, this.1, (Option.some.inj h).symm, this.2⟩
  · rintro ⟨y, h1, rfl, h2⟩
    rw [(root?_eq_some_iff _ _ _).mpr ⟨h1, h2⟩]; rfl

theorem Aff.getPointFromX_eq_none_iff (b x : F) (g : Bool) :
    Aff.getPointFromX b x g = none ↔ ¬ IsSquare (x * x * x + b) := by
  rw [Aff.getPointFromX_eq, Option.map_eq_none_iff, root?_eq_none_iff]

end sqrt

open ZCash (Selected root?)

/-! ## consequences of codec lawfulness -/
namespace Codec.Lawful
variable {F : Type} {cc : Codec F} {C : Coord F} (L : cc.Lawful C)
include L

theorem size_pos : 0 < cc.size := L.size_eq ▸ L.coord.size_pos
theorem write_length (a : F) : (cc.write a).length = cc.size := by
  rw [L.write_eq, L.size_eq]; exact L.coord.bytes_length a
end Codec.Lawful

/-- the spec-level curve description read off a codec: `b`, the `Ord` of the coordinate field, and the
MODEL's subgroup test (whose meaning, `r • P = 0`, is C07's business) -/
abbrev Codec.curve {F : Type} [Add F] [Sub F] [Mul F] [Neg F] [Zero F] [One F] [FieldOps F] [DecidableEq F]
    [SqrtOps F] (cc : Codec F) (C : Coord F) : ZCash.Curve F :=
  ⟨C, cc.b, SqrtOps.lt, Aff.inSubgroup cc.b⟩

section
variable {F : Type} [Add F] [Sub F] [Mul F] [Neg F] [Zero F] [One F] [FieldOps F] [DecidableEq F]
    [SqrtOps F] (cc : Codec F) (C : Coord F)
@[simp] theorem Codec.curve_coord : (cc.curve C).coord = C := rfl
@[simp] theorem Codec.curve_b : (cc.curve C).b = cc.b := rfl
@[simp] theorem Codec.curve_lt : (cc.curve C).lt = SqrtOps.lt := rfl
@[simp] theorem Codec.curve_inSubgroup : (cc.curve C).inSubgroup = Aff.inSubgroup cc.b := rfl
end

theorem toByte_ftf : (Flags.toByte ⟨false, true, false⟩) = 0x40 := by decide
theorem toByte_ttf : (Flags.toByte ⟨true, true, false⟩) = 0xc0 := by decide
theorem toByte_fff : (Flags.toByte ⟨false, false, false⟩) = 0 := by decide
theorem toByte_tff : (Flags.toByte ⟨true, false, false⟩) = 0x80 := by decide
theorem toByte_tft : (Flags.toByte ⟨true, false, true⟩) = 0xa0 := by decide

theorem identityBytes_eq {F : Type} (C : Coord F) (form : Form) (n : Nat) (h : form.length C = n + 1) :
    ZCash.identityBytes C form = (if form.isCompressed then 0xc0 else 0x40) :: List.replicate n 0 := by
  unfold ZCash.identityBytes
  rw [h, List.replicate_succ]
  cases form
  · show (0 ||| Flags.toByte ⟨true, true, false⟩) :: _ = _
    rw [toByte_ttf]; rfl
  · show (0 ||| Flags.toByte ⟨false, true, false⟩) :: _ = _
    rw [toByte_ftf]; rfl

namespace ZCash.Coord.Lawful
variable {F : Type} {C : Coord F} (hC : C.Lawful)
include hC

theorem length_succ (form : Form) : ∃ n, form.length C = n + 1 := by
  have hp := hC.size_pos
  cases form
  · exact ⟨C.size - 1, by show C.size = _; omega⟩
  · exact ⟨2 * C.size - 1, by show 2 * C.size = _; omega⟩

theorem bytes_cons (a : F) : ∃ h t, C.bytes a = h :: t ∧ h &&& 0xe0 = 0 := by
  have hl := hC.bytes_length a
  have ht := hC.bytes_top a
  have hp := hC.size_pos
  cases hb : C.bytes a with
  | nil => rw [hb] at hl; exact absurd hl (by simp; omega)
  | cons h t => rw [hb] at ht; exact ⟨h, t, rfl, ht⟩

end ZCash.Coord.Lawful

/-! ## the decoders by themselves -/
section decoders
variable {F : Type} [Add F] [Sub F] [Mul F] [Neg F] [Zero F] [One F] [FieldOps F] [DecidableEq F] [SqrtOps F]
variable {cc : Codec F}

omit [Add F] [Sub F] [Mul F] [Neg F] [FieldOps F] [DecidableEq F] [SqrtOps F] in
/-- what each outcome of `into_affine_unchecked` (uncompressed) says about the input -/
theorem decodeUncompressedUnchecked_outcome (bs : Bytes) (res : Except DecodeErr (Aff F)) :
    decodeUncompressedUnchecked cc bs = res →
    match res with
    | .ok A =>
      bs.length = 2 * cc.size ∧ bs.headD 0 &&& 0x80 = 0 ∧
        ((bs.headD 0 &&& 0x40 ≠ 0 ∧ (maskFirst bs 0x3f).all (· == 0) = true ∧ A = Aff.zero) ∨
         (bs.headD 0 &&& 0x40 = 0 ∧ bs.headD 0 &&& 0x20 = 0 ∧ ∃ x y,
           cc.read "x" ((maskFirst bs 0x1f).take cc.size) = .ok x ∧
           cc.read "y" (((maskFirst bs 0x1f).drop cc.size).take cc.size) = .ok y ∧ A = ⟨x, y, false⟩))
    | .error e =>
      (bs.length ≠ 2 * cc.size ∧ e = .badLength) ∨
      (bs.length = 2 * cc.size ∧ (e = .compressionMode ∨ e = .unexpectedInfo ∨ ∃ s, e = .coord s)) := by
  rintro rfl
  unfold decodeUncompressedUnchecked
  by_cases hl : bs.length ≠ 2 * cc.size
  · rw [if_pos hl]; exact Or.inl ⟨hl, rfl⟩
  rw [if_neg hl]
  have hl := Decidable.not_not.mp hl
  dsimp only
  by_cases h7 : bs.headD 0 &&& 0x80 ≠ 0
  · rw [if_pos h7]; exact Or.inr ⟨hl, Or.inl rfl⟩
  rw [if_neg h7]
  by_cases h6 : bs.headD 0 &&& 0x40 ≠ 0
  · rw [if_pos h6]
    by_cases hz : (maskFirst bs 0x3f).all (· == 0) = true
    · rw [if_pos hz]; exact ⟨hl, Decidable.not_not.mp h7, Or.inl ⟨h6, hz, rfl⟩⟩
    · rw [if_neg hz]; exact Or.inr ⟨hl, Or.inr (Or.inl rfl)⟩
  rw [if_neg h6]
  by_cases h5 : bs.headD 0 &&& 0x20 ≠ 0
  · rw [if_pos h5]; exact Or.inr ⟨hl, Or.inr (Or.inl rfl)⟩
  rw [if_neg h5]
  cases hx : cc.read "x" ((maskFirst bs 0x1f).take cc.size) with
  | error s => exact Or.inr ⟨hl, Or.inr (Or.inr ⟨s, rfl⟩)⟩
  | ok x =>
    cases hy : cc.read "y" (((maskFirst bs 0x1f).drop cc.size).take cc.size) with
    | error s => exact Or.inr ⟨hl, Or.inr (Or.inr ⟨s, rfl⟩)⟩
    | ok y =>
      exact ⟨hl, Decidable.not_not.mp h7,
        Or.inr ⟨Decidable.not_not.mp h6, Decidable.not_not.mp h5, x, y, rfl, rfl, rfl⟩⟩

omit [Sub F] [DecidableEq F] in
/-- what each outcome of `into_affine_unchecked` (compressed) says about the input -/
theorem decodeCompressedUnchecked_outcome (bs : Bytes) (res : Except DecodeErr (Aff F)) :
    decodeCompressedUnchecked cc bs = res →
    match res with
    | .ok A =>
      bs.length = cc.size ∧ bs.headD 0 &&& 0x80 ≠ 0 ∧
        ((bs.headD 0 &&& 0x40 ≠ 0 ∧ (maskFirst bs 0x3f).all (· == 0) = true ∧ A = Aff.zero) ∨
         (bs.headD 0 &&& 0x40 = 0 ∧ ∃ x, cc.read "x" (maskFirst bs 0x1f) = .ok x ∧
           Aff.getPointFromX cc.b x (decide (bs.headD 0 &&& 0x20 ≠ 0)) = some A))
    | .error e =>
      (bs.length ≠ cc.size ∧ e = .badLength) ∨
      (bs.length = cc.size ∧
        (e = .compressionMode ∨ e = .unexpectedInfo ∨ (∃ s, e = .coord s) ∨ e = .notOnCurve)) := by
  rintro rfl
  unfold decodeCompressedUnchecked
  by_cases hl : bs.length ≠ cc.size
  · rw [if_pos hl]; exact Or.inl ⟨hl, rfl⟩
  rw [if_neg hl]
  have hl := Decidable.not_not.mp hl
  dsimp only
  by_cases h7 : bs.headD 0 &&& 0x80 = 0
  · rw [if_pos h7]; exact Or.inr ⟨hl, Or.inl rfl⟩
  rw [if_neg h7]
  by_cases h6 : bs.headD 0 &&& 0x40 ≠ 0
  · rw [if_pos h6]
    by_cases hz : (maskFirst bs 0x3f).all (· == 0) = true
    · rw [if_pos hz]; exact ⟨hl, h7, Or.inl ⟨h6, hz, rfl⟩⟩
    · rw [if_neg hz]; exact Or.inr ⟨hl, Or.inr (Or.inl rfl)⟩
  rw [if_neg h6]
  cases hx : cc.read "x" (maskFirst bs 0x1f) with
  | error s => exact Or.inr ⟨hl, Or.inr (Or.inr (Or.inl ⟨s, rfl⟩))⟩
  | ok x =>
    dsimp only
    cases hg : Aff.getPointFromX cc.b x (decide (bs.headD 0 &&& 0x20 ≠ 0)) with
    | none => exact Or.inr ⟨hl, Or.inr (Or.inr (Or.inr rfl))⟩
    | some a => exact ⟨hl, h7, Or.inr ⟨Decidable.not_not.mp h6, x, rfl, hg⟩⟩

omit [Add F] [Sub F] [Mul F] [Neg F] [FieldOps F] [DecidableEq F] [SqrtOps F] in
theorem decodeUncompressedUnchecked_length (bs : Bytes) (A : Aff F)
    (h : decodeUncompressedUnchecked cc bs = .ok A) : bs.length = 2 * cc.size :=
  (decodeUncompressedUnchecked_outcome bs _ h).1

omit [Sub F] [DecidableEq F] in
theorem decodeCompressedUnchecked_length (bs : Bytes) (A : Aff F)
    (h : decodeCompressedUnchecked cc bs = .ok A) : bs.length = cc.size :=
  (decodeCompressedUnchecked_outcome bs _ h).1

omit [Add F] [Sub F] [Mul F] [Neg F] [FieldOps F] [DecidableEq F] [SqrtOps F] in
theorem decodeUncompressedUnchecked_flag (bs : Bytes) (A : Aff F)
    (h : decodeUncompressedUnchecked cc bs = .ok A) : bs.headD 0 &&& 0x80 = 0 :=
  (decodeUncompressedUnchecked_outcome bs _ h).2.1

omit [Sub F] [DecidableEq F] in
theorem decodeCompressedUnchecked_flag (bs : Bytes) (A : Aff F)
    (h : decodeCompressedUnchecked cc bs = .ok A) : bs.headD 0 &&& 0x80 ≠ 0 :=
  (decodeCompressedUnchecked_outcome bs _ h).2.1

/-! ### the checked decoders: the unchecked ones followed by the curve and subgroup tests -/

omit [Neg F] [SqrtOps F] in
theorem decodeUncompressed_ok_iff_unchecked (bs : Bytes) (A : Aff F) :
    decodeUncompressed cc bs = .ok A ↔
      decodeUncompressedUnchecked cc bs = .ok A ∧ Aff.isOnCurve cc.b A = true ∧ Aff.inSubgroup cc.b A = true := by
  unfold decodeUncompressed
  cases decodeUncompressedUnchecked cc bs with
  | error e => exact ⟨nofun, fun h => nomatch h.1⟩
  | ok a =>
    dsimp only
    cases h1 : Aff.isOnCurve cc.b a
    · exact ⟨nofun, fun ⟨e, hc, _⟩ => by cases e; rw [h1] at hc; cases hc⟩
    cases h2 : Aff.inSubgroup cc.b a
    · exact ⟨nofun, fun ⟨e, _, hs⟩ => by cases e; rw [h2] at hs; cases hs⟩
    · exact ⟨fun e => by cases e; exact ⟨rfl, h1, h2⟩, fun h => h.1⟩

theorem decodeCompressed_ok_iff_unchecked (bs : Bytes) (A : Aff F) :
    decodeCompressed cc bs = .ok A ↔
      decodeCompressedUnchecked cc bs = .ok A ∧ Aff.inSubgroup cc.b A = true := by
  unfold decodeCompressed
  cases decodeCompressedUnchecked cc bs with
  | error e => exact ⟨nofun, fun h => nomatch h.1⟩
  | ok a =>
    dsimp only
    cases h2 : Aff.inSubgroup cc.b a
    · exact ⟨nofun, fun ⟨e, hs⟩ => by cases e; rw [h2] at hs; cases hs⟩
    · exact ⟨fun e => by cases e; exact ⟨rfl, h2⟩, fun h => h.1⟩

end decoders

/-! ## the format at spec level -/
section specrel
variable {F : Type} [Add F] [Mul F] [Neg F] [Zero F] [One F] [DecidableEq F]

/-- C04, last sentence, at spec level: the checked validation is the unchecked one followed by the
curve-equation test (uncompressed form only) and the subgroup test, on finite points. -/
theorem validate_checked_eq (K : ZCash.Curve F) (form : Form) (bs : Bytes) :
    ZCash.validate K form true bs =
      match ZCash.validate K form false bs with
      | .error e => .error e
      | .ok A =>
        if A.infinity = true then .ok A
        else if form = .uncompressed ∧ A.y * A.y ≠ A.x * A.x * A.x + K.b then .error .notOnCurve
        else if K.inSubgroup A = false then .error .notInSubgroup
        else .ok A := by
  -- both sides run through the same tests in the same order; they differ at the two accepting leaves
  unfold ZCash.validate
  dsimp only
  by_cases h1 : (ZCash.flags bs).c ≠ form.isCompressed
  · rw [if_pos h1, if_pos h1]
  rw [if_neg h1, if_neg h1]
  by_cases hi : (ZCash.flags bs).i = true
  · rw [if_pos hi, if_pos hi]
    by_cases hb : bs = ZCash.identityBytes K.coord form
    · rw [if_pos hb]; rfl
    · rw [if_neg hb]
  rw [if_neg hi, if_neg hi]
  by_cases hs : form = .uncompressed ∧ (ZCash.flags bs).s = true
  · rw [if_pos hs, if_pos hs]
  rw [if_neg hs, if_neg hs]
  cases K.coord.rangeFailure "x" ((ZCash.clearFlags bs).take K.coord.size) with
  | some e => rfl
  | none =>
    cases form with
    | uncompressed =>
      dsimp only
      cases K.coord.rangeFailure "y" ((ZCash.clearFlags bs).drop K.coord.size) with
      | some e => rfl
      | none => simp only [true_and, Bool.false_eq_true, false_and, if_false, ne_eq]
    | compressed =>
      dsimp only
      cases ZCash.root? K.lt _ (ZCash.flags bs).s with
      | none => rfl
      | some y => simp only [true_and, Bool.false_eq_true, false_and, if_false, reduceCtorEq]

/-- C04, acceptance spelled out (uncompressed): flags consistent with the form, both coordinates reduced,
and the result is exactly that point; the checked variant adds the curve equation and the subgroup -/
theorem validate_uncompressed_ok_iff (K : ZCash.Curve F) (checked : Bool) (bs : Bytes) (A : Aff F) :
    ZCash.validate K .uncompressed checked bs = .ok A ↔
      (ZCash.flags bs).c = false ∧
      (((ZCash.flags bs).i = true ∧ bs = ZCash.identityBytes K.coord .uncompressed ∧ A = ⟨0, 1, true⟩) ∨
       ((ZCash.flags bs).i = false ∧ (ZCash.flags bs).s = false ∧
         K.coord.rangeFailure "x" ((ZCash.clearFlags bs).take K.coord.size) = none ∧
         K.coord.rangeFailure "y" ((ZCash.clearFlags bs).drop K.coord.size) = none ∧
         A = ⟨K.coord.value ((ZCash.clearFlags bs).take K.coord.size),
              K.coord.value ((ZCash.clearFlags bs).drop K.coord.size), false⟩ ∧
         (checked = true → A.y * A.y = A.x * A.x * A.x + K.b ∧ K.inSubgroup A = true))) := by
  unfold ZCash.validate
  simp only [Form.isCompressed, true_and]
  cases hc : (ZCash.flags bs).c
  · cases hi : (ZCash.flags bs).i
    · cases hs : (ZCash.flags bs).s
      · simp only [ne_eq, not_true_eq_false, if_false, Bool.false_eq_true, false_and, false_or,
          true_and]
        cases hx : K.coord.rangeFailure "x" ((ZCash.clearFlags bs).take K.coord.size) with
        | some e => simp
        | none =>
          simp only
          cases hy : K.coord.rangeFailure "y" ((ZCash.clearFlags bs).drop K.coord.size) with
          | some e => simp
          | none =>
            simp only [true_and]
            cases checked
            · simp only [Bool.false_eq_true, false_and, if_false, false_implies, and_true, Except.ok.injEq]
              exact eq_comm
            split
            · next h => simp; intro hA; subst hA; exact fun h' => absurd h' h.2
            · next h =>
              split
              · next h' => simp; intro hA; subst hA; intro _; simp [h'.2]
              · next h' =>
                simp only [Except.ok.injEq]
                constructor
                · intro hA; subst hA
                  exact ⟨rfl, fun _ => ⟨by simpa using h, by simpa using h'⟩⟩
                · intro hA; exact hA.1.symm
      · simp
    · simp only [ne_eq, not_true_eq_false, if_false, if_true, Bool.true_eq_false, false_and, or_false,
        true_and]
      split
      · next h => simp [h, eq_comm]
      · next h => simp [h]
  · simp

end specrel

theorem flags_eq_mk {f : Flags} {c i s : Bool} (hc : f.c = c) (hi : f.i = i) (hs : f.s = s) : f = ⟨c, i, s⟩ := by
  subst hc hi hs; rfl

/-! ### the format, read back from the spec (flags in the top three bits, coordinates untouched) -/
section readback
variable {F : Type} [Neg F]

/-- the flags of an encoding are `c` = form, `i` = infinity, `s` = (compressed, finite, `−y < y`) -/
theorem flags_encode (K : ZCash.Curve F) (hK : K.coord.Lawful) (form : Form) (A : Aff F) :
    ZCash.flags (ZCash.encode K form A) =
      ⟨form.isCompressed, A.infinity, form.isCompressed && !A.infinity && K.lt (-A.y) A.y⟩ := by
  unfold ZCash.encode
  cases A.infinity
  · obtain ⟨h, t, hx, htop⟩ := hK.bytes_cons A.x
    rw [if_neg Bool.false_ne_true, hx]
    cases form
    · exact flags_setFlags _ h t htop
    · exact flags_setFlags _ h _ htop
  · obtain ⟨n, hn⟩ := hK.length_succ form
    rw [if_pos rfl, ZCash.identityBytes, hn, List.replicate_succ, flags_setFlags _ _ _ (by decide)]
    cases form <;> rfl

theorem clearFlags_encode (K : ZCash.Curve F) (hK : K.coord.Lawful) (form : Form) (A : Aff F)
    (hf : A.infinity = false) :
    ZCash.clearFlags (ZCash.encode K form A) =
      match form with
      | .compressed => K.coord.bytes A.x
      | .uncompressed => K.coord.bytes A.x ++ K.coord.bytes A.y := by
  obtain ⟨h, t, hx, htop⟩ := hK.bytes_cons A.x
  unfold ZCash.encode
  rw [hf, if_neg Bool.false_ne_true, hx]
  cases form
  · exact clearFlags_setFlags _ h t htop
  · exact clearFlags_setFlags _ h _ htop

end readback

section accepted
variable {F : Type} [Add F] [Mul F] [Neg F] [Zero F] [One F] [DecidableEq F]

theorem validate_encode_uncompressed (K : ZCash.Curve F) (hK : K.coord.Lawful) (A : Aff F)
    (hinf : A.infinity = true → A = Aff.zero) :
    ZCash.validate K .uncompressed false (ZCash.encode K .uncompressed A) = .ok A := by
  rw [validate_uncompressed_ok_iff, flags_encode K hK]
  refine ⟨rfl, ?_⟩
  cases hi : A.infinity
  · right
    have hx := hK.bytes_length A.x
    rw [clearFlags_encode K hK _ A hi]
    dsimp only
    rw [List.take_left' hx, List.drop_left' hx, hK.range_bytes, hK.range_bytes, hK.value_bytes,
      hK.value_bytes]
    exact ⟨rfl, rfl, rfl, rfl, by cases A; cases hi; rfl, nofun⟩
  · left
    exact ⟨rfl, by unfold ZCash.encode; rw [if_pos hi], hinf hi⟩

/-- an accepted uncompressed string is the encoding of its point: it is `setFlags (flags bs) (clearFlags bs)`,
and coordinates in range are canonical -/
theorem encode_of_validate_uncompressed (K : ZCash.Curve F) (hK : K.coord.Lawful) (bs : Bytes)
    (hl : bs.length = 2 * K.coord.size) (A : Aff F)
    (h : ZCash.validate K .uncompressed false bs = .ok A) : ZCash.encode K .uncompressed A = bs := by
  obtain ⟨hc, ⟨_, hb, rfl⟩ | ⟨hi, hs, hx, hy, rfl, _⟩⟩ := (validate_uncompressed_ok_iff K false bs A).mp h
  · unfold ZCash.encode
    rw [if_pos rfl]; exact hb.symm
  · have hlc : (ZCash.clearFlags bs).length = 2 * K.coord.size := by
      rw [clearFlags_eq, maskFirst_length, hl]
    unfold ZCash.encode
    rw [if_neg Bool.false_ne_true]
    dsimp only
    rw [hK.bytes_value "x" _ (by rw [List.length_take, hlc]; omega) hx,
      hK.bytes_value "y" _ (by rw [List.length_drop, hlc]; omega) hy, List.take_append_drop,
      ← flags_eq_mk hc hi hs]
    exact setFlags_flags_clearFlags bs

end accepted

/-! ## the model decoders are the ordered validation -/
section decode
variable {F : Type} [Field F] [DecidableEq F] [FieldOps F] [LawfulFieldOps F] [SqrtOps F] [LawfulSqrtOps F]
variable {cc : Codec F} {C : Coord F}

omit [LawfulFieldOps F] [LawfulSqrtOps F] in
/-- C04 (uncompressed, unchecked): the model decoder IS the ordered validation of the spec -/
theorem decodeUncompressedUnchecked_eq (L : cc.Lawful C) (bs : Bytes) (hl : bs.length = 2 * cc.size) :
    decodeUncompressedUnchecked cc bs = ZCash.validate (cc.curve C) .uncompressed false bs := by
  have hp := L.size_pos
  cases bs with
  | nil => simp at hl; omega
  | cons b0 r =>
  have hr : r.length + 1 = 2 * cc.size := by simpa using hl
  have hlen : Form.length C .uncompressed = r.length + 1 := by
    show 2 * C.size = _; rw [← L.size_eq]; omega
  unfold decodeUncompressedUnchecked ZCash.validate
  rw [if_neg (not_not.mpr hl)]
  -- Four facts carry the model's tests over to the spec's: `flags_cons` (mask tests are the spec's flag
  -- bits), `clearFlags_eq` (`clearFlags` is `maskFirst · 0x1f`), `identity_test` with `identityBytes_eq`
  -- (all-zero after masking `c`, `i` is equality with the identity string) and `L.read_eq` (the codec's
  -- read is the range check followed by `value`).  The rest is a case split on the three flag bits.
  simp only [List.headD_cons, flags_cons, Form.isCompressed, identityBytes_eq C _ _ hlen, clearFlags_eq]
  by_cases h7 : b0 &&& 0x80 = 0
  · simp only [h7, ne_eq, not_true_eq_false, decide_false, if_false, Bool.false_eq_true]
    by_cases h6 : b0 &&& 0x40 = 0
    · simp only [h6, not_true_eq_false, decide_false, if_false, Bool.false_eq_true, true_and]
      by_cases h5 : b0 &&& 0x20 = 0
      · simp only [h5, not_true_eq_false, decide_false, if_false, Bool.false_eq_true]
        have hc : (maskFirst (b0 :: r) 0x1f).length = 2 * cc.size := by rw [maskFirst_length]; exact hl
        have hx : ((maskFirst (b0 :: r) 0x1f).take cc.size).length = cc.size := by
          rw [List.length_take, hc]; omega
        have hyl : ((maskFirst (b0 :: r) 0x1f).drop cc.size).length = cc.size := by
          rw [List.length_drop, hc]; omega
        have hy : ((maskFirst (b0 :: r) 0x1f).drop cc.size).take cc.size = (maskFirst (b0 :: r) 0x1f).drop cc.size :=
          List.take_of_length_le (by omega)
        rw [hy, L.read_eq "x" _ hx, L.read_eq "y" _ hyl, ← L.size_eq]
        cases C.rangeFailure "x" ((maskFirst (b0 :: r) 0x1f).take cc.size) with
        | some e => rfl
        | none =>
          simp only
          cases C.rangeFailure "y" ((maskFirst (b0 :: r) 0x1f).drop cc.size) with
          | some e => rfl
          | none => simp
      · simp [h5]
    · have hid := identity_test b0 r h6
      rw [if_pos h7] at hid
      simp only [h6, not_false_eq_true, decide_true, if_true]
      by_cases hz : (maskFirst (b0 :: r) 0x3f).all (· == 0) = true
      · rw [if_pos hz, if_pos (hid.mp hz)]; rfl
      · rw [if_neg hz, if_neg (fun h => hz (hid.mpr h))]
  · simp [h7]

omit [SqrtOps F] [LawfulSqrtOps F] in
/-- the model's post-checks of `into_affine` (uncompressed) in spec terms.  The right-hand side is that of
`validate_checked_eq` at `form := .uncompressed`, which is why its first conjunct is a decided equation;
`postcheck_c` is the same at `.compressed`. -/
theorem postcheck_u (b : F) (a : Aff F) :
    (if (!a.isOnCurve b) = true then Except.error DecodeErr.notOnCurve
      else if (!a.inSubgroup b) = true then Except.error DecodeErr.notInSubgroup else Except.ok a) =
    (if a.infinity = true then Except.ok a
      else if Form.uncompressed = Form.uncompressed ∧ a.y * a.y ≠ a.x * a.x * a.x + b then .error .notOnCurve
      else if Aff.inSubgroup b a = false then .error .notInSubgroup else .ok a) := by
  by_cases hi : a.infinity = true
  · rw [if_pos hi]
    have h1 : Aff.isOnCurve b a = true := by unfold Aff.isOnCurve; rw [if_pos hi]
    rw [h1, Aff.inSubgroup_of_infinity ((LawfulFieldOps.isZero_iff 0).mpr rfl) b a hi]; rfl
  · rw [if_neg hi]
    have hiff := Aff.isOnCurve_iff_eq b a
    have hf : a.infinity = false := by simpa using hi
    rw [hf] at hiff
    simp only [Bool.false_eq_true, false_or] at hiff
    by_cases hc : a.y * a.y = a.x * a.x * a.x + b
    · rw [hiff.mpr hc]
      simp only [Bool.not_true, Bool.false_eq_true, if_false, hc, ne_eq, not_true_eq_false, and_false]
      cases Aff.inSubgroup b a <;> rfl
    · have : Aff.isOnCurve b a = false := by
        cases h : Aff.isOnCurve b a
        · rfl
        · exact absurd (hiff.mp h) hc
      rw [this]; simp [hc]

omit [LawfulSqrtOps F] in
/-- C04 (uncompressed, checked) -/
theorem decodeUncompressed_eq (L : cc.Lawful C) (bs : Bytes) (hl : bs.length = 2 * cc.size) :
    decodeUncompressed cc bs = ZCash.validate (cc.curve C) .uncompressed true bs := by
  rw [validate_checked_eq, ← decodeUncompressedUnchecked_eq L bs hl]
  unfold decodeUncompressed
  cases decodeUncompressedUnchecked cc bs with
  | error e => rfl
  | ok a => exact postcheck_u cc.b a

/-- C04 (compressed, unchecked) -/
theorem decodeCompressedUnchecked_eq (L : cc.Lawful C) (bs : Bytes) (hl : bs.length = cc.size) :
    decodeCompressedUnchecked cc bs = ZCash.validate (cc.curve C) .compressed false bs := by
  have hp := L.size_pos
  cases bs with
  | nil => simp at hl; omega
  | cons b0 r =>
  have hr : r.length + 1 = cc.size := by simpa using hl
  have hlen : Form.length C .compressed = r.length + 1 := by
    show C.size = _; rw [← L.size_eq]; omega
  unfold decodeCompressedUnchecked ZCash.validate
  rw [if_neg (not_not.mpr hl)]
  -- as in `decodeUncompressedUnchecked_eq`, with `Aff.getPointFromX_eq` for the square-root step
  simp only [List.headD_cons, flags_cons, Form.isCompressed, identityBytes_eq C _ _ hlen, clearFlags_eq]
  by_cases h7 : b0 &&& 0x80 = 0
  · simp [h7]
  · simp only [h7, ne_eq, not_false_eq_true, decide_true, not_true_eq_false, if_false]
    by_cases h6 : b0 &&& 0x40 = 0
    · simp only [h6, not_true_eq_false, decide_false, if_false, Bool.false_eq_true, reduceCtorEq, false_and]
      have hc : (maskFirst (b0 :: r) 0x1f).length = cc.size := by rw [maskFirst_length]; exact hl
      have ht : (maskFirst (b0 :: r) 0x1f).take C.size = maskFirst (b0 :: r) 0x1f :=
        List.take_of_length_le (by rw [hc, L.size_eq])
      rw [ht, L.read_eq "x" _ hc]
      cases C.rangeFailure "x" (maskFirst (b0 :: r) 0x1f) with
      | some e => rfl
      | none =>
        simp only [Aff.getPointFromX_eq]
        by_cases h5 : b0 &&& 0x20 = 0
        · simp only [h5, not_true_eq_false, decide_false]
          cases root? (SqrtOps.lt : F → F → Bool) _ false with
          | none => rfl
          | some y => simp
        · simp only [h5, not_false_eq_true, decide_true]
          cases root? (SqrtOps.lt : F → F → Bool) _ true with
          | none => rfl
          | some y => simp
    · have hid := identity_test b0 r h6
      rw [if_neg h7] at hid
      simp only [h6, not_false_eq_true, decide_true, if_true]
      by_cases hz : (maskFirst (b0 :: r) 0x3f).all (· == 0) = true
      · rw [if_pos hz, if_pos (hid.mp hz)]; rfl
      · rw [if_neg hz, if_neg (fun h => hz (hid.mpr h))]

omit [SqrtOps F] [LawfulSqrtOps F] in
theorem postcheck_c (b : F) (a : Aff F) :
    (if (!a.inSubgroup b) = true then Except.error DecodeErr.notInSubgroup else Except.ok a) =
    (if a.infinity = true then Except.ok a
      else if Form.compressed = Form.uncompressed ∧ a.y * a.y ≠ a.x * a.x * a.x + b then .error .notOnCurve
      else if Aff.inSubgroup b a = false then .error .notInSubgroup else .ok a) := by
  by_cases hi : a.infinity = true
  · rw [if_pos hi, Aff.inSubgroup_of_infinity ((LawfulFieldOps.isZero_iff 0).mpr rfl) b a hi]; rfl
  · rw [if_neg hi]
    simp only [reduceCtorEq, false_and, if_false]
    cases Aff.inSubgroup b a <;> rfl

/-- C04 (compressed, checked) -/
theorem decodeCompressed_eq (L : cc.Lawful C) (bs : Bytes) (hl : bs.length = cc.size) :
    decodeCompressed cc bs = ZCash.validate (cc.curve C) .compressed true bs := by
  rw [validate_checked_eq, ← decodeCompressedUnchecked_eq L bs hl]
  unfold decodeCompressed
  cases decodeCompressedUnchecked cc bs with
  | error e => rfl
  | ok a => exact postcheck_c cc.b a

theorem decodeCompressedUnchecked_onCurve (bs : Bytes) (A : Aff F)
    (h : decodeCompressedUnchecked cc bs = .ok A) : Aff.isOnCurve cc.b A = true := by
  obtain ⟨_, _, ⟨_, _, rfl⟩ | ⟨_, x, _, hg⟩⟩ := decodeCompressedUnchecked_outcome bs _ h
  · rfl
  · obtain ⟨y, hy, rfl, _⟩ := (Aff.getPointFromX_eq_some_iff _ _ _ _).mp hg
    exact (Aff.isOnCurve_finite _ _ _).mpr hy

/-! ### the compressed form at spec level (`root?` is characterised through the field's lawful `sqrt`) -/

omit [LawfulFieldOps F] in
/-- C04, acceptance spelled out (compressed): flags consistent, `x` reduced, `x³ + b` has a square root,
`y` is the root selected by the sort flag; the checked variant adds the subgroup -/
theorem validate_compressed_ok_iff (cc : Codec F) (C : Coord F) (checked : Bool) (bs : Bytes) (A : Aff F) :
    ZCash.validate (cc.curve C) .compressed checked bs = .ok A ↔
      (ZCash.flags bs).c = true ∧
      (((ZCash.flags bs).i = true ∧ bs = ZCash.identityBytes C .compressed ∧ A = ⟨0, 1, true⟩) ∨
       ((ZCash.flags bs).i = false ∧
         C.rangeFailure "x" ((ZCash.clearFlags bs).take C.size) = none ∧
         ∃ y : F, y * y = A.x * A.x * A.x + cc.b ∧
           Selected (SqrtOps.lt : F → F → Bool) (ZCash.flags bs).s y ∧
           A = ⟨C.value ((ZCash.clearFlags bs).take C.size), y, false⟩ ∧
           (checked = true → Aff.inSubgroup cc.b A = true))) := by
  unfold ZCash.validate
  simp only [Form.isCompressed]
  cases hc : (ZCash.flags bs).c
  · simp
  · cases hi : (ZCash.flags bs).i
    · simp only [ne_eq, not_true_eq_false, if_false, Bool.false_eq_true, reduceCtorEq, false_and, false_or,
        true_and]
      cases hx : C.rangeFailure "x" ((ZCash.clearFlags bs).take C.size) with
      | some e => simp
      | none =>
        simp only [true_and]
        cases hr : root? (SqrtOps.lt : F → F → Bool) _ (ZCash.flags bs).s with
        | none =>
          simp only [false_iff, reduceCtorEq]
          rintro ⟨y, h1, h2, hA, _⟩
          subst hA
          have := (root?_eq_some_iff _ _ _).mpr ⟨h1, h2⟩
          rw [hr] at this; cases this
        | some y0 =>
          have ⟨h1, h2⟩ := (root?_eq_some_iff _ _ _).mp hr
          simp only
          -- `y0` is THE selected root, so any witness on the right is `y0`
          by_cases hsub : checked = true ∧ Aff.inSubgroup cc.b ⟨C.value ((ZCash.clearFlags bs).take C.size), y0, false⟩ = false
          · rw [if_pos hsub]
            simp only [false_iff, reduceCtorEq]
            rintro ⟨y, h3, h4, hA, h5⟩
            subst hA
            have := Selected_unique _ _ _ (h1.trans h3.symm) h2 h4
            subst this
            rw [h5 hsub.1] at hsub; cases hsub.2
          · rw [if_neg hsub]
            simp only [Except.ok.injEq]
            constructor
            · intro hA; subst hA
              refine ⟨y0, h1, h2, rfl, fun hck => ?_⟩
              cases hsg : Aff.inSubgroup cc.b ⟨C.value ((ZCash.clearFlags bs).take C.size), y0, false⟩
              · exact absurd ⟨hck, hsg⟩ hsub
              · rfl
            · rintro ⟨y, h3, h4, hA, _⟩
              subst hA
              have := Selected_unique _ _ _ (h1.trans h3.symm) h2 h4
              subst this; rfl
    · simp only [ne_eq, not_true_eq_false, if_false, if_true, Bool.true_eq_false, false_and, or_false,
        true_and]
      by_cases h : bs = ZCash.identityBytes C Form.compressed
      · rw [if_pos h]; simp [h, eq_comm]
      · rw [if_neg h]; simp [h]

/-- validating the compressed encoding of a point of the curve gives the point back (`y` is recomputed) -/
theorem validate_encode_compressed (cc : Codec F) (C : Coord F) (hC : C.Lawful) (A : Aff F)
    (hinf : A.infinity = true → A = Aff.zero) (hc : Aff.isOnCurve cc.b A = true) :
    ZCash.validate (cc.curve C) .compressed false (ZCash.encode (cc.curve C) .compressed A) = .ok A := by
  rw [validate_compressed_ok_iff, flags_encode (cc.curve C) hC]
  refine ⟨rfl, ?_⟩
  cases hi : A.infinity
  · right
    have hcurve : A.y * A.y = A.x * A.x * A.x + cc.b := by
      have := (Aff.isOnCurve_iff_eq cc.b A).mp hc
      rw [hi] at this; simpa using this
    rw [clearFlags_encode (cc.curve C) hC _ A hi]
    dsimp only [Codec.curve_coord]
    rw [List.take_of_length_le (le_of_eq (hC.bytes_length A.x)), hC.range_bytes, hC.value_bytes]
    refine ⟨rfl, rfl, A.y, hcurve, ?_, by cases A; cases hi; rfl, nofun⟩
    show Selected SqrtOps.lt (SqrtOps.lt (-A.y) A.y) A.y
    cases hlt : (SqrtOps.lt (-A.y) A.y : Bool)
    · exact hlt
    · exact LawfulSqrtOps.lt_asymm _ _ hlt
  · left
    exact ⟨rfl, by unfold ZCash.encode; rw [if_pos hi], hinf hi⟩

omit [LawfulFieldOps F] in
/-- an accepted compressed string is the encoding of its point, provided the sort flag was looked at
(`y ≠ −y`): it is `setFlags (flags bs) (clearFlags bs)`, and an `x` in range is canonical -/
theorem encode_of_validate_compressed (cc : Codec F) (C : Coord F) (hC : C.Lawful) (bs : Bytes)
    (hl : bs.length = C.size) (A : Aff F)
    (h : ZCash.validate (cc.curve C) .compressed false bs = .ok A) (hy : A.infinity = false → -A.y ≠ A.y) :
    ZCash.encode (cc.curve C) .compressed A = bs := by
  obtain ⟨hc, ⟨_, hb, rfl⟩ | ⟨hi, hx, y, _, hsel, rfl, _⟩⟩ := (validate_compressed_ok_iff cc C false bs A).mp h
  · unfold ZCash.encode
    rw [if_pos rfl]; exact hb.symm
  · have hlc : (ZCash.clearFlags bs).length = C.size := by rw [clearFlags_eq, maskFirst_length, hl]
    rw [List.take_of_length_le (le_of_eq hlc)] at hx ⊢
    unfold ZCash.encode
    rw [if_neg Bool.false_ne_true]
    dsimp only [Codec.curve_coord, Codec.curve_lt]
    rw [hC.bytes_value "x" _ hlc hx, (selected_iff_of_ne _ y (hy rfl)).mp hsel, ← flags_eq_mk hc hi rfl]
    exact setFlags_flags_clearFlags bs

end decode

/-! ## encoders -/

section encode
variable {F : Type} [Field F] [DecidableEq F] [FieldOps F] [LawfulFieldOps F] [SqrtOps F] [LawfulSqrtOps F]
variable {cc : Codec F} {C : Coord F}

omit [LawfulFieldOps F] [LawfulSqrtOps F] in
/-- C05: the uncompressed encoder produces the ZCash bytes, for every affine record -/
theorem encodeUncompressed_eq (L : cc.Lawful C) (A : Aff F) :
    encodeUncompressed cc A = ZCash.encode (cc.curve C) .uncompressed A := by
  unfold encodeUncompressed ZCash.encode ZCash.identityBytes
  simp only [setFlags_eq_orFirst, toByte_ftf, toByte_fff, orFirst_zero, L.write_eq,
    Form.isCompressed, Form.length, L.size_eq]

omit [LawfulFieldOps F] [LawfulSqrtOps F] in
/-- C05: the compressed encoder produces the ZCash bytes, for every affine record -/
theorem encodeCompressed_eq (L : cc.Lawful C) (A : Aff F) :
    encodeCompressed cc A = ZCash.encode (cc.curve C) .compressed A := by
  unfold encodeCompressed ZCash.encode ZCash.identityBytes
  simp only [setFlags_eq_orFirst, L.write_eq, Form.isCompressed,
    Form.length, L.size_eq]
  cases A.infinity
  · simp only [Bool.false_eq_true, if_false]
    cases (SqrtOps.lt (-A.y) A.y : Bool)
    · simp only [Bool.false_eq_true, if_false, toByte_tff]
    · simp only [if_true, toByte_tft, orFirst_orFirst]; rfl
  · simp only [if_true, toByte_ttf, orFirst_orFirst]; rfl

omit [Field F] [DecidableEq F] [FieldOps F] [LawfulFieldOps F] [SqrtOps F] [LawfulSqrtOps F] in
theorem encodeUncompressed_length (L : cc.Lawful C) (A : Aff F) :
    (encodeUncompressed cc A).length = 2 * cc.size := by
  unfold encodeUncompressed
  split
  · simp
  · rw [List.length_append, L.write_length, L.write_length]; omega

omit [DecidableEq F] [FieldOps F] [LawfulFieldOps F] [LawfulSqrtOps F] in
theorem encodeCompressed_length (L : cc.Lawful C) (A : Aff F) :
    (encodeCompressed cc A).length = cc.size := by
  unfold encodeCompressed
  simp only [orFirst_length]
  split
  · simp
  · split
    · rw [orFirst_length, L.write_length]
    · rw [L.write_length]

/-! ## round trips: the statements about `validate` and `encode`, transported -/

omit [LawfulFieldOps F] [LawfulSqrtOps F] in
/-- C05, unchecked uncompressed round trip -/
theorem decodeUncompressedUnchecked_encode (L : cc.Lawful C) (A : Aff F)
    (hinf : A.infinity = true → A = Aff.zero) :
    decodeUncompressedUnchecked cc (encodeUncompressed cc A) = .ok A := by
  rw [decodeUncompressedUnchecked_eq L _ (encodeUncompressed_length L A), encodeUncompressed_eq L]
  exact validate_encode_uncompressed _ L.coord A hinf

omit [LawfulFieldOps F] [LawfulSqrtOps F] in
/-- C05, checked uncompressed round trip.  NB the hypothesis on records flagged `infinity`: every such
record encodes to the identity string, which decodes to `Aff.zero = ⟨0, 1, true⟩`. -/
theorem decodeUncompressed_encode (L : cc.Lawful C) (A : Aff F)
    (hinf : A.infinity = true → A = Aff.zero)
    (hc : Aff.isOnCurve cc.b A = true) (hs : Aff.inSubgroup cc.b A = true) :
    decodeUncompressed cc (encodeUncompressed cc A) = .ok A :=
  (decodeUncompressed_ok_iff_unchecked _ _).mpr ⟨decodeUncompressedUnchecked_encode L A hinf, hc, hs⟩

/-- C05, unchecked compressed round trip (the point must satisfy the curve equation: `y` is recomputed) -/
theorem decodeCompressedUnchecked_encode (L : cc.Lawful C) (A : Aff F)
    (hinf : A.infinity = true → A = Aff.zero)
    (hc : Aff.isOnCurve cc.b A = true) :
    decodeCompressedUnchecked cc (encodeCompressed cc A) = .ok A := by
  rw [decodeCompressedUnchecked_eq L _ (encodeCompressed_length L A), encodeCompressed_eq L]
  exact validate_encode_compressed cc C L.coord A hinf hc

/-- C05, checked compressed round trip -/
theorem decodeCompressed_encode (L : cc.Lawful C) (A : Aff F)
    (hinf : A.infinity = true → A = Aff.zero) (hs : Aff.inSubgroup cc.b A = true) :
    decodeCompressed cc (encodeCompressed cc A) = .ok A :=
  (decodeCompressed_ok_iff_unchecked _ _).mpr
    ⟨decodeCompressedUnchecked_encode L A hinf (Aff.isOnCurve_of_inSubgroup _ _ hs), hs⟩

omit [DecidableEq F] [FieldOps F] [LawfulFieldOps F] [SqrtOps F] [LawfulSqrtOps F] in
theorem neg_ne_self_of_ne_zero (h2 : (2 : F) ≠ 0) (y : F) (hy : y ≠ 0) : -y ≠ y := by
  intro h
  have : 2 * y = 0 := by linear_combination -h
  rcases mul_eq_zero.mp this with h' | h'
  · exact h2 h'
  · exact hy h'

omit [SqrtOps F] [LawfulSqrtOps F] in
/-- on a curve without a point of order two (`x³ + b` has no root), finite points have `y ≠ 0` -/
theorem y_ne_zero_of_onCurve (hno2 : ∀ x : F, x * x * x + cc.b ≠ 0) (A : Aff F)
    (hc : Aff.isOnCurve cc.b A = true) (hf : A.infinity = false) : A.y ≠ 0 := by
  intro h0
  have := (Aff.isOnCurve_iff_eq cc.b A).mp hc
  rw [hf, h0] at this
  simp only [Bool.false_eq_true, false_or, mul_zero] at this
  exact hno2 A.x this.symm

end encode

/-! ## G1: the curve `y² = x³ + 4` over `Fq` has no point of order two -/

theorem g1_b_v : g1Codec.b.v = 4 := by decide +kernel

theorem neg_four_not_cube : powMod (Gen.q - 4) ((Gen.q - 1) / 3) Gen.q ≠ 1 := by decide +kernel

/-- A root `x` would make `−4` a cube, so `(−4)^((q−1)/3) = x^(q−1) = 1` by Fermat; the power is evaluated
(`neg_four_not_cube`) and is not `1`. -/
theorem g1_no_two_torsion (x : Fq) : x * x * x + g1Codec.b ≠ 0 := by
  intro h
  have hz := congrArg Zp.toZ h
  rw [Zp.toZ_add, Zp.toZ_mul, Zp.toZ_mul, Zp.toZ_zero] at hz
  have hb : Zp.toZ g1Codec.b = ((4 : ℕ) : ZMod Gen.q) := by unfold Zp.toZ; rw [g1_b_v]
  rw [hb] at hz
  generalize Zp.toZ x = z at hz
  have h4 : ((4 : ℕ) : ZMod Gen.q) ≠ 0 := by
    intro h'
    rw [ZMod.natCast_eq_zero_iff] at h'
    exact absurd (Nat.le_of_dvd (by norm_num) h') (by decide +kernel)
  have hz0 : z ≠ 0 := by
    intro h0; rw [h0] at hz; apply h4; simpa using hz
  have hz3 : z ^ 3 = ((Gen.q - 4 : ℕ) : ZMod Gen.q) := by
    rw [Nat.cast_sub (by decide +kernel : 4 ≤ Gen.q), ZMod.natCast_self, zero_sub]
    linear_combination hz
  have hq3 : 3 * ((Gen.q - 1) / 3) = Gen.q - 1 := by decide +kernel
  have hfermat : z ^ (Gen.q - 1) = 1 := ZMod.pow_card_sub_one_eq_one hz0
  have : ((Gen.q - 4 : ℕ) : ZMod Gen.q) ^ ((Gen.q - 1) / 3) = 1 := by
    rw [← hz3, ← pow_mul, hq3, hfermat]
  exact neg_four_not_cube ((Primes.zmod_pow_eq_one_iff _ _ _ Primes.q_prime.one_lt).mp this)

/-! ## a test vector evaluated once (the examples of C04 and C19 speak of it)

`x = 0` on G1: `(0, 2)` is on the curve, `2` is the smaller root, and the point is not in the subgroup. -/

theorem decodeCompressedUnchecked_g1_x0 :
    decodeCompressedUnchecked g1Codec (0x80 :: List.replicate 47 0) = .ok ⟨Zp.ofNat 0, Zp.ofNat 2, false⟩ := by
  decide +kernel

theorem decodeCompressed_g1_x0 :
    decodeCompressed g1Codec (0x80 :: List.replicate 47 0) = .error .notInSubgroup := by
  have h : Aff.inSubgroup g1Codec.b ⟨Zp.ofNat 0, Zp.ofNat 2, false⟩ = false := by decide +kernel
  unfold decodeCompressed
  rw [decodeCompressedUnchecked_g1_x0]
  dsimp only
  rw [h]
  rfl

end PP
