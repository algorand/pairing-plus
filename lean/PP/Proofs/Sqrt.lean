/-
C18 for the prime fields (`Fr`: PP/Proofs/SqrtFr.lean; `Fq2`: PP/Proofs/SqrtFq2.lean): Euler's criterion on the model type `Zp p`, the order and sign
facts (`Zp.lt`, `Zp.sgn0`), and `Fq.legendre` / `Fq.sqrt` (`q ≡ 3 mod 4`).
-/
import Mathlib.NumberTheory.LegendreSymbol.Basic
import PP.Proofs.PowLoop
import PP.Proofs.Primes
import PP.Proofs.Mont3
import PP.Proofs.Interfaces

set_option linter.unusedSectionVars false

namespace PP
namespace Zp
variable {p : Nat} [PosNat p]

/-! ### canonical representatives, order, sign -/

theorem ne_iff_v {a b : Zp p} : a ≠ b ↔ a.v ≠ b.v :=
  ⟨fun h hv => h (ext_v hv), fun h hab => h (hab ▸ rfl)⟩

theorem zero_v : (0 : Zp p).v = 0 := by
  show (ofNat 0 : Zp p).v = 0; simp

theorem neg_v (a : Zp p) : (-a).v = (p - a.v) % p := rfl

theorem neg_v_of_ne_zero (a : Zp p) (ha : a ≠ 0) : (-a).v = p - a.v := by
  have h0 : a.v ≠ 0 := fun h => ha ((eq_zero_iff a).mpr h)
  have := a.h
  rw [neg_v, Nat.mod_eq_of_lt (by omega)]

theorem sgn0_negative_iff (a : Zp p) : Zp.sgn0 a = .negative ↔ a.v % 2 = 1 := by
  unfold Zp.sgn0; split <;> simp [*]

theorem sgn0_nonNegative_iff (a : Zp p) : Zp.sgn0 a = .nonNegative ↔ a.v % 2 = 0 := by
  unfold Zp.sgn0; split <;> simp [*]; omega

theorem lt_iff (a b : Zp p) : Zp.lt a b = true ↔ a.v < b.v := by simp [Zp.lt]

theorem lt_eq_false_iff (a b : Zp p) : Zp.lt a b = false ↔ b.v ≤ a.v := by simp [Zp.lt]

theorem lt_irrefl (a : Zp p) : Zp.lt a a = false := by simp [Zp.lt]

theorem lt_asymm (a b : Zp p) (h : Zp.lt a b = true) : Zp.lt b a = false := by
  rw [lt_iff] at h; rw [lt_eq_false_iff]; omega

theorem lt_trans (a b c : Zp p) (h1 : Zp.lt a b = true) (h2 : Zp.lt b c = true) :
    Zp.lt a c = true := by
  rw [lt_iff] at *; omega

theorem lt_total (a b : Zp p) (h : a ≠ b) : Zp.lt a b = true ∨ Zp.lt b a = true := by
  rw [lt_iff, lt_iff]; have := ne_iff_v.mp h; omega

theorem ne_neg_self (hodd : p % 2 = 1) (y : Zp p) (hy : y ≠ 0) : y ≠ -y := by
  rw [ne_iff_v, neg_v_of_ne_zero y hy]; have := y.h; omega

theorem neg_order (hodd : p % 2 = 1) (y : Zp p) (hy : y ≠ 0) :
    Zp.lt y (-y) = true ↔ Zp.lt (-y) y = false := by
  have := ne_iff_v.mp (ne_neg_self hodd y hy)
  rw [lt_iff, lt_eq_false_iff]; omega

theorem neg_order_xor (hodd : p % 2 = 1) (y : Zp p) (hy : y ≠ 0) :
    (Zp.lt y (-y) = true ∧ Zp.lt (-y) y = false) ∨ (Zp.lt (-y) y = true ∧ Zp.lt y (-y) = false) := by
  have := ne_iff_v.mp (ne_neg_self hodd y hy)
  rw [lt_iff, lt_eq_false_iff, lt_iff, lt_eq_false_iff]; omega

theorem sgn0_neg (hodd : p % 2 = 1) (y : Zp p) (hy : y ≠ 0) : Zp.sgn0 (-y) ≠ Zp.sgn0 y := by
  intro h
  have h1 := sgn0_negative_iff (-y)
  rw [h, sgn0_negative_iff, neg_v_of_ne_zero y hy] at h1
  have := y.h
  omega

/-! ### Euler's criterion on `Zp p` -/

variable [hp : Fact p.Prime]

theorem toZ_inj {a b : Zp p} : toZ a = toZ b ↔ a = b := toZ_injective.eq_iff

theorem toZ_eq_zero {a : Zp p} : toZ a = 0 ↔ a = 0 := by
  rw [← toZ_zero (p := p), toZ_inj]

theorem isSquare_toZ (a : Zp p) : IsSquare (toZ a) ↔ IsSquare a := by
  constructor
  · rintro ⟨z, hz⟩
    obtain ⟨b, rfl⟩ := toZ_surjective z
    exact ⟨b, toZ_injective (by rw [hz, toZ_mul])⟩
  · rintro ⟨b, rfl⟩; exact ⟨toZ b, toZ_mul b b⟩

theorem half_pos (hodd : p % 2 = 1) : (p - 1) / 2 ≠ 0 := by
  have := hp.out.two_le; omega

/-- Euler's criterion. -/
theorem isSquare_iff_pow_half (hodd : p % 2 = 1) (a : Zp p) (ha : a ≠ 0) :
    IsSquare a ↔ a ^ ((p - 1) / 2) = 1 := by
  have hz : toZ a ≠ 0 := fun h => ha (toZ_eq_zero.mp h)
  have e : p / 2 = (p - 1) / 2 := by omega
  rw [← isSquare_toZ, ZMod.euler_criterion p hz, e, ← toZ_pow, ← toZ_one (p := p), toZ_inj]

theorem pow_half_dichotomy (hodd : p % 2 = 1) (a : Zp p) (ha : a ≠ 0) :
    a ^ ((p - 1) / 2) = 1 ∨ a ^ ((p - 1) / 2) = -1 := by
  have hz : toZ a ≠ 0 := fun h => ha (toZ_eq_zero.mp h)
  have e : p / 2 = (p - 1) / 2 := by omega
  have := ZMod.pow_div_two_eq_neg_one_or_one p hz
  rw [e, ← toZ_pow, ← toZ_one (p := p), ← toZ_neg, toZ_inj, toZ_inj] at this
  exact this

theorem one_ne_neg_one (hodd : p % 2 = 1) : (1 : Zp p) ≠ -1 :=
  ne_neg_self hodd 1 one_ne_zero

theorem pow_half_eq_zero_iff (hodd : p % 2 = 1) (a : Zp p) : a ^ ((p - 1) / 2) = 0 ↔ a = 0 :=
  pow_eq_zero_iff (half_pos hodd)

theorem not_isSquare_iff_pow_half (hodd : p % 2 = 1) (a : Zp p) :
    ¬ IsSquare a ↔ a ^ ((p - 1) / 2) = -1 := by
  by_cases ha : a = 0
  · subst ha
    rw [zero_pow (half_pos hodd)]
    constructor
    · intro h; exact absurd ⟨0, by simp⟩ h
    · intro h; exact absurd (neg_eq_zero.mp h.symm) one_ne_zero
  · rw [isSquare_iff_pow_half hodd a ha]
    rcases pow_half_dichotomy hodd a ha with h | h
    · rw [h]; simp [one_ne_neg_one hodd]
    · rw [h]; simp [(one_ne_neg_one hodd).symm]

/-- The three-way classification computed by `legendre`, for any exponent equal to `(p-1)/2`. -/
theorem legendre_classify (hodd : p % 2 = 1) (a : Zp p) :
    let s := a ^ ((p - 1) / 2)
    (s = 0 ↔ a = 0) ∧ (s = 1 ↔ a ≠ 0 ∧ IsSquare a) ∧ ((s ≠ 0 ∧ s ≠ 1) ↔ ¬ IsSquare a) := by
  intro s
  refine ⟨pow_half_eq_zero_iff hodd a, ?_, ?_⟩
  · constructor
    · intro h
      have ha : a ≠ 0 := by
        intro h0; rw [← pow_half_eq_zero_iff hodd] at h0
        exact one_ne_zero (h.symm.trans h0)
      exact ⟨ha, (isSquare_iff_pow_half hodd a ha).mpr h⟩
    · rintro ⟨ha, hs⟩; exact (isSquare_iff_pow_half hodd a ha).mp hs
  · rw [not_isSquare_iff_pow_half hodd]
    constructor
    · rintro ⟨h0, h1⟩
      have ha : a ≠ 0 := fun h => h0 ((pow_half_eq_zero_iff hodd a).mpr h)
      exact (pow_half_dichotomy hodd a ha).resolve_left h1
    · intro h
      show s ≠ 0 ∧ s ≠ 1
      have hs : s = -1 := h
      rw [hs]
      exact ⟨neg_ne_zero.mpr one_ne_zero, (one_ne_neg_one hodd).symm⟩

/-- The `if s = 0 … else if s = 1 …` of the derive-generated `legendre`, classified. -/
theorem legendre_ite (hodd : p % 2 = 1) (a : Zp p) :
    let L : Legendre := if a ^ ((p - 1) / 2) = 0 then .zero
      else if a ^ ((p - 1) / 2) = 1 then .residue else .nonResidue
    (L = .zero ↔ a = 0) ∧ (L = .residue ↔ a ≠ 0 ∧ IsSquare a) ∧ (L = .nonResidue ↔ ¬ IsSquare a) := by
  have ⟨h0, h1, h2⟩ := legendre_classify hodd a
  intro L
  rw [← h0, ← h1, ← h2]
  by_cases hs0 : a ^ ((p - 1) / 2) = 0
  · simp [L, hs0]
  · by_cases hs1 : a ^ ((p - 1) / 2) = 1 <;> simp [L, hs0, hs1]

end Zp

/-- a square-root routine that fails only on non-squares and returns only roots finds a root of
    every square -/
theorem exists_sqrt_of_isSquare {F : Type} [Mul F] {sqrt : F → Option F} {a : F}
    (hnone : sqrt a = none → ¬ IsSquare a) (hsound : ∀ b, sqrt a = some b → b * b = a)
    (h : IsSquare a) : ∃ b, sqrt a = some b ∧ b * b = a := by
  cases hs : sqrt a with
  | none => exact absurd h (hnone hs)
  | some b => exact ⟨b, rfl, hsound b hs⟩

/-- the exponents of `sqrt` and `legendre` for `q ≡ 3 (mod 4)` -/
theorem sqrt_exp_arith {q : Nat} (hq : q % 4 = 3) : 2 * ((q - 3) / 4) + 1 = (q - 1) / 2 := by omega

/-! ## `Fq` -/

namespace Fq
open Primes

theorem q_odd : Gen.q % 2 = 1 := by have := q_mod_four; omega

theorem LEGENDRE_EXP_lt : Gen.fq_LEGENDRE_EXP < 2 ^ (64 * 6) := by decide +kernel
theorem SQRT_EXP_lt : Gen.fq_SQRT_EXP < 2 ^ (64 * 6) := by decide +kernel

/-- the constant `a0` is compared with in `Fq::sqrt` is `-1` -/
theorem SQRT_CMP_eq : Fq.ofMont Gen.fq_SQRT_CMP = -1 := by
  apply Zp.ext_v
  rw [Zp.neg_v_of_ne_zero 1 one_ne_zero]
  have h1 : (1 : Fq).v = 1 := by decide +kernel
  rw [h1]
  decide +kernel

/-- `NEGATIVE_ONE`, `ROOT_OF_UNITY` and the `sqrt` comparison constant are one and the same literal -/
theorem NEGATIVE_ONE_eq : Fq.ofMont Gen.NEGATIVE_ONE = -1 := by
  rw [← Mont.fq_ROOT_OF_UNITY_eq_NEGATIVE_ONE, Mont.fq_ROOT_OF_UNITY_eq_SQRT_CMP]
  exact SQRT_CMP_eq

theorem legendre_pow (a : Fq) : powNat a Gen.fq_LEGENDRE_EXP 6 = a ^ ((Gen.q - 1) / 2) := by
  rw [PowLoop.Lawful.powNat_eq_pow a _ 6 LEGENDRE_EXP_lt, Mont.fq_LEGENDRE_EXP_eq]

theorem sqrt_pow (a : Fq) : powNat a Gen.fq_SQRT_EXP 6 = a ^ ((Gen.q - 3) / 4) := by
  rw [PowLoop.Lawful.powNat_eq_pow a _ 6 SQRT_EXP_lt, Mont.fq_SQRT_EXP_eq]

theorem legendre_eq (a : Fq) : Fq.legendre a =
    if a ^ ((Gen.q - 1) / 2) = 0 then .zero
    else if a ^ ((Gen.q - 1) / 2) = 1 then .residue else .nonResidue := by
  unfold Fq.legendre; rw [legendre_pow]

theorem legendre_zero_iff (a : Fq) : Fq.legendre a = .zero ↔ a = 0 := by
  rw [legendre_eq]; exact (Zp.legendre_ite q_odd a).1

theorem legendre_residue_iff (a : Fq) : Fq.legendre a = .residue ↔ a ≠ 0 ∧ IsSquare a := by
  rw [legendre_eq]; exact (Zp.legendre_ite q_odd a).2.1

theorem legendre_nonResidue_iff (a : Fq) : Fq.legendre a = .nonResidue ↔ ¬ IsSquare a := by
  rw [legendre_eq]; exact (Zp.legendre_ite q_odd a).2.2

theorem sqrt_eq (a : Fq) : Fq.sqrt a =
    if a ^ ((Gen.q - 1) / 2) = -1 then none else some (a ^ ((Gen.q - 3) / 4) * a) := by
  unfold Fq.sqrt
  rw [sqrt_pow, SQRT_CMP_eq]
  have : sq (a ^ ((Gen.q - 3) / 4)) * a = a ^ ((Gen.q - 1) / 2) := by
    rw [LawfulFieldOps.sq_eq, ← pow_add, ← pow_succ, ← two_mul, sqrt_exp_arith q_mod_four]
  simp only [this]

theorem sqrt_none_iff (a : Fq) : Fq.sqrt a = none ↔ ¬ IsSquare a := by
  rw [sqrt_eq, Zp.not_isSquare_iff_pow_half q_odd]
  split <;> simp [*]

theorem sqrt_sound (a b : Fq) (h : Fq.sqrt a = some b) : b * b = a := by
  rw [sqrt_eq] at h
  split at h
  · exact absurd h (by simp)
  · next hne =>
    have hb : b = a ^ ((Gen.q - 3) / 4) * a := (Option.some.inj h).symm
    have e : b * b = a ^ ((Gen.q - 1) / 2) * a := by
      rw [hb, ← sqrt_exp_arith q_mod_four, pow_succ, two_mul, pow_add]; ring
    rw [e]
    by_cases ha : a = 0
    · subst ha; simp
    · rw [(Zp.pow_half_dichotomy q_odd a ha).resolve_right hne, one_mul]

theorem sqrt_complete (a : Fq) (h : IsSquare a) : ∃ b, Fq.sqrt a = some b ∧ b * b = a :=
  exists_sqrt_of_isSquare (sqrt_none_iff a).1 (sqrt_sound a) h

theorem sgn0_neg (y : Fq) (hy : y ≠ 0) : Zp.sgn0 (-y) ≠ Zp.sgn0 y := Zp.sgn0_neg q_odd y hy

theorem neg_order (y : Fq) (hy : y ≠ 0) : Zp.lt y (-y) = true ↔ Zp.lt (-y) y = false :=
  Zp.neg_order q_odd y hy

theorem ne_neg_self (y : Fq) (hy : y ≠ 0) : y ≠ -y := Zp.ne_neg_self q_odd y hy

end Fq

instance : LawfulSqrtOps Fq where
  sqrt_sound := Fq.sqrt_sound
  sqrt_complete a h := (Fq.sqrt_none_iff a).mp h
  lt_irrefl := Zp.lt_irrefl
  lt_asymm := Zp.lt_asymm
  lt_total := Zp.lt_total

end PP
