/-
Facts about the model's `hash_to_field` and `hash_to_curve` (`PP/Model/Map.lean`) that need no library:
they are shared by the comparison with RFC 9380 (`PP/Props/C06.lean`) and by the comparison with the
code generated from the Rust source (`PP/Proofs/GenHash.lean`, `PP/Props/GenHash.lean`); for the latter also
`Expand.u8_eq` (the model's `u8` is `UInt8.ofNat`).  Core Lean only.
-/
import PP.Model.Map

namespace PP

theorem Expand.u8_eq (n : Nat) : u8 n = UInt8.ofNat n := UInt8.ofNat_mod_size'

theorem splitBlocks_length {T : Type} (L : Nat) (f : Bytes → Option T) (bytes : Bytes) :
    ∀ n idx l, splitBlocks L f bytes n idx = some l → l.length = n := by
  intro n
  induction n with
  | zero => intro idx l h; unfold splitBlocks at h; cases h; rfl
  | succ n ih =>
    intro idx l h
    unfold splitBlocks at h
    simp only [bind, pure, Option.bind] at h
    split at h
    · cases h
    · cases hf : f ((bytes.drop (idx * L)).take L) with
      | none => rw [hf] at h; cases h
      | some e =>
        rw [hf] at h
        simp only [] at h
        cases hr : splitBlocks L f bytes n (idx + 1) with
        | none => rw [hr] at h; cases h
        | some rest =>
          rw [hr] at h
          cases h
          rw [List.length_cons, ih (idx + 1) rest hr]

theorem hashToField_length {T : Type} {expand : Bytes → Bytes → Nat → Option Bytes} {L : Nat}
    {f : Bytes → Option T} {msg dst : Bytes} {count : Nat} {l : List T}
    (h : hashToField expand L f msg dst count = some l) : l.length = count := by
  unfold hashToField at h
  cases he : expand msg dst (count * L) with
  | none => rw [he] at h; cases h
  | some bytes =>
    rw [he] at h
    exact splitBlocks_length L f bytes count 0 l h

/-! ## hash_to_curve.rs: the four functions in terms of `hashToField` and the maps

`hash_to_field` aborts, and then so does the function, or it returns two elements (one for
`encode_to_curve`), to which `map2_to_curve` (`map_to_curve`) is applied. -/

theorem List.eq_pair_of_length {α : Type} {l : List α} (h : l.length = 2) : ∃ a b, l = [a, b] := by
  match l, h with
  | [a, b], _ => exact ⟨a, b, rfl⟩

/-- (stated with an abstract `f` so that the kernel never unfolds `map2ToCurveG2`) -/
theorem bind_match2 {α β : Type} (f : α → α → Option β) (a b : α) :
    (do let u ← some [a, b]
        match u with
        | [x, y] => f x y
        | _ => none) = f a b := rfl

theorem bind_match1 {α β : Type} (f : α → Option β) (a : α) :
    (do let u ← some [a]
        match u with
        | [x] => f x
        | _ => none) = f a := rfl

section
variable (expand : Bytes → Bytes → Nat → Option Bytes) (msg dst : Bytes)

theorem hashToCurveG1_cases :
    (hashToField expand 64 Fq.fromOkm msg dst 2 = none ∧ hashToCurveG1 expand msg dst = none) ∨
    ∃ u0 u1, hashToField expand 64 Fq.fromOkm msg dst 2 = some [u0, u1] ∧
      hashToCurveG1 expand msg dst = some (map2ToCurveG1 u0 u1) := by
  unfold hashToCurveG1
  cases hf : hashToField expand 64 Fq.fromOkm msg dst 2 with
  | none => exact .inl ⟨rfl, rfl⟩
  | some l =>
    obtain ⟨u0, u1, rfl⟩ := List.eq_pair_of_length (hashToField_length hf)
    exact .inr ⟨u0, u1, rfl, rfl⟩

theorem encodeToCurveG1_cases :
    (hashToField expand 64 Fq.fromOkm msg dst 1 = none ∧ encodeToCurveG1 expand msg dst = none) ∨
    ∃ u, hashToField expand 64 Fq.fromOkm msg dst 1 = some [u] ∧
      encodeToCurveG1 expand msg dst = some (mapToCurveG1 u) := by
  unfold encodeToCurveG1
  cases hf : hashToField expand 64 Fq.fromOkm msg dst 1 with
  | none => exact .inl ⟨rfl, rfl⟩
  | some l =>
    obtain ⟨u, rfl⟩ := List.length_eq_one_iff.mp (hashToField_length hf)
    exact .inr ⟨u, rfl, rfl⟩

theorem hashToCurveG2_cases :
    (hashToField expand 128 Fq2.fromRo msg dst 2 = none ∧ hashToCurveG2 expand msg dst = none) ∨
    ∃ u0 u1, hashToField expand 128 Fq2.fromRo msg dst 2 = some [u0, u1] ∧
      hashToCurveG2 expand msg dst = map2ToCurveG2 u0 u1 := by
  unfold hashToCurveG2
  cases hf : hashToField expand 128 Fq2.fromRo msg dst 2 with
  | none => exact .inl ⟨rfl, rfl⟩
  | some l =>
    obtain ⟨u0, u1, rfl⟩ := List.eq_pair_of_length (hashToField_length hf)
    exact .inr ⟨u0, u1, rfl, bind_match2 map2ToCurveG2 u0 u1⟩

theorem encodeToCurveG2_cases :
    (hashToField expand 128 Fq2.fromRo msg dst 1 = none ∧ encodeToCurveG2 expand msg dst = none) ∨
    ∃ u, hashToField expand 128 Fq2.fromRo msg dst 1 = some [u] ∧
      encodeToCurveG2 expand msg dst = mapToCurveG2 u := by
  unfold encodeToCurveG2
  cases hf : hashToField expand 128 Fq2.fromRo msg dst 1 with
  | none => exact .inl ⟨rfl, rfl⟩
  | some l =>
    obtain ⟨u, rfl⟩ := List.length_eq_one_iff.mp (hashToField_length hf)
    exact .inr ⟨u, rfl, bind_match1 mapToCurveG2 u⟩

end

end PP
