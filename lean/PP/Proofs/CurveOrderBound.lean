/-
Curve orders, the trivial bound: over a finite field `F` the curve `y² = x³ + b` has at most
`2·#F + 1` points (every `x` carries at most two `y`).  No Hasse bound is needed for BLS12-381:
the traces of Frobenius of `E(Fq)` and `E'(Fq2)` are negative, so the announced orders exceed `#F + 1`.

The injection `code : (W b).Point → Option (F × Bool)` sends the identity to `none` and `(x, y)` to
`(x, [y is the designated root of x³ + b])`.
-/
import Mathlib.SetTheory.Cardinal.NatCard
import PP.Proofs.CurveSpec

namespace PP.CurveOrder

open WeierstrassCurve.Affine

variable {F : Type} [Field F] (b : F)

open Classical in
/-- a designated square root of `x³ + b` (junk `0` when there is none) -/
noncomputable def root (x : F) : F :=
  if h : ∃ y : F, y ^ 2 = x ^ 3 + b then Classical.choose h else 0

theorem root_sq {x y : F} (h : y ^ 2 = x ^ 3 + b) : root b x ^ 2 = x ^ 3 + b := by
  have hex : ∃ y : F, y ^ 2 = x ^ 3 + b := ⟨y, h⟩
  unfold root
  rw [dif_pos hex]
  exact Classical.choose_spec hex

open Classical in
/-- the encoding of a point -/
noncomputable def code : (W b).Point → Option (F × Bool)
  | .zero => none
  | .some x y _ => some (x, decide (y = root b x))

theorem code_injective [ShortW b] : Function.Injective (code b) := by
  classical
  rintro (_ | ⟨x, y, h⟩) (_ | ⟨x', y', h'⟩) e
  · rfl
  · cases e
  · cases e
  · simp only [code, Option.some.injEq, Prod.mk.injEq, decide_eq_decide] at e
    obtain ⟨rfl, e2⟩ := e
    have hy : y ^ 2 = x ^ 3 + b := (W_nonsingular_iff b x y).mp h
    have hy' : y' ^ 2 = x ^ 3 + b := (W_nonsingular_iff b x y').mp h'
    -- `y`, `y'` and `root b x` are square roots of `x³ + b`, and `y`, `y'` are it together or not
    have hyy : y = y' := by
      rcases sq_eq_sq_iff_eq_or_eq_neg.mp (hy.trans hy'.symm) with h1 | h1
      · exact h1
      · rcases sq_eq_sq_iff_eq_or_eq_neg.mp (hy.trans (root_sq b hy).symm) with h2 | h2
        · exact h2.trans (e2.mp h2).symm
        · have h3 : y' = root b x := neg_injective (h1.symm.trans h2)
          exact (e2.mpr h3).trans h3.symm
    subst hyy
    rfl

variable [Finite F] [ShortW b]

instance instFinitePoint : Finite (W b).Point := Finite.of_injective _ (code_injective b)

/-- **the trivial bound** `#E(F) ≤ 2·#F + 1` -/
theorem card_point_le : Nat.card (W b).Point ≤ 2 * Nat.card F + 1 := by
  have h := Nat.card_le_card_of_injective _ (code_injective b)
  rw [Finite.card_option, Nat.card_prod, Nat.card_eq_fintype_card (α := Bool),
    Fintype.card_bool] at h
  omega

end PP.CurveOrder
