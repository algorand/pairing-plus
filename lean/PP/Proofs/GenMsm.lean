/-
The definitions generated from the Rust source by /verif/extract/extract_msm.py (`PP/Gen/Msm.lean`,
namespace `PP.Gen.M`: scalar-multiplication tables, Pippenger, wNAF) are equal to the hand-written
model `PP/Model/Mul.lean`: the loop lemmas and the longer proofs; the statements function by function are
in PP/Props/GenMsm.lean.

Proof method: the generated loops (`M.forIn` over `List.range'`, `List.foldl`, `M.whileFuel`,
`M.loopFuel`) are related to the model's structural recursions by induction with generalised
accumulators; calls of generated curve operations are first rewritten into the model's with the
equalities of PP/Proofs/GenArith.lean; nothing evaluates field arithmetic (everything is generic in
the coefficient field `F`).

A loop lemma takes the generated loop body as a variable `f` with its defining equation as hypothesis
(discharged by `rfl` at the call) and is stated with the `match … with | none => none | some … => …` that
follows the loop in the generated code, so that it applies to the unfolded definition as it stands.
Trap: such a lemma has to be stated at the concrete types of the generated code and applied with `exact` /
`refine`; a `match` over a type variable, or inside a `have`, is another matcher, and `rw` does not unfold
matchers.
-/
import PP.Gen.Msm
import PP.Proofs.GenArith
import PP.Proofs.GenDerive
import PP.Proofs.Bits
import PP.Proofs.Pippenger
import PP.Proofs.Wnaf


-- the lemmas are stated under the operations of the generated code, used or not, as their callers have them
set_option linter.unusedSectionVars false

namespace PP.GenMsmLemmas
open PP PP.Gen PP.GenArithLemmas

theorem usub_of_le {a b : Nat} (h : b ≤ a) : M.usub a b = some (a - b) := by
  unfold M.usub; rw [if_pos h]

theorem usub_of_lt {a b : Nat} (h : a < b) : M.usub a b = none := by
  unfold M.usub; rw [if_neg (by omega)]

theorem setIdx_of_lt {α : Type} {xs : List α} {i : Nat} (v : α) (h : i < xs.length) :
    M.setIdx xs i v = some (xs.set i v) := by
  unfold M.setIdx; rw [if_pos h]

theorem setIdx_of_ge {α : Type} {xs : List α} {i : Nat} (v : α) (h : xs.length ≤ i) :
    M.setIdx xs i v = none := by
  unfold M.setIdx; rw [if_neg (by omega)]

theorem match_some_eta {α : Type} (o : Option α) :
    (match o with | none => none | some v => some v) = o := by cases o <;> rfl

@[simp] theorem forIn_nil {σ α : Type} (s : σ) (f : σ → α → Option σ) : M.forIn [] s f = some s := rfl

theorem forIn_cons {σ α : Type} (x : α) (xs : List α) (s : σ) (f : σ → α → Option σ) :
    M.forIn (x :: xs) s f = (match f s x with | none => none | some s' => M.forIn xs s' f) := rfl

theorem forIn_append {σ α : Type} (xs ys : List α) (s : σ) (f : σ → α → Option σ) :
    M.forIn (xs ++ ys) s f = (match M.forIn xs s f with | none => none | some s' => M.forIn ys s' f) := by
  induction xs generalizing s with
  | nil => rfl
  | cons x xs ih =>
    rw [List.cons_append, forIn_cons, forIn_cons]
    cases f s x with
    | none => rfl
    | some s' => exact ih s'

theorem forIn_pure {σ α : Type} (xs : List α) (s : σ) (f : σ → α → Option σ) (g : σ → α → σ)
    (h : ∀ s x, f s x = some (g s x)) : M.forIn xs s f = some (xs.foldl g s) := by
  induction xs generalizing s with
  | nil => rfl
  | cons x xs ih => rw [forIn_cons, h, List.foldl_cons]; exact ih _

/-- one step of a downward loop `for i in (s..s+n+1).rev()` -/
theorem forIn_reverse_range'_succ {σ : Type} (s n : Nat) (st : σ) (f : σ → Nat → Option σ) :
    M.forIn (List.range' s (n + 1)).reverse st f
      = (match f st (s + n) with
          | none => none
          | some st' => M.forIn (List.range' s n).reverse st' f) := by
  rw [List.range'_concat, List.reverse_append, Nat.one_mul]
  rfl

/-- `if a < b { a } else { b }` on two lengths -/
theorem ite_lt_eq_min (a b : Nat) : (if a < b then a else b) = min a b := by
  split <;> omega

section
variable {F : Type} [Add F] [Sub F] [Mul F] [Neg F] [Zero F] [One F] [FieldOps F] [DecidableEq F]

/-- `for _ in 0..n { p.double(); }` -/
theorem foldl_double (s n : Nat) (p : Jac F) :
    List.foldl (fun p _ => p.double) p (List.range' s n) = p.doubleN n := by
  induction n generalizing s p with
  | zero => rfl
  | succ n ih => rw [List.range'_succ, List.foldl_cons, ih]; rfl

theorem precomp3_eq (a : Aff F) (pre : List (Aff F)) (h : 3 ≤ pre.length) :
    M.Aff.precomp3 a pre = (a.precomp3).map (fun t => t ++ pre.drop 3) := by
  obtain ⟨x0, x1, x2, rest, rfl⟩ : ∃ x0 x1 x2 rest, pre = x0 :: x1 :: x2 :: rest := by
    match pre, h with
    | x0 :: x1 :: x2 :: rest, _ => exact ⟨x0, x1, x2, rest, rfl⟩
  unfold M.Aff.precomp3 Aff.precomp3
  simp only [Aff_toJac_eq, Jac_double_eq, Jac_toAffine_eq, foldl_double]
  have hr : List.range' 0 3 = [0, 1, 2] := rfl
  rw [hr]
  simp only [forIn_cons, forIn_nil]
  cases h1 : ((a.toJac).doubleN 64).toAffine with
  | none => rfl
  | some a1 =>
    simp only [M.setIdx, List.length_cons, Nat.zero_lt_succ, if_true, List.set_cons_zero]
    cases h2 : (((a.toJac).doubleN 64).doubleN 64).toAffine with
    | none => rfl
    | some a2 =>
      simp only [List.set_cons_succ, List.set_cons_zero, List.length_cons, Nat.succ_lt_succ_iff, Nat.zero_lt_succ, if_true]
      cases h3 : ((((a.toJac).doubleN 64).doubleN 64).doubleN 64).toAffine with
      | none => rfl
      | some a3 => rfl

theorem precomp3_short (a : Aff F) (pre : List (Aff F)) (h : pre.length < 3) :
    M.Aff.precomp3 a pre = none := by
  unfold M.Aff.precomp3
  have hr : List.range' 0 3 = [0, 1, 2] := rfl
  rw [hr]
  simp only [forIn_cons, forIn_nil, M.setIdx]
  match pre, h with
  | [], _ =>
    cases (A.Jac.toAffine _ : Option (Aff F)) <;> rfl
  | [x0], _ =>
    cases (A.Jac.toAffine _ : Option (Aff F)) with
    | none => rfl
    | some a1 =>
      simp only [List.length_cons, List.length_nil, Nat.zero_lt_succ, if_true]
      cases (A.Jac.toAffine _ : Option (Aff F)) <;> rfl
  | [x0, x1], _ =>
    cases (A.Jac.toAffine _ : Option (Aff F)) with
    | none => rfl
    | some a1 =>
      simp only [List.length_cons, List.length_nil, Nat.zero_lt_succ, if_true, List.length_set]
      cases (A.Jac.toAffine _ : Option (Aff F)) with
      | none => rfl
      | some a2 =>
        simp only [List.length_cons, List.length_nil, List.length_set, if_true, Nat.lt_irrefl, if_false,
          Nat.zero_lt_succ, Nat.succ_lt_succ_iff]
        cases (A.Jac.toAffine _ : Option (Aff F)) <;> rfl

theorem mod_and_small (y m : Nat) (hm : m < 2 ^ 64) : (y % 2 ^ 64) &&& m = y &&& m := by
  apply Nat.eq_of_testBit_eq
  intro i
  rw [Nat.testBit_and, Nat.testBit_and, Nat.testBit_mod_two_pow]
  by_cases hi : i < 64
  · simp [hi]
  · have : m.testBit i = false :=
      Nat.testBit_lt_two_pow (Nat.lt_of_lt_of_le hm (Nat.pow_le_pow_right (by decide) (by omega)))
    simp [this]

theorem mulPrecomp3_loop (T : List (Jac F)) (b0 b1 b2 b3 : Nat)
    (f : Nat × Jac F → Nat → Option (Nat × Jac F))
    (hf : ∀ st i, f st i = match T[nibbleAt b0 b1 b2 b3 i]? with
      | none => none
      | some e => some (nibbleAt b0 b1 b2 b3 i, st.2.double.add e)) (n nib : Nat) (res : Jac F) :
    (match M.forIn (List.range' 0 n).reverse (nib, res) f with
      | none => none
      | some (_, res) => some res) = mulPrecomp3Loop T.toArray b0 b1 b2 b3 n res := by
  induction n generalizing nib res with
  | zero => rfl
  | succ n ih =>
    rw [forIn_reverse_range'_succ, hf, mulPrecomp3Loop, Nat.zero_add, List.getElem?_toArray]
    cases T[nibbleAt b0 b1 b2 b3 n]? with
    | none => rfl
    | some e => exact ih _ _

theorem nibbleAt_def (b0 b1 b2 b3 i : Nat) : (((b3 >>> i) <<< 3) &&& 8) ||| (((b2 >>> i) <<< 2) &&& 4) ||| (((b1 >>> i) <<< 1) &&& 2)
    ||| ((b0 >>> i) &&& 1) = nibbleAt b0 b1 b2 b3 i := rfl
theorem nibbleTop_def (b0 b1 b2 b3 : Nat) :
    ((b3 >>> 60) &&& 8) ||| ((b2 >>> 61) &&& 4) ||| ((b1 >>> 62) &&& 2) ||| ((b0 >>> 63) &&& 1) = nibbleTop b0 b1 b2 b3 := rfl

/-- the 16-entry table of `mul_precomp_3` -/
def tbl16 (a p0 p1 p2 : Aff F) : List (Jac F) :=
  [Jac.zero, a.toJac, p0.toJac, p0.toJac.addMixed a, p1.toJac, p1.toJac.addMixed a, p0.toJac.addMixed p1,
    (p0.toJac.addMixed p1).addMixed a, p2.toJac, a.toJac.addMixed p2, p0.toJac.addMixed p2,
    (p0.toJac.addMixed a).addMixed p2, p1.toJac.addMixed p2, (p1.toJac.addMixed a).addMixed p2,
    (p0.toJac.addMixed p1).addMixed p2, ((p0.toJac.addMixed p1).addMixed a).addMixed p2]

theorem tbl16_eq (a p0 p1 p2 : Aff F) : [Jac.zero, a.toJac, p0.toJac, p0.toJac.addMixed a, p1.toJac, p1.toJac.addMixed a, p0.toJac.addMixed p1,
    (p0.toJac.addMixed p1).addMixed a, p2.toJac, a.toJac.addMixed p2, p0.toJac.addMixed p2,
    (p0.toJac.addMixed a).addMixed p2, p1.toJac.addMixed p2, (p1.toJac.addMixed a).addMixed p2,
    (p0.toJac.addMixed p1).addMixed p2, ((p0.toJac.addMixed p1).addMixed a).addMixed p2] = tbl16 a p0 p1 p2 := rfl

theorem precomp3Table_some (a : Aff F) (pre : List (Aff F)) {p0 p1 p2 : Aff F} (h0 : pre[0]? = some p0)
    (h1 : pre[1]? = some p1) (h2 : pre[2]? = some p2) :
    a.precomp3Table pre = some (tbl16 a p0 p1 p2).toArray := by
  unfold Aff.precomp3Table
  rw [h0, h1, h2]
  simp only [Option.pure_def, Option.bind_eq_bind, Option.bind_some, tbl16]
  simp

theorem mulPrecomp3_eq (a : Aff F) (k : Nat) (pre : List (Aff F)) :
    M.Aff.mulPrecomp3 a k pre = a.mulPrecomp3 k pre := by
  unfold M.Aff.mulPrecomp3
  simp only [Aff_toJac_eq, Jac_double_eq, Jac_zero_eq, Jac_addMixed_eq, Jac_add_eq]
  cases h0 : pre[0]? with
  | none => simp only [Aff.mulPrecomp3, Aff.precomp3Table, h0]; rfl
  | some p0 =>
    simp only [List.nil_append, List.cons_append, List.getElem?_cons_succ, List.getElem?_cons_zero,
      List.set_cons_succ, List.set_cons_zero]
    cases h1 : pre[1]? with
    | none => simp only [Aff.mulPrecomp3, Aff.precomp3Table, h0, h1]; rfl
    | some p1 =>
      cases h2 : pre[2]? with
      | none => simp only [Aff.mulPrecomp3, Aff.precomp3Table, h0, h1, h2]; rfl
      | some p2 =>
        have hr : List.range' 9 7 = [9, 10, 11, 12, 13, 14, 15] := rfl
        simp only [List.nil_append, List.cons_append, List.getElem?_cons_succ, List.getElem?_cons_zero,
          List.set_cons_succ, List.set_cons_zero, hr, forIn_cons, forIn_nil, M.usub, Nat.reduceLeDiff,
          Nat.reduceSub, ↓reduceIte, tbl16_eq]
        simp only [getD_limbsOf4 k 0 (by decide), getD_limbsOf4 k 1 (by decide), getD_limbsOf4 k 2 (by decide),
          getD_limbsOf4 k 3 (by decide), mod_and_small _ 8 (by decide), mod_and_small _ 4 (by decide),
          mod_and_small _ 2 (by decide)]
        rw [Aff.mulPrecomp3, precomp3Table_some a pre h0 h1 h2]
        simp only [Option.bind_eq_bind, Option.bind_some, List.getElem?_toArray]
        simp only [nibbleAt_def, nibbleTop_def]
        cases (tbl16 a p0 p1 p2)[nibbleTop (limb k 0) (limb k 1) (limb k 2) (limb k 3)]? with
        | none => rfl
        | some t15 =>
          rw [Option.bind_some]
          dsimp only
          exact mulPrecomp3_loop (tbl16 a p0 p1 p2) _ _ _ _ _ (fun _ _ => rfl) 63 _ _

theorem byteAt_def (b0 b1 b2 b3 i : Nat) :
    ((b3 >>> (i + 25)) &&& 128) ||| (((b3 >>> i) <<< 6) &&& 64) |||
    ((b2 >>> (i + 27)) &&& 32) ||| (((b2 >>> i) <<< 4) &&& 16) |||
    ((b1 >>> (i + 29)) &&& 8) ||| (((b1 >>> i) <<< 2) &&& 4) |||
    ((b0 >>> (i + 31)) &&& 2) ||| ((b0 >>> i) &&& 1) = byteAt b0 b1 b2 b3 i := rfl

theorem byteTop_def (b0 b1 b2 b3 : Nat) :
    ((b3 >>> 56) &&& 128) ||| ((b3 >>> 25) &&& 64) ||| ((b2 >>> 58) &&& 32) ||| ((b2 >>> 27) &&& 16) |||
    ((b1 >>> 60) &&& 8) ||| ((b1 >>> 29) &&& 4) ||| ((b0 >>> 62) &&& 2) ||| ((b0 >>> 31) &&& 1)
      = byteTop b0 b1 b2 b3 := rfl

theorem mulPrecomp256_loop (P : List (Aff F)) (b0 b1 b2 b3 : Nat)
    (f : Nat × Jac F → Nat → Option (Nat × Jac F))
    (hf : ∀ st i, f st i = match P[byteAt b0 b1 b2 b3 i]? with
      | none => none
      | some e => some (byteAt b0 b1 b2 b3 i, st.2.double.addMixed e)) (n nib : Nat) (res : Jac F) :
    (match M.forIn (List.range' 0 n).reverse (nib, res) f with
      | none => none
      | some (_, res) => some res) = mulPrecomp256Loop P.toArray b0 b1 b2 b3 n res := by
  induction n generalizing nib res with
  | zero => rfl
  | succ n ih =>
    rw [forIn_reverse_range'_succ, hf, mulPrecomp256Loop, Nat.zero_add, List.getElem?_toArray]
    cases P[byteAt b0 b1 b2 b3 n]? with
    | none => rfl
    | some e => exact ih _ _

theorem sopInner_loop (P : List (Aff F)) (i : Nat) (ks : List Nat)
    (g : Jac F → Nat → Option (Jac F))
    (hg : ∀ res j, g res j = match ks[j]? with
      | none => none
      | some kj =>
        match P[(j <<< 8) + byteAt (limb kj 0) (limb kj 1) (limb kj 2) (limb kj 3) i]? with
        | none => none
        | some e => some (res.addMixed e)) (m j0 : Nat) (res : Jac F) (h : j0 + m ≤ ks.length) :
    (match M.forIn (List.range' j0 m) res g with
      | none => none
      | some r => some r) = sopPrecompInner P.toArray i ((ks.drop j0).take m) j0 res := by
  induction m generalizing j0 res with
  | zero => rfl
  | succ m ih =>
    have hj : j0 < ks.length := by omega
    rw [List.range'_succ, forIn_cons, hg, List.getElem?_eq_getElem hj, List.drop_eq_getElem_cons hj,
      List.take_succ_cons, sopPrecompInner]
    simp only [List.getElem?_toArray]
    cases P[(j0 <<< 8) + byteAt (limb ks[j0] 0) (limb ks[j0] 1) (limb ks[j0] 2) (limb ks[j0] 3) i]? with
    | none => rfl
    | some e => exact ih (j0 + 1) _ (by omega)

theorem sopOuter_loop (P : List (Aff F)) (K : List Nat) (f : Jac F → Nat → Option (Jac F))
    (hf : ∀ res i, f res i = sopPrecompInner P.toArray i K 0 res.double) (m : Nat) (res : Jac F) :
    (match M.forIn (List.range' 0 m).reverse res f with
      | none => none
      | some r => some r) = sopPrecompOuter P.toArray K m res := by
  induction m generalizing res with
  | zero => rfl
  | succ m ih =>
    rw [forIn_reverse_range'_succ, hf, sopPrecompOuter, Nat.zero_add]
    cases sopPrecompInner P.toArray m K 0 res.double with
    | none => rfl
    | some r => exact ih r

theorem wnafTable_loop (dbl : Jac F) (step : List (Jac F) × Jac F → Nat → List (Jac F) × Jac F)
    (hstep : ∀ st i, step st i = (st.1 ++ [st.2], st.2.add dbl)) :
    ∀ n s t b acc, t = acc.reverse →
      (List.foldl step (t, b) (List.range' s n)).1 = wnafTableLoop dbl n b acc := by
  intro n
  induction n with
  | zero => intro s t b acc h; exact h
  | succ n ih =>
    intro s t b acc h
    rw [List.range'_succ, List.foldl_cons, hstep, wnafTableLoop]
    exact ih _ _ _ _ (by rw [List.reverse_cons, h])

theorem wnafExp_eq (table : List (Jac F)) (wnaf : List Int) :
    M.wnafExp table wnaf = wnafExp table wnaf := by
  unfold M.wnafExp wnafExp
  simp only [Jac_zero_eq, Jac_double_eq, Jac_add_eq, Jac_sub_eq]
  generalize wnaf.reverse = L
  generalize ((Jac.zero : Jac F), false) = st
  induction L generalizing st with
  | nil => rfl
  | cons n L ih =>
    obtain ⟨r, b⟩ := st
    rw [forIn_cons, wnafExpLoop]
    by_cases h0 : n ≠ 0
    · by_cases h1 : n > 0
      · -- Rust's `/` on `i64` truncates; on a positive dividend it is the model's floor division
        have hd : Int.tdiv n 2 = n / 2 := Int.tdiv_eq_ediv_of_nonneg (by omega)
        simp only [h0, h1, if_true, ne_eq, not_false_eq_true, hd, List.getElem?_toArray, Option.bind_eq_bind]
        cases table[(n / 2).toNat]? with
        | none => rfl
        | some e => exact ih _
      · have hd : Int.tdiv (-n) 2 = (-n) / 2 := Int.tdiv_eq_ediv_of_nonneg (by omega)
        simp only [h0, h1, if_true, if_false, ne_eq, not_false_eq_true, hd, List.getElem?_toArray,
          Option.bind_eq_bind]
        cases table[((-n) / 2).toNat]? with
        | none => rfl
        | some e => exact ih _
    · simp only [h0, if_false]
      exact ih _

end

/-- The generated search starts at index `j = 1` and remembers nothing: on a hit at `i` it re-reads
    `B[i - 1]`, on a miss it returns the last entry.  The model threads that entry as `prev`, hence
    the hypothesis `B[j - 1]? = some prev`. -/
theorem fpw_core (B : List (Nat × Nat)) (n : Nat) (f : Nat → Option (Option Nat))
    (hf : ∀ i, f i = match B[i]? with
      | none => none
      | some t1 =>
        if t1.1 > n then
          match M.usub i 1 with
          | none => none
          | some t2 =>
            match B[t2]? with
            | none => none
            | some t3 => some (some t3.2)
        else some none) :
    ∀ m j prev, 1 ≤ j → j + m = B.length → B[j - 1]? = some prev →
      (match M.forRet (List.range' j m) f with
        | none => none
        | some (some ret) => some ret
        | some none =>
          match M.usub B.length 1 with
          | none => none
          | some t4 =>
            match B[t4]? with
            | none => none
            | some t5 => some t5.2) = some (findPippingerWindowAux n (B.drop j) prev.2) := by
  intro m
  induction m with
  | zero =>
    intro j prev hj hlen hprev
    have : j = B.length := by omega
    subst this
    simp only [List.range'_zero, M.forRet, usub_of_le hj, hprev, List.drop_length, findPippingerWindowAux]
  | succ m ih =>
    intro j prev hj hlen hprev
    have hjl : j < B.length := by omega
    rw [List.range'_succ, M.forRet, hf, List.getElem?_eq_getElem hjl, List.drop_eq_getElem_cons hjl]
    generalize hB : B[j] = bw
    obtain ⟨b, w⟩ := bw
    simp only [findPippingerWindowAux]
    by_cases hb : b > n
    · simp only [hb, if_true, usub_of_le hj, hprev]
    · simp only [hb, if_false]
      exact ih (j + 1) (b, w) (by omega) (by omega) (by rw [Nat.add_sub_cancel, List.getElem?_eq_getElem hjl, hB])

/-! ## window recommendations (ec/mod.rs, ec/g1.rs, ec/g2.rs) -/

theorem num_bits_limbsOf (k : Nat) :
    D.FrRepr.num_bits (limbsOf 4 k) = if k % 2 ^ 256 = 0 then 0 else (k % 2 ^ 256).log2 + 1 := by
  rw [PP.GenDerive.FrRepr_num_bits _ (Limbs.limbsOf_length 4 k), Limbs.numBits_eq (Limbs.limbsOf_ok 4 k),
    Limbs.limbsToNat_limbsOf]

/-- `if num_bits >= t1 { w1 } else if num_bits >= t2 { w2 } else { d }` is the model's search in the ladder
    `[(t1, w1), (t2, w2)]` -/
theorem recScalar_eq (f : List Nat → Nat) (t1 w1 t2 w2 d : Nat)
    (hf : ∀ s, f s = if D.FrRepr.num_bits s ≥ t1 then w1 else if D.FrRepr.num_bits s ≥ t2 then w2 else d)
    (k : Nat) : f (limbsOf 4 k) = recommendForScalar [(t1, w1), (t2, w2)] d (k % 2 ^ 256) := by
  rw [hf, num_bits_limbsOf, recommendForScalar]
  generalize (if k % 2 ^ 256 = 0 then 0 else (k % 2 ^ 256).log2 + 1) = nb
  simp only [List.find?_cons, List.find?_nil, ge_iff_le]
  by_cases h1 : t1 ≤ nb
  · simp [h1]
  · by_cases h2 : t2 ≤ nb
    · simp [h1, h2]
    · simp [h1, h2]

theorem forBrkP_takeWhile (n : Nat) (f : Nat → Nat → Nat × Bool)
    (hf : ∀ s r, f s r = if n > r then (s + 1, false) else (s, true)) :
    ∀ (L : List Nat) (s : Nat), M.forBrkP L s f = s + (L.takeWhile (fun r => n > r)).length := by
  intro L
  induction L with
  | nil => intro s; rfl
  | cons r L ih =>
    intro s
    rw [M.forBrkP, hf, List.takeWhile_cons]
    by_cases h : n > r
    · simp only [h, if_true, decide_true, List.length_cons, Bool.false_eq_true, if_false, ih]; omega
    · simp [h]

open PP.Limbs PP.C08Limb in
section
/-- the body of the `while` loop of `wnaf_form` on limb lists (the shape of the generated code) -/
def wnafBody (w : Nat) (st : List Int × List Nat) : Option (List Int × List Nat) :=
  match (if D.FrRepr.is_odd st.2 then
      match st.2[0]? with
      | none => none
      | some t1 =>
        let u : Int := ((t1 % (1 <<< (w + 1)) : Nat) : Int)
        let u := if u > ((1 <<< w : Nat) : Int) then u - ((1 <<< (w + 1) : Nat) : Int) else u
        let c := if u > 0 then D.FrRepr.sub_noborrow st.2 (D.FrRepr.from_u64 (Int.toNat u))
                 else D.FrRepr.add_nocarry st.2 (D.FrRepr.from_u64 (Int.toNat (-u)))
        some (c, u)
    else some (st.2, (0 : Int))) with
  | none => none
  | some (c, u) => some (st.1 ++ [u], D.FrRepr.div2 c)

theorem frW : Mont.frP.W = 2 ^ 256 := rfl

theorem from_u64_limbs {v : Nat} (hv : v < 2 ^ 64) :
    Limbs 4 (D.FrRepr.from_u64 v) ∧ limbsToNat (D.FrRepr.from_u64 v) = v := by
  rw [PP.GenDerive.FrRepr_from_u64]
  refine ⟨⟨rfl, ?_⟩, ?_⟩
  · intro l hl
    simp only [List.mem_cons, List.mem_replicate] at hl
    rcases hl with rfl | ⟨_, rfl⟩
    · exact hv
    · decide
  · simp [limbsToNat, List.replicate]

theorem wnafBody_spec (w : Nat) (wn : List Int) (cl : List Nat) (hcl : Limbs 4 cl) :
    ∃ cl', wnafBody w (wn, cl) = some (wn ++ [(wnafStep (limbsToNat cl) w).1], cl') ∧ Limbs 4 cl' ∧
      limbsToNat cl' = (wnafStep (limbsToNat cl) w).2 := by
  obtain ⟨l0, l1, l2, l3, rfl⟩ : ∃ l0 l1 l2 l3, cl = [l0, l1, l2, l3] := by
    obtain ⟨hlen, _⟩ := hcl
    match cl, hlen with
    | [l0, l1, l2, l3], _ => exact ⟨l0, l1, l2, l3, rfl⟩
  have hl0 : l0 < 2 ^ 64 := hcl.2 l0 (by simp)
  generalize hcN : limbsToNat [l0, l1, l2, l3] = cN
  have hmod : cN % 2 ^ 64 = l0 := by
    rw [← hcN, limbsToNat_cons, Nat.add_mul_mod_self_left, Nat.mod_eq_of_lt hl0]
  have hodd : D.FrRepr.is_odd [l0, l1, l2, l3] = (cN % 2 == 1) := by
    rw [PP.GenDerive.FrRepr_is_odd, isOdd_eq, hcN]
  unfold wnafBody wnafStep
  simp only [hodd, List.getElem?_cons_zero, hmod, Nat.one_shiftLeft]
  by_cases hp : cN % 2 = 1
  · simp only [hp, beq_self_eq_true, if_true]
    generalize hu0 : l0 % 2 ^ (w + 1) = u0
    have hu0lt : u0 < 2 ^ 64 := by rw [← hu0]; exact Nat.lt_of_le_of_lt (Nat.mod_le _ _) hl0
    have hpow : (2 : Nat) ^ (w + 1) = 2 * 2 ^ w := by rw [Nat.pow_succ, Nat.mul_comm]
    generalize hA : (2 : Nat) ^ w = A at hpow
    have hcast1 : ((A : Nat) : Int) = (2 : Int) ^ w := by rw [← hA]; norm_cast
    have hcast2 : ((2 ^ (w + 1) : Nat) : Int) = (2 : Int) ^ (w + 1) := by norm_cast
    have hIpow : (2 : Int) ^ (w + 1) = 2 * (A : Int) := by rw [← hcast2, hpow]; norm_cast
    rw [hcast2]
    simp only [← hcast1, hIpow]
    -- the digit
    generalize hu : (if (u0 : Int) > (A : Int) then (u0 : Int) - 2 * (A : Int) else (u0 : Int)) = u
    have hubound : Int.toNat u < 2 ^ 64 ∧ Int.toNat (-u) < 2 ^ 64 := by
      rw [← hu]; split <;> omega
    by_cases hpos : u > 0
    · simp only [hpos, if_true]
      obtain ⟨hf1, hf2⟩ := from_u64_limbs hubound.1
      obtain ⟨hs1, hs2⟩ := PP.GenDerive.FrRepr_sub_noborrow_spec _ _ hcl hf1
      obtain ⟨hd1, hd2⟩ := PP.GenDerive.FrRepr_div2_spec _ hs1
      refine ⟨_, rfl, hd1, ?_⟩
      rw [hd2, hs2, hf2, hcN, frW]
    · simp only [hpos, if_false]
      obtain ⟨hf1, hf2⟩ := from_u64_limbs hubound.2
      obtain ⟨hs1, hs2⟩ := PP.GenDerive.FrRepr_add_nocarry_spec _ _ hcl hf1
      obtain ⟨hd1, hd2⟩ := PP.GenDerive.FrRepr_div2_spec _ hs1
      refine ⟨_, rfl, hd1, ?_⟩
      rw [hd2, hs2, hf2, hcN, frW]
  · have hp' : (cN % 2 == 1) = false := by simpa using hp
    simp only [hp', Bool.false_eq_true, if_false, hp]
    obtain ⟨hd1, hd2⟩ := PP.GenDerive.FrRepr_div2_spec _ hcl
    exact ⟨_, rfl, hd1, by rw [hd2, hcN]⟩

theorem wnafForm_loop (w : Nat) (old : List Int)
    (cond : List Int × List Nat → Bool) (body : List Int × List Nat → Option (List Int × List Nat))
    (hc : ∀ st, cond st = !(D.FrRepr.is_zero st.2)) (hb : ∀ st, body st = wnafBody w st) :
    ∀ fuel wn cl acc, Limbs 4 cl → wn = old.take 0 ++ acc.reverse →
      (match M.whileFuel fuel (wn, cl) cond body with
        | none => none
        | some (wnaf, _) => some wnaf)
        = (wnafFormLoop w fuel (limbsToNat cl) acc).map (fun l => old.take 0 ++ l) := by
  have hz : ∀ cl : List Nat, (!(D.FrRepr.is_zero cl)) = decide (limbsToNat cl ≠ 0) := by
    intro cl
    rw [PP.GenDerive.FrRepr_is_zero, Bool.eq_iff_iff, Bool.not_eq_true', ← Bool.not_eq_true, isZero_iff,
      decide_eq_true_iff]
  intro fuel
  induction fuel with
  | zero =>
    intro wn cl acc hcl hwn
    rw [M.whileFuel, wnafFormLoop, hc, hz]
    by_cases h0 : limbsToNat cl = 0 <;> simp [h0, hwn]
  | succ fuel ih =>
    intro wn cl acc hcl hwn
    rw [M.whileFuel, wnafFormLoop, hc, hz]
    by_cases h0 : limbsToNat cl = 0
    · simp [h0, hwn]
    · obtain ⟨cl', hb', hcl', hv'⟩ := wnafBody_spec w wn cl hcl
      simp only [h0, ne_eq, not_false_eq_true, decide_true, if_true, if_false, hb, hb']
      rw [← hv']
      exact ih _ cl' ((wnafStep (limbsToNat cl) w).1 :: acc) hcl'
        (by rw [hwn, List.reverse_cons, List.append_assoc])
end

section
variable {F : Type} [Add F] [Sub F] [Mul F] [Neg F] [Zero F] [One F] [FieldOps F] [DecidableEq F]

/-! ## the `Wnaf` context (src/wnaf.rs) -/

/-- the generated context of a model context -/
def ofCtx (ctx : WnafCtx F) : M.Wnaf Unit (List (Jac F)) (List Int) := ⟨ctx.base, ctx.scalar, ()⟩

theorem idx_mid {α : Type} (A : List α) (x : α) (B : List α) (n : Nat) (hn : n = A.length) :
    (A ++ x :: B)[n]? = some x := by
  subst hn; simp

theorem setIdx_mid {α : Type} (A : List α) (x y : α) (B : List α) (n : Nat) (hn : n = A.length) :
    M.setIdx (A ++ x :: B) n y = some (A ++ y :: B) := by
  subst hn
  unfold M.setIdx
  rw [if_pos (by simp)]
  simp

theorem mapM_some_forall₂ {α β : Type} (f : α → Option β) (l : List α) (out : List β)
    (h : l.mapM f = some out) : List.Forall₂ (fun a r => f a = some r) l out := by
  induction l generalizing out with
  | nil => cases h; exact .nil
  | cons a l ih =>
    simp only [List.mapM_cons, Option.bind_eq_bind, Option.pure_def, Option.bind_eq_some_iff,
      Option.some.injEq] at h
    obtain ⟨r, ha, rs, hl, rfl⟩ := h
    exact .cons ha (ih rs hl)

/-- the body of the inner `for` loop of `precomp_256` (the shape of the generated code) -/
def p256Inner (pl : Nat) (buf : List (Aff F)) (i : Nat) : Option (List (Aff F)) :=
  match buf[i]? with
  | none => none
  | some t2 =>
    match M.setIdx buf (i + pl) t2 with
    | none => none
    | some buf =>
      match buf[i]? with
      | none => none
      | some t3 =>
        match buf[pl]? with
        | none => none
        | some t4 =>
          match ((t3.toJac).addMixed t4).toAffine with
          | none => none
          | some t5 =>
            match M.setIdx buf (i + pl) t5 with
            | none => none
            | some buf => some buf

/-- The buffer inside the stage that doubles the table `Mm`: `Mm` itself, the new entry `top` at
    index `Mm.length`, the entries `done` already written above it, and the old contents `tail`, of
    which the remaining `m` iterations overwrite the first `m`. -/
theorem p256_inner (top : Aff F) (Mm : List (Aff F)) (g : List (Aff F) → Nat → Option (List (Aff F)))
    (hg : ∀ buf i, g buf i = p256Inner Mm.length buf i) :
    ∀ m j done tail, 1 ≤ j → j + m = Mm.length → done.length + 1 = j → m ≤ tail.length →
      M.forIn (List.range' j m) (Mm ++ top :: (done ++ tail)) g
        = ((Mm.drop j).mapM (fun (x : Aff F) => ((x.toJac).addMixed top).toAffine)).map
            (fun r => Mm ++ top :: (done ++ r ++ tail.drop m)) := by
  intro m
  induction m with
  | zero =>
    intro j done tail hj hjm hd hm
    have : j = Mm.length := by omega
    subst this
    simp
  | succ m ih =>
    intro j done tail hj hjm hd hm
    have hjl : j < Mm.length := by omega
    obtain ⟨x, tail', rfl⟩ : ∃ x tail', tail = x :: tail' := by
      cases tail with
      | nil => simp at hm
      | cons x t => exact ⟨x, t, rfl⟩
    have hlenA : j + Mm.length = (Mm ++ top :: done).length := by simp; omega
    have hre : ∀ y : Aff F, Mm ++ top :: (done ++ y :: tail') = (Mm ++ top :: done) ++ y :: tail' := by
      intro y; simp
    have hread : ∀ y : Aff F, ((Mm ++ top :: done) ++ y :: tail')[j]? = some Mm[j] := by
      intro y
      rw [List.append_assoc, List.getElem?_append_left hjl, List.getElem?_eq_getElem hjl]
    have hmid : ∀ y : Aff F, ((Mm ++ top :: done) ++ y :: tail')[Mm.length]? = some top := by
      intro y
      rw [List.append_assoc]
      exact idx_mid Mm top _ _ rfl
    have hset : ∀ y z : Aff F, M.setIdx ((Mm ++ top :: done) ++ y :: tail') (j + Mm.length) z
        = some ((Mm ++ top :: done) ++ z :: tail') := fun y z => setIdx_mid _ _ _ _ _ hlenA
    rw [List.range'_succ, forIn_cons, hg, p256Inner, List.drop_eq_getElem_cons hjl, List.mapM_cons]
    simp only [hre, hread, hmid, hset]
    cases he : ((Mm[j].toJac).addMixed top).toAffine with
    | none => simp
    | some t5 =>
      simp only
      have := ih (j + 1) (done ++ [t5]) tail' (by omega) (by omega) (by simp; omega) (by simpa using hm)
      simp only [List.append_assoc, List.cons_append, List.nil_append] at this ⊢
      rw [this]
      cases (Mm.drop (j + 1)).mapM (fun (x : Aff F) => ((x.toJac).addMixed top).toAffine) with
      | none => simp
      | some r => simp

/-- the body of the `while` loop of `precomp_256` (the shape of the generated code) -/
def p256Body (st : List (Aff F) × Nat × Jac F) : Option (List (Aff F) × Nat × Jac F) :=
  match st.2.2.toAffine with
  | none => none
  | some t1 =>
    match M.setIdx st.1 st.2.1 t1 with
    | none => none
    | some pre =>
      match M.forIn (List.range' 1 (st.2.1 - 1)) pre (fun pre i => p256Inner st.2.1 pre i) with
      | none => none
      | some pre => some (pre, st.2.1 * 2, if st.2.1 < 128 then st.2.2.doubleN 32 else st.2.2)

theorem p256_stage (Mm tail : List (Aff F)) (pw : Jac F) (hM : 1 ≤ Mm.length) (ht : Mm.length ≤ tail.length) :
    p256Body (Mm ++ tail, Mm.length, pw)
      = (precomp256Stage Mm pw).map (fun M' =>
          (M' ++ tail.drop Mm.length, Mm.length * 2, if Mm.length < 128 then pw.doubleN 32 else pw)) := by
  unfold p256Body precomp256Stage
  dsimp only
  cases pw.toAffine with
  | none => rfl
  | some top =>
    obtain ⟨y, tail', rfl⟩ : ∃ y tail', tail = y :: tail' := by
      cases tail with
      | nil => exfalso; simp only [List.length_nil] at ht; omega
      | cons y t => exact ⟨y, t, rfl⟩
    dsimp only
    rw [setIdx_mid Mm y top tail' _ rfl]
    dsimp only
    have := p256_inner top Mm (fun pre i => p256Inner Mm.length pre i) (fun _ _ => rfl) (Mm.length - 1) 1 [] tail'
      (by omega) (by omega) rfl (by simp at ht; omega)
    simp only [List.nil_append] at this
    rw [this]
    simp only [Option.bind_eq_bind, Option.bind_some, Option.pure_def]
    cases (Mm.drop 1).mapM (fun (x : Aff F) => ((x.toJac).addMixed top).toAffine) with
    | none => rfl
    | some r =>
      simp only [Option.map_some, Option.bind_some]
      have hd : List.drop Mm.length (y :: tail') = List.drop (Mm.length - 1) tail' := by
        obtain ⟨l, hl⟩ : ∃ l, Mm.length = l + 1 := ⟨Mm.length - 1, by omega⟩
        rw [hl, List.drop_succ_cons, Nat.add_sub_cancel]
      rw [hd]
      simp

theorem pow_facts : ∀ t, t ≤ 8 → ((2 ^ t ≤ 128 ↔ t ≤ 7) ∧ (2 ^ t < 128 ↔ t < 7) ∧ (t ≤ 7 → 2 * 2 ^ t ≤ 256) ∧ 1 ≤ 2 ^ t) := by
  decide

theorem precomp256Stage_length {Mm M' : List (Aff F)} {pw : Jac F} (h : precomp256Stage Mm pw = some M')
    (hM : 1 ≤ Mm.length) : M'.length = Mm.length * 2 := by
  unfold precomp256Stage at h
  simp only [Option.bind_eq_bind, Option.pure_def, Option.bind_eq_some_iff, Option.some.injEq] at h
  obtain ⟨top, -, rest, hr, rfl⟩ := h
  have := (mapM_some_forall₂ _ _ _ hr).length_eq
  simp only [List.length_append, List.length_cons, List.length_nil, List.length_drop] at this ⊢
  omega

/-- `t` counts the stages done (`Mm.length = 2 ^ t`, `n` to go); the caller's buffer `pre0` beyond the
    table rides along unchanged, and `extra` is the fuel the generated `while` has beyond the 8
    stages. -/
theorem p256_loop (pre0 : List (Aff F)) (h256 : 256 ≤ pre0.length)
    (cond : List (Aff F) × Nat × Jac F → Bool)
    (body : List (Aff F) × Nat × Jac F → Option (List (Aff F) × Nat × Jac F))
    (hc : ∀ st, cond st = decide (st.2.1 ≤ 128)) (hb : ∀ st, body st = p256Body st) :
    ∀ n t extra Mm pw, t + n = 8 → Mm.length = 2 ^ t →
      (match M.whileFuel (n + extra) (Mm ++ pre0.drop (2 ^ t), 2 ^ t, pw) cond body with
        | none => none
        | some (pre, _, _) => some pre)
        = (precomp256Loop n Mm pw).map (fun r => r ++ pre0.drop 256) := by
  intro n
  induction n with
  | zero =>
    intro t extra Mm pw ht hM
    have : t = 8 := by omega
    subst this
    have hcf : cond (Mm ++ pre0.drop (2 ^ 8), 2 ^ 8, pw) = false := by rw [hc]; simp
    cases extra with
    | zero => rw [Nat.zero_add, M.whileFuel, hcf]; rfl
    | succ e => rw [Nat.zero_add, M.whileFuel, hcf]; rfl
  | succ n ih =>
    intro t extra Mm pw ht hM
    obtain ⟨f1, f2, f3, f4⟩ := pow_facts t (by omega)
    have ht7 : t ≤ 7 := by omega
    have hct : cond (Mm ++ pre0.drop (2 ^ t), 2 ^ t, pw) = true := by
      rw [hc]; exact decide_eq_true (f1.2 ht7)
    have hfuel : n + 1 + extra = (n + extra) + 1 := by omega
    rw [hfuel, M.whileFuel, hct, if_pos rfl, hb, ← hM,
      p256_stage Mm (pre0.drop Mm.length) pw (by omega) (by rw [List.length_drop]; have := f3 ht7; omega),
      precomp256Loop]
    cases hst : precomp256Stage Mm pw with
    | none => rfl
    | some M' =>
      simp only [Option.map_some, Option.bind_eq_bind, Option.bind_some]
      have hdd : List.drop Mm.length (List.drop Mm.length pre0) = List.drop (2 ^ (t + 1)) pre0 := by
        rw [List.drop_drop, hM, Nat.pow_succ]; congr 1; omega
      have hpw : (if Mm.length < 128 then pw.doubleN 32 else pw) = (if n = 0 then pw else pw.doubleN 32) := by
        rw [hM]
        by_cases hn : n = 0
        · have : ¬ (2 ^ t < 128) := by rw [f2]; omega
          simp [hn, this]
        · have : 2 ^ t < 128 := by rw [f2]; omega
          simp [hn, this]
      have h2t : Mm.length * 2 = 2 ^ (t + 1) := by rw [hM, Nat.pow_succ]
      rw [hdd, hpw, h2t]
      exact ih (t + 1) extra M' _ (by omega) (by rw [precomp256Stage_length hst (by omega), h2t])
end

section
variable {F : Type} [Add F] [Sub F] [Mul F] [Neg F] [Zero F] [One F] [FieldOps F] [DecidableEq F]

/-- one point of the accumulation loop, as in the model's `pipAccumulate`, on a bucket LIST -/
def accStep (bsi window : Nat) (st : List (Jac F) × Nat) (p : Aff F) (s : List Nat) : Option (List (Jac F) × Nat) :=
  if pipAssertFails s bsi window then none
  else
    if pipDigit s bsi window > 0 then
      match st.1[pipDigit s bsi window]? with
      | none => none
      | some b => some (st.1.set (pipDigit s bsi window) (b.addMixed p), max st.2 (pipDigit s bsi window))
    else some st

theorem acc_loop (points : List (Aff F)) (ks : List Nat) (bsi window : Nat)
    (g : List (Jac F) × Nat → Nat → Option (List (Jac F) × Nat))
    (hg : ∀ st i (hp : i < points.length) (hs : i < ks.length),
      g st i = accStep bsi window st points[i] (limbsOf 4 ks[i])) :
    ∀ m j (L : List (Jac F)) (mb : Nat), j + m ≤ points.length → j + m ≤ ks.length →
      (match M.forIn (List.range' j m) (L, mb) g with
        | none => none
        | some (b, m) => some (b, m))
        = (pipAccumulate bsi window (((List.zip points (ks.map (limbsOf 4))).drop j).take m) (L.toArray, mb)).map
            (fun x => (x.1.toList, x.2)) := by
  intro m
  induction m with
  | zero => intro j L mb _ _; simp [pipAccumulate]
  | succ m ih =>
    intro j L mb hp hs
    have hjp : j < points.length := by omega
    have hjs : j < ks.length := by omega
    have hjz : j < (List.zip points (ks.map (limbsOf 4))).length := by simp; omega
    rw [List.range'_succ, forIn_cons, hg _ _ hjp hjs, List.drop_eq_getElem_cons hjz, List.take_succ_cons,
      List.getElem_zip, List.getElem_map, pipAccumulate, accStep]
    by_cases ha : pipAssertFails (limbsOf 4 ks[j]) bsi window = true
    · simp [ha]
    · simp only [ha, Bool.false_eq_true, if_false]
      by_cases hd : pipDigit (limbsOf 4 ks[j]) bsi window > 0
      · simp only [hd, if_true, List.getElem?_toArray]
        cases L[pipDigit (limbsOf 4 ks[j]) bsi window]? with
        | none => rfl
        | some b =>
          simp only
          rw [ih (j + 1) _ _ (by omega) (by omega)]
          simp
      · simp only [hd, if_false]
        exact ih (j + 1) _ _ (by omega) (by omega)

theorem some_pair_eta (o : Option (List (Jac F) × Nat)) :
    (match o with
      | none => none
      | some (b, m) => some (b, m)) = o := by
  cases o <;> rfl

/-- the accumulation loop over all pairs, whichever way its body reads the digit -/
theorem acc_all (points : List (Aff F)) (ks : List Nat) (bsi window : Nat) (L : List (Jac F))
    (g : List (Jac F) × Nat → Nat → Option (List (Jac F) × Nat))
    (hg : ∀ st i (hp : i < points.length) (hs : i < ks.length),
      g st i = accStep bsi window st points[i] (limbsOf 4 ks[i])) :
    (match M.forIn (List.range' 0 (min points.length ks.length)) (L, 0) g with
      | none => none
      | some (b, m) => some (b, m))
      = (pipAccumulate bsi window (List.zip points (ks.map (limbsOf 4))) (L.toArray, 0)).map
          (fun x => (x.1.toList, x.2)) := by
  have := acc_loop points ks bsi window g hg (min points.length ks.length) 0 L 0 (by omega) (by omega)
  rw [List.drop_zero, List.take_of_length_le (by simp)] at this
  exact this

/-- one iteration of the running-sum sweep (the shape of the generated code) -/
def redStep (st : Jac F × List (Jac F)) (i : Nat) : Option (Jac F × List (Jac F)) :=
  match st.2[i + 1]? with
  | none => none
  | some temp =>
    match st.2[i]? with
    | none => none
    | some bi =>
      match (st.2.set i (bi.add temp))[i]? with
      | none => none
      | some bi' =>
        match M.setIdx (st.2.set i (bi.add temp)) (i + 1) Jac.zero with
        | none => none
        | some L2 => some (st.1.add bi', L2)

theorem red_loop (h : Jac F × List (Jac F) → Nat → Option (Jac F × List (Jac F)))
    (hh : ∀ st i, h st i = redStep st i) :
    ∀ n (res : Jac F) (L : List (Jac F)),
      M.forIn (List.range' 1 n).reverse (res, L) h
        = (pipReduceLoop n (L.toArray, res)).map (fun x => (x.2, x.1.toList)) := by
  intro n
  induction n with
  | zero => intro res L; rfl
  | succ n ih =>
    intro res L
    rw [List.range'_concat, List.reverse_append, List.reverse_singleton, List.singleton_append, forIn_cons, hh,
      redStep, pipReduceLoop]
    simp only [Nat.one_mul, List.getElem?_toArray, Nat.add_comm 1 n]
    cases h2 : L[n + 1 + 1]? with
    | none => rfl
    | some temp =>
      cases h1 : L[n + 1]? with
      | none => rfl
      | some bi =>
        have hlt1 : n + 1 < L.length := (List.getElem?_eq_some_iff.1 h1).1
        have hlt2 : n + 1 + 1 < L.length := (List.getElem?_eq_some_iff.1 h2).1
        simp only
        rw [List.getElem?_set_self (by omega), setIdx_of_lt _ (by rw [List.length_set]; exact hlt2)]
        simp only
        rw [ih]
        simp

/-- the state of the outer loop of `sum_of_products_pippinger`: `(res, buckets, bit_sequence_index, num_doubles)` -/
abbrev PipSt (F : Type) := Jac F × List (Jac F) × Nat × Nat

/-- one pass of the outer loop, in terms of the model's functions -/
def pipIter (pairs : List (Aff F × List Nat)) (window : Nat) (st : PipSt F) : Option (PipSt F × Bool) :=
  match pipAccumulate st.2.2.1 window pairs (st.2.1.toArray, 0) with
  | none => none
  | some (A, mb) =>
    match pipReduce A (st.1.doubleN st.2.2.2) mb with
    | none => none
    | some (A, r) =>
      if st.2.2.1 < window then some ((r, A.toList, st.2.2.1, st.2.2.2), true)
      else some ((r, A.toList, st.2.2.1 - window,
        if st.2.2.1 - window < window - 1 then st.2.2.1 - window + 1 else window), false)

theorem pip_outer (pairs : List (Aff F × List Nat)) (window : Nat)
    (body : PipSt F → Option (PipSt F × Bool))
    (hb : ∀ st, st.2.2.1 ≤ 255 → body st = pipIter pairs window st) :
    ∀ fuel res (L : List (Jac F)) bsi nd, bsi ≤ 255 →
      (match M.loopFuel fuel (res, L, bsi, nd) body with
        | none => none
        | some (r, _, _, _) => some r) = pipLoop pairs window fuel bsi nd L.toArray res := by
  intro fuel
  induction fuel with
  | zero => intro res L bsi nd _; rfl
  | succ fuel ih =>
    intro res L bsi nd hbsi
    rw [M.loopFuel, hb _ hbsi, pipLoop, pipIter]
    simp only [Option.bind_eq_bind, Option.pure_def]
    cases pipAccumulate bsi window pairs (L.toArray, 0) with
    | none => rfl
    | some x =>
      obtain ⟨A, mb⟩ := x
      simp only [Option.bind_some]
      cases pipReduce A (res.doubleN nd) mb with
      | none => rfl
      | some y =>
        obtain ⟨A', r⟩ := y
        simp only [Option.bind_some]
        by_cases hlt : bsi < window
        · simp only [hlt, if_true]
        · simp only [hlt, if_false]
          have := ih r A'.toList (bsi - window) (if bsi - window < window - 1 then bsi - window + 1 else window) (by omega)
          simpa using this

theorem sumOfProductsPippinger_eq (points : List (Aff F)) (ks : List Nat) (window : Nat) (hw : window ≤ 64) :
    M.Aff.sumOfProductsPippinger 257 points (ks.map (limbsOf 4)) window
      = sumOfProductsPippinger points ks window := by
  unfold M.Aff.sumOfProductsPippinger sumOfProductsPippinger
  by_cases h0 : window = 0
  · subst h0; rfl
  have hw1 : 1 ≤ window := by omega
  simp only [h0, if_false, usub_of_le hw1, Nat.one_shiftLeft, usub_of_le (Nat.one_le_two_pow (n := window)),
    Jac_zero_eq, Jac_double_eq, Jac_add_eq, Jac_addMixed_eq, foldl_double, List.length_map, ite_lt_eq_min]
  refine pip_outer (List.zip points (ks.map (limbsOf 4))) window _ ?_ 257 Jac.zero
    (List.replicate (2 ^ window) Jac.zero) 255 0 (by decide)
  intro st hbsi
  obtain ⟨res, L, bsi, nd⟩ := st
  dsimp only at hbsi ⊢
  have hwi : bsi >>> 6 < 4 := by rw [Nat.shiftRight_eq_div_pow]; omega
  have hidx : ∀ (k j : Nat), j < 4 → (limbsOf 4 k)[j]? = some ((limbsOf 4 k).getD j 0) := by
    intro k j hj
    rw [List.getD_eq_getElem?_getD, List.getElem?_eq_getElem (by simp; omega)]; rfl
  have hmax : ∀ a b : Nat, (if a > b then a else b) = max b a := by
    intro a b; split <;> omega
  have h2pow : ∀ x : Nat, M.usub (2 ^ x) 1 = some (2 ^ x - 1) := fun x => usub_of_le Nat.one_le_two_pow
  -- The generated code spells the accumulation loop out three times, once per way of reading the
  -- digit (low end of limb 0, across two limbs, inside one limb).  `E` names the whole three-way `if`,
  -- so that `hacc` can replace it by the model's single `pipAccumulate`, each branch through `acc_all`.
  generalize hE : (if bsi &&& 63 < window - 1 then _ else _ : Option (List (Jac F) × Nat)) = E
  have hacc : E = (pipAccumulate bsi window (List.zip points (ks.map (limbsOf 4))) (L.toArray, 0)).map
      (fun x => (x.1.toList, x.2)) := by
    subst hE
    by_cases hb1 : bsi &&& 63 < window - 1
    · by_cases hb2 : bsi >>> 6 = 0
      · simp only [hb1, hb2, if_true, h2pow]
        refine (some_pair_eta _).trans (acc_all points ks bsi window L _ ?_)
        · intro st i hp hs
          obtain ⟨B, mb⟩ := st
          have hwi0 : (0 : Nat) < 4 := by decide
          simp only [List.getElem?_map, List.getElem?_eq_getElem hs, List.getElem?_eq_getElem hp, Option.map_some,
            hidx _ 0 hwi0, accStep, pipAssertFails, pipDigit, hb1, hb2, if_true, Bool.false_eq_true, if_false,
            Nat.one_shiftLeft, hmax]
          exact some_pair_eta _
      · have hle : bsi &&& 63 ≤ window - 1 := by omega
        have hle2 : window - 1 - (bsi &&& 63) ≤ 64 := by omega
        have hle3 : 1 ≤ bsi >>> 6 := by omega
        simp only [hb1, hb2, if_true, if_false, h2pow, usub_of_le hle, usub_of_le hle2, usub_of_le hle3]
        refine (some_pair_eta _).trans (acc_all points ks bsi window L _ ?_)
        · intro st i hp hs
          obtain ⟨B, mb⟩ := st
          have hwi1 : bsi >>> 6 - 1 < 4 := by omega
          simp only [List.getElem?_map, List.getElem?_eq_getElem hs, List.getElem?_eq_getElem hp, Option.map_some,
            hidx _ _ hwi, hidx _ _ hwi1, accStep, pipAssertFails, pipDigit, hb1, hb2, if_true, Bool.false_eq_true,
            if_false, Nat.one_shiftLeft, hmax]
          exact some_pair_eta _
    · have hle : window - 1 ≤ bsi &&& 63 := by omega
      simp only [hb1, if_false, usub_of_le hle]
      refine acc_all points ks bsi window L _ ?_
      intro st i hp hs
      obtain ⟨B, mb⟩ := st
      simp only [List.getElem?_map, List.getElem?_eq_getElem hs, List.getElem?_eq_getElem hp, Option.map_some,
        hidx _ _ hwi, accStep, pipAssertFails, pipDigit, hb1, if_false, hmax]
      generalize (limbsOf 4 ks[i]).getD 3 0 >>> 63 = v
      by_cases ha : bsi ≠ 255 ∨ v = 0
      · have : (bsi == 255 && v != 0) = false := by
          rcases ha with h | h
          · simp [h]
          · simp [h]
        simp only [ha, not_true_eq_false, if_false, this, Bool.false_eq_true]
        exact some_pair_eta _
      · have : (bsi == 255 && v != 0) = true := by
          simp only [not_or, ne_eq, not_not] at ha
          simp [ha.1, ha.2]
        simp only [ha, not_false_eq_true, if_true, this]
  subst hacc
  unfold pipIter
  dsimp only
  cases pipAccumulate bsi window (points.zip (List.map (limbsOf 4) ks)) (L.toArray, 0) with
  | none => rfl
  | some x =>
    obtain ⟨A, mb⟩ := x
    simp only [Option.map_some, pipReduce, Array.getElem?_toList, Option.bind_eq_bind]
    cases A[mb]? with
    | none => rfl
    | some t23 =>
      simp only [Option.bind_some]
      -- `rw` would not recognise the generated closure as `redStep`: name the loop and substitute its value
      generalize hR : M.forIn (List.range' 1 (mb - 1)).reverse _ _ = R
      obtain rfl : R = _ := hR.symm.trans (red_loop _ (fun _ _ => rfl) _ _ _)
      rw [Array.toArray_toList]
      cases pipReduceLoop (mb - 1) (A, (res.doubleN nd).add t23) with
      | none => rfl
      | some y =>
        obtain ⟨A', r⟩ := y
        simp only [Option.map_some, Option.bind_some, M.setIdx, Array.length_toList]
        by_cases hs : A'.size ≤ 1
        · have : ¬ (1 < A'.size) := by omega
          simp [hs, this]
        · have : 1 < A'.size := by omega
          by_cases hlt : bsi < window
          · simp [hs, this, hlt]
          · simp [hs, this, hlt, usub_of_le (Nat.le_of_not_lt hlt)]
end

end PP.GenMsmLemmas
