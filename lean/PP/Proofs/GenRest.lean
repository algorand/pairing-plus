/-
Lemmas for PP/Props/GenRest.lean about the definitions generated from the Rust source by
/verif/extract/extract_rest.py (`PP/Gen/Rest.lean`, namespace `PP.Gen.R`): the three passes of
`batch_normalization`, `random`, cofactor scaling.

Proof method: the loop combinators of Rest.lean (`R.forMut`, `R.forMutZip`, `R.loopRet`) are related to the
model's structural recursions (`bnProds`, `bnInv`, `bnAffine`, `randomSpec`) by induction with generalised
accumulators; calls of generated curve operations are first rewritten into the model's with the equalities of
PP/Proofs/GenArith.lean, PP/Proofs/GenEnc.lean; nothing evaluates field arithmetic (the curve code is generic
in the coefficient field `F`; the concrete statements only compare limb lists of natural numbers).
-/
import PP.Gen.Rest
import PP.Proofs.GenArith
import PP.Proofs.GenEnc


-- the lemmas are stated under the operations of the generated code, used or not, as their callers have them
set_option linter.unusedSectionVars false

namespace PP.GenRestLemmas
open PP PP.Gen PP.GenArithLemmas PP.GenEncLemmas

section
variable {F : Type} [Add F] [Sub F] [Mul F] [Neg F] [Zero F] [One F] [FieldOps F] [DecidableEq F]

theorem toJac_finite (x y : F) : PP.Aff.toJac (⟨x, y, false⟩ : Aff F) = ⟨x, y, 1⟩ := by
  unfold PP.Aff.toJac; simp

theorem bnInv_nil (gs : List (Jac F)) (t : F) : Jac.bnInv gs [] t = gs := by
  induction gs with
  | nil => rfl
  | cons g gs ih =>
    unfold Jac.bnInv
    by_cases h : g.isNormalized = true
    · simp only [h, if_true, ih]
    · simp only [h, ih]; rfl

/-- first pass: the running products -/
theorem forMut_prods (f : List F × F → Jac F → (List F × F) × Jac F)
    (hf : ∀ p t g, f (p, t) g = ((p ++ [t * g.z], t * g.z), g)) (xs : List (Jac F)) (acc : List F) (t : F) :
    R.forMut xs (fun g => !(Jac.isNormalized g)) (acc, t) f
      = (xs, (acc ++ Jac.bnProds xs t, (Jac.bnProds xs t).getLastD t)) := by
  induction xs generalizing acc t with
  | nil => simp [R.forMut, Jac.bnProds]
  | cons g gs ih =>
    unfold R.forMut Jac.bnProds
    by_cases h : g.isNormalized = true
    · simp only [h, Bool.not_true, if_true, ih]; simp
    · have h' : g.isNormalized = false := by simpa using h
      simp only [h', Bool.not_false, if_true, hf, ih, List.getLastD_cons, List.append_assoc,
        List.singleton_append, Bool.false_eq_true, if_false]

/-- second pass (on the reversed list): the inverses -/
theorem forMutZip_inv (f : F → Jac F → F → F × Jac F)
    (hf : ∀ t g s, f t g s = (t * g.z, (⟨g.x, g.y, t * s⟩ : Jac F))) (xs : List (Jac F)) (ss : List F) (t : F) :
    (R.forMutZip xs (fun g => !(Jac.isNormalized g)) ss t f).1 = Jac.bnInv xs ss t := by
  induction xs generalizing ss t with
  | nil => simp [R.forMutZip, Jac.bnInv]
  | cons g gs ih =>
    unfold R.forMutZip Jac.bnInv
    by_cases h : g.isNormalized = true
    · simp only [h, Bool.not_true, if_true, ih]; simp
    · have h' : g.isNormalized = false := by simpa using h
      cases ss with
      | nil => simp [h', bnInv_nil]
      | cons s ss' => simp [h', hf, ih]

/-- third pass: the affine transformation -/
theorem forMut_affine (f : Unit → Jac F → Unit × Jac F)
    (hf : ∀ g, f () g = ((), (⟨g.x * sq g.z, g.y * (sq g.z * g.z), 1⟩ : Jac F))) (xs : List (Jac F)) :
    (R.forMut xs (fun g => !(Jac.isNormalized g)) () f).1 = xs.map Jac.bnAffine := by
  induction xs with
  | nil => simp [R.forMut]
  | cons g gs ih =>
    unfold R.forMut
    by_cases h : g.isNormalized = true
    · simp [h, ih, Jac.bnAffine]
    · have h' : g.isNormalized = false := by simpa using h
      simp [h', hf, ih, Jac.bnAffine]

/- the specification of `CurveProjective::random` is the model's `PP.Jac.randomSpec` (PP/Model/Curve.lean; it is also
   run by the model driver against the real code with a replaying RNG) -/
export PP.Jac (randomSpec)

theorem Jac_random_eq {Rng : Type} [SqrtOps F] (fuel : Nat) (baseRandom : Rng → Rng × F) (nextU32 : Rng → Rng × Nat)
    (b : F) (cof : Aff F → Jac F) (rng : Rng) :
    R.Jac.random fuel baseRandom nextU32 b cof rng = randomSpec baseRandom nextU32 b cof fuel rng := by
  unfold R.Jac.random
  simp only [Aff_getPointFromX_eq, Jac_isZero_eq]
  induction fuel generalizing rng with
  | zero => rfl
  | succ n ih =>
    unfold R.loopRet randomSpec
    simp only
    cases hgp : PP.Aff.getPointFromX b (baseRandom rng).2 ((nextU32 (baseRandom rng).1).2 % 2 != 0) with
    | none => simp only [ih]
    | some p =>
      by_cases hz : (cof p).isZero = true
      · simp only [hz, Bool.not_true, ih]; simp
      · have hz' : (cof p).isZero = false := by simpa using hz
        simp only [hz', Bool.not_false]; simp

end

/-- `Fq2::random` draws `c0` first, then `c1` (the order the model driver replays) -/
theorem Fq2_random_eq {Rng : Type} (fqRandom : Rng → Rng × Fq) (rng : Rng) :
    R.Fq2.random fqRandom rng
      = ((fqRandom (fqRandom rng).1).1, (⟨(fqRandom rng).2, (fqRandom (fqRandom rng).1).2⟩ : Fq2)) := rfl

/-! ## per group: cofactor scaling (src/bls12_381/ec/g1.rs, ec/g2.rs) -/

theorem g1_cofactor_limbs :
    [0x8c00aaab0000aaab, 0x396c8c005555e156] = limbsOf Gen.G1_COFACTOR_LIMBS Gen.G1_COFACTOR := by decide +kernel

theorem g2_cofactor_limbs :
    [0xcf1c38e31c7238e5, 0x1616ec6e786f0c70, 0x21537e293a6691ae, 0xa628f1cb4d9e82ef, 0xa68a205b2e5a7ddf,
     0xcd91de4547085aba, 0x91d50792876a202, 0x5d543a95414e7f1]
      = limbsOf Gen.G2_COFACTOR_LIMBS Gen.G2_COFACTOR := by decide +kernel

theorem G1Affine_scaleByCofactor_eq (p : Aff Fq) :
    R.G1Affine.scaleByCofactor p = PP.Aff.mulBits p (bitsMSB (limbsOf Gen.G1_COFACTOR_LIMBS Gen.G1_COFACTOR)) := by
  unfold R.G1Affine.scaleByCofactor
  rw [Aff_mulBits_eq, g1_cofactor_limbs]

theorem G2Affine_scaleByCofactor_eq (p : Aff Fq2) :
    R.G2Affine.scaleByCofactor p = PP.Aff.mulBits p (bitsMSB (limbsOf Gen.G2_COFACTOR_LIMBS Gen.G2_COFACTOR)) := by
  unfold R.G2Affine.scaleByCofactor
  -- the generic code applied at `Fq2` carries the generated operation bundles; they are the model's instances
  rw [Fq2_instAdd_eq', Fq2_instSub_eq', Fq2_instMul_eq', Fq2_instZero_eq', Fq2_instOne_eq', Fq2_instFieldOps_eq',
    Aff_mulBits_eq, g2_cofactor_limbs]

theorem G1_random_eq {Rng : Type} (fuel : Nat) (fqRandom : Rng → Rng × Fq) (nextU32 : Rng → Rng × Nat) (rng : Rng) :
    R.Jac.random fuel fqRandom nextU32 E.G1Affine.getCoeffB R.G1Affine.scaleByCofactor rng
      = randomSpec fqRandom nextU32 g1Codec.b
          (fun p => PP.Aff.mulBits p (bitsMSB (limbsOf Gen.G1_COFACTOR_LIMBS Gen.G1_COFACTOR))) fuel rng := by
  rw [Jac_random_eq, G1Affine_getCoeffB_eq, (funext G1Affine_scaleByCofactor_eq : R.G1Affine.scaleByCofactor = _)]

theorem G2_random_eq {Rng : Type} (fuel : Nat) (fqRandom : Rng → Rng × Fq) (nextU32 : Rng → Rng × Nat) (rng : Rng) :
    R.Jac.random fuel (R.Fq2.random fqRandom) nextU32 E.G2Affine.getCoeffB R.G2Affine.scaleByCofactor rng
      = randomSpec (R.Fq2.random fqRandom) nextU32 g2Codec.b
          (fun p => PP.Aff.mulBits p (bitsMSB (limbsOf Gen.G2_COFACTOR_LIMBS Gen.G2_COFACTOR))) fuel rng := by
  rw [Jac_random_eq, G2Affine_getCoeffB_eq, (funext G2Affine_scaleByCofactor_eq : R.G2Affine.scaleByCofactor = _)]

end PP.GenRestLemmas
