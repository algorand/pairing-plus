/-
C16, homomorphism law of the 11-isogeny, layer 2: the point map is additive.

`E1' = Wab g1EllpA g1EllpB` is the isogenous curve `E₁' : y² = x³ + A'x + B'` over `Fq` as a Mathlib
curve, `iso11Pt : E1'.Point → (W b₁).Point` the RFC's `iso_map` (`isoMapPoint` on the tables of
`isogeny/g1.rs`, `O ↦ O`).  Unlike the 3-isogeny of G2, the kernel is RATIONAL: the ten points
`(tₖ, ±sₖ)` (`K(tₖ) = 0`) and `O`.  From the identities of `PP/Proofs/IsoHom11Ids.lean`:

* `dbl_weak`   : `φ(2P) = ±2φ(P)` for every `P` (tangent identity; for `P` in the kernel it shows that
                 `2P` is in the kernel);
* `Tk_nsmul`   : the kernel points are the multiples `k·T = (tₖ, sₖ)` of `T = (t₁, s₁)` (point additions
                 with Mathlib's formulas, the field arithmetic run by the kernel);
* `ti`         : **translation invariance** `φ(P + T) = φ(P)` for every `P`: for the generator by the
                 identities `tix_id`, `tiy_id` (both coordinates), hence for its multiples;
* `chord_generic` : `φ(P₁ + P₂) = ±(φP₁ + φP₂)` when `x₁ ≠ x₂`, `P₁, P₂ ∉ ker`, `X(x₁) ≠ X(x₂)` (chord
                 identity);
* `ker_of_gt`  : if `x₁ ≠ x₂` and `XN(x₁)·K(x₂)² = XN(x₂)·K(x₁)²` (outside the kernel: `X(x₁) = X(x₂)`)
                 then `P₁ + P₂` or `P₁ − P₂` is in the kernel (`norm_id`), and this case follows from
                 `ti` and `dbl_weak`;
* `chord_weak` : hence `φ(P₁ + P₂) = ±(φP₁ + φP₂)` whenever `x₁ ≠ x₂`, and with `dbl_weak` for ALL `P, Q`
                 (`IsoHom.addUpToSign_of_affine`); `φ` is odd and `E₁(Fq)` has no point of order two, so
                 `φ` is additive (`IsoHom.additive_of_weak`): `iso11Pt_add`.
-/
import PP.Proofs.IsoHom11Ids
import PP.Proofs.IsoHom
import PP.Proofs.Assembly
import PP.Proofs.Encoding


namespace PP
namespace IsoHom11

open WeierstrassCurve.Affine IsoPoly Iso
open IsoHom (Wab Wab_negY Wab_addX Wab_equation_iff Wab_a₁ Wab_a₂ Wab_a₃ Wab_a₄ Wab_a₆ additive_of_weak
  AddUpToSign addUpToSign_of_affine W_no_order_two)

local notation "b₁" => g1Codec.b
local notation "Kp" => evalP iso11Ker
local notation "XN" => evalP iso11XNum
local notation "XD" => evalP iso11XDen
local notation "YN" => evalP iso11YNum
local notation "YD" => evalP iso11YDen

abbrev E1' : WeierstrassCurve.Affine Fq := Wab g1EllpA g1EllpB

theorem E1'_eq {x y : Fq} (h : E1'.Nonsingular x y) : y ^ 2 = fq x := by
  have := (Wab_equation_iff _ _ x y).mp h.1
  unfold fq; linear_combination this

theorem fq_ne (x : Fq) : fq x ≠ 0 := Sswu.g1_no_root x

theorem E1'_y_ne {x y : Fq} (h : E1'.Nonsingular x y) : y ≠ 0 := by
  rintro rfl
  apply fq_ne x
  rw [← E1'_eq h]; ring

theorem E1'_nonsingular {x y : Fq} (h : y ^ 2 = fq x) : E1'.Nonsingular x y :=
  IsoHom.Wab_nonsingular fq_two_ne_zero fq_ne h

theorem E1'_y_ne_negY {x y : Fq} (h : E1'.Nonsingular x y) : y ≠ E1'.negY x y := by
  rw [Wab_negY]
  intro hc
  have : 2 * y = 0 := by linear_combination hc
  exact E1'_y_ne h ((mul_eq_zero.mp this).resolve_left fq_two_ne_zero)

/-- two points with the same abscissa are equal or opposite -/
theorem y_eq_or {x y y' : Fq} (h : y ^ 2 = fq x) (h' : y' ^ 2 = fq x) : y = y' ∨ y = -y' := by
  have : (y - y') * (y + y') = 0 := by linear_combination h - h'
  rcases mul_eq_zero.mp this with e | e
  · exact Or.inl (sub_eq_zero.mp e)
  · exact Or.inr (eq_neg_of_add_eq_zero_left e)

/-! ## the tables: `XD = K²`, `YD = K³`, homogeneous evaluation -/

theorem xden_eq (x : Fq) : XD x = Kp x ^ 2 := by rw [iso11_xden_ker, evalP_sqP]
theorem yden_eq (x : Fq) : YD x = Kp x ^ 3 := by rw [iso11_yden_ker, evalP_cubeP]

theorem hEval_xnum (n d : Fq) (hd : d ≠ 0) : hEval iso11XNum n d = d ^ 11 * XN (n / d) := by
  rw [hEval_eq_evalP _ _ hd, iso11_lengths.1]
theorem hEval_xden (n d : Fq) (hd : d ≠ 0) : hEval iso11XDen n d = d ^ 10 * XD (n / d) := by
  rw [hEval_eq_evalP _ _ hd, iso11_lengths.2.1]
theorem hEval_ynum (n d : Fq) (hd : d ≠ 0) : hEval iso11YNum n d = d ^ 15 * YN (n / d) := by
  rw [hEval_eq_evalP _ _ hd, iso11_lengths.2.2.1]
theorem hEval_yden (n d : Fq) (hd : d ≠ 0) : hEval iso11YDen n d = d ^ 15 * YD (n / d) := by
  rw [hEval_eq_evalP _ _ hd, iso11_lengths.2.2.2]
theorem hEval_ker (n d : Fq) (hd : d ≠ 0) : hEval iso11Ker n d = d ^ 5 * Kp (n / d) := by
  rw [hEval_eq_evalP _ _ hd]; rfl

/-- the zeros of `K` are the five `tₖ` -/
theorem ker_root {x : Fq} (h : Kp x = 0) : ∃ k, (1 ≤ k ∧ k ≤ 5) ∧ x = tq k := by
  rw [ker_factor] at h
  rcases mul_eq_zero.mp h with h | h
  · rcases mul_eq_zero.mp h with h | h
    · rcases mul_eq_zero.mp h with h | h
      · rcases mul_eq_zero.mp h with h | h
        · exact ⟨1, by decide, sub_eq_zero.mp h⟩
        · exact ⟨2, by decide, sub_eq_zero.mp h⟩
      · exact ⟨3, by decide, sub_eq_zero.mp h⟩
    · exact ⟨4, by decide, sub_eq_zero.mp h⟩
  · exact ⟨5, by decide, sub_eq_zero.mp h⟩

theorem ker_tq (k : Nat) (hk : 1 ≤ k ∧ k ≤ 5) : Kp (tq k) = 0 := by
  rw [ker_factor]
  obtain ⟨h1, h5⟩ := hk
  interval_cases k <;> simp

/-- `XN` and `K` have no common zero -/
theorem xnum_ne_of_ker {x : Fq} (h : Kp x = 0) : XN x ≠ 0 := by
  obtain ⟨k, hk, rfl⟩ := ker_root h
  exact xnum_tq_ne k hk

/-- the RFC's `iso_map` on the group of points of `E₁'` -/
noncomputable def iso11Pt : E1'.Point → (W b₁).Point
  | .zero => 0
  | .some x y _ => isoMapPoint b₁ iso11XNum iso11XDen iso11YNum iso11YDen x y

theorem iso11Pt_zero : iso11Pt 0 = 0 := rfl

theorem iso11Pt_some {x y : Fq} (h : E1'.Nonsingular x y) :
    iso11Pt (Point.some x y h) = isoMapPoint b₁ iso11XNum iso11XDen iso11YNum iso11YDen x y := rfl

/-- the image of a point outside the kernel is on `E₁` -/
theorem img_eq {x y : Fq} (h : y ^ 2 = fq x) (hk : Kp x ≠ 0) :
    (y * YN x / YD x) ^ 2 = (XN x / XD x) ^ 3 + b₁ := by
  have hid := iso_id x
  rw [xden_eq, yden_eq, C16.g1_b, div_pow, div_pow, mul_pow, h]
  generalize XN x = n at *
  generalize YN x = m at *
  generalize Kp x = k at *
  generalize fq x = f at *
  field_simp
  linear_combination hid

theorem img_nonsingular {x y : Fq} (h : y ^ 2 = fq x) (hk : Kp x ≠ 0) :
    (W b₁).Nonsingular (XN x / XD x) (y * YN x / YD x) :=
  W_nonsingular b₁ (img_eq h hk)

theorem iso11Pt_of_ker {x y : Fq} (h : E1'.Nonsingular x y) (hk : Kp x = 0) :
    iso11Pt (Point.some x y h) = 0 := by
  rw [iso11Pt_some]
  unfold isoMapPoint
  rw [dif_neg]
  intro hc
  apply hc.1
  rw [xden_eq, hk]; ring

/-- the other points go to the affine point `(XN/XD, y·YN/YD)` -/
theorem iso11Pt_of_not_ker {x y : Fq} (h : E1'.Nonsingular x y) (hk : Kp x ≠ 0) :
    iso11Pt (Point.some x y h) = Point.some _ _ (img_nonsingular (E1'_eq h) hk) := by
  rw [iso11Pt_some]
  unfold isoMapPoint
  rw [dif_pos ⟨by rw [xden_eq]; exact pow_ne_zero 2 hk, by rw [yden_eq]; exact pow_ne_zero 3 hk,
    img_nonsingular (E1'_eq h) hk⟩]

theorem iso11Pt_some_eq_zero_iff {x y : Fq} (h : E1'.Nonsingular x y) :
    iso11Pt (Point.some x y h) = 0 ↔ Kp x = 0 := by
  constructor
  · intro e
    by_contra hk
    rw [iso11Pt_of_not_ker h hk] at e
    exact Point.some_ne_zero _ e
  · exact iso11Pt_of_ker h

theorem iso11Pt_neg (P : E1'.Point) : iso11Pt (-P) = -iso11Pt P := by
  rcases P with _ | ⟨x, y, h⟩
  · rfl
  · rw [Point.neg_some]
    by_cases hk : Kp x = 0
    · rw [iso11Pt_of_ker _ hk, iso11Pt_of_ker _ hk]; rfl
    · rw [iso11Pt_of_not_ker _ hk, iso11Pt_of_not_ker _ hk, Point.neg_some, PP.Point.some_eq_some]
      refine ⟨rfl, ?_⟩
      rw [Wab_negY, W_negY]; ring

/-- the image of a point outside the kernel has a nonzero ordinate (`E₁` has no 2-torsion) -/
theorem img_y_ne {x y : Fq} (h : y ^ 2 = fq x) (hk : Kp x ≠ 0) : y * YN x / YD x ≠ 0 := by
  intro h0
  have e := img_eq h hk
  rw [h0] at e
  apply g1_no_two_torsion (XN x / XD x)
  linear_combination -e

theorem ynum_ne {x y : Fq} (h : y ^ 2 = fq x) (hk : Kp x ≠ 0) : YN x ≠ 0 := by
  intro h0
  apply img_y_ne h hk
  rw [h0]; simp

theorem target_no2 (Q : (W b₁).Point) (h : Q + Q = 0) : Q = 0 :=
  W_no_order_two (fun x hx => g1_no_two_torsion x (by linear_combination hx)) Q h

theorem dbl_addX {x y : Fq} (h : E1'.Nonsingular x y) :
    E1'.addX x x (E1'.slope x x y y) = tanNF x / (4 * fq x) := by
  have e := E1'_eq h
  have hy := E1'_y_ne h
  have h2 := fq_two_ne_zero
  have h4 := IsoHom.four_ne fq_two_ne_zero
  rw [Wab_addX, slope_of_Y_ne rfl (E1'_y_ne_negY h), Wab_negY]
  simp only [Wab_a₁, Wab_a₂, Wab_a₄]
  unfold tanNF
  rw [← e]
  have : y - -y = 2 * y := by ring
  rw [this]
  field_simp
  ring

/-- the tangent identity at a point of the curve, `x₃ = x(2P)` -/
theorem dbl_key (x : Fq) :
    4 * fq x * XN (tanNF x / (4 * fq x)) * (YN x ^ 2 * Kp x ^ 2) =
      Kp (tanNF x / (4 * fq x)) ^ 2 * (9 * XN x ^ 4 - 8 * fq x * YN x ^ 2 * XN x) := by
  have hw : 4 * fq x ≠ 0 := mul_ne_zero (IsoHom.four_ne fq_two_ne_zero) (fq_ne x)
  have ht := tan_id x
  rw [hEval_xnum _ _ hw, hEval_xden _ _ hw, xden_eq] at ht
  apply mul_left_cancel₀ (pow_ne_zero 10 hw)
  linear_combination ht

theorem dbl_alg {F : Type} [Field F] (a m k y : F) (hm : m ≠ 0) (hk : k ≠ 0) (hy : y ≠ 0)
    (h2 : (2 : F) ≠ 0) :
    (3 * (a / k ^ 2) ^ 2 / (2 * (y * m / k ^ 3))) ^ 2 - a / k ^ 2 - a / k ^ 2 =
      (9 * a ^ 4 - 8 * y ^ 2 * m ^ 2 * a) / (4 * y ^ 2 * (m ^ 2 * k ^ 2)) := by
  have h4 : (4 : F) ≠ 0 := IsoHom.four_ne h2
  field_simp
  ring

/-- `φ(2P) = ±2φ(P)`; if `P` is a kernel point, so is `2P` -/
theorem dbl_weak {x y : Fq} (h : E1'.Nonsingular x y) :
    AddUpToSign iso11Pt (Point.some x y h) (Point.some x y h) := by
  unfold AddUpToSign
  have e := E1'_eq h
  have hy0 := E1'_y_ne h
  have key := dbl_key x
  have hX3 := dbl_addX h
  have hw : 4 * fq x ≠ 0 := mul_ne_zero (IsoHom.four_ne fq_two_ne_zero) (fq_ne x)
  rw [Point.add_self_of_Y_ne (E1'_y_ne_negY h)]
  by_cases hk : Kp x = 0
  · left
    have hk3 : Kp (E1'.addX x x (E1'.slope x x y y)) = 0 := by
      rw [hX3]
      have hid := iso_id x
      rw [hk] at key hid
      have hxn := xnum_ne_of_ker hk
      have h0 : Kp (tanNF x / (4 * fq x)) ^ 2 * XN x ^ 4 = 0 := by
        linear_combination (-1 : Fq) * key + (8 * XN x * Kp (tanNF x / (4 * fq x)) ^ 2) * hid
      rcases mul_eq_zero.mp h0 with h0 | h0
      · exact pow_eq_zero_iff (by norm_num) |>.mp h0
      · exact absurd (pow_eq_zero_iff (by norm_num) |>.mp h0) hxn
    rw [iso11Pt_of_ker _ hk3, iso11Pt_of_ker h hk, add_zero]
  · have hyn := ynum_ne e hk
    have hk3 : Kp (E1'.addX x x (E1'.slope x x y y)) ≠ 0 := by
      rw [hX3]
      intro h0
      rw [h0] at key
      have hxn := xnum_ne_of_ker h0
      have : 4 * fq x * XN (tanNF x / (4 * fq x)) * (YN x ^ 2 * Kp x ^ 2) ≠ 0 :=
        mul_ne_zero (mul_ne_zero hw hxn) (mul_ne_zero (pow_ne_zero 2 hyn) (pow_ne_zero 2 hk))
      apply this
      rw [key]; ring
    have hY := img_y_ne e hk
    have hY' : y * YN x / YD x ≠ (W b₁).negY (XN x / XD x) (y * YN x / YD x) := W_y_ne_negY _ _ hY
    rw [iso11Pt_of_not_ker _ hk3, iso11Pt_of_not_ker h hk, Point.add_self_of_Y_ne hY']
    apply Point.X_eq_iff.mp
    have hL : XN (tanNF x / (4 * fq x)) / XD (tanNF x / (4 * fq x)) =
        (9 * XN x ^ 4 - 8 * y ^ 2 * YN x ^ 2 * XN x) / (4 * y ^ 2 * (YN x ^ 2 * Kp x ^ 2)) := by
      rw [hX3] at hk3
      rw [xden_eq, e, div_eq_div_iff (pow_ne_zero 2 hk3)
        (mul_ne_zero hw (mul_ne_zero (pow_ne_zero 2 hyn) (pow_ne_zero 2 hk)))]
      linear_combination key
    rw [W_slope_tangent _ _ hY, hX3, hL, xden_eq, yden_eq]
    simp only [addX, W_a₁, W_a₂]
    rw [← dbl_alg (XN x) (YN x) (Kp x) y hyn hk hy0 fq_two_ne_zero]
    ring

theorem Tk_nonsingular (k : Nat) (hk : 1 ≤ k ∧ k ≤ 5) : E1'.Nonsingular (tq k) (sq' k) :=
  E1'_nonsingular (by rw [pow_two]; exact sq_tq k hk)

/-- the kernel point `k·T` (`O` outside `1 ≤ k ≤ 5`) -/
noncomputable def Tk (k : Nat) : E1'.Point :=
  if hk : 1 ≤ k ∧ k ≤ 5 then Point.some (tq k) (sq' k) (Tk_nonsingular k hk) else 0

theorem Tk_eq (k : Nat) (hk : 1 ≤ k ∧ k ≤ 5) :
    Tk k = Point.some (tq k) (sq' k) (Tk_nonsingular k hk) := by
  unfold Tk; rw [dif_pos hk]

theorem iso11Pt_Tk (k : Nat) : iso11Pt (Tk k) = 0 := by
  unfold Tk
  split
  · next hk => exact iso11Pt_of_ker _ (ker_tq k hk)
  · rfl

theorem Tk_dbl : Tk 1 + Tk 1 = Tk 2 := by
  have h1 : (1 : Nat) ≤ 1 ∧ 1 ≤ 5 := by decide
  have h2 : (1 : Nat) ≤ 2 ∧ 2 ≤ 5 := by decide
  have hy := E1'_y_ne_negY (Tk_nonsingular 1 h1)
  rw [Tk_eq 1 h1, Tk_eq 2 h2, Point.add_self_of_Y_ne hy, PP.Point.some_eq_some]
  constructor
  · rw [slope_of_Y_ne rfl hy, Wab_negY, Wab_addX]
    simp only [Wab_a₁, Wab_a₂, Wab_a₄]
    decide +kernel
  · unfold addY negAddY
    rw [slope_of_Y_ne rfl hy, Wab_negY, Wab_negY, Wab_addX]
    simp only [Wab_a₁, Wab_a₂, Wab_a₄]
    decide +kernel

/-- `kT + T = (k+1)T` for `k = 2, 3, 4` -/
theorem Tk_succ (k : Nat) (hk : 2 ≤ k ∧ k ≤ 4) : Tk k + Tk 1 = Tk (k + 1) := by
  have h1 : (1 : Nat) ≤ 1 ∧ 1 ≤ 5 := by decide
  have hk' : 1 ≤ k ∧ k ≤ 5 := ⟨by omega, by omega⟩
  have hk'' : 1 ≤ k + 1 ∧ k + 1 ≤ 5 := ⟨by omega, by omega⟩
  have hne : tq k ≠ tq 1 := by
    obtain ⟨a, b⟩ := hk
    interval_cases k <;> decide +kernel
  rw [Tk_eq k hk', Tk_eq 1 h1, Tk_eq (k + 1) hk'', Point.add_of_X_ne hne, PP.Point.some_eq_some]
  constructor
  · rw [slope_of_X_ne hne, Wab_addX]
    obtain ⟨a, b⟩ := hk
    interval_cases k <;> decide +kernel
  · unfold addY negAddY
    rw [slope_of_X_ne hne, Wab_negY, Wab_addX]
    obtain ⟨a, b⟩ := hk
    interval_cases k <;> decide +kernel

theorem Tk_nsmul (k : Nat) (hk : 1 ≤ k ∧ k ≤ 5) : k • Tk 1 = Tk k := by
  have e1 : 1 • Tk 1 = Tk 1 := one_nsmul _
  have e2 : 2 • Tk 1 = Tk 2 := by rw [succ_nsmul, e1, Tk_dbl]
  have e3 : 3 • Tk 1 = Tk 3 := by rw [succ_nsmul, e2, Tk_succ 2 (by decide)]
  have e4 : 4 • Tk 1 = Tk 4 := by rw [succ_nsmul, e3, Tk_succ 3 (by decide)]
  have e5 : 5 • Tk 1 = Tk 5 := by rw [succ_nsmul, e4, Tk_succ 4 (by decide)]
  obtain ⟨a, b⟩ := hk
  interval_cases k
  exacts [e1, e2, e3, e4, e5]

/-- a point is in the kernel iff it is `O` or one of `±kT`, `k = 1..5` -/
theorem iso11Pt_eq_zero_iff_Tk (P : E1'.Point) :
    iso11Pt P = 0 ↔ P = 0 ∨ ∃ k, (1 ≤ k ∧ k ≤ 5) ∧ (P = Tk k ∨ P = -Tk k) := by
  constructor
  · intro h
    rcases P with _ | ⟨x, y, hP⟩
    · exact Or.inl rfl
    · right
      have hk0 := (iso11Pt_some_eq_zero_iff hP).mp h
      obtain ⟨k, hk, rfl⟩ := ker_root hk0
      refine ⟨k, hk, ?_⟩
      rw [Tk_eq k hk]
      rcases y_eq_or (E1'_eq hP) (E1'_eq (Tk_nonsingular k hk)) with rfl | rfl
      · exact Or.inl rfl
      · right
        rw [Point.neg_some, PP.Point.some_eq_some]
        exact ⟨rfl, by rw [Wab_negY]⟩
  · rintro (rfl | ⟨k, hk, rfl | rfl⟩)
    · rfl
    · exact iso11Pt_Tk k
    · rw [iso11Pt_neg, iso11Pt_Tk k, neg_zero]

/-- abscissa of a sum of two points with different abscissae -/
theorem chord_addX {x₁ y₁ x₂ y₂ : Fq} (e₁ : y₁ ^ 2 = fq x₁) (e₂ : y₂ ^ 2 = fq x₂) (hx : x₁ ≠ x₂) :
    E1'.addX x₁ x₂ (E1'.slope x₁ x₂ y₁ y₂) = (chordSF x₁ x₂ - 2 * (y₁ * y₂)) / (x₁ - x₂) ^ 2 := by
  have hd : x₁ - x₂ ≠ 0 := sub_ne_zero.mpr hx
  rw [Wab_addX, slope_of_X_ne hx]
  unfold chordSF
  unfold fq at e₁ e₂
  field_simp
  linear_combination e₁ + e₂

theorem tiNF_eq (x y : Fq) : tiNF x y = chordSF x (tq 1) - 2 * (y * sq' 1) := by
  unfold tiNF chordSF; ring

/-- `(x − t)³ ·` the ordinate of a sum -/
theorem chord_addY {x₁ y₁ x₂ y₂ : Fq} (hx : x₁ ≠ x₂) :
    E1'.addY x₁ x₂ y₁ (E1'.slope x₁ x₂ y₁ y₂) * (x₁ - x₂) ^ 3 =
      -((y₁ - y₂) * (E1'.addX x₁ x₂ (E1'.slope x₁ x₂ y₁ y₂) * (x₁ - x₂) ^ 2 - x₁ * (x₁ - x₂) ^ 2))
        - y₁ * (x₁ - x₂) ^ 3 := by
  have hd : x₁ - x₂ ≠ 0 := sub_ne_zero.mpr hx
  unfold addY negAddY
  rw [Wab_negY, slope_of_X_ne hx]
  generalize E1'.addX x₁ x₂ ((y₁ - y₂) / (x₁ - x₂)) = X
  field_simp
  ring

/-- `φ(P + T) = φ(P)` for the generator `T = (t₁, s₁)` of the kernel -/
theorem ti_one (P : E1'.Point) : iso11Pt (P + Tk 1) = iso11Pt P := by
  have h1 : (1 : Nat) ≤ 1 ∧ 1 ≤ 5 := by decide
  rw [Tk_eq 1 h1]
  have hT := Tk_nonsingular 1 h1
  have hkT : Kp (tq 1) = 0 := ker_tq 1 h1
  have es : sq' 1 ^ 2 = fq (tq 1) := E1'_eq hT
  rcases P with _ | ⟨x, y, h⟩
  · show iso11Pt (0 + _) = iso11Pt 0
    rw [zero_add, iso11Pt_of_ker hT hkT]; rfl
  have e := E1'_eq h
  by_cases hx : x = tq 1
  · subst hx
    rw [iso11Pt_of_ker h hkT]
    rcases y_eq_or e es with rfl | rfl
    · -- `P = T`: `2P` is in the kernel
      rcases dbl_weak h with hw | hw
      · rw [hw, iso11Pt_of_ker h hkT, add_zero]
      · rw [hw, iso11Pt_of_ker h hkT, add_zero, neg_zero]
    · -- `P = −T`
      rw [Point.add_of_Y_eq rfl (by rw [Wab_negY])]; rfl
  · have hd : x - tq 1 ≠ 0 := sub_ne_zero.mpr hx
    have hX' := chord_addX e es hx
    have hY' := chord_addY (y₁ := y) (y₂ := sq' 1) hx
    rw [← tiNF_eq] at hX'
    have hyy : y * y = fq x := by rw [← pow_two]; exact e
    -- abscissa identity
    have kx : XN (tiNF x y / (x - tq 1) ^ 2) * Kp x ^ 2 =
        Kp (tiNF x y / (x - tq 1) ^ 2) ^ 2 * XN x := by
      have ht := tix_id x y hyy
      rw [hEval_xnum _ _ (pow_ne_zero 2 hd), hEval_xden _ _ (pow_ne_zero 2 hd), xden_eq] at ht
      apply mul_left_cancel₀ (pow_ne_zero 11 (pow_ne_zero 2 hd))
      -- as a sum, `ring` would expand its powers
      generalize x - tq 1 = w at ht ⊢
      linear_combination ht
    rw [Point.add_of_X_ne hx]
    by_cases hkx : Kp x = 0
    · have hk' : Kp (E1'.addX x (tq 1) (E1'.slope x (tq 1) y (sq' 1))) = 0 := by
        rw [hX']
        rw [hkx] at kx
        have hxn := xnum_ne_of_ker hkx
        have h0 : Kp (tiNF x y / (x - tq 1) ^ 2) ^ 2 * XN x = 0 := by rw [← kx]; ring
        exact pow_eq_zero_iff (by norm_num) |>.mp ((mul_eq_zero.mp h0).resolve_right hxn)
      rw [iso11Pt_of_ker _ hk', iso11Pt_of_ker h hkx]
    · have hk' : Kp (E1'.addX x (tq 1) (E1'.slope x (tq 1) y (sq' 1))) ≠ 0 := by
        rw [hX']
        intro h0
        rw [h0] at kx
        have hxn := xnum_ne_of_ker h0
        have : XN (tiNF x y / (x - tq 1) ^ 2) * Kp x ^ 2 ≠ 0 := mul_ne_zero hxn (pow_ne_zero 2 hkx)
        apply this
        rw [kx]; ring
      rw [iso11Pt_of_not_ker _ hk', iso11Pt_of_not_ker h hkx, PP.Point.some_eq_some]
      have hk'' := hk'
      rw [hX'] at hk''
      -- ordinate identity
      have hM : E1'.addY x (tq 1) y (E1'.slope x (tq 1) y (sq' 1)) * (x - tq 1) ^ 3 = tiMF x y := by
        rw [hY', hX']
        unfold tiMF
        field_simp
      have ky : E1'.addY x (tq 1) y (E1'.slope x (tq 1) y (sq' 1)) *
          YN (tiNF x y / (x - tq 1) ^ 2) * Kp x ^ 3 =
          Kp (tiNF x y / (x - tq 1) ^ 2) ^ 3 * (y * YN x) := by
        have ht := tiy_id x y hyy
        rw [hEval_ynum _ _ (pow_ne_zero 2 hd), hEval_yden _ _ (pow_ne_zero 2 hd), yden_eq, ← hM] at ht
        apply mul_left_cancel₀ (mul_ne_zero (pow_ne_zero 3 hd) (pow_ne_zero 15 (pow_ne_zero 2 hd)))
        generalize x - tq 1 = w at ht ⊢
        linear_combination ht
      constructor
      · rw [hX', xden_eq, xden_eq, div_eq_div_iff (pow_ne_zero 2 hk'') (pow_ne_zero 2 hkx)]
        linear_combination kx
      · rw [hX', yden_eq, yden_eq, div_eq_div_iff (pow_ne_zero 3 hk'') (pow_ne_zero 3 hkx)]
        linear_combination ky

theorem ti_nsmul (n : Nat) (P : E1'.Point) : iso11Pt (P + n • Tk 1) = iso11Pt P := by
  induction n with
  | zero => rw [zero_nsmul, add_zero]
  | succ n ih => rw [succ_nsmul, ← add_assoc, ti_one, ih]

/-- translation invariance: `φ(P + T) = φ(P)` for every kernel point `T`, a multiple of the
    generator -/
theorem ti (T P : E1'.Point) (hT : iso11Pt T = 0) : iso11Pt (P + T) = iso11Pt P := by
  rcases (iso11Pt_eq_zero_iff_Tk T).mp hT with rfl | ⟨k, hk, rfl | rfl⟩
  · rw [add_zero]
  · rw [← Tk_nsmul k hk]
    exact ti_nsmul k P
  · rw [← Tk_nsmul k hk, ← ti_nsmul k (P + -(k • Tk 1)), neg_add_cancel_right]

theorem chord_alg {F : Type} [Field F] (a₁ a₂ m₁ m₂ k₁ k₂ y₁ y₂ : F) (hk₁ : k₁ ≠ 0) (hk₂ : k₂ ≠ 0)
    (hg : a₁ * k₂ ^ 2 - a₂ * k₁ ^ 2 ≠ 0) :
    ((y₁ * m₁ / k₁ ^ 3 - y₂ * m₂ / k₂ ^ 3) / (a₁ / k₁ ^ 2 - a₂ / k₂ ^ 2)) ^ 2 - a₁ / k₁ ^ 2 - a₂ / k₂ ^ 2 =
      (y₁ ^ 2 * m₁ ^ 2 * k₂ ^ 6 + y₂ ^ 2 * m₂ ^ 2 * k₁ ^ 6
          - 2 * (y₁ * y₂) * (m₁ * m₂ * (k₁ ^ 3 * k₂ ^ 3))
          - (a₁ * k₂ ^ 2 + a₂ * k₁ ^ 2) * (a₁ * k₂ ^ 2 - a₂ * k₁ ^ 2) ^ 2) /
        (k₁ ^ 2 * k₂ ^ 2 * (a₁ * k₂ ^ 2 - a₂ * k₁ ^ 2) ^ 2) := by
  have hs : a₁ / k₁ ^ 2 - a₂ / k₂ ^ 2 = (a₁ * k₂ ^ 2 - a₂ * k₁ ^ 2) / (k₁ ^ 2 * k₂ ^ 2) := by
    field_simp
  rw [hs]
  generalize a₁ * k₂ ^ 2 - a₂ * k₁ ^ 2 = g at *
  field_simp
  ring

/-- `φ(P₁ + P₂) = ±(φP₁ + φP₂)`: different abscissae, no kernel point, different image abscissae -/
theorem chord_generic {x₁ y₁ x₂ y₂ : Fq} (h₁ : E1'.Nonsingular x₁ y₁) (h₂ : E1'.Nonsingular x₂ y₂)
    (hx : x₁ ≠ x₂) (k₁ : Kp x₁ ≠ 0) (k₂ : Kp x₂ ≠ 0) (hg : gtF x₁ x₂ ≠ 0) :
    AddUpToSign iso11Pt (Point.some x₁ y₁ h₁) (Point.some x₂ y₂ h₂) := by
  unfold AddUpToSign
  have e₁ := E1'_eq h₁
  have e₂ := E1'_eq h₂
  have hd : x₁ - x₂ ≠ 0 := sub_ne_zero.mpr hx
  have hp : y₁ * y₂ * (y₁ * y₂) = fq x₁ * fq x₂ := by rw [← e₁, ← e₂]; ring
  have hX3 := chord_addX e₁ e₂ hx
  have hden : chordDenF x₁ x₂ ≠ 0 := by
    unfold chordDenF
    exact mul_ne_zero (mul_ne_zero (pow_ne_zero 2 k₁) (pow_ne_zero 2 k₂)) (pow_ne_zero 2 hg)
  have ckey : XN ((chordSF x₁ x₂ - 2 * (y₁ * y₂)) / (x₁ - x₂) ^ 2) * chordDenF x₁ x₂ =
      Kp ((chordSF x₁ x₂ - 2 * (y₁ * y₂)) / (x₁ - x₂) ^ 2) ^ 2 * chordNumF x₁ x₂ (y₁ * y₂) := by
    have hc := chord_id x₁ x₂ (y₁ * y₂) hp
    rw [hEval_xnum _ _ (pow_ne_zero 2 hd), hEval_xden _ _ (pow_ne_zero 2 hd), xden_eq] at hc
    apply mul_left_cancel₀ (pow_ne_zero 11 (pow_ne_zero 2 hd))
    generalize x₁ - x₂ = w at hc ⊢
    linear_combination hc
  have hk3 : Kp ((chordSF x₁ x₂ - 2 * (y₁ * y₂)) / (x₁ - x₂) ^ 2) ≠ 0 := by
    intro h0
    rw [h0] at ckey
    have hxn := xnum_ne_of_ker h0
    apply mul_ne_zero hxn hden
    rw [ckey]; ring
  have hk3' : Kp (E1'.addX x₁ x₂ (E1'.slope x₁ x₂ y₁ y₂)) ≠ 0 := by rw [hX3]; exact hk3
  have hX : XN x₁ / XD x₁ ≠ XN x₂ / XD x₂ := by
    intro hc
    apply hg
    rw [xden_eq, xden_eq, div_eq_div_iff (pow_ne_zero 2 k₁) (pow_ne_zero 2 k₂)] at hc
    unfold gtF
    linear_combination hc
  rw [Point.add_of_X_ne hx, iso11Pt_of_not_ker _ hk3', iso11Pt_of_not_ker h₁ k₁,
    iso11Pt_of_not_ker h₂ k₂, Point.add_of_X_ne hX]
  apply Point.X_eq_iff.mp
  have hL : XN ((chordSF x₁ x₂ - 2 * (y₁ * y₂)) / (x₁ - x₂) ^ 2) /
      XD ((chordSF x₁ x₂ - 2 * (y₁ * y₂)) / (x₁ - x₂) ^ 2) =
        chordNumF x₁ x₂ (y₁ * y₂) / chordDenF x₁ x₂ := by
    rw [xden_eq, div_eq_div_iff (pow_ne_zero 2 hk3) hden]
    linear_combination ckey
  rw [slope_of_X_ne hX, hX3, hL]
  simp only [addX, W_a₁, W_a₂]
  have hg' : XN x₁ * Kp x₂ ^ 2 - XN x₂ * Kp x₁ ^ 2 ≠ 0 := hg
  have := chord_alg (XN x₁) (XN x₂) (YN x₁) (YN x₂) (Kp x₁) (Kp x₂) y₁ y₂ k₁ k₂ hg'
  rw [xden_eq, xden_eq, yden_eq, yden_eq]
  unfold chordNumF chordDenF gtF
  rw [← e₁, ← e₂]
  linear_combination -this

/-- if the images of two points with different abscissae have the same abscissa, then the sum or
    the difference of the two points is in the kernel -/
theorem ker_of_gt {x₁ y₁ x₂ y₂ : Fq} (e₁ : y₁ ^ 2 = fq x₁) (e₂ : y₂ ^ 2 = fq x₂) (hx : x₁ ≠ x₂)
    (hg : gtF x₁ x₂ = 0) :
    Kp (E1'.addX x₁ x₂ (E1'.slope x₁ x₂ y₁ y₂)) = 0 ∨
      Kp (E1'.addX x₁ x₂ (E1'.slope x₁ x₂ y₁ (-y₂))) = 0 := by
  have hd : x₁ - x₂ ≠ 0 := sub_ne_zero.mpr hx
  have hp : y₁ * y₂ * (y₁ * y₂) = fq x₁ * fq x₂ := by rw [← e₁, ← e₂]; ring
  have e₂' : (-y₂) ^ 2 = fq x₂ := by rw [neg_sq]; exact e₂
  rw [chord_addX e₁ e₂ hx, chord_addX e₁ e₂' hx]
  have hn := norm_id x₁ x₂ (y₁ * y₂) hp
  rw [hg, hEval_ker _ _ (pow_ne_zero 2 hd), hEval_ker _ _ (pow_ne_zero 2 hd)] at hn
  have h5 : ((x₁ - x₂) ^ 2) ^ 5 ≠ 0 := pow_ne_zero 5 (pow_ne_zero 2 hd)
  have h0 : Kp ((chordSF x₁ x₂ - 2 * (y₁ * y₂)) / (x₁ - x₂) ^ 2) *
      Kp ((chordSF x₁ x₂ + 2 * (y₁ * y₂)) / (x₁ - x₂) ^ 2) = 0 := by
    apply mul_left_cancel₀ (mul_ne_zero (mul_ne_zero h5 h5) hd)
    generalize x₁ - x₂ = w at hn ⊢
    linear_combination hn
  have e : chordSF x₁ x₂ - 2 * (y₁ * -y₂) = chordSF x₁ x₂ + 2 * (y₁ * y₂) := by ring
  rw [e]
  exact mul_eq_zero.mp h0

/-- the exceptional case: `P + Q` or `P − Q` is a kernel point -/
theorem weak_of_ker (P Q : E1'.Point) (h : iso11Pt (P + Q) = 0 ∨ iso11Pt (P + -Q) = 0)
    (hdbl : AddUpToSign iso11Pt Q Q) : AddUpToSign iso11Pt P Q := by
  unfold AddUpToSign at hdbl ⊢
  rcases h with h | h
  · left
    have e := ti (P + Q) (-P) h
    rw [neg_add_cancel_left] at e
    rw [h, e, iso11Pt_neg, add_neg_cancel]
  · have e1 := ti (P + -Q) Q h
    have a1 : Q + (P + -Q) = P := by abel
    rw [a1] at e1
    have e2 := ti (P + -Q) (Q + Q) h
    have a2 : Q + Q + (P + -Q) = P + Q := by abel
    rw [a2] at e2
    rw [e2, e1]
    exact hdbl

/-- additivity up to sign for two points with different abscissae, all cases -/
theorem chord_weak {x₁ y₁ x₂ y₂ : Fq} (h₁ : E1'.Nonsingular x₁ y₁) (h₂ : E1'.Nonsingular x₂ y₂)
    (hx : x₁ ≠ x₂) : AddUpToSign iso11Pt (Point.some x₁ y₁ h₁) (Point.some x₂ y₂ h₂) := by
  by_cases k₁ : Kp x₁ = 0
  · left
    have hP := iso11Pt_of_ker h₁ k₁
    rw [add_comm, ti _ _ hP, hP, zero_add]
  by_cases k₂ : Kp x₂ = 0
  · left
    have hQ := iso11Pt_of_ker h₂ k₂
    rw [ti _ _ hQ, hQ, add_zero]
  have e₁ := E1'_eq h₁
  have e₂ := E1'_eq h₂
  by_cases hg : gtF x₁ x₂ = 0
  · -- the exceptional case: `P ± Q` is a kernel point
    have h₂' : E1'.Nonsingular x₂ (-y₂) := E1'_nonsingular (by rw [neg_sq]; exact e₂)
    have hneg : -Point.some x₂ y₂ h₂ = Point.some x₂ (-y₂) h₂' := by
      rw [Point.neg_some, PP.Point.some_eq_some]
      exact ⟨rfl, by rw [Wab_negY]⟩
    apply weak_of_ker _ _ _ (dbl_weak h₂)
    rcases ker_of_gt e₁ e₂ hx hg with hk | hk
    · left
      rw [Point.add_of_X_ne hx]
      exact iso11Pt_of_ker _ hk
    · right
      rw [hneg, Point.add_of_X_ne hx]
      exact iso11Pt_of_ker _ hk
  · exact chord_generic h₁ h₂ hx k₁ k₂ hg

theorem iso11Pt_add (P Q : E1'.Point) : iso11Pt (P + Q) = iso11Pt P + iso11Pt Q :=
  additive_of_weak iso11Pt target_no2 iso11Pt_neg
    (addUpToSign_of_affine iso11Pt rfl iso11Pt_neg dbl_weak chord_weak) P Q

noncomputable def iso11Hom : E1'.Point →+ (W b₁).Point := AddMonoidHom.mk' iso11Pt iso11Pt_add

/-- the kernel: `O` and the affine points whose abscissa is a zero of `K` -/
theorem iso11Pt_eq_zero_iff (P : E1'.Point) :
    iso11Pt P = 0 ↔ P = 0 ∨ ∃ x y h, P = Point.some x y h ∧ Kp x = 0 := by
  rcases P with _ | ⟨x, y, h⟩
  · exact ⟨fun _ => Or.inl rfl, fun _ => rfl⟩
  · rw [iso11Pt_some_eq_zero_iff]
    constructor
    · intro hk
      exact Or.inr ⟨x, y, h, rfl, hk⟩
    · rintro (h0 | ⟨x', y', h', e, hk⟩)
      · exact absurd h0 (Point.some_ne_zero _)
      · obtain ⟨rfl, rfl⟩ := PP.Point.some_eq_some.mp e
        exact hk

end IsoHom11
end PP
