/-
Output lengths of the executable hash functions of `PP/Spec/Hash.lean`, for every input (and, for SHAKE,
every requested length).

Core Lean only.  Method: `simp only` turns the `for … in [a:b]` loops of the `Id.run do` blocks into
`List.foldl` over `List.range'`; sizes are then tracked through the folds (`foldl_size_add`: every step
appends `c` bytes; `foldl_inv`: a predicate preserved by every step), from the facts of
`PP/Proofs/HashEval.lean` about what `pushZeros`, `pushBE` and the compression functions return.
SHA-2 (`sha2_out_size`): the chaining value always has 8 words and each word contributes `pushBE … 4` /
`pushBE … 8` bytes.  SHAKE: every squeeze round appends `8 * (rate / 8)` bytes whatever the state, there
are `ceil(outLen / rate)` rounds, and the final `extract 0 outLen` cuts to `outLen`.
-/
import PP.Proofs.HashEval

namespace PP.Hash

/-! ## generic helpers -/

theorem byteArray_toList_length (bs : ByteArray) : bs.toList.length = bs.size := by
  rw [toList_eq_data, Array.length_toList]; rfl

theorem foldl_size_add {α} (f : ByteArray → α → ByteArray) (c : Nat)
    (hf : ∀ b a, (f b a).size = b.size + c) (l : List α) (b : ByteArray) :
    (l.foldl f b).size = b.size + c * l.length := by
  induction l generalizing b with
  | nil => simp
  | cons a l ih => simp only [List.foldl_cons, ih, hf, List.length_cons, Nat.mul_add]; omega

theorem foldl_inv {α β} (P : β → Prop) (f : β → α → β) (hf : ∀ b a, P b → P (f b a))
    (l : List α) (b : β) (hb : P b) : P (l.foldl f b) :=
  foldl_sim (fun b (_ : Unit) => P b) f (fun u _ => u) (fun b _ a => hf b a) l b () hb

/-- a `for` loop (in `Id`) over a list with state `(σ, ByteArray)` whose body always continues and
always appends exactly `c` bytes to the second component -/
theorem forIn_yield_size {α σ} (c : Nat)
    (f : α → σ × ByteArray → Id (ForInStep (σ × ByteArray)))
    (hf : ∀ a s, ∃ s', f a s = pure (ForInStep.yield s') ∧ s'.2.size = s.2.size + c)
    (l : List α) (init : σ × ByteArray) :
    (forIn l init f).run.2.size = init.2.size + c * l.length := by
  induction l generalizing init with
  | nil => simp
  | cons a l ih =>
    obtain ⟨s', h1, h2⟩ := hf a init
    rw [List.forIn_cons, h1]
    simp only [pure_bind]
    rw [ih, h2, List.length_cons, Nat.mul_add]; omega

/-! ## the shared byte-pushing helpers -/

theorem size_eq_length_data (b : ByteArray) : b.size = b.data.toList.length := Array.length_toList.symm

theorem pushZeros_size (b : ByteArray) (k : Nat) : (pushZeros b k).size = b.size + k := by
  rw [size_eq_length_data, pushZeros_data, List.length_append, List.length_replicate, ← size_eq_length_data]

theorem pushBE_size (b : ByteArray) (n k : Nat) : (pushBE b n k).size = b.size + k := by
  rw [size_eq_length_data, pushBE_data, List.length_append, List.length_map, List.length_range',
    ← size_eq_length_data]

/-! ## SHA-256 / SHA-512 -/

/-- the output stage of the SHA-2 functions: `k` bytes for each word of the chaining value, which has
8 words whatever the initial value and the message, since the compression function returns 8 words -/
theorem sha2_out_size {W : Type} (block : Array W → Nat → Array W)
    (hblock : ∀ H a, (block H a).size = 8) (toNat : W → Nat) (k : Nat) (IV : Array W)
    (hIV : IV.size = 8) (l : List Nat) (b : ByteArray) :
    (Array.foldl (fun b x => pushBE b (toNat x) k) b (List.foldl block IV l)).size
      = b.size + k * 8 := by
  rw [← Array.foldl_toList, foldl_size_add _ k (fun _ _ => pushBE_size _ _ _), Array.length_toList,
    foldl_inv (fun H : Array W => H.size = 8) block (fun H a _ => hblock H a) l IV hIV]

theorem sha256_length (m : List UInt8) : (sha256 m).length = 32 := by
  unfold sha256
  simp only [Std.Legacy.Range.forIn_eq_forIn_range', Std.Legacy.Range.size, Nat.sub_zero, Nat.add_one_sub_one,
    Nat.div_one, List.forIn_pure_yield_eq_foldl, Array.forIn_pure_yield_eq_foldl, bind_pure_comp, map_pure, Id.run_pure]
  rw [byteArray_toList_length, sha2_out_size _ (fun _ _ => sha256Block_size _ _ _) _ 4 _ (by decide)]
  rfl

theorem sha512_length (m : List UInt8) : (sha512 m).length = 64 := by
  unfold sha512
  simp only [Std.Legacy.Range.forIn_eq_forIn_range', Std.Legacy.Range.size, Nat.sub_zero, Nat.add_one_sub_one,
    Nat.div_one, List.forIn_pure_yield_eq_foldl, Array.forIn_pure_yield_eq_foldl, bind_pure_comp, map_pure, Id.run_pure]
  rw [byteArray_toList_length, sha2_out_size _ (fun _ _ => sha512Block_size _ _ _) _ 8 _ (by decide)]
  rfl

/-! ## the Keccak sponge, SHAKE128 / SHAKE256 -/

/-- one squeeze round appends `8 * r` bytes (`r = rate / 8` lanes, 8 bytes each) -/
theorem squeeze_size (A : Array UInt64) (out : ByteArray) (r : Nat) :
    (List.foldl (fun b i =>
        List.foldl (fun b j => b.push (A[i]! >>> (8 * UInt64.ofNat j)).toUInt8) b
          (List.range' 0 8)) out (List.range' 0 r)).size = out.size + 8 * r := by
  rw [foldl_size_add _ 8]
  · simp
  · intro b a
    rw [foldl_size_add _ 1 (by simp)]; simp

/-- The sponge returns exactly `outLen` bytes, for every message, suffix byte and output length,
as soon as the byte rate is a positive multiple of 8 (no upper bound on `rate` is needed for the
length). -/
theorem keccakSponge_length (rate : Nat) (suffix : UInt8) (msg : List UInt8) (outLen : Nat)
    (hr : 8 ∣ rate) (h0 : 0 < rate) : (keccakSponge rate suffix msg outLen).length = outLen := by
  unfold keccakSponge
  simp only [List.size_toByteArray, ByteArray.size_set!, Array.set!_eq_setIfInBounds,
    Std.Legacy.Range.forIn_eq_forIn_range', Std.Legacy.Range.size, Nat.sub_zero, Nat.add_one_sub_one, Nat.div_one,
    List.forIn_pure_yield_eq_foldl, bind_pure_comp, map_pure, gt_iff_lt, Nat.toUInt64_eq, UInt64.ofNat_mul,
    UInt64.reduceOfNat, Nat.reduceAdd, pure_bind, Id.run_map]
  simp only [byteArray_toList_length, ByteArray.size_extract]
  rw [forIn_yield_size (8 * (rate / 8))]
  · simp only [List.length_range', Nat.sub_zero]
    rw [Nat.mul_div_cancel' hr]
    have := Nat.div_add_mod (outLen + rate - 1) rate
    have := Nat.mod_lt (outLen + rate - 1) h0
    omega
  · intro a s
    split
    · exact ⟨_, rfl, squeeze_size _ _ _⟩
    · exact ⟨_, rfl, squeeze_size _ _ _⟩

theorem shake128_length (m : List UInt8) (n : Nat) : (shake128 m n).length = n :=
  keccakSponge_length 168 0x1F m n (by decide) (by decide)

theorem shake256_length (m : List UInt8) (n : Nat) : (shake256 m n).length = n :=
  keccakSponge_length 136 0x1F m n (by decide) (by decide)

end PP.Hash
