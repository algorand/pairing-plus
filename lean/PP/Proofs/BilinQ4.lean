/-
The ingredients of the linearity of the textbook reduced ate pairing in its second argument,

    reducedAte P (Q₁ + Q₂) = reducedAte P Q₁ · reducedAte P Q₂

for finite `P ∈ E(Fq)` and finite `Q₁, Q₂, Q₁ + Q₂ ∈ G2` (`reducedAte_add_right` in
`PP/Proofs/BilinQ5.lean`); this file ends with `chain_facts`, all that is used of the chain of one `Q`.

1. `miller_additive` (`PP/Proofs/BilinQIdeal.lean`) at the untwisted points: with `f_i = f_{n,ψQ_i}(P)` the textbook Miller
   values (numerators; the denominators `d_i` are products of verticals),
       f₃ · l(P)^n · v_n(P) · d₁ d₂ · c = d₃ · f₁ f₂ · v(P)^n · l_n(P),   c⁴ = 1.
2. the verticals and the `d_i` are non-zero elements of `Fq6`, `c⁴ = 1`, `4 ∣ 3(q¹²-1)/r`: all killed by
   the final exponent `pw` (`BilinP2`).
3. Frobenius: `[n]Q_i = -Φ(Q_i)` on `G2` (`BilinPFrob`), so the line `l_n` through `[n]ψQ₁, [n]ψQ₂` at the
   rational point `P` is `(conj l(P))^q` (`line_frob`); `pw(conj x) = pw(x)⁻¹`, `pw(x)^r = 1`,
   `r ∣ n + q`: `pw(l_n(P)) = pw(l(P))^n`.
-/
import PP.Proofs.BilinQ3
import PP.Proofs.BilinP2

namespace PP
namespace BilinQ

open WeierstrassCurve.Affine Ate Lines NegPair BilinP

local notation "b₂" => g2Codec.b

/-! ## Frobenius on a line through untwisted points, at a rational point -/

/-- `x ↦ x^q` on `Fq12` -/
noncomputable def frob12 : Fq12 →+* Fq12 := frobenius Fq12 Gen.q

theorem frob12_apply (x : Fq12) : frob12 x = x ^ Gen.q := rfl

theorem frob12_ι (a : Fq2) : frob12 (ι a) = ι (Fq2.conj a) := ι_pow_q a

theorem frob12_κ (a : Fq) : frob12 (κ a) = κ a := κ_pow_q a

theorem frob12_wInv : frob12 wInv = ι dInv * wInv := wInv_pow_q

/-- `-Φ`: `(x, y) ↦ (d² conj x, -d³ conj y)`, the coordinate map with `σ = conj`, `t = -d` -/
def negFrob (A : Fq2 × Fq2) : Fq2 × Fq2 := cmap conjHom (-dInv) A

/-- **the line through `-Φ(A), -Φ(B)` at a rational point is `(conj l_{A,B}(P))^q`** -/
theorem line_frob (l : Fq2) (A : Fq2 × Fq2) (P : Fq × Fq) :
    lineAt (wInv * ι (-dInv * conjHom l)) (untwist (negFrob A)) (embed P) =
      Fq12.conjugate (lineAt (wInv * ι l) (untwist A) (embed P)) ^ Gen.q := by
  rw [← frob12_apply, conj_eq, untwist_eq_cmap, untwist_eq_cmap]
  simp only [lineAt, cmap, negFrob, embed, conjHom_apply, map_sub, map_mul, map_pow, map_neg,
    conjE_ι, conjE_κ, conjE_wInv, frob12_ι, frob12_κ, frob12_wInv]
  ring

/-- `[n]Q = -Φ(Q)` in coordinates, for `Q ∈ G2` finite -/
theorem repr_negFrob {q : Aff Fq2} (hq : Aff.InSub b₂ q) (hqi : q.infinity = false) :
    Repr (negFrob (pair q)) (Gen.BLS_X • Aff.abs b₂ q) := by
  rw [frobA_eq_neg_nsmul hq]
  have hB := (frobA_spec hq.1).1
  have hi2 : (frobA q).infinity = false := by simp only [frobA]; exact hqi
  have h := CoordOf.neg (repr_aff hB hi2)
  have e : ngp (pair (frobA q)) = negFrob (pair q) := by
    simp only [ngp, pair, frobA, negFrob, cmap, conjHom_apply, neg_sq,
      Odd.neg_pow (show Odd 3 by decide), neg_mul]
  rwa [e] at h

/-! ## the final exponent -/

theorem pw_inFq6 {d : Fq12} (hd : InFq6 d) : pw d = 1 :=
  (pw_def d).trans (FinalExp.pow_of_fe_one hd.fe)

theorem four_dvd_fe : 4 ∣ finalExponent := by decide +kernel

theorem pw_root4 {c : Fq12} (hc : c ^ 4 = 1) : pw c = 1 := by
  obtain ⟨m, hm⟩ := four_dvd_fe
  rw [pw_def, hm, pow_mul, hc, one_pow]

/-- `pw ((conj x)^q) = (pw x)^n` (`r ∣ n + q`) -/
theorem pw_frob_conj {x : Fq12} (hx : x ≠ 0) :
    pw (Fq12.conjugate x ^ Gen.q) = pw x ^ Gen.BLS_X := by
  obtain ⟨m, hm⟩ := r_dvd_x_add_q
  have h1 : pw x ^ Gen.BLS_X * pw x ^ Gen.q = 1 := by
    rw [← pow_add, hm, pow_mul, pw_pow_r hx, one_pow]
  rw [pw_pow, pw_conj, inv_pow]
  exact (eq_inv_of_mul_eq_one_left h1).symm

theorem reducedAte_eq_inv (P : Fq × Fq) (Q : Fq2 × Fq2) :
    reducedAte P Q = (pw (textbookMiller P Q))⁻¹ := by
  rw [← pw_conj, pw_def]; rfl

/-! ## the chain for one point of `G2` -/

/-- the state of the chain of `BilinQIdeal` for `ψ(Q)` over the bits of `|x|` -/
noncomputable def mst (Q : Fq2 × Fq2) : St (4 : Fq12) :=
  (bitsBelowTop Gen.BLS_X).foldl (stepR 4 (untwist Q)) (1, 1, untwist Q)

theorem ev_fold {P : Fq × Fq} (h : On (4 : Fq12) (embed P)) (Q : Fq2 × Fq2) (bs : List Bool)
    (hx : XNZ Q bs Q) :
    ev h (St.N (bs.foldl (stepR 4 (untwist Q)) (1, 1, untwist Q))) =
        (bs.foldl (millerStep P Q) (1, Q)).1 ∧
      InFq6 (ev h (St.D (bs.foldl (stepR 4 (untwist Q)) (1, 1, untwist Q)))) := by
  have hst : evSt h ((1, 1, untwist Q) : St (4 : Fq12)) = (1, 1, untwist Q) := by
    simp only [evSt, St.N, St.D, St.T, map_one]
  have hev := evSt_fold h (untwist Q) bs (1, 1, untwist Q)
  rw [hst] at hev
  generalize bs.foldl (stepR 4 (untwist Q)) (1, 1, untwist Q) = s at *
  have hN : ev h s.N = (bs.foldl (stepV (embed P) (untwist Q)) (1, 1, untwist Q)).1 :=
    congrArg Prod.fst hev
  have hD : ev h s.D = (bs.foldl (stepV (embed P) (untwist Q)) (1, 1, untwist Q)).2.1 :=
    congrArg (fun s => s.2.1) hev
  constructor
  · rw [hN, chain_val]
  · rw [hD]
    exact chain_den P _ _ _ _ _ InFq6.one hx

/-- everything about the chain of a finite `Q ∈ G2` -/
theorem chain_facts {q : Aff Fq2} (hq : Aff.InSub b₂ q) (hqi : q.infinity = false) :
    Inv (4 : Fq12) (untwist (pair q)) Gen.BLS_X (mst (pair q)) ∧
      (mst (pair q)).T = untwist (negFrob (pair q)) ∧
      ∀ (P : Fq × Fq) (h : On (4 : Fq12) (embed P)),
        ev h (mst (pair q)).N = textbookMiller P (pair q) ∧ InFq6 (ev h (mst (pair q)).D) := by
  have hQ := repr_aff hq.1 hqi
  have h0 : Aff.abs b₂ q ≠ 0 := CoordOf.ne_zero hQ
  obtain ⟨hreg, hrep⟩ := regular_of_multiples (pair q) _ hQ (bitsBelowTop Gen.BLS_X) 1 (pair q)
    (le_refl _) (by rw [one_smul]; exact hQ)
    (by rw [val_bitsBelowTop]; exact multiples_ne_zero_of_order_r h0 hq.2)
  rw [val_bitsBelowTop] at hrep
  have hxnz := xnz_of_regular (pair q) _ hQ hq.2 (bitsBelowTop Gen.BLS_X) 1 (pair q)
    (by rw [one_smul]; exact hQ) hreg
  have hon := on_untwist (CoordOf.on hQ)
  -- `bval` and `Lines.val` unfold to the same `foldl`
  have hb : bval 1 (bitsBelowTop Gen.BLS_X) = Gen.BLS_X := val_bitsBelowTop
  have hinv := Inv.fold hon (bitsBelowTop Gen.BLS_X) (Inv.start hon) (reg_untwist _ _ _ hreg)
  rw [hb] at hinv
  have hT := chain_T (pair q) (bitsBelowTop Gen.BLS_X) 1 1 (pair q)
  rw [CoordOf.unique hrep (repr_negFrob hq hqi)] at hT
  have hev := fun (P : Fq × Fq) (h : On (4 : Fq12) (embed P)) =>
    ev_fold h (pair q) (bitsBelowTop Gen.BLS_X) hxnz
  unfold mst textbookMiller millerBits
  generalize bitsBelowTop Gen.BLS_X = bs at *
  exact ⟨hinv, hT, hev⟩

end BilinQ
end PP
