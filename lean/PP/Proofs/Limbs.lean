/-
Limb-level arithmetic facts (C08): the executable `List Nat` model of `ff`'s `PrimeFieldRepr`
(`PP.Mont.addNocarry`, `subNoborrow`, `div2`, `mul2`, `shr`, `shl`, `numBits`, `isOdd`, `isZero`,
`cmp`) computes the corresponding operations on the integer `limbsToNat`, for ANY number of limbs.
Two neighbours that need nothing else are kept here as well: the byte-string conversions of
`PP.Model.Enc` (`beBytes/beToNat`, `leBytes/leToNat` are mutually inverse), and the value of the bit
list that `BitIterator` (`bitsMSB`) produces from a limb array.
-/
import Mathlib.Tactic.Ring
import Mathlib.Tactic.NormNum
import Mathlib.Tactic.Positivity
import PP.Model.Mont
import PP.Model.Enc

namespace PP.Limbs
open PP PP.Mont

/-- a digit `a < Q` with a number `b < P` above it stays below `Q * P` -/
theorem digit_lt {a b P Q : Nat} (ha : a < Q) (hb : b < P) : a + Q * b < Q * P :=
  calc a + Q * b < Q + Q * b := Nat.add_lt_add_right ha _
    _ = Q * (b + 1) := (Nat.mul_succ Q b).symm ▸ Nat.add_comm _ _
    _ ≤ Q * P := Nat.mul_le_mul_left Q hb

/-- numbers written as a digit below `W` and a rest compare lexicographically -/
theorem lex_lt {W x y : Nat} (A B : Nat) (hx : x < W) (hy : y < W) :
    x + W * A < y + W * B ↔ A < B ∨ (A = B ∧ x < y) := by
  rcases Nat.lt_trichotomy A B with h | rfl | h
  · have := Nat.lt_of_lt_of_le (digit_lt hx (Nat.lt_succ_self A)) (Nat.mul_le_mul_left W h)
    exact ⟨fun _ => Or.inl h, fun _ => Nat.lt_of_lt_of_le this (Nat.le_add_left _ _)⟩
  · simp
  · have := Nat.lt_of_lt_of_le (digit_lt hy (Nat.lt_succ_self B)) (Nat.mul_le_mul_left W h)
    have := Nat.lt_of_lt_of_le this (Nat.le_add_left _ x)
    constructor
    · intro h'; exact absurd h' (Nat.lt_asymm this)
    · rintro (h' | ⟨rfl, _⟩)
      · exact absurd h (Nat.lt_asymm h')
      · exact absurd h (Nat.lt_irrefl _)

theorem add_sub_mod {x y W : Nat} (hy : y ≤ x) (hx : x < W) : (x + W - y) % W = x - y := by
  rw [Nat.sub_add_comm hy, Nat.add_mod_right, Nat.mod_eq_of_lt (Nat.lt_of_le_of_lt (Nat.sub_le _ _) hx)]

@[simp] theorem W64_eq_pow : W64 = 2 ^ 64 := rfl

/-- every limb is a `u64` -/
def LimbsOK (ls : List Nat) : Prop := ∀ l ∈ ls, l < 2 ^ 64

@[simp] theorem LimbsOK_nil : LimbsOK [] := by intro l h; cases h

@[simp] theorem LimbsOK_cons {l : Nat} {ls : List Nat} :
    LimbsOK (l :: ls) ↔ l < 2 ^ 64 ∧ LimbsOK ls := by
  simp [LimbsOK]

theorem LimbsOK_append {xs ys : List Nat} : LimbsOK (xs ++ ys) ↔ LimbsOK xs ∧ LimbsOK ys := by
  simp [LimbsOK, or_imp, forall_and]

theorem pow64_succ (n : Nat) : 2 ^ (64 * (n + 1)) = 2 ^ 64 * 2 ^ (64 * n) := by
  rw [Nat.mul_succ, Nat.pow_add, Nat.mul_comm]

@[simp] theorem limbsToNat_nil : limbsToNat [] = 0 := rfl
@[simp] theorem limbsToNat_cons (l : Nat) (ls : List Nat) :
    limbsToNat (l :: ls) = l + 2 ^ 64 * limbsToNat ls := rfl

/-! ## `limbsToNat` / `limbsOf` -/

theorem limbsToNat_lt {a : List Nat} (h : LimbsOK a) : limbsToNat a < 2 ^ (64 * a.length) := by
  induction a with
  | nil => simp
  | cons l ls ih =>
    rw [LimbsOK_cons] at h
    have ih := ih h.2
    rw [List.length_cons, pow64_succ, limbsToNat_cons]
    have := Nat.mul_le_mul_left (2 ^ 64) (Nat.succ_le_of_lt ih)
    omega

@[simp] theorem limbsOf_length (n x : Nat) : (limbsOf n x).length = n := by
  induction n generalizing x with
  | zero => rfl
  | succ k ih => simp [limbsOf, ih]

theorem limbsOf_ok (n x : Nat) : LimbsOK (limbsOf n x) := by
  induction n generalizing x with
  | zero => simp [limbsOf]
  | succ k ih =>
    simp only [limbsOf, LimbsOK_cons]
    exact ⟨Nat.mod_lt _ (by norm_num), ih _⟩

theorem limbsToNat_limbsOf (n x : Nat) : limbsToNat (limbsOf n x) = x % 2 ^ (64 * n) := by
  induction n generalizing x with
  | zero => simp [limbsOf, Nat.mod_one]
  | succ k ih =>
    simp only [limbsOf, limbsToNat_cons, ih, pow64_succ]
    rw [Nat.mod_mul]

theorem limbsToNat_limbsOf_of_lt {n x : Nat} (h : x < 2 ^ (64 * n)) :
    limbsToNat (limbsOf n x) = x := by
  rw [limbsToNat_limbsOf, Nat.mod_eq_of_lt h]

theorem limbsOf_limbsToNat {n : Nat} {a : List Nat} (h : LimbsOK a) (hl : a.length = n) :
    limbsOf n (limbsToNat a) = a := by
  induction a generalizing n with
  | nil => subst hl; rfl
  | cons l ls ih =>
    subst hl
    rw [LimbsOK_cons] at h
    simp only [List.length_cons, limbsOf, limbsToNat_cons]
    rw [Nat.add_mul_mod_self_left, Nat.mod_eq_of_lt h.1, Nat.add_mul_div_left _ _ (Nat.two_pow_pos 64),
      Nat.div_eq_of_lt h.1, Nat.zero_add, ih h.2 rfl]

theorem limbsToNat_injective {a b : List Nat} (ha : LimbsOK a) (hb : LimbsOK b)
    (hl : a.length = b.length) (h : limbsToNat a = limbsToNat b) : a = b := by
  rw [← limbsOf_limbsToNat ha rfl, ← limbsOf_limbsToNat hb rfl, hl, h]

theorem limbsToNat_append (xs ys : List Nat) :
    limbsToNat (xs ++ ys) = limbsToNat xs + 2 ^ (64 * xs.length) * limbsToNat ys := by
  induction xs with
  | nil => simp
  | cons x xs ih =>
    simp only [List.cons_append, limbsToNat_cons, ih, List.length_cons, pow64_succ]
    ring

/-! ## `addNocarry` -/

@[simp] theorem addNocarry_cons (a b c : Nat) (as bs : List Nat) :
    addNocarry (a :: as) (b :: bs) c
      = ((a + b + c) % 2 ^ 64) :: addNocarry as bs ((a + b + c) / 2 ^ 64) := rfl

@[simp] theorem addNocarry_nil_left (bs : List Nat) (c : Nat) : addNocarry [] bs c = [] := by
  cases bs <;> rfl
@[simp] theorem addNocarry_nil_right (as : List Nat) (c : Nat) : addNocarry as [] c = [] := by
  cases as <;> rfl

theorem addNocarry_length {a b : List Nat} (c : Nat) (hl : a.length = b.length) :
    (addNocarry a b c).length = a.length := by
  induction a generalizing b c with
  | nil => simp
  | cons x xs ih =>
    cases b with
    | nil => simp at hl
    | cons y ys => rw [addNocarry_cons, List.length_cons, ih _ (Nat.succ_inj.1 hl), List.length_cons]

theorem addNocarry_ok (a b : List Nat) (c : Nat) : LimbsOK (addNocarry a b c) := by
  induction a generalizing b c with
  | nil => simp
  | cons x xs ih =>
    cases b with
    | nil => simp
    | cons y ys =>
      simp only [addNocarry_cons, LimbsOK_cons]
      exact ⟨Nat.mod_lt _ (by norm_num), ih _ _⟩

/-- `add_nocarry` is addition modulo `2^(64 n)` (any incoming carry) -/
theorem limbsToNat_addNocarry_carry {a b : List Nat} (c : Nat) (hl : a.length = b.length) :
    limbsToNat (addNocarry a b c) = (limbsToNat a + limbsToNat b + c) % 2 ^ (64 * a.length) := by
  induction a generalizing b c with
  | nil => simp [Nat.mod_one]
  | cons x xs ih =>
    cases b with
    | nil => simp at hl
    | cons y ys =>
      simp only [List.length_cons, Nat.add_right_cancel_iff] at hl
      simp only [addNocarry_cons, limbsToNat_cons, ih _ hl, List.length_cons, pow64_succ]
      rw [Nat.mod_mul (x := x + 2 ^ 64 * limbsToNat xs + (y + 2 ^ 64 * limbsToNat ys) + c)]
      have e : x + 2 ^ 64 * limbsToNat xs + (y + 2 ^ 64 * limbsToNat ys) + c
          = (x + y + c) + 2 ^ 64 * (limbsToNat xs + limbsToNat ys) := by ring
      rw [e, Nat.add_mul_mod_self_left, Nat.add_mul_div_left _ _ (by norm_num : 0 < 2 ^ 64)]
      congr 3
      ring

/-- with the dropped final carry made explicit -/
theorem limbsToNat_addNocarry_add_carry {a b : List Nat} (c : Nat) (hl : a.length = b.length) :
    limbsToNat (addNocarry a b c)
      + 2 ^ (64 * a.length) * ((limbsToNat a + limbsToNat b + c) / 2 ^ (64 * a.length))
      = limbsToNat a + limbsToNat b + c := by
  rw [limbsToNat_addNocarry_carry c hl]
  exact Nat.mod_add_div _ _

/-- the dropped final carry is a bit when the incoming carry is -/
theorem addNocarry_carry_le_one {a b : List Nat} {c : Nat} (ha : LimbsOK a) (hb : LimbsOK b)
    (hc : c ≤ 1) (hl : a.length = b.length) :
    (limbsToNat a + limbsToNat b + c) / 2 ^ (64 * a.length) ≤ 1 := by
  have hA := limbsToNat_lt ha
  have hB := limbsToNat_lt hb
  rw [← hl] at hB
  have hX : 0 < 2 ^ (64 * a.length) := Nat.pos_of_ne_zero (by positivity)
  rw [← Nat.lt_succ_iff, Nat.div_lt_iff_lt_mul hX]
  omega

theorem limbsToNat_addNocarry {a b : List Nat} (hl : a.length = b.length) :
    limbsToNat (addNocarry a b 0) = (limbsToNat a + limbsToNat b) % 2 ^ (64 * a.length) := by
  simpa using limbsToNat_addNocarry_carry 0 hl

theorem limbsToNat_addNocarry_of_lt {a b : List Nat} (hl : a.length = b.length)
    (h : limbsToNat a + limbsToNat b < 2 ^ (64 * a.length)) :
    limbsToNat (addNocarry a b 0) = limbsToNat a + limbsToNat b := by
  rw [limbsToNat_addNocarry hl, Nat.mod_eq_of_lt h]

/-! ## `subNoborrow` -/

@[simp] theorem subNoborrow_cons (a b c : Nat) (as bs : List Nat) :
    subNoborrow (a :: as) (b :: bs) c
      = ((2 ^ 64 + a - b - c) % 2 ^ 64) ::
          subNoborrow as bs (if (2 ^ 64 + a - b - c) / 2 ^ 64 = 0 then 1 else 0) := rfl

@[simp] theorem subNoborrow_nil_left (bs : List Nat) (c : Nat) : subNoborrow [] bs c = [] := by
  cases bs <;> rfl
@[simp] theorem subNoborrow_nil_right (as : List Nat) (c : Nat) : subNoborrow as [] c = [] := by
  cases as <;> rfl

theorem subNoborrow_length {a b : List Nat} (c : Nat) (hl : a.length = b.length) :
    (subNoborrow a b c).length = a.length := by
  induction a generalizing b c with
  | nil => simp
  | cons x xs ih =>
    cases b with
    | nil => simp at hl
    | cons y ys => rw [subNoborrow_cons, List.length_cons, ih _ (Nat.succ_inj.1 hl), List.length_cons]

theorem subNoborrow_ok (a b : List Nat) (c : Nat) : LimbsOK (subNoborrow a b c) := by
  induction a generalizing b c with
  | nil => simp
  | cons x xs ih =>
    cases b with
    | nil => simp
    | cons y ys =>
      simp only [subNoborrow_cons, LimbsOK_cons]
      exact ⟨Nat.mod_lt _ (by norm_num), ih _ _⟩

/-- one `sbb`: difference digit and borrow out -/
theorem sbb_digit {x y c : Nat} (hx : x < 2 ^ 64) (hy : y < 2 ^ 64) (hc : c ≤ 1) :
    (2 ^ 64 + x - y - c) % 2 ^ 64 + y + c
      = x + 2 ^ 64 * (if (2 ^ 64 + x - y - c) / 2 ^ 64 = 0 then 1 else 0) := by
  split <;> omega

theorem limbsToNat_subNoborrow_exists {a b : List Nat} {c : Nat} (ha : LimbsOK a) (hb : LimbsOK b)
    (hc : c ≤ 1) (hl : a.length = b.length) :
    ∃ bo, bo ≤ 1 ∧ limbsToNat (subNoborrow a b c) + limbsToNat b + c
        = limbsToNat a + 2 ^ (64 * a.length) * bo := by
  induction a generalizing b c with
  | nil =>
    cases b with
    | nil => exact ⟨c, hc, by simp⟩
    | cons y ys => simp at hl
  | cons x xs ih =>
    cases b with
    | nil => simp at hl
    | cons y ys =>
      rw [LimbsOK_cons] at ha hb
      have e2 := sbb_digit ha.1 hb.1 hc
      have hc' : (if (2 ^ 64 + x - y - c) / 2 ^ 64 = 0 then 1 else 0) ≤ 1 := by split <;> decide
      obtain ⟨bo, hbo, e⟩ := ih ha.2 hb.2 hc' (Nat.succ_inj.1 hl)
      refine ⟨bo, hbo, ?_⟩
      rw [subNoborrow_cons, limbsToNat_cons, limbsToNat_cons, limbsToNat_cons, List.length_cons,
        pow64_succ, Nat.mul_assoc]
      omega

/-- `sub_noborrow` with the dropped final borrow made explicit -/
theorem limbsToNat_subNoborrow_add {a b : List Nat} {c : Nat} (ha : LimbsOK a) (hb : LimbsOK b)
    (hc : c ≤ 1) (hl : a.length = b.length) :
    limbsToNat (subNoborrow a b c) + limbsToNat b + c
      = limbsToNat a
        + 2 ^ (64 * a.length) * (if limbsToNat a < limbsToNat b + c then 1 else 0) := by
  obtain ⟨bo, hbo, e⟩ := limbsToNat_subNoborrow_exists ha hb hc hl
  have hr := limbsToNat_lt (subNoborrow_ok a b c)
  rw [subNoborrow_length c hl] at hr
  have hA := limbsToNat_lt ha
  rw [e]
  have : bo = 0 ∨ bo = 1 := by omega
  rcases this with rfl | rfl
  · rw [if_neg (by omega)]
  · rw [if_pos (by omega)]

/-- `sub_noborrow` is subtraction modulo `2^(64 n)` (incoming borrow `c ≤ 1`) -/
theorem limbsToNat_subNoborrow_borrow {a b : List Nat} {c : Nat} (ha : LimbsOK a) (hb : LimbsOK b)
    (hc : c ≤ 1) (hl : a.length = b.length) :
    limbsToNat (subNoborrow a b c)
      = (limbsToNat a + 2 ^ (64 * a.length) - limbsToNat b - c) % 2 ^ (64 * a.length) := by
  have e := limbsToNat_subNoborrow_add ha hb hc hl
  have hr := limbsToNat_lt (subNoborrow_ok a b c)
  rw [subNoborrow_length c hl] at hr
  have hB := limbsToNat_lt hb
  rw [← hl] at hB
  generalize 2 ^ (64 * a.length) = X at *
  split at e
  · rw [Nat.mod_eq_of_lt (by omega)]; omega
  · have : limbsToNat a + X - limbsToNat b - c = limbsToNat (subNoborrow a b c) + X := by omega
    rw [this, Nat.add_mod_right, Nat.mod_eq_of_lt hr]

theorem limbsToNat_subNoborrow {a b : List Nat} (ha : LimbsOK a) (hb : LimbsOK b)
    (hl : a.length = b.length) :
    limbsToNat (subNoborrow a b 0)
      = (limbsToNat a + 2 ^ (64 * a.length) - limbsToNat b) % 2 ^ (64 * a.length) := by
  simpa using limbsToNat_subNoborrow_borrow ha hb (Nat.zero_le 1) hl

theorem limbsToNat_subNoborrow_of_le {a b : List Nat} (ha : LimbsOK a) (hb : LimbsOK b)
    (hl : a.length = b.length) (h : limbsToNat b ≤ limbsToNat a) :
    limbsToNat (subNoborrow a b 0) = limbsToNat a - limbsToNat b := by
  have e := limbsToNat_subNoborrow_add ha hb (Nat.zero_le 1) hl
  rw [if_neg (by omega)] at e
  omega

/-! ## `isOdd`, `isZero` -/

theorem isOdd_eq (a : List Nat) : isOdd a = (limbsToNat a % 2 == 1) := by
  cases a with
  | nil => rfl
  | cons l ls =>
    simp only [isOdd, List.headD_cons, Nat.and_one_is_mod, limbsToNat_cons]
    congr 1
    omega

theorem isOdd_iff (a : List Nat) : isOdd a = true ↔ limbsToNat a % 2 = 1 := by
  rw [isOdd_eq]; simp

theorem isZero_iff (a : List Nat) : isZero a = true ↔ limbsToNat a = 0 := by
  induction a with
  | nil => simp [isZero]
  | cons l ls ih =>
    simp only [isZero, List.all_cons, Bool.and_eq_true, beq_iff_eq, limbsToNat_cons] at ih ⊢
    rw [ih]
    omega

theorem isZero_eq (a : List Nat) : isZero a = (limbsToNat a == 0) := by
  rw [Bool.eq_iff_iff, isZero_iff]; simp

/-! ## `cmp` -/

def cmpStep (acc : Int) (x : Nat × Nat) : Int :=
  if acc ≠ 0 then acc else if x.1 < x.2 then -1 else if x.1 > x.2 then 1 else 0

theorem cmp_eq_foldr {a b : List Nat} (hl : a.length = b.length) :
    Mont.cmp a b = (List.zip a b).foldr (fun x acc => cmpStep acc x) 0 := by
  unfold Mont.cmp
  rw [show List.zip a.reverse b.reverse = (List.zip a b).reverse from by
    unfold List.zip; exact (List.reverse_zipWith hl).symm]
  rw [List.foldl_reverse]
  rfl

theorem cmp_arith {W x y A B : Nat} (hx : x < W) (hy : y < W) :
    cmpStep (if A < B then -1 else if A > B then 1 else 0) (x, y)
      = if x + W * A < y + W * B then -1 else if x + W * A > y + W * B then 1 else 0 := by
  unfold cmpStep
  simp only [gt_iff_lt, lex_lt A B hx hy, lex_lt B A hy hx]
  rcases Nat.lt_trichotomy A B with h | rfl | h
  · simp [h]
  · simp
  · simp [h, Nat.lt_asymm h, Nat.ne_of_gt h]

theorem cmp_eq {a b : List Nat} (ha : LimbsOK a) (hb : LimbsOK b) (hl : a.length = b.length) :
    Mont.cmp a b = if limbsToNat a < limbsToNat b then -1
              else if limbsToNat a > limbsToNat b then 1 else 0 := by
  rw [cmp_eq_foldr hl]
  induction a generalizing b with
  | nil =>
    cases b with
    | nil => simp
    | cons y ys => simp at hl
  | cons x xs ih =>
    cases b with
    | nil => simp at hl
    | cons y ys =>
      simp only [List.length_cons, Nat.add_right_cancel_iff] at hl
      rw [LimbsOK_cons] at ha hb
      simp only [List.zip_cons_cons, List.foldr_cons]
      rw [ih ha.2 hb.2 hl]
      exact cmp_arith ha.1 hb.1

theorem cmp_eq_neg_one_iff {a b : List Nat} (ha : LimbsOK a) (hb : LimbsOK b)
    (hl : a.length = b.length) : Mont.cmp a b = -1 ↔ limbsToNat a < limbsToNat b := by
  rw [cmp_eq ha hb hl]; split <;> [simp [*]; (split <;> simp [*])]

theorem cmp_eq_zero_iff {a b : List Nat} (ha : LimbsOK a) (hb : LimbsOK b)
    (hl : a.length = b.length) : Mont.cmp a b = 0 ↔ limbsToNat a = limbsToNat b := by
  rw [cmp_eq ha hb hl]; split <;> [skip; split] <;> simp <;> omega

theorem cmp_eq_one_iff {a b : List Nat} (ha : LimbsOK a) (hb : LimbsOK b)
    (hl : a.length = b.length) : Mont.cmp a b = 1 ↔ limbsToNat b < limbsToNat a := by
  rw [cmp_eq ha hb hl]; split <;> [skip; split] <;> simp <;> omega

/-! ## `div2`, `mul2`: shifts by fewer than 64 bits -/

theorem two_pow_split {n : Nat} (h : n ≤ 64) : 2 ^ n * 2 ^ (64 - n) = 2 ^ 64 := by
  rw [← Nat.pow_add]; congr 1; omega

theorem or_eq_add_of_lt_of_mul {k x y : Nat} (hx : x < 2 ^ k) : x ||| (y * 2 ^ k) = x + y * 2 ^ k := by
  rw [Nat.or_comm, Nat.mul_comm, ← Nat.two_pow_add_eq_or_of_lt hx, Nat.add_comm]

/-- lemma-friendly recursive form of `shrBits` (top limb first via recursion):
    returns the shifted limbs and the bits shifted out of the lowest limb (placed at the top) -/
def shrAux (n : Nat) : List Nat → List Nat × Nat
  | [] => ([], 0)
  | l :: ls => (((l >>> n) ||| (shrAux n ls).2) :: (shrAux n ls).1, (l <<< (64 - n)) % W64)

theorem shrBits_eq_shrAux (ls : List Nat) (n : Nat) : shrBits ls n = (shrAux n ls).1 := by
  unfold shrBits
  rw [List.foldl_reverse]
  congr 1
  induction ls with
  | nil => rfl
  | cons l ls ih => rw [List.foldr_cons, ih]; rfl

theorem div2_eq_shrBits (ls : List Nat) : div2 ls = shrBits ls 1 := rfl

theorem shrAux_length (n : Nat) (ls : List Nat) : (shrAux n ls).1.length = ls.length := by
  induction ls with
  | nil => rfl
  | cons l ls ih => simp [shrAux, ih]

theorem shrAux_spec {n : Nat} (hn : n ≤ 64) {ls : List Nat} (h : LimbsOK ls) :
    LimbsOK (shrAux n ls).1 ∧ limbsToNat (shrAux n ls).1 = limbsToNat ls / 2 ^ n ∧
      (shrAux n ls).2 = (limbsToNat ls % 2 ^ n) * 2 ^ (64 - n) := by
  induction ls with
  | nil => simp [shrAux]
  | cons l ls ih =>
    rw [LimbsOK_cons] at h
    obtain ⟨ok, hv, hc⟩ := ih h.2
    have hW := two_pow_split hn
    have hP : 0 < 2 ^ n := Nat.two_pow_pos n
    have hl : l / 2 ^ n < 2 ^ (64 - n) := by
      rw [Nat.div_lt_iff_lt_mul hP, Nat.mul_comm, hW]; exact h.1
    have hor : (l >>> n ||| (shrAux n ls).2)
        = l / 2 ^ n + 2 ^ (64 - n) * (limbsToNat ls % 2 ^ n) := by
      rw [hc, Nat.shiftRight_eq_div_pow, or_eq_add_of_lt_of_mul hl, Nat.mul_comm]
    have hsh : (l <<< (64 - n)) % W64 = (l % 2 ^ n) * 2 ^ (64 - n) := by
      rw [Nat.shiftLeft_eq, W64_eq_pow, ← hW, Nat.mul_mod_mul_right]
    simp only [shrAux, LimbsOK_cons, limbsToNat_cons, hor, hv, hsh]
    refine ⟨⟨?_, ok⟩, ?_, ?_⟩
    · rw [← hW, Nat.mul_comm (2 ^ n)]
      exact digit_lt hl (Nat.mod_lt _ hP)
    · rw [← hW, Nat.mul_assoc, Nat.mul_assoc, Nat.add_mul_div_left _ _ hP, Nat.add_assoc,
        Nat.mul_left_comm, ← Nat.mul_add, Nat.mod_add_div]
    · rw [← hW, Nat.mul_assoc, Nat.add_mul_mod_self_left]

theorem shrBits_length (ls : List Nat) (n : Nat) : (shrBits ls n).length = ls.length := by
  rw [shrBits_eq_shrAux, shrAux_length]

theorem shrBits_ok {ls : List Nat} {n : Nat} (h : LimbsOK ls) (hn : n ≤ 64) :
    LimbsOK (shrBits ls n) := by
  rw [shrBits_eq_shrAux]; exact (shrAux_spec hn h).1

theorem limbsToNat_shrBits {ls : List Nat} {n : Nat} (h : LimbsOK ls) (hn : n ≤ 64) :
    limbsToNat (shrBits ls n) = limbsToNat ls / 2 ^ n := by
  rw [shrBits_eq_shrAux]; exact (shrAux_spec hn h).2.1

theorem div2_length (ls : List Nat) : (div2 ls).length = ls.length := shrBits_length ls 1
theorem div2_ok {ls : List Nat} (h : LimbsOK ls) : LimbsOK (div2 ls) := shrBits_ok h (by norm_num)
theorem limbsToNat_div2 {ls : List Nat} (h : LimbsOK ls) : limbsToNat (div2 ls) = limbsToNat ls / 2 := by
  rw [div2_eq_shrBits, limbsToNat_shrBits h (by norm_num), Nat.pow_one]

/-- lemma-friendly recursive form of `shlBits` (carry passed upwards) -/
def shlAux (n : Nat) : List Nat → Nat → List Nat
  | [], _ => []
  | l :: ls, c => (((l <<< n) % W64) ||| c) :: shlAux n ls (l >>> (64 - n))

theorem shlBits_foldl (n : Nat) (ls acc : List Nat) (c : Nat) :
    (ls.foldl (fun (acc : List Nat × Nat) i =>
      (acc.1 ++ [((i <<< n) % W64) ||| acc.2], i >>> (64 - n))) (acc, c)).1 = acc ++ shlAux n ls c := by
  induction ls generalizing acc c with
  | nil => simp [shlAux]
  | cons l ls ih => rw [List.foldl_cons, ih]; simp [shlAux]

theorem shlBits_eq_shlAux (ls : List Nat) (n : Nat) : shlBits ls n = shlAux n ls 0 := by
  unfold shlBits
  exact (shlBits_foldl n ls [] 0).trans (List.nil_append _)

theorem mul2_eq_shlBits (ls : List Nat) : mul2 ls = shlBits ls 1 := rfl

theorem shlAux_length (n : Nat) (ls : List Nat) (c : Nat) : (shlAux n ls c).length = ls.length := by
  induction ls generalizing c with
  | nil => rfl
  | cons l ls ih => simp [shlAux, ih]

theorem shlAux_spec {n : Nat} (hn : n ≤ 64) {ls : List Nat} (h : LimbsOK ls) {c : Nat} (hc : c < 2 ^ n) :
    LimbsOK (shlAux n ls c) ∧
      limbsToNat (shlAux n ls c) = (limbsToNat ls * 2 ^ n + c) % 2 ^ (64 * ls.length) := by
  induction ls generalizing c with
  | nil => simp [shlAux, Nat.mod_one]
  | cons l ls ih =>
    rw [LimbsOK_cons] at h
    have hW := two_pow_split hn
    have hQ : 0 < 2 ^ (64 - n) := Nat.two_pow_pos _
    have hc' : l >>> (64 - n) < 2 ^ n := by
      rw [Nat.shiftRight_eq_div_pow, Nat.div_lt_iff_lt_mul hQ, hW]; exact h.1
    obtain ⟨ok, hv⟩ := ih h.2 hc'
    have hor : ((l <<< n) % W64 ||| c) = c + 2 ^ n * (l % 2 ^ (64 - n)) := by
      rw [Nat.shiftLeft_eq, W64_eq_pow, ← hW, Nat.mul_comm (2 ^ n), Nat.mul_mod_mul_right, Nat.or_comm,
        or_eq_add_of_lt_of_mul hc, Nat.mul_comm]
    have hlt : c + 2 ^ n * (l % 2 ^ (64 - n)) < 2 ^ 64 := by
      rw [← hW]; exact digit_lt hc (Nat.mod_lt _ hQ)
    simp only [shlAux, LimbsOK_cons, limbsToNat_cons, hor, hv, List.length_cons, pow64_succ]
    rw [Nat.shiftRight_eq_div_pow] at ok ⊢
    refine ⟨⟨hlt, ok⟩, ?_⟩
    -- split `l` at bit `64 - n`: the low part stays in this limb, the high part is the carry
    have e : (l + 2 ^ 64 * limbsToNat ls) * 2 ^ n + c
        = (c + 2 ^ n * (l % 2 ^ (64 - n))) + 2 ^ 64 * (limbsToNat ls * 2 ^ n + l / 2 ^ (64 - n)) := by
      conv_lhs => rw [← Nat.mod_add_div l (2 ^ (64 - n))]
      rw [← hW]
      ring
    rw [Nat.mod_mul (x := (l + 2 ^ 64 * limbsToNat ls) * 2 ^ n + c), e, Nat.add_mul_mod_self_left,
      Nat.mod_eq_of_lt hlt, Nat.add_mul_div_left _ _ (Nat.two_pow_pos 64),
      Nat.div_eq_of_lt hlt, Nat.zero_add]

theorem shlBits_length (ls : List Nat) (n : Nat) : (shlBits ls n).length = ls.length := by
  rw [shlBits_eq_shlAux, shlAux_length]

theorem shlBits_ok {ls : List Nat} {n : Nat} (h : LimbsOK ls) (hn : n ≤ 64) :
    LimbsOK (shlBits ls n) := by
  rw [shlBits_eq_shlAux]; exact (shlAux_spec hn h (Nat.pos_of_ne_zero (by positivity))).1

theorem limbsToNat_shlBits {ls : List Nat} {n : Nat} (h : LimbsOK ls) (hn : n ≤ 64) :
    limbsToNat (shlBits ls n) = limbsToNat ls * 2 ^ n % 2 ^ (64 * ls.length) := by
  rw [shlBits_eq_shlAux]
  exact (shlAux_spec hn h (Nat.pos_of_ne_zero (by positivity))).2

theorem mul2_length (ls : List Nat) : (mul2 ls).length = ls.length := shlBits_length ls 1
theorem mul2_ok {ls : List Nat} (h : LimbsOK ls) : LimbsOK (mul2 ls) := shlBits_ok h (by norm_num)
theorem limbsToNat_mul2 {ls : List Nat} (h : LimbsOK ls) :
    limbsToNat (mul2 ls) = limbsToNat ls * 2 % 2 ^ (64 * ls.length) := by
  rw [mul2_eq_shlBits, limbsToNat_shlBits h (by norm_num), Nat.pow_one]

/-! ## `shr` / `shl` by an arbitrary number of bits -/

theorem limbsToNat_map_zero (ls : List Nat) : limbsToNat (ls.map (fun _ => 0)) = 0 := by
  induction ls with
  | nil => rfl
  | cons l ls ih => rw [List.map_cons, limbsToNat_cons, ih]; rfl

theorem map_zero_ok (ls : List Nat) : LimbsOK (ls.map (fun _ => 0)) := by
  intro l hl
  rw [List.mem_map] at hl
  obtain ⟨_, _, rfl⟩ := hl
  norm_num

theorem shrLimb_ne_nil (ls : List Nat) : shrLimb ls ≠ [] := by simp [shrLimb]
theorem shlLimb_ne_nil (ls : List Nat) : shlLimb ls ≠ [] := by simp [shlLimb]

theorem shrLimb_length {ls : List Nat} (h : ls ≠ []) : (shrLimb ls).length = ls.length := by
  cases ls with
  | nil => exact absurd rfl h
  | cons l ls => simp [shrLimb]

theorem shrLimb_ok {ls : List Nat} (h : LimbsOK ls) : LimbsOK (shrLimb ls) := by
  cases ls with
  | nil => simp [shrLimb, LimbsOK]
  | cons l ls =>
    rw [LimbsOK_cons] at h
    simp only [shrLimb, List.drop_succ_cons, List.drop_zero, LimbsOK_append, LimbsOK_cons]
    exact ⟨h.2, by norm_num, LimbsOK_nil⟩

theorem limbsToNat_shrLimb {ls : List Nat} (h : LimbsOK ls) :
    limbsToNat (shrLimb ls) = limbsToNat ls / 2 ^ 64 := by
  cases ls with
  | nil => simp [shrLimb]
  | cons l ls =>
    rw [LimbsOK_cons] at h
    simp only [shrLimb, List.drop_succ_cons, List.drop_zero, limbsToNat_append, limbsToNat_cons,
      limbsToNat_nil, Nat.mul_zero, Nat.add_zero]
    rw [Nat.add_mul_div_left _ _ (Nat.two_pow_pos 64), Nat.div_eq_of_lt h.1, Nat.zero_add]

theorem shlLimb_length {ls : List Nat} (h : ls ≠ []) : (shlLimb ls).length = ls.length := by
  have := List.length_pos_iff.mpr h
  simp only [shlLimb, List.length_cons, List.length_dropLast]
  omega

theorem LimbsOK_dropLast {ls : List Nat} (h : LimbsOK ls) : LimbsOK ls.dropLast :=
  fun l hl => h l (List.dropLast_subset _ hl)

theorem shlLimb_ok {ls : List Nat} (h : LimbsOK ls) : LimbsOK (shlLimb ls) := by
  simp only [shlLimb, LimbsOK_cons]
  exact ⟨by norm_num, LimbsOK_dropLast h⟩

theorem limbsToNat_dropLast {ls : List Nat} (h : LimbsOK ls) :
    limbsToNat ls.dropLast = limbsToNat ls % 2 ^ (64 * (ls.length - 1)) := by
  rcases List.eq_nil_or_concat ls with rfl | ⟨d, x, rfl⟩
  · simp [Nat.mod_one]
  · rw [List.concat_eq_append] at h ⊢
    rw [LimbsOK_append] at h
    have hlt := limbsToNat_lt h.1
    rw [List.dropLast_concat, limbsToNat_append, List.length_append, List.length_singleton,
      Nat.add_sub_cancel, Nat.add_mul_mod_self_left, Nat.mod_eq_of_lt hlt]

theorem limbsToNat_shlLimb {ls : List Nat} (h : LimbsOK ls) :
    limbsToNat (shlLimb ls) = limbsToNat ls * 2 ^ 64 % 2 ^ (64 * ls.length) := by
  by_cases hne : ls = []
  · subst hne; simp [shlLimb, Nat.mod_one]
  · have hpos := List.length_pos_iff.mpr hne
    obtain ⟨m, hm⟩ : ∃ m, ls.length = m + 1 := ⟨ls.length - 1, by omega⟩
    simp only [shlLimb, limbsToNat_cons, Nat.zero_add, limbsToNat_dropLast h, hm, pow64_succ,
      Nat.add_sub_cancel]
    rw [Nat.mul_comm (limbsToNat ls), Nat.mul_mod_mul_left]

theorem iter_succ {α : Type} (f : α → α) (k : Nat) (a : α) : iter f (k + 1) a = iter f k (f a) := rfl

theorem iter_shrLimb_length {ls : List Nat} (h : ls ≠ []) (k : Nat) :
    (iter shrLimb k ls).length = ls.length := by
  induction k generalizing ls with
  | zero => rfl
  | succ k ih =>
    have hl := shrLimb_length h
    rw [iter_succ, ih (by intro e; rw [e] at hl; exact h (List.length_eq_zero_iff.mp hl.symm)), hl]

theorem iter_shrLimb_spec {ls : List Nat} (h : LimbsOK ls) (k : Nat) :
    LimbsOK (iter shrLimb k ls) ∧ limbsToNat (iter shrLimb k ls) = limbsToNat ls / 2 ^ (64 * k) := by
  induction k generalizing ls with
  | zero => exact ⟨h, by simp [iter]⟩
  | succ k ih =>
    obtain ⟨ok, hv⟩ := ih (shrLimb_ok h)
    refine ⟨ok, ?_⟩
    rw [iter_succ, hv, limbsToNat_shrLimb h, Nat.div_div_eq_div_mul, pow64_succ]

theorem iter_shlLimb_length {ls : List Nat} (h : ls ≠ []) (k : Nat) :
    (iter shlLimb k ls).length = ls.length := by
  induction k generalizing ls with
  | zero => rfl
  | succ k ih =>
    have hl := shlLimb_length h
    rw [iter_succ, ih (by intro e; rw [e] at hl; exact h (List.length_eq_zero_iff.mp hl.symm)), hl]

theorem iter_shlLimb_spec {ls : List Nat} (h : LimbsOK ls) (hne : ls ≠ []) (k : Nat) :
    LimbsOK (iter shlLimb k ls) ∧
      limbsToNat (iter shlLimb k ls) = limbsToNat ls * 2 ^ (64 * k) % 2 ^ (64 * ls.length) := by
  induction k generalizing ls with
  | zero =>
    refine ⟨h, ?_⟩
    simp only [iter, Nat.mul_zero, Nat.pow_zero, Nat.mul_one]
    exact (Nat.mod_eq_of_lt (limbsToNat_lt h)).symm
  | succ k ih =>
    have hl := shlLimb_length hne
    have hne' : shlLimb ls ≠ [] := by
      intro e; rw [e] at hl; exact hne (List.length_eq_zero_iff.mp hl.symm)
    obtain ⟨ok, hv⟩ := ih (shlLimb_ok h) hne'
    refine ⟨ok, ?_⟩
    rw [iter_succ, hv, limbsToNat_shlLimb h, hl, Nat.mod_mul_mod, pow64_succ, Nat.mul_assoc]

theorem shr_length (ls : List Nat) (k : Nat) : (shr ls k).length = ls.length := by
  unfold shr
  split
  · simp
  · have hne : ls ≠ [] := by rintro rfl; simp at *
    dsimp only
    split
    · rw [shrBits_length, iter_shrLimb_length hne]
    · rw [iter_shrLimb_length hne]

theorem shr_ok {ls : List Nat} (h : LimbsOK ls) (k : Nat) : LimbsOK (shr ls k) := by
  unfold shr
  split
  · exact map_zero_ok ls
  · dsimp only
    split
    · exact shrBits_ok (iter_shrLimb_spec h _).1 (by omega)
    · exact (iter_shrLimb_spec h _).1

/-- `shr` is division by `2^k`, for every `k` -/
theorem limbsToNat_shr {ls : List Nat} (h : LimbsOK ls) (k : Nat) :
    limbsToNat (shr ls k) = limbsToNat ls / 2 ^ k := by
  unfold shr
  split
  · next hk =>
    rw [limbsToNat_map_zero, Nat.div_eq_of_lt]
    exact Nat.lt_of_lt_of_le (limbsToNat_lt h) (Nat.pow_le_pow_right (by norm_num) hk)
  · dsimp only
    have hk : 2 ^ k = 2 ^ (64 * (k / 64)) * 2 ^ (k % 64) := by
      rw [← Nat.pow_add, Nat.div_add_mod]
    split
    · rw [limbsToNat_shrBits (iter_shrLimb_spec h _).1 (by omega), (iter_shrLimb_spec h _).2,
        Nat.div_div_eq_div_mul, hk]
    · next h0 =>
      have : k % 64 = 0 := by omega
      rw [(iter_shrLimb_spec h _).2, hk, this, Nat.pow_zero, Nat.mul_one]

theorem shl_length (ls : List Nat) (k : Nat) : (shl ls k).length = ls.length := by
  unfold shl
  split
  · simp
  · have hne : ls ≠ [] := by rintro rfl; simp at *
    dsimp only
    split
    · rw [shlBits_length, iter_shlLimb_length hne]
    · rw [iter_shlLimb_length hne]

theorem shl_ok {ls : List Nat} (h : LimbsOK ls) (k : Nat) : LimbsOK (shl ls k) := by
  unfold shl
  split
  · exact map_zero_ok ls
  · have hne : ls ≠ [] := by rintro rfl; simp at *
    dsimp only
    split
    · exact shlBits_ok (iter_shlLimb_spec h hne _).1 (by omega)
    · exact (iter_shlLimb_spec h hne _).1

/-- `shl` is multiplication by `2^k` modulo `2^(64 n)`, for every `k` -/
theorem limbsToNat_shl {ls : List Nat} (h : LimbsOK ls) (k : Nat) :
    limbsToNat (shl ls k) = limbsToNat ls * 2 ^ k % 2 ^ (64 * ls.length) := by
  unfold shl
  split
  · next hk =>
    rw [limbsToNat_map_zero]
    symm
    apply Nat.mod_eq_zero_of_dvd
    exact Dvd.dvd.mul_left (Nat.pow_dvd_pow 2 hk) _
  · have hne : ls ≠ [] := by rintro rfl; simp at *
    dsimp only
    have hk : 2 ^ k = 2 ^ (64 * (k / 64)) * 2 ^ (k % 64) := by
      rw [← Nat.pow_add, Nat.div_add_mod]
    split
    · rw [limbsToNat_shlBits (iter_shlLimb_spec h hne _).1 (by omega), (iter_shlLimb_spec h hne _).2,
        iter_shlLimb_length hne, Nat.mod_mul_mod, hk, Nat.mul_assoc]
    · next h0 =>
      have : k % 64 = 0 := by omega
      rw [(iter_shlLimb_spec h hne _).2, hk, this, Nat.pow_zero, Nat.mul_one]

/-! ## `numBits` -/

theorem log2_lt_64 {l : Nat} (h : l < 2 ^ 64) (h0 : l ≠ 0) : l.log2 < 64 := (Nat.log2_lt h0).2 h

theorem log2_limb_cons {l V : Nat} (hl : l < 2 ^ 64) (hV : V ≠ 0) :
    (l + 2 ^ 64 * V).log2 = 64 + V.log2 := by
  rw [Nat.log2_eq_iff (by omega)]
  have h1 : 2 ^ V.log2 ≤ V := (Nat.log2_eq_iff hV).1 rfl |>.1
  have h2 : V < 2 ^ (V.log2 + 1) := (Nat.log2_eq_iff hV).1 rfl |>.2
  rw [Nat.add_assoc, Nat.pow_add, Nat.pow_add 2 64]
  generalize 2 ^ V.log2 = X at *
  generalize 2 ^ (V.log2 + 1) = Y at *
  constructor
  · have := Nat.mul_le_mul_left (2 ^ 64) h1; omega
  · have := Nat.mul_le_mul_left (2 ^ 64) (Nat.succ_le_of_lt h2); omega

/-- one step of the `num_bits` loop -/
def nbStep (i : Nat) (acc : Nat × Bool) : Nat × Bool :=
  if acc.2 then acc else (acc.1 - leadingZeros64 i, leadingZeros64 i != 64)

theorem numBits_eq_foldr (ls : List Nat) :
    numBits ls = (ls.foldr nbStep (ls.length * 64, false)).1 := by
  unfold numBits
  rw [List.foldl_reverse]
  rfl

theorem nbStep_true (i n : Nat) : nbStep i (n, true) = (n, true) := rfl

theorem nbStep_zero (n : Nat) : nbStep 0 (n, false) = (n - 64, false) := rfl

theorem nbStep_of_ne_zero {l : Nat} (hl : l < 2 ^ 64) (h0 : l ≠ 0) (n : Nat) :
    nbStep l (n, false) = (n - (63 - l.log2), true) := by
  have := log2_lt_64 hl h0
  have h64 : 63 - l.log2 ≠ 64 := by omega
  simp [nbStep, leadingZeros64, h0, h64]

/-- the loop started with `64·len + K` ends with `K` plus the bit length -/
theorem nbStep_foldr {ls : List Nat} (h : LimbsOK ls) (K : Nat) :
    ls.foldr nbStep (64 * ls.length + K, false)
      = if limbsToNat ls = 0 then (K, false) else (K + (limbsToNat ls).log2 + 1, true) := by
  induction ls generalizing K with
  | nil => rw [List.foldr_nil, List.length_nil, Nat.mul_zero, Nat.zero_add, limbsToNat_nil, if_pos rfl]
  | cons l ls ih =>
    rw [LimbsOK_cons] at h
    rw [List.foldr_cons, List.length_cons, Nat.mul_succ, Nat.add_assoc, ih h.2, limbsToNat_cons]
    by_cases hV : limbsToNat ls = 0
    · rw [if_pos hV, hV, Nat.mul_zero, Nat.add_zero]
      by_cases hl : l = 0
      · rw [hl, nbStep_zero, if_pos rfl, Nat.add_sub_cancel_left]
      · have := log2_lt_64 h.1 hl
        rw [nbStep_of_ne_zero h.1 hl, if_neg hl]
        congr 1
        omega
    · rw [if_neg hV, if_neg (by omega), log2_limb_cons h.1 hV, nbStep_true]
      congr 1
      omega

/-- `num_bits` is the bit length: `0` for zero, `⌊log₂ A⌋ + 1` otherwise -/
theorem numBits_eq {a : List Nat} (h : LimbsOK a) :
    numBits a = if limbsToNat a = 0 then 0 else (limbsToNat a).log2 + 1 := by
  rw [numBits_eq_foldr, Nat.mul_comm, ← Nat.add_zero (64 * a.length), nbStep_foldr h 0]
  split
  · rfl
  · exact congrArg (· + 1) (Nat.zero_add _)

theorem lt_two_pow_numBits {a : List Nat} (h : LimbsOK a) : limbsToNat a < 2 ^ numBits a := by
  rw [numBits_eq h]
  split
  · omega
  · exact Nat.lt_log2_self

theorem two_pow_numBits_le {a : List Nat} (h : LimbsOK a) (h0 : limbsToNat a ≠ 0) :
    2 ^ (numBits a - 1) ≤ limbsToNat a := by
  rw [numBits_eq h, if_neg h0, Nat.add_sub_cancel]
  exact Nat.log2_self_le h0

theorem numBits_le {a : List Nat} (h : LimbsOK a) : numBits a ≤ 64 * a.length := by
  rw [numBits_eq h]
  split
  · omega
  · next h0 =>
    have := (Nat.log2_lt h0).2 (limbsToNat_lt h)
    omega

theorem map_mod_of_ok (ls : List Nat) (hok : LimbsOK ls) : ls.map (· % 2 ^ 64) = ls := by
  induction ls with
  | nil => rfl
  | cons l ls ih =>
    simp only [List.map_cons]
    rw [Nat.mod_eq_of_lt (hok l (by simp)), ih (fun x hx => hok x (by simp [hx]))]

/-! ## byte strings (`PP.Model.Enc`) -/

theorem two_pow_eight : (2 : Nat) ^ 8 = 256 := by norm_num

@[simp] theorem beBytes_length (len n : Nat) : (beBytes len n).length = len := by
  induction len with
  | zero => rfl
  | succ k ih => simp [beBytes, ih]

theorem beToNat_foldl (bs : Bytes) (acc : Nat) :
    bs.foldl (fun acc b => acc * 256 + b.toNat) acc = acc * 256 ^ bs.length + beToNat bs := by
  unfold beToNat
  induction bs generalizing acc with
  | nil => simp
  | cons b bs ih =>
    simp only [List.foldl_cons, List.length_cons]
    rw [ih (acc * 256 + b.toNat), ih (0 * 256 + b.toNat)]
    ring

theorem beToNat_nil : beToNat [] = 0 := rfl

theorem beToNat_cons (b : UInt8) (bs : Bytes) :
    beToNat (b :: bs) = b.toNat * 256 ^ bs.length + beToNat bs := by
  conv_lhs => unfold beToNat
  rw [List.foldl_cons, beToNat_foldl]
  simp

theorem beToNat_lt (bs : Bytes) : beToNat bs < 256 ^ bs.length := by
  induction bs with
  | nil => simp [beToNat_nil]
  | cons b bs ih =>
    rw [beToNat_cons, List.length_cons, Nat.pow_succ]
    have hb : b.toNat < 256 := b.toNat_lt
    have : b.toNat * 256 ^ bs.length ≤ 255 * 256 ^ bs.length :=
      Nat.mul_le_mul_right _ (by omega)
    omega

theorem beToNat_beBytes (len n : Nat) : beToNat (beBytes len n) = n % 256 ^ len := by
  induction len with
  | zero => simp [beBytes, beToNat_nil, Nat.mod_one]
  | succ k ih =>
    rw [beBytes, beToNat_cons, ih, beBytes_length, UInt8.toNat_ofNat', two_pow_eight,
      Nat.shiftRight_eq_div_pow, Nat.pow_mul, two_pow_eight, Nat.mod_mod, Nat.pow_succ (n := 256) (m := k),
      Nat.mod_mul (a := 256 ^ k) (b := 256)]
    ring

theorem beBytes_mod {len m : Nat} (h : len ≤ m) (n : Nat) :
    beBytes len (n % 256 ^ m) = beBytes len n := by
  induction len with
  | zero => rfl
  | succ k ih =>
    rw [beBytes, beBytes, ih (by omega)]
    congr 2
    rw [Nat.shiftRight_eq_div_pow, Nat.shiftRight_eq_div_pow, Nat.pow_mul, two_pow_eight]
    rw [← Nat.mod_mul_right_div_self, ← Nat.mod_mul_right_div_self n, ← Nat.pow_succ,
      Nat.mod_mod_of_dvd _ (Nat.pow_dvd_pow 256 h)]

theorem beBytes_beToNat {len : Nat} {bs : Bytes} (h : bs.length = len) :
    beBytes len (beToNat bs) = bs := by
  induction bs generalizing len with
  | nil => subst h; rfl
  | cons b bs ih =>
    subst h
    rw [List.length_cons, beBytes]
    have hlt := beToNat_lt bs
    have hb : b.toNat < 256 := b.toNat_lt
    congr 1
    · rw [beToNat_cons, Nat.shiftRight_eq_div_pow, Nat.pow_mul, two_pow_eight]
      rw [Nat.add_comm, Nat.add_mul_div_right _ _ (Nat.pos_of_ne_zero (by positivity)),
        Nat.div_eq_of_lt hlt, Nat.zero_add, Nat.mod_eq_of_lt hb, UInt8.ofNat_toNat]
    · rw [← beBytes_mod (Nat.le_refl _), beToNat_cons, Nat.add_comm, Nat.add_mul_mod_self_right,
        Nat.mod_eq_of_lt hlt, ih rfl]

@[simp] theorem leBytes_length (len n : Nat) : (leBytes len n).length = len := by
  induction len generalizing n with
  | zero => rfl
  | succ k ih => simp [leBytes, ih]

@[simp] theorem leToNat_nil : leToNat [] = 0 := rfl
@[simp] theorem leToNat_cons (b : UInt8) (bs : Bytes) :
    leToNat (b :: bs) = b.toNat + 256 * leToNat bs := rfl

theorem leToNat_lt (bs : Bytes) : leToNat bs < 256 ^ bs.length := by
  induction bs with
  | nil => simp
  | cons b bs ih =>
    rw [leToNat_cons, List.length_cons, Nat.pow_succ]
    have hb : b.toNat < 256 := b.toNat_lt
    omega

theorem leToNat_leBytes (len n : Nat) : leToNat (leBytes len n) = n % 256 ^ len := by
  induction len generalizing n with
  | zero => simp [leBytes, Nat.mod_one]
  | succ k ih =>
    rw [leBytes, leToNat_cons, ih, UInt8.toNat_ofNat', two_pow_eight, Nat.pow_succ, Nat.mul_comm (256 ^ k),
      Nat.mod_mul (a := 256) (b := 256 ^ k), Nat.mod_mod]

theorem leBytes_leToNat {len : Nat} {bs : Bytes} (h : bs.length = len) :
    leBytes len (leToNat bs) = bs := by
  induction bs generalizing len with
  | nil => subst h; rfl
  | cons b bs ih =>
    subst h
    have hb : b.toNat < 256 := b.toNat_lt
    rw [List.length_cons, leBytes, leToNat_cons]
    rw [Nat.add_mul_mod_self_left, Nat.mod_eq_of_lt hb, Nat.add_mul_div_left _ _ (by decide : 0 < 256),
      Nat.div_eq_of_lt hb, Nat.zero_add, ih rfl, UInt8.ofNat_toNat]

end PP.Limbs

namespace PP

/-! ## the bit iterator: `bitsMSB` reads the binary expansion of `limbsToNat` -/

/-- value of an MSB-first bit list, starting from the accumulator `acc` (`acc ↦ 2*acc + b`) -/
def ofBitsMSBAux (acc : Nat) (bits : List Bool) : Nat :=
  bits.foldl (fun a b => 2 * a + b.toNat) acc

/-- value of an MSB-first bit list -/
def ofBitsMSB (bits : List Bool) : Nat := ofBitsMSBAux 0 bits

@[simp] theorem ofBitsMSBAux_nil (acc : Nat) : ofBitsMSBAux acc [] = acc := rfl

@[simp] theorem ofBitsMSBAux_cons (acc : Nat) (b : Bool) (l : List Bool) :
    ofBitsMSBAux acc (b :: l) = ofBitsMSBAux (2 * acc + b.toNat) l := rfl

theorem ofBitsMSBAux_append (acc : Nat) (a b : List Bool) :
    ofBitsMSBAux acc (a ++ b) = ofBitsMSBAux (ofBitsMSBAux acc a) b :=
  List.foldl_append

theorem ofBitsMSBAux_wordBitsMSB (w : Nat) : ∀ (n e : Nat),
    ofBitsMSBAux e (wordBitsMSB w n) = e * 2 ^ n + w % 2 ^ n := by
  intro n
  induction n with
  | zero => intro e; simp [wordBitsMSB, Nat.mod_one]
  | succ n ih =>
    intro e
    rw [wordBitsMSB, ofBitsMSBAux_cons, ih, Nat.mod_pow_succ, Nat.toNat_testBit]; ring

/-- the bit iterator reads the binary expansion of the limbs (each taken mod `2^64`) -/
theorem ofBitsMSBAux_bitsMSB (ls : List Nat) : ∀ e : Nat,
    ofBitsMSBAux e (bitsMSB ls)
      = e * 2 ^ (64 * ls.length) + limbsToNat (ls.map (· % 2 ^ 64)) := by
  induction ls with
  | nil => intro e; simp [bitsMSB]
  | cons l ls ih =>
    intro e
    rw [bitsMSB, ofBitsMSBAux_append, ih, ofBitsMSBAux_wordBitsMSB]
    simp only [List.length_cons, List.map_cons, limbsToNat]
    have : 2 ^ (64 * (ls.length + 1)) = 2 ^ (64 * ls.length) * 2 ^ 64 := by rw [← pow_add]; ring_nf
    rw [this]; ring

theorem ofBitsMSB_bitsMSB (ls : List Nat) (hok : Limbs.LimbsOK ls) :
    ofBitsMSB (bitsMSB ls) = limbsToNat ls := by
  rw [ofBitsMSB, ofBitsMSBAux_bitsMSB, Limbs.map_mod_of_ok ls hok]; simp

end PP
