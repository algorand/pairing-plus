/-
Lemmas for `PP/Props/GenHash.lean`: the definitions generated from the Rust source by
/verif/extract/extract_hash.py (`PP/Gen/HashGlue.lean`, namespace `PP.Gen.H`: `expand_message` (XMD, XOF),
`hash_to_field`, `from_okm` / `from_ro`, `hash_to_curve` / `encode_to_curve`, one line per Rust statement)
are equal to the hand-written model (sections "hash_to_field.rs" and "hash_to_curve.rs" of
`PP/Model/Map.lean`).  Here: the loops and the code that is generic over the traits.

Shape of the statements.  A generated function that can PANIC is `Option`-valued (`none` = panic), as the
model's.  Hypotheses express Rust TYPES that the `Bytes` representation forgets: `okm.length = 64` is
`GenericArray<u8, U64>`; `(H.hash x).length = H.outSize` is the result type `GenericArray<u8, OutputSize>`
of `Digest::result`; `0 < H.outSize` excludes the division by zero (a panic in Rust, which the generated
code reproduces and the model does not; it is a hypothesis of Props/C13 as well).

Proof method.  Purely syntactic: `unfold`, the hoisted checks resolved with the length facts, the two
loops (`List.foldlM` over `List.range'`) by induction with generalised accumulators against the
recursions `xmdBlocks` / `splitBlocks` of the model; the loop bodies enter the induction lemmas only
through a pointwise description (`hf`), proved by unfolding the generated lambda.  Field values stay
opaque: nothing evaluates `Fq` arithmetic (the constants `F_2_256`, `F_2_192` are compared in
`PP/Props/GenHash.lean`, as integer literals under `Fq.ofMont`).

Core Lean only; axioms: `propext`, `Quot.sound`, `Classical.choice` at most.
-/
import PP.Gen.HashGlue
import PP.Proofs.GenEnc
import PP.Proofs.HashToField

namespace PP.GenHashLemmas
open PP PP.Gen PP.GenArithLemmas PP.GenEncLemmas PP.Expand

/-! ## bytes -/

theorem reprReadBe_exact (n : Nat) (l : Bytes) (h : l.length = n) : E.reprReadBe n l = .ok (beToNat l, []) := by
  rw [reprReadBe_ok n l (Nat.le_of_eq h.symm), List.take_of_length_le (Nat.le_of_eq h),
    List.drop_of_length_le (Nat.le_of_eq h)]

theorem Fq_fromBytes_eq (bs : Bytes) : Fq.fromBytes bs = E.Fq.fromRepr (beToNat bs) := rfl
theorem Fr_fromBytes_eq (bs : Bytes) : Fr.fromBytes bs = E.Fr.fromRepr (beToNat bs) := rfl

/-! ## hash_to_field -/

/-- the `for idx in 0..count` loop of `hash_to_field` against the model's recursion `splitBlocks`;
    `f` is the generated loop body, described pointwise by `hf` -/
theorem foldlM_splitBlocks {T : Type} (L : Nat) (fromRo : Bytes → Option T) (bytes : Bytes)
    (f : List T → Nat → Option (List T))
    (hf : ∀ acc idx, f acc idx =
      if bytes.length < idx * L + L then none else
        match fromRo ((bytes.drop (idx * L)).take L) with
        | none => none
        | some v => some (acc ++ [v])) :
    ∀ n idx acc, List.foldlM f acc (List.range' idx n) = (splitBlocks L fromRo bytes n idx).map (acc ++ ·) := by
  intro n
  induction n with
  | zero => intro idx acc; simp [splitBlocks]
  | succ n ih =>
    intro idx acc
    rw [List.range'_succ, List.foldlM_cons, hf]
    unfold splitBlocks
    have hlen : ((bytes.drop (idx * L)).take L).length ≠ L ↔ bytes.length < idx * L + L := by
      rw [List.length_take, List.length_drop]
      rcases Nat.eq_zero_or_pos L with h0 | hpos
      · subst h0; simp
      · omega
    by_cases hb : bytes.length < idx * L + L
    · rw [if_pos hb]
      simp only [bind, pure, Option.bind]
      rw [if_pos (hlen.mpr hb)]
      rfl
    · rw [if_neg hb]
      simp only [bind, pure, Option.bind]
      rw [if_neg (fun h => hb (hlen.mp h))]
      cases fromRo ((bytes.drop (idx * L)).take L) with
      | none => rfl
      | some v =>
        simp only []
        rw [ih (idx + 1) (acc ++ [v])]
        cases splitBlocks L fromRo bytes n (idx + 1) with
        | none => rfl
        | some rest => simp

theorem H_hashToField_eq {T : Type} (L : Nat) (fromRo : Bytes → Option T)
    (expand : Bytes → Bytes → Nat → Option Bytes) (msg dst : Bytes) (count : Nat) :
    H.hashToField L fromRo expand msg dst count = hashToField expand L fromRo msg dst count := by
  unfold H.hashToField hashToField
  simp only []
  cases expand msg dst (count * L) with
  | none => rfl
  | some bytes =>
    simp only [bind, Option.bind]
    rw [List.range_eq_range', foldlM_splitBlocks L fromRo bytes _ _ count 0 []]
    · cases splitBlocks L fromRo bytes count 0 with
      | none => rfl
      | some l => simp
    · intro acc idx
      have e1 : (idx + 1) * L = idx * L + L := Nat.succ_mul idx L
      have e2 : idx * L + L - idx * L = L := Nat.add_sub_cancel_left (idx * L) L
      rw [e1, e2]
      by_cases hb : bytes.length < idx * L + L
      · rw [if_pos hb, if_pos (Or.inr hb)]
      · rw [if_neg hb, if_neg (by omega)]
        have hl : ((bytes.drop (idx * L)).take L).length = L := by
          rw [List.length_take, List.length_drop]; omega
        rw [if_neg (fun h => h hl)]
        cases fromRo ((bytes.drop (idx * L)).take L) <;> rfl

/-- the model's `hashToField` only applies `fromRo` to blocks of exactly `L` bytes -/
theorem splitBlocks_congr {T : Type} (L : Nat) (f g : Bytes → Option T) (bytes : Bytes)
    (h : ∀ b, b.length = L → f b = g b) : ∀ n idx, splitBlocks L f bytes n idx = splitBlocks L g bytes n idx := by
  intro n
  induction n with
  | zero => intro idx; rfl
  | succ n ih =>
    intro idx
    unfold splitBlocks
    simp only [bind, pure, Option.bind]
    by_cases hb : ((bytes.drop (idx * L)).take L).length ≠ L
    · rw [if_pos hb, if_pos hb]
    · rw [if_neg hb, if_neg hb, h _ (Classical.not_not.mp hb), ih (idx + 1)]

theorem hashToField_congr {T : Type} (L : Nat) (f g : Bytes → Option T)
    (expand : Bytes → Bytes → Nat → Option Bytes) (msg dst : Bytes) (count : Nat)
    (h : ∀ b, b.length = L → f b = g b) :
    hashToField expand L f msg dst count = hashToField expand L g msg dst count := by
  unfold hashToField
  cases expand msg dst (count * L) with
  | none => rfl
  | some bytes =>
    simp only [bind, Option.bind]
    exact splitBlocks_congr L f g bytes h count 0

/-! ## expand_message_xmd -/

theorem set_append_len (pre : Bytes) (s v : UInt8) (suf : Bytes) :
    (pre ++ s :: suf).set pre.length v = pre ++ v :: suf := by
  induction pre with
  | nil => rfl
  | cons a p ih => simp [ih]

/-- the `enumerate().for_each(|(jdx, (b0val, bi1val))| tmp[jdx] = b0val ^ bi1val)` loop, with the part of
    `tmp` already written (`pre`) and still to be written (`suf`) made explicit -/
theorem xor_fold_aux (g : Bytes → Nat × UInt8 × UInt8 → Option Bytes)
    (hg : ∀ t j x y, g t (j, (x, y)) = if t.length ≤ j then none else some (t.set j (x ^^^ y))) :
    ∀ (a b pre suf : Bytes), min a.length b.length ≤ suf.length →
      List.foldlM g (pre ++ suf) (List.zip (List.range' pre.length (List.zip a b).length) (List.zip a b))
        = some (pre ++ xorBytes a b ++ suf.drop (min a.length b.length)) := by
  intro a
  induction a with
  | nil => intro b pre suf _; simp [xorBytes]
  | cons x a ih =>
    intro b pre suf hs
    cases b with
    | nil => simp [xorBytes]
    | cons y b =>
      cases suf with
      | nil => simp at hs
      | cons s suf =>
        have hs' : min a.length b.length ≤ suf.length := by
          simp only [List.length_cons] at hs; omega
        rw [List.zip_cons_cons, List.length_cons, List.range'_succ, List.zip_cons_cons, List.foldlM_cons, hg,
          if_neg (by rw [List.length_append, List.length_cons]; omega), set_append_len]
        simp only [bind, Option.bind]
        have e : pre ++ (x ^^^ y) :: suf = (pre ++ [x ^^^ y]) ++ suf := by simp
        have el : pre.length + 1 = (pre ++ [x ^^^ y]).length := by simp
        rw [e, el, ih b (pre ++ [x ^^^ y]) suf hs']
        simp [xorBytes, Nat.succ_min_succ]

theorem xor_fold (g : Bytes → Nat × UInt8 × UInt8 → Option Bytes)
    (hg : ∀ t j x y, g t (j, (x, y)) = if t.length ≤ j then none else some (t.set j (x ^^^ y)))
    (a b tmp : Bytes) (ha : a.length = tmp.length) (hb : b.length = tmp.length) :
    List.foldlM g tmp (H.enumerate (List.zip a b)) = some (xorBytes a b) := by
  have h := xor_fold_aux g hg a b [] tmp (by omega)
  unfold H.enumerate
  rw [List.range_eq_range']
  rw [List.nil_append, List.length_nil] at h
  rw [h, List.nil_append, List.drop_of_length_le (by omega), List.append_nil]

/-- the `for idx in 1..ell` loop of `expand_message_xmd` against the model's recursion `xmdBlocks`;
    `f` is the generated loop body, described by `hf` on the states the loop reaches -/
theorem foldlM_xmdBlocks (Hh : XmdHash) (hH : ∀ x, (Hh.hash x).length = Hh.outSize) (b0 dstPrime : Bytes)
    (f : Bytes → Nat → Option Bytes)
    (hf : ∀ acc idx, 1 ≤ idx → acc.length = idx * Hh.outSize → f acc idx =
      some (acc ++ Hh.hash (xorBytes b0 ((acc.drop ((idx - 1) * Hh.outSize)).take Hh.outSize) ++ [u8 (idx + 1)] ++ dstPrime))) :
    ∀ n idx prev acc, 1 ≤ idx → acc.length = idx * Hh.outSize →
      prev = (acc.drop ((idx - 1) * Hh.outSize)).take Hh.outSize →
      List.foldlM f acc (List.range' idx n) = some (xmdBlocks Hh b0 dstPrime n idx prev acc) := by
  intro n
  induction n with
  | zero => intro idx prev acc _ _ _; rfl
  | succ n ih =>
    intro idx prev acc h1 hl hp
    rw [List.range'_succ, List.foldlM_cons, hf acc idx h1 hl, ← hp]
    simp only [bind, Option.bind]
    unfold xmdBlocks
    simp only []
    apply ih
    · omega
    · rw [List.length_append, hH, hl, Nat.succ_mul]
    · rw [Nat.add_sub_cancel, List.drop_left' hl, List.take_of_length_le (Nat.le_of_eq (hH _))]

/-! ## hash_to_curve, encode_to_curve: the generic code

For abstract trait items, against any model value `model` that is described in terms of the model's
`hashToField` as `hashToCurveG1_cases` … `encodeToCurveG2_cases` do (`hmodel`).  `from_ro'`, `map2` are
the model's counterparts of the trait items `from_ro` (they need to agree on `L`-byte blocks only) and
`map2_to_curve`. -/

theorem hashToCurve_generic {Base PtT : Type} (L : Nat) (from_ro from_ro' : Bytes → Option Base)
    (expand : Bytes → Bytes → Nat → Option Bytes) (osswu : Base → Option PtT) (iso clear : PtT → PtT)
    (add : PtT → PtT → PtT) (msg dst : Bytes)
    (hro : ∀ b : Bytes, b.length = L → from_ro b = from_ro' b)
    (map2 : Base → Base → Option PtT) (hmap : A.map2ToCurve osswu iso clear add = map2)
    (model : Option PtT)
    (hmodel : (hashToField expand L from_ro' msg dst 2 = none ∧ model = none) ∨
      ∃ u0 u1, hashToField expand L from_ro' msg dst 2 = some [u0, u1] ∧ model = map2 u0 u1) :
    H.HashToCurve.hashToCurve L from_ro expand osswu iso clear add msg dst = model := by
  unfold H.HashToCurve.hashToCurve
  rw [H_hashToField_eq, hashToField_congr L from_ro from_ro' expand msg dst 2 hro, hmap]
  rcases hmodel with ⟨hf, hm⟩ | ⟨u0, u1, hf, hm⟩
  · rw [hf, hm]
  · rw [hf, hm]; rfl

theorem encodeToCurve_generic {Base PtT : Type} (L : Nat) (from_ro from_ro' : Bytes → Option Base)
    (expand : Bytes → Bytes → Nat → Option Bytes) (osswu : Base → Option PtT) (iso clear : PtT → PtT)
    (add : PtT → PtT → PtT) (msg dst : Bytes)
    (hro : ∀ b : Bytes, b.length = L → from_ro b = from_ro' b)
    (map1 : Base → Option PtT) (hmap : A.mapToCurve osswu iso clear = map1)
    (model : Option PtT)
    (hmodel : (hashToField expand L from_ro' msg dst 1 = none ∧ model = none) ∨
      ∃ u, hashToField expand L from_ro' msg dst 1 = some [u] ∧ model = map1 u) :
    H.HashToCurve.encodeToCurve L from_ro expand osswu iso clear add msg dst = model := by
  unfold H.HashToCurve.encodeToCurve
  rw [H_hashToField_eq, hashToField_congr L from_ro from_ro' expand msg dst 1 hro, hmap]
  rcases hmodel with ⟨hf, hm⟩ | ⟨u, hf, hm⟩
  · rw [hf, hm]
  · rw [hf, hm]; rfl

end PP.GenHashLemmas
