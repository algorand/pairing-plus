/-
Interfaces that decouple the proof layers.

* `GroupModel`: what the scalar-multiplication / MSM / cofactor / encoding proofs need to know about
  the Jacobian arithmetic of `PP.Model.Curve` — it is provided by `curveModel`
  (`PP.Proofs.GroupModelInst`, from the C01 theorems) with `G := (W b).Point`, and consumed by
  `ScalarMul`, `Wnaf`, `Pippenger`, `Chains`, `Assembly`, hence by C02, C10, C17, C19, C20.
* `LawfulSqrtOps`: what the decoders need to know about `sqrt` and the order — provided by C18.
-/
import Mathlib.Algebra.Group.Basic
import Mathlib.Algebra.Group.Even
import PP.Proofs.Lawful
import PP.Model.Curve

namespace PP

/-- An abstraction of the model's curve arithmetic into an abelian group `G`. -/
structure GroupModel (F : Type) [Field F] [DecidableEq F] [FieldOps F] (G : Type) [AddCommGroup G] where
  /-- representation invariant of projective points ("is a point of the curve") -/
  ValidJ : Jac F → Prop
  /-- representation invariant of affine points -/
  ValidA : Aff F → Prop
  absJ : Jac F → G
  absA : Aff F → G
  zero_valid : ValidJ Jac.zero
  zero_abs : absJ Jac.zero = 0
  isZero_iff : ∀ P, ValidJ P → (P.isZero = true ↔ absJ P = 0)
  double_valid : ∀ P, ValidJ P → ValidJ P.double
  double_abs : ∀ P, ValidJ P → absJ P.double = absJ P + absJ P
  add_valid : ∀ P Q, ValidJ P → ValidJ Q → ValidJ (P.add Q)
  add_abs : ∀ P Q, ValidJ P → ValidJ Q → absJ (P.add Q) = absJ P + absJ Q
  addMixed_valid : ∀ P A, ValidJ P → ValidA A → ValidJ (P.addMixed A)
  addMixed_abs : ∀ P A, ValidJ P → ValidA A → absJ (P.addMixed A) = absJ P + absA A
  neg_valid : ∀ P, ValidJ P → ValidJ P.neg
  neg_abs : ∀ P, ValidJ P → absJ P.neg = - absJ P
  affZero_valid : ValidA Aff.zero
  affZero_abs : absA Aff.zero = 0
  affInf_iff : ∀ A, ValidA A → (A.infinity = true ↔ absA A = 0)
  affNeg_valid : ∀ A, ValidA A → ValidA A.neg
  affNeg_abs : ∀ A, ValidA A → absA A.neg = - absA A
  toJac_valid : ∀ A, ValidA A → ValidJ A.toJac
  toJac_abs : ∀ A, ValidA A → absJ A.toJac = absA A
  toAffine_ok : ∀ P, ValidJ P → ∃ A, P.toAffine = some A ∧ ValidA A ∧ absA A = absJ P
  /-- two valid affine points with the same abstraction are the same record
      (affine coordinates are canonical; the identity is `Aff.zero`) -/
  absA_inj : ∀ A B, ValidA A → ValidA B → absA A = absA B → (A.infinity = B.infinity ∧ (A.infinity = false → A.x = B.x ∧ A.y = B.y))

/-- What the decoders and `get_point_from_x` rely on. `lt` is the strict order of the Rust `Ord`. -/
class LawfulSqrtOps (F : Type) [Field F] [SqrtOps F] : Prop where
  sqrt_sound : ∀ a b : F, SqrtOps.sqrt a = some b → b * b = a
  sqrt_complete : ∀ a : F, SqrtOps.sqrt a = none → ¬ IsSquare a
  lt_irrefl : ∀ a : F, SqrtOps.lt a a = false
  lt_asymm : ∀ a b : F, SqrtOps.lt a b = true → SqrtOps.lt b a = false
  lt_total : ∀ a b : F, a ≠ b → SqrtOps.lt a b = true ∨ SqrtOps.lt b a = true

end PP
