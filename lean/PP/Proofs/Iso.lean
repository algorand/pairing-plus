/-
C16, layer 1: the generic isogeny evaluation `evalIso` of `PP.Model.Map` (a mirror of `eval_iso` in
src/bls12_381/isogeny/mod.rs) computes, in Jacobian coordinates and for every representative of the
input point, the rational map

    (x, y) ↦ (XN(x) / XD(x), y · YN(x) / YD(x))

given by its four coefficient lists; it sends the identity and the poles of the map (the kernel) to
the identity; and if the four polynomials satisfy the identity

    (x³ + A'x + B') · YN² · XD³ = (XN³ + b · XD³) · YD²        in F[x]

then it sends `y² = x³ + A'x + B'` to `y² = x³ + b`.  The identity is *checked* for the extracted
coefficient tables of the 11-isogeny (over `Fq`) and of the 3-isogeny (over `Fq2`, with the model's
own `Fq2` arithmetic) by kernel computation on coefficient lists.

Everything is stated for an abstract field `F` carrying the model's extra operations
(`LawfulFieldOps`), then instantiated at `Fq` (`iso11`) and at `Fq2` (`iso3`).
-/
import PP.Proofs.IsoPoly
import PP.Proofs.Lawful
import PP.Proofs.Primes
import PP.Model.Map
import Mathlib.Tactic.LinearCombination

set_option linter.unusedSectionVars false

namespace PP
open IsoPoly
namespace Iso

section generic
variable {F : Type} [Field F] [FieldOps F] [LawfulFieldOps F]

theorem getD_set! {α : Type} (a : Array α) (i j : Nat) (v d : α) :
    (a.set! i v).getD j d = if i = j ∧ i < a.size then v else a.getD j d := by
  simp only [Array.set!_eq_setIfInBounds, Array.getD_eq_getD_getElem?, Array.getElem?_setIfInBounds]
  by_cases h : i = j
  · subst h
    by_cases h2 : i < a.size
    · simp [h2]
    · simp [h2]
  · simp [h]


/-! ## the table of powers of `z` and one map value -/

/-- one iteration (`idx = k + 1`) of the loop that fills the table -/
def zpStep (z2 : F) (zp : Array F) (k : Nat) : Array F :=
  let idx := k + 1
  if idx % 2 = 0 then zp.set! (idx + 1) (sq (zp.getD (idx / 2 - 1 + 1) 0))
  else zp.set! (idx + 1) ((zp.getD (idx - 1 + 1) 0) * z2)

def zpInit (z2 : F) : Array F := ((Array.replicate 15 (0 : F)).set! 0 z2).set! 1 (sq z2)

theorem isoZpows_eq (z : F) (n : Nat) :
    isoZpows z n = (List.range (n - 2 - 1)).foldl (zpStep (sq z)) (zpInit (sq z)) := rfl

/-- loop invariant: the first `m + 2` entries are the powers of `w` -/
def ZpInv (w : F) (zp : Array F) (m : Nat) : Prop :=
  zp.size = 15 ∧ ∀ j, j < 15 → j ≤ m + 1 → zp.getD j 0 = w ^ (j + 1)

theorem zpInv_init (w : F) : ZpInv w (zpInit w) 0 := by
  refine ⟨by simp [zpInit], ?_⟩
  intro j _ hj
  have : j = 0 ∨ j = 1 := by omega
  rcases this with rfl | rfl
  · simp [zpInit]
  · simp [zpInit, pow_two]

theorem zpInv_step (w : F) (zp : Array F) (m : Nat) (h : ZpInv w zp m) :
    ZpInv w (zpStep w zp m) (m + 1) := by
  obtain ⟨hs, hv⟩ := h
  have hval : m + 2 < 15 → (if (m + 1) % 2 = 0 then sq (zp.getD ((m + 1) / 2 - 1 + 1) 0)
      else (zp.getD (m + 1 - 1 + 1) 0) * w) = w ^ (m + 2 + 1) := by
    intro hm
    split
    · next he =>
      have h1 : (m + 1) / 2 - 1 + 1 = (m + 1) / 2 := by omega
      rw [h1, hv _ (by omega) (by omega), LawfulFieldOps.sq_eq, ← pow_add]
      congr 1; omega
    · next ho =>
      have h1 : m + 1 - 1 + 1 = m + 1 := by omega
      rw [h1, hv _ (by omega) (by omega), ← pow_succ]
  constructor
  · unfold zpStep; dsimp only; split <;> simp [hs]
  · intro j hj hjm
    have hstep : (zpStep w zp m).getD j 0 =
        if m + 2 = j ∧ m + 2 < zp.size then
          (if (m + 1) % 2 = 0 then sq (zp.getD ((m + 1) / 2 - 1 + 1) 0)
            else (zp.getD (m + 1 - 1 + 1) 0) * w)
        else zp.getD j 0 := by
      unfold zpStep; dsimp only
      split <;> rw [getD_set!]
    rw [hstep, hs]
    by_cases hj2 : m + 2 = j
    · subst hj2
      rw [if_pos ⟨rfl, hj⟩, hval hj]
    · rw [if_neg (fun h => hj2 h.1)]
      exact hv j hj (by omega)

theorem zpInv_foldl (w : F) (m : Nat) :
    ZpInv w ((List.range m).foldl (zpStep w) (zpInit w)) m := by
  induction m with
  | zero => simpa using zpInv_init w
  | succ m ih =>
    rw [List.range_succ, List.foldl_append]
    exact zpInv_step w _ m ih

/-- every entry the code reads is the advertised power of `z` -/
theorem isoZpows_spec (z : F) (n j : Nat) (hj : j < 15) (h : j + 2 ≤ n ∨ j ≤ 1) :
    (isoZpows z n).getD j 0 = z ^ (2 * (j + 1)) := by
  rw [isoZpows_eq, LawfulFieldOps.sq_eq, pow_mul, pow_two]
  exact (zpInv_foldl (z * z) (n - 2 - 1)).2 j hj (by omega)

theorem horner_range (x init : F) (g : Nat → F) (n : Nat) :
    ((List.range n).map g).foldl (fun acc t => acc * x + t) init =
      init * x ^ n + ∑ j ∈ Finset.range n, g j * x ^ (n - 1 - j) := by
  induction n with
  | zero => simp
  | succ n ih =>
    rw [List.range_succ, List.map_append, List.foldl_append, ih, Finset.sum_range_succ]
    simp only [List.map_cons, List.map_nil, List.foldl_cons, List.foldl_nil]
    rw [add_mul, Finset.sum_mul]
    have : ∑ i ∈ Finset.range n, g i * x ^ (n - 1 - i) * x = ∑ i ∈ Finset.range n, g i * x ^ (n + 1 - 1 - i) := by
      apply Finset.sum_congr rfl
      intro i hi
      have hi' : i < n := Finset.mem_range.mp hi
      have : n + 1 - 1 - i = (n - 1 - i) + 1 := by omega
      rw [this, pow_succ]; ring
    rw [this]
    have h0 : n + 1 - 1 - n = 0 := by omega
    rw [h0]; ring

/-- one map value is the homogenised polynomial at `(x, z²)` -/
theorem isoMapval_spec (z x : F) (n : Nat) (cs : List F) (hn : cs.length ≤ n) (h16 : cs.length ≤ 16) :
    isoMapval (isoZpows z n) x cs = hEval cs x (z ^ 2) := by
  unfold isoMapval
  dsimp only
  have hga : ∀ i, cs.toArray.getD i 0 = cs.getD i 0 := by intro i; simp
  simp only [hga]
  rw [horner_range, hEval_eq_sum]
  rcases Nat.eq_zero_or_pos cs.length with h0 | hpos
  · have : cs = [] := List.length_eq_zero_iff.mp h0
    subst this; simp
  · obtain ⟨d, hd⟩ : ∃ d, cs.length = d + 1 := ⟨cs.length - 1, by omega⟩
    rw [hd, Nat.add_sub_cancel, Finset.sum_range_succ, Nat.sub_self, pow_zero, mul_one, add_comm]
    congr 1
    rw [← Finset.sum_range_reflect]
    apply Finset.sum_congr rfl
    intro j hj
    have hj' : j < d := Finset.mem_range.mp hj
    rw [isoZpows_spec z n (d - 1 - j) (by omega) (by omega)]
    have e1 : d - 1 - (d - 1 - j) = j := by omega
    have e2 : d - 1 - j + 1 = d - j := by omega
    rw [e1, e2, ← pow_mul]
    ring


theorem jac_isZero_iff (p : Jac F) : p.isZero = true ↔ p.z = 0 := by
  unfold Jac.isZero; exact LawfulFieldOps.isZero_iff _

/-- the shape of the coefficient tables at the two call sites of `eval_iso`
    (`xden` one shorter than `xnum`, `yden` as long as `ynum`, `ynum` the longest, at most 16: the
    Rust scratch arrays have 16 and 15 entries) -/
structure IsoShape (xnum xden ynum yden : List F) : Prop where
  xnum_len : xnum.length = xden.length + 1
  yden_len : yden.length = ynum.length
  xden_pos : 1 ≤ xden.length
  x_le_y : xnum.length ≤ ynum.length
  y_le : ynum.length ≤ 16

variable {xnum xden ynum yden : List F}

/-- `eval_iso` in closed form: the four homogenised polynomials and the recombination -/
theorem evalIso_eq (sh : IsoShape xnum xden ynum yden) (p : Jac F) :
    evalIso xnum xden ynum yden p =
      let m0 := hEval xnum p.x (p.z ^ 2)
      let m1 := hEval xden p.x (p.z ^ 2) * p.z ^ 2
      let m2 := hEval ynum p.x (p.z ^ 2) * p.y
      let m3 := hEval yden p.x (p.z ^ 2) * p.z * p.z ^ 2
      ⟨m0 * m3 * (m1 * m3), (m1 * m3) ^ 2 * m2 * m1, m1 * m3⟩ := by
  obtain ⟨h1, h2, h3, h4, h5⟩ := sh
  unfold evalIso
  dsimp only
  rw [isoMapval_spec _ _ _ xnum (by omega) (by omega), isoMapval_spec _ _ _ xden (by omega) (by omega),
    isoMapval_spec _ _ _ ynum (by omega) (by omega), isoMapval_spec _ _ _ yden (by omega) (by omega),
    isoZpows_spec _ _ 0 (by omega) (Or.inr (by omega)), LawfulFieldOps.sq_eq]
  rw [Jac.mk.injEq]
  refine ⟨rfl, by ring, rfl⟩

/-- the identity (any triple with `z = 0`) is sent to the identity; no shape needed -/
theorem iso_identity (p : Jac F) (hz : p.z = 0) : (evalIso xnum xden ynum yden p).z = 0 := by
  unfold evalIso
  dsimp only
  rw [hz]; ring

/-- the four map values at a finite point, as multiples of the values of the four polynomials at the
    affine abscissa `x / z²` -/
theorem mapvals_of_z_ne (sh : IsoShape xnum xden ynum yden) (p : Jac F) (hz : p.z ≠ 0) :
    ∃ c e : F, c ≠ 0 ∧ e ≠ 0 ∧
      hEval xnum p.x (p.z ^ 2) = c * evalP xnum (p.x / p.z ^ 2) ∧
      hEval xden p.x (p.z ^ 2) * p.z ^ 2 = c * evalP xden (p.x / p.z ^ 2) ∧
      hEval ynum p.x (p.z ^ 2) = e * evalP ynum (p.x / p.z ^ 2) ∧
      hEval yden p.x (p.z ^ 2) = e * evalP yden (p.x / p.z ^ 2) := by
  obtain ⟨h1, h2, h3, h4, h5⟩ := sh
  have hw : p.z ^ 2 ≠ 0 := pow_ne_zero 2 hz
  refine ⟨(p.z ^ 2) ^ xden.length, (p.z ^ 2) ^ (ynum.length - 1), pow_ne_zero _ hw, pow_ne_zero _ hw,
    ?_, ?_, ?_, ?_⟩
  · rw [hEval_eq_evalP _ _ hw, h1, Nat.add_sub_cancel]
  · rw [hEval_mul_eq _ _ hw]
  · rw [hEval_eq_evalP _ _ hw]
  · rw [hEval_eq_evalP _ _ hw, h2]

/-- at a finite point that is not a pole, the output is a finite point whose affine
    coordinates are the values of the rational map
    `(x, y) ↦ (XN(x)/XD(x), y · YN(x)/YD(x))` at the affine input `(X/Z², Y/Z³)`. -/
theorem iso_affine (sh : IsoShape xnum xden ynum yden) (p : Jac F) (hz : p.z ≠ 0)
    (hxd : evalP xden (p.x / p.z ^ 2) ≠ 0) (hyd : evalP yden (p.x / p.z ^ 2) ≠ 0) :
    (evalIso xnum xden ynum yden p).z ≠ 0 ∧
    (evalIso xnum xden ynum yden p).x / (evalIso xnum xden ynum yden p).z ^ 2 =
      evalP xnum (p.x / p.z ^ 2) / evalP xden (p.x / p.z ^ 2) ∧
    (evalIso xnum xden ynum yden p).y / (evalIso xnum xden ynum yden p).z ^ 3 =
      (p.y / p.z ^ 3) * evalP ynum (p.x / p.z ^ 2) / evalP yden (p.x / p.z ^ 2) := by
  obtain ⟨c, e, hc, he, e0, e1, e2, e3⟩ := mapvals_of_z_ne sh p hz
  rw [evalIso_eq sh]
  dsimp only
  rw [e0, e1, e2, e3]
  generalize evalP xnum (p.x / p.z ^ 2) = XN at *
  generalize evalP xden (p.x / p.z ^ 2) = XD at *
  generalize evalP ynum (p.x / p.z ^ 2) = YN at *
  generalize evalP yden (p.x / p.z ^ 2) = YD at *
  have hz1 : c * XD * (e * YD * p.z * p.z ^ 2) ≠ 0 := by
    simp [hc, he, hz, hxd, hyd]
  refine ⟨hz1, ?_, ?_⟩
  · field_simp
  · field_simp

/-- the output is the identity exactly for the identity and for the poles of the map
    (the kernel of the isogeny) -/
theorem iso_z_eq_zero_iff (sh : IsoShape xnum xden ynum yden) (p : Jac F) :
    (evalIso xnum xden ynum yden p).z = 0 ↔
      p.z = 0 ∨ evalP xden (p.x / p.z ^ 2) = 0 ∨ evalP yden (p.x / p.z ^ 2) = 0 := by
  by_cases hz : p.z = 0
  · simp [iso_identity p hz, hz]
  · obtain ⟨c, e, hc, he, e0, e1, e2, e3⟩ := mapvals_of_z_ne sh p hz
    rw [evalIso_eq sh]
    dsimp only
    rw [e1, e3]
    simp [hc, he, hz]

theorem iso_kernel (sh : IsoShape xnum xden ynum yden) (p : Jac F) (_hz : p.z ≠ 0)
    (h : evalP xden (p.x / p.z ^ 2) = 0 ∨ evalP yden (p.x / p.z ^ 2) = 0) :
    (evalIso xnum xden ynum yden p).z = 0 :=
  (iso_z_eq_zero_iff sh p).mpr (Or.inr h)

/-- representation independence: rescaling the input representative by `l` rescales the
    output representative by `μ = l ^ (2·|xden| + 2·|ynum| + 1)` -/
theorem iso_homogeneous (sh : IsoShape xnum xden ynum yden) (p : Jac F) (l : F) :
    evalIso xnum xden ynum yden ⟨l ^ 2 * p.x, l ^ 3 * p.y, l * p.z⟩ =
      ⟨(l ^ (2 * xden.length + 2 * ynum.length + 1)) ^ 2 * (evalIso xnum xden ynum yden p).x,
       (l ^ (2 * xden.length + 2 * ynum.length + 1)) ^ 3 * (evalIso xnum xden ynum yden p).y,
       l ^ (2 * xden.length + 2 * ynum.length + 1) * (evalIso xnum xden ynum yden p).z⟩ := by
  rw [evalIso_eq sh, evalIso_eq sh]
  dsimp only
  obtain ⟨h1, h2, h3, h4, h5⟩ := sh
  rw [mul_pow l p.z 2, hEval_smul, hEval_smul, hEval_smul, hEval_smul, h1, h2, Nat.add_sub_cancel]
  obtain ⟨k, hk⟩ : ∃ k, xden.length = k + 1 := ⟨xden.length - 1, by omega⟩
  obtain ⟨m, hm⟩ : ∃ m, ynum.length = m + 1 := ⟨ynum.length - 1, by omega⟩
  rw [hk, hm, Nat.add_sub_cancel, Nat.add_sub_cancel]
  rw [Jac.mk.injEq]
  refine ⟨by ring, by ring, by ring⟩

/-- the equivalence `(μ²X, μ³Y, μZ) ~ (X, Y, Z)` on finite points is equality of affine coordinates -/
theorem iso_homogeneous_affine (sh : IsoShape xnum xden ynum yden) (p : Jac F) (l : F) (hl : l ≠ 0) :
    ((evalIso xnum xden ynum yden ⟨l ^ 2 * p.x, l ^ 3 * p.y, l * p.z⟩).z = 0 ↔
      (evalIso xnum xden ynum yden p).z = 0) ∧
    (evalIso xnum xden ynum yden ⟨l ^ 2 * p.x, l ^ 3 * p.y, l * p.z⟩).x /
        (evalIso xnum xden ynum yden ⟨l ^ 2 * p.x, l ^ 3 * p.y, l * p.z⟩).z ^ 2 =
      (evalIso xnum xden ynum yden p).x / (evalIso xnum xden ynum yden p).z ^ 2 ∧
    (evalIso xnum xden ynum yden ⟨l ^ 2 * p.x, l ^ 3 * p.y, l * p.z⟩).y /
        (evalIso xnum xden ynum yden ⟨l ^ 2 * p.x, l ^ 3 * p.y, l * p.z⟩).z ^ 3 =
      (evalIso xnum xden ynum yden p).y / (evalIso xnum xden ynum yden p).z ^ 3 := by
  rw [iso_homogeneous sh]
  dsimp only
  have hμ : l ^ (2 * xden.length + 2 * ynum.length + 1) ≠ 0 := pow_ne_zero _ hl
  generalize l ^ (2 * xden.length + 2 * ynum.length + 1) = μ at *
  refine ⟨by simp [hμ], ?_, ?_⟩
  · by_cases h0 : (evalIso xnum xden ynum yden p).z = 0
    · simp [h0]
    · field_simp
  · by_cases h0 : (evalIso xnum xden ynum yden p).z = 0
    · simp [h0]
    · field_simp

/-- if the four polynomials satisfy the isogeny identity, a point of `y² = x³ + A'x + B'`
    (in any representation; any triple with `z = 0` counts as the identity) is sent to a triple
    that satisfies the homogeneous equation of `y² = x³ + b`. -/
theorem iso_onCurve (sh : IsoShape xnum xden ynum yden) (A' B' b : F)
    (hident : ∀ x : F, (x ^ 3 + A' * x + B') * evalP ynum x ^ 2 * evalP xden x ^ 3 =
      (evalP xnum x ^ 3 + b * evalP xden x ^ 3) * evalP yden x ^ 2)
    (p : Jac F) (hp : p.z = 0 ∨ p.y ^ 2 = p.x ^ 3 + A' * p.x * p.z ^ 4 + B' * p.z ^ 6) :
    (evalIso xnum xden ynum yden p).y ^ 2 =
      (evalIso xnum xden ynum yden p).x ^ 3 + b * (evalIso xnum xden ynum yden p).z ^ 6 := by
  by_cases hz : p.z = 0
  · rw [evalIso_eq sh]
    dsimp only
    rw [hz]; ring
  · have hcurve := hp.resolve_left hz
    obtain ⟨c, e, hc, he, e0, e1, e2, e3⟩ := mapvals_of_z_ne sh p hz
    have hid := hident (p.x / p.z ^ 2)
    rw [evalIso_eq sh]
    dsimp only
    rw [e0, e1, e2, e3]
    generalize evalP xnum (p.x / p.z ^ 2) = XN at *
    generalize evalP xden (p.x / p.z ^ 2) = XD at *
    generalize evalP ynum (p.x / p.z ^ 2) = YN at *
    generalize evalP yden (p.x / p.z ^ 2) = YD at *
    have hx : p.x = (p.x / p.z ^ 2) * p.z ^ 2 := by field_simp
    generalize p.x / p.z ^ 2 = x' at *
    -- `y² = z⁶ (x'³ + A'x' + B')`
    have hy : p.y ^ 2 = p.z ^ 6 * (x' ^ 3 + A' * x' + B') := by rw [hcurve, hx]; ring
    -- `m1³ m2² = m3² (m0³ + b m1³)`
    have key : (c * XD) ^ 3 * (e * YN * p.y) ^ 2 =
        (e * YD * p.z * p.z ^ 2) ^ 2 * ((c * XN) ^ 3 + b * (c * XD) ^ 3) := by
      linear_combination (c ^ 3 * XD ^ 3 * e ^ 2 * YN ^ 2) * hy + (c ^ 3 * e ^ 2 * p.z ^ 6) * hid
    linear_combination ((c * XD) ^ 3 * (e * YD * p.z * p.z ^ 2) ^ 4) * key

/-- compatibility with negation: the `y`-map is odd in `y` -/
theorem iso_neg_coords (sh : IsoShape xnum xden ynum yden) (p : Jac F) :
    evalIso xnum xden ynum yden ⟨p.x, -p.y, p.z⟩ =
      ⟨(evalIso xnum xden ynum yden p).x, -(evalIso xnum xden ynum yden p).y,
        (evalIso xnum xden ynum yden p).z⟩ := by
  rw [evalIso_eq sh, evalIso_eq sh]
  dsimp only
  rw [Jac.mk.injEq]
  refine ⟨rfl, by ring, rfl⟩

/-- … with the model's `negate` on both sides (all cases: identity, kernel points, the rest) -/
theorem iso_neg (sh : IsoShape xnum xden ynum yden) (p : Jac F) :
    evalIso xnum xden ynum yden p.neg = (evalIso xnum xden ynum yden p).neg := by
  unfold Jac.neg
  by_cases hz : p.z = 0
  · have h1 : p.isZero = true := (jac_isZero_iff p).mpr hz
    have h2 : (evalIso xnum xden ynum yden p).isZero = true :=
      (jac_isZero_iff _).mpr (iso_identity p hz)
    rw [if_pos h1, if_pos h2]
  · have h1 : ¬ p.isZero = true := fun h => hz ((jac_isZero_iff p).mp h)
    rw [if_neg h1, iso_neg_coords sh]
    split
    · next h2 =>
      have hz3 := (jac_isZero_iff _).mp h2
      have hy : (evalIso xnum xden ynum yden p).y = 0 := by
        rw [evalIso_eq sh] at hz3 ⊢
        dsimp only at hz3 ⊢
        rw [hz3]; ring
      rw [hy, neg_zero]
      rw [← hy]
    · rfl

end generic

/-! ## the polynomial identity as an identity of coefficient lists -/

/-- `(x³ + A'x + B')·YN²·XD³ = (XN³ + b·XD³)·YD²` as an equality of coefficient lists, computed with
    whatever `+ * 0 1` the type carries (for `Fq`, `Fq2`: the model's) -/
def IsoIdent {G : Type} [Add G] [Mul G] [Zero G] [One G] (A' B' b : G) (xnum xden ynum yden : List G) :
    Prop :=
  mulP (mulP [B', A', 0, 1] (sqP ynum)) (cubeP xden) =
    mulP (addP (cubeP xnum) (scaleP b (cubeP xden))) (sqP yden)

instance {G : Type} [Add G] [Mul G] [Zero G] [One G] [DecidableEq G] (A' B' b : G)
    (xnum xden ynum yden : List G) : Decidable (IsoIdent A' B' b xnum xden ynum yden) := by
  unfold IsoIdent; infer_instance

section generic
variable {F : Type} [Field F]

/-- the list identity gives the pointwise identity (the list multiplier is verified) -/
theorem IsoIdent.eval {A' B' b : F} {xnum xden ynum yden : List F}
    (h : IsoIdent A' B' b xnum xden ynum yden) (x : F) :
    (x ^ 3 + A' * x + B') * evalP ynum x ^ 2 * evalP xden x ^ 3 =
      (evalP xnum x ^ 3 + b * evalP xden x ^ 3) * evalP yden x ^ 2 := by
  have := congrArg (fun l => evalP l x) h
  simp only [evalP_mulP, evalP_addP, evalP_scaleP, evalP_sqP, evalP_cubeP, evalP_cons, evalP_nil] at this
  linear_combination this

/-- if `XD = K²` and `YD = K³` as coefficient lists, the poles are the roots of `K` -/
theorem pole_iff {xden yden ker : List F} (hx : xden = sqP ker) (hy : yden = cubeP ker) (x : F) :
    (evalP xden x = 0 ∨ evalP yden x = 0) ↔ evalP ker x = 0 := by
  rw [hx, hy, evalP_sqP, evalP_cubeP]
  constructor
  · rintro (h | h) <;> exact pow_eq_zero_iff (by norm_num) |>.mp h
  · intro h; left; rw [h]; ring

end generic

/-- the coefficient tables of `isogeny/g1.rs`, decoded -/
def iso11XNum : List Fq := Gen.ISO11_XNUM.map Fq.ofMont
def iso11XDen : List Fq := Gen.ISO11_XDEN.map Fq.ofMont
def iso11YNum : List Fq := Gen.ISO11_YNUM.map Fq.ofMont
def iso11YDen : List Fq := Gen.ISO11_YDEN.map Fq.ofMont

theorem iso11_eq (p : Jac Fq) : iso11 p = evalIso iso11XNum iso11XDen iso11YNum iso11YDen p := rfl

theorem iso11_lengths : iso11XNum.length = 12 ∧ iso11XDen.length = 11 ∧ iso11YNum.length = 16 ∧
    iso11YDen.length = 16 := by decide

theorem iso11_shape : IsoShape iso11XNum iso11XDen iso11YNum iso11YDen := by
  obtain ⟨h1, h2, h3, h4⟩ := iso11_lengths
  exact ⟨by omega, by omega, by omega, by omega, by omega⟩

/-- the degree-63 identity over `Fq`, by kernel computation on the coefficient lists -/
theorem iso11_ident : IsoIdent g1EllpA g1EllpB g1Codec.b iso11XNum iso11XDen iso11YNum iso11YDen := by
  decide +kernel

/-- the denominators are monic of degrees 10 and 15, the numerators have degrees 11 and 15 -/
theorem iso11_leading : iso11XDen.getLast? = some 1 ∧ iso11YDen.getLast? = some 1 ∧
    iso11XNum.getLast? ≠ some 0 ∧ iso11YNum.getLast? ≠ some 0 := by decide +kernel

/-- the kernel polynomial `K = Π (x − xᵢ)` over the five abscissae of the rational kernel points:
    `XD = K²`, `YD = K³` -/
def iso11Ker : List Fq :=
  [Zp.ofNat 0x133341fb0962a34cb0504a9c4fada0a5090d38679b4c040d5d1c3afb023a3409fcc0815fea66d8b02bbef9c8b5a66e07,
   Zp.ofNat 0x264908af037bcede00d054cf5d4775e83eb6cf63c76b969f8ed174fb59fcff78d201f46f6cfc4ed6552e59ce75177b0,
   Zp.ofNat 0x1335c502c1f54c49aceea65e87fd7203ba0f626f305fc0cfd606a5dae9f3c8e81a4b3b69600129fabd307c69bf319d39,
   Zp.ofNat 0x94440f65f408a6e930e16e3e92dd17bf60d6e9679a8d3d58593de55ac23703042d609537eb3549aac234d896ca82944,
   Zp.ofNat 0x4afe09d5cf4956a23b6b71f59d2b3407b415a774b7be81bbb6fa99cbc798e0ac98ba725a5bc328016b1c268b4766e85,
   1]

theorem iso11_xden_ker : iso11XDen = sqP iso11Ker := by decide +kernel
theorem iso11_yden_ker : iso11YDen = cubeP iso11Ker := by decide +kernel

def iso3XNum : List Fq2 := Gen.ISO3_XNUM.map Fq2.ofMont
def iso3XDen : List Fq2 := Gen.ISO3_XDEN.map Fq2.ofMont
def iso3YNum : List Fq2 := Gen.ISO3_YNUM.map Fq2.ofMont
def iso3YDen : List Fq2 := Gen.ISO3_YDEN.map Fq2.ofMont

theorem iso3_eq (p : Jac Fq2) : iso3 p = evalIso iso3XNum iso3XDen iso3YNum iso3YDen p := rfl

theorem iso3_lengths : iso3XNum.length = 4 ∧ iso3XDen.length = 3 ∧ iso3YNum.length = 4 ∧
    iso3YDen.length = 4 := by decide

theorem iso3_shape : IsoShape iso3XNum iso3XDen iso3YNum iso3YDen := by
  obtain ⟨h1, h2, h3, h4⟩ := iso3_lengths
  exact ⟨by omega, by omega, by omega, by omega, by omega⟩

/-- the degree-15 identity over `Fq2`, computed by the kernel with the model's `Fq2` arithmetic
    (Karatsuba `Fq2.mul`, …) -/
theorem iso3_ident : IsoIdent g2EllpA g2EllpB g2Codec.b iso3XNum iso3XDen iso3YNum iso3YDen := by
  decide +kernel

theorem iso3_leading : iso3XDen.getLast? = some 1 ∧ iso3YDen.getLast? = some 1 ∧
    iso3XNum.getLast? ≠ some 0 ∧ iso3YNum.getLast? ≠ some 0 := by decide +kernel

/-- the kernel polynomial `K = x − x₀`, `x₀ = −6 + 6u`: `XD = K²`, `YD = K³` -/
def iso3Ker : List Fq2 := [⟨Zp.ofNat 6, -Zp.ofNat 6⟩, 1]

theorem iso3_xden_ker : iso3XDen = sqP iso3Ker := by decide +kernel
theorem iso3_yden_ker : iso3YDen = cubeP iso3Ker := by decide +kernel

end Iso
end PP
