/-
Bridge lemmas for PP/Props/GenPair.lean (generated pairing driver = model).

The loops of the generated code are `List.foldl` / `List.foldlM` over a state tuple, the model has
structural recursions (`prepareLoop`, `ellAll`, `millerLoopBits`) over the bits AFTER the leading one
(`blsXBits`); the lemmas below are stated for an ARBITRARY step function `step` that satisfies
the one-iteration equations (`h0`: `found_one = false`, `h1`: `found_one = true`), which the generated
lambda satisfies by `rfl`; they are proved by induction on the list with the accumulators
generalised.  Nothing here evaluates field arithmetic: all field values are variables.

Core Lean only; axioms: `propext`, `Quot.sound` (via `simp`/`funext`) at most.
-/
import PP.Gen.Pair

namespace PP.GenPairLemmas
open PP PP.Gen

/-- a coefficient triple of a line function -/
abbrev C := Fq2 × Fq2 × Fq2
/-- a pair of the Miller loop: the G1 point and the coefficients still to come -/
abbrev PC := Aff Fq × List C

/-! ## the bit source -/

/-- drop the leading zeros and the first one (`found_one`) -/
def skipBits (bs : List Bool) : List Bool := (bs.dropWhile (fun b => !b)).drop 1

theorem skipBits_false (bs : List Bool) : skipBits (false :: bs) = skipBits bs := rfl
theorem skipBits_true (bs : List Bool) : skipBits (true :: bs) = bs := rfl

/-- `BitIterator::new([BLS_X >> 1])` with the `u64` arithmetic of the generated code -/
theorem blsBits_eq : bitsMSB [((UInt64.ofNat Gen.BLS_X) >>> 1).toNat] = bitsMSB [Gen.BLS_X >>> 1] := by
  have h : ((UInt64.ofNat Gen.BLS_X) >>> 1).toNat = Gen.BLS_X >>> 1 := by decide
  rw [h]

theorem blsXBits_eq : blsXBits = skipBits (bitsMSB [Gen.BLS_X >>> 1]) := rfl

/-! ## the preparation loop of `G2Prepared::from_affine` -/

/-- the loop of `from_affine` once `found_one` is set -/
theorem foldl_prepare_true (q : Aff Fq2) (step : List C × Jac Fq2 × Bool → Bool → List C × Jac Fq2 × Bool)
    (h1 : ∀ c r i, step (c, r, true) i =
      if i then ((c ++ [(doublingStep r).2]) ++ [(additionStep (doublingStep r).1 q).2],
                 (additionStep (doublingStep r).1 q).1, true)
      else (c ++ [(doublingStep r).2], (doublingStep r).1, true)) :
    ∀ bs c r, List.foldl step (c, r, true) bs = ((prepareLoop q bs r c).2, (prepareLoop q bs r c).1, true)
  | [], c, r => rfl
  | i :: bs, c, r => by
      rw [List.foldl_cons, h1]
      cases i with
      | false =>
        rw [if_neg (by decide), foldl_prepare_true q step h1 bs]
        rfl
      | true =>
        rw [if_pos rfl, foldl_prepare_true q step h1 bs]
        rfl

/-- the loop of `from_affine` from the start: the leading zero bits and the first one are skipped -/
theorem foldl_prepare_skip (q : Aff Fq2) (step : List C × Jac Fq2 × Bool → Bool → List C × Jac Fq2 × Bool)
    (h0 : ∀ c r i, step (c, r, false) i = (c, r, i))
    (h1 : ∀ c r i, step (c, r, true) i =
      if i then ((c ++ [(doublingStep r).2]) ++ [(additionStep (doublingStep r).1 q).2],
                 (additionStep (doublingStep r).1 q).1, true)
      else (c ++ [(doublingStep r).2], (doublingStep r).1, true)) :
    ∀ bs c r, List.foldl step (c, r, false) bs =
      ((prepareLoop q (skipBits bs) r c).2, (prepareLoop q (skipBits bs) r c).1, bs.any id)
  | [], c, r => rfl
  | false :: bs, c, r => by
      rw [List.foldl_cons, h0, foldl_prepare_skip q step h0 h1 bs, skipBits_false]; rfl
  | true :: bs, c, r => by
      rw [List.foldl_cons, h0, foldl_prepare_true q step h1 bs, skipBits_true]; rfl

/-! ## `Bls12::miller_loop` (mod.rs) -/

/-- the filter of identity pairs: a `push` under an `if` -/
theorem foldl_filter (step : List PC → Aff Fq × G2Prepared → List PC)
    (h : ∀ acc p q, step acc (p, q) = if (!p.infinity && !q.infinity) = true then acc ++ [(p, q.coeffs)] else acc) :
    ∀ ps acc, List.foldl step acc ps =
      acc ++ (ps.filter (fun x => !x.1.infinity && !x.2.infinity)).map (fun x => (x.1, x.2.coeffs))
  | [], acc => by simp only [List.foldl_nil, List.filter_nil, List.map_nil, List.append_nil]
  | (p, q) :: ps, acc => by
      rw [List.foldl_cons, h, foldl_filter step h ps]
      cases hc : (!p.infinity && !q.infinity) with
      | false => rw [if_neg (by decide), List.filter_cons_of_neg (by rw [hc]; decide)]
      | true =>
        rw [if_pos rfl, List.filter_cons_of_pos (by rw [hc]), List.map_cons, List.append_assoc,
          List.singleton_append]

/-- one round `for &mut (p, ref mut coeffs) in &mut pairs { ell(&mut f, coeffs.next().unwrap(), &p.0) }` -/
theorem foldlM_ellAll (step : Fq12 × List PC → PC → Option (Fq12 × List PC))
    (h0 : ∀ f acc p, step (f, acc) (p, []) = none)
    (h1 : ∀ f acc p c cs, step (f, acc) (p, c :: cs) = some (ell f c p, acc ++ [(p, cs)])) :
    ∀ pairs f acc, List.foldlM step (f, acc) pairs = (ellAll pairs f).map (fun r => (r.1, acc ++ r.2))
  | [], f, acc => by simp only [List.foldlM_nil, ellAll, Option.map_some, List.append_nil]; rfl
  | (p, []) :: rest, f, acc => by
      simp only [List.foldlM_cons, h0, ellAll, Option.map_none]; rfl
  | (p, c :: cs) :: rest, f, acc => by
      simp only [List.foldlM_cons, h1, ellAll]
      rw [show (some (ell f c p, acc ++ [(p, cs)]) >>= fun s => List.foldlM step s rest)
        = List.foldlM step (ell f c p, acc ++ [(p, cs)]) rest from rfl]
      rw [foldlM_ellAll step h0 h1 rest]
      cases ellAll rest (ell f c p) with
      | none => rfl
      | some r => simp only [Option.map_some, List.append_assoc, List.singleton_append]

theorem foldlM_ellAll_nil (step : Fq12 × List PC → PC → Option (Fq12 × List PC))
    (h0 : ∀ f acc p, step (f, acc) (p, []) = none)
    (h1 : ∀ f acc p c cs, step (f, acc) (p, c :: cs) = some (ell f c p, acc ++ [(p, cs)]))
    (pairs : List PC) (f : Fq12) : List.foldlM step (f, []) pairs = ellAll pairs f := by
  rw [foldlM_ellAll step h0 h1]
  cases ellAll pairs f with
  | none => rfl
  | some r => rfl

/-- one iteration of the Miller loop on the model's side -/
def millerStep (pairs : List PC) (f : Fq12) (i : Bool) : Option (List PC × Fq12 × Bool) :=
  match ellAll pairs f with
  | none => none
  | some r =>
    if i then
      match ellAll r.2 r.1 with
      | none => none
      | some r => some (r.2, sq r.1, true)
    else some (r.2, sq r.1, true)

theorem millerLoopBits_cons (i : Bool) (bs : List Bool) (pairs : List PC) (f : Fq12) :
    millerLoopBits (i :: bs) pairs f =
      match millerStep pairs f i with
      | none => none
      | some s => millerLoopBits bs s.1 s.2.1 := by
  unfold millerStep
  rw [millerLoopBits]
  cases ellAll pairs f with
  | none => rfl
  | some r =>
    obtain ⟨f1, pairs1⟩ := r
    cases i with
    | false => rfl
    | true =>
      show (ellAll pairs1 f1 >>= fun r => millerLoopBits bs r.2 (sq r.1)) = _
      simp only [if_true]
      cases ellAll pairs1 f1 with
      | none => rfl
      | some r => rfl

/-- the bit loop of `miller_loop` once `found_one` is set -/
theorem foldlM_miller_true (step : List PC × Fq12 × Bool → Bool → Option (List PC × Fq12 × Bool))
    (h1 : ∀ pairs f i, step (pairs, f, true) i = millerStep pairs f i) :
    ∀ bs pairs f, List.foldlM step (pairs, f, true) bs =
      (millerLoopBits bs pairs f).map (fun r => (r.2, r.1, true))
  | [], pairs, f => rfl
  | i :: bs, pairs, f => by
      rw [List.foldlM_cons, h1, millerLoopBits_cons]
      have hm : ∀ s, millerStep pairs f i = some s → s.2.2 = true := by
        intro s hs
        unfold millerStep at hs
        cases h : ellAll pairs f with
        | none => rw [h] at hs; cases hs
        | some r =>
          rw [h] at hs
          cases i with
          | false => cases hs; rfl
          | true =>
            dsimp only at hs
            cases h2 : ellAll r.2 r.1 with
            | none => rw [h2] at hs; cases hs
            | some r2 => rw [h2] at hs; cases hs; rfl
      cases hms : millerStep pairs f i with
      | none => rfl
      | some s =>
        obtain ⟨p1, f1, b1⟩ := s
        have hb : b1 = true := hm _ hms
        subst hb
        exact foldlM_miller_true step h1 bs p1 f1

/-- the bit loop of `miller_loop` from the start -/
theorem foldlM_miller_skip (step : List PC × Fq12 × Bool → Bool → Option (List PC × Fq12 × Bool))
    (h0 : ∀ pairs f i, step (pairs, f, false) i = some (pairs, f, i))
    (h1 : ∀ pairs f i, step (pairs, f, true) i = millerStep pairs f i) :
    ∀ bs pairs f, List.foldlM step (pairs, f, false) bs =
      (millerLoopBits (skipBits bs) pairs f).map (fun r => (r.2, r.1, bs.any id))
  | [], pairs, f => rfl
  | false :: bs, pairs, f => by
      rw [List.foldlM_cons, h0]
      exact foldlM_miller_skip step h0 h1 bs pairs f
  | true :: bs, pairs, f => by
      rw [List.foldlM_cons, h0]
      exact foldlM_miller_true step h1 bs pairs f

/-! ## `pairing_multi_product`: pairing up two slices by index -/

theorem zip_take_length {α β : Type} : ∀ (l1 : List α) (l2 : List β),
    List.zip l1 (l2.take l1.length) = List.zip l1 l2
  | [], _ => by simp only [List.zip_nil_left]
  | _ :: _, [] => rfl
  | a :: l1, b :: l2 => by
      simp only [List.length_cons, List.take_succ_cons, List.zip_cons_cons, zip_take_length l1 l2]

/-- `for i in 0..n { pairs.push((&l1[i], &l2[i])) }` with `n ≤ l1.len()`: the zip of the first `n`
    elements, or a panic when `l2` is shorter than `n` -/
theorem foldlM_index {α β : Type} (l1 : List α) (l2 : List β)
    (step : List (α × β) → Nat → Option (List (α × β)))
    (h : ∀ acc i, step acc i =
      match l1[i]? with
      | none => none
      | some x => match l2[i]? with
        | none => none
        | some y => some (acc ++ [(x, y)])) :
    ∀ (n : Nat) (_hn : n ≤ l1.length) (acc : List (α × β)), List.foldlM step acc (List.range n) =
      if n ≤ l2.length then some (acc ++ List.zip (l1.take n) (l2.take n)) else none
  | 0, _, acc => by
      simp only [List.range_zero, List.foldlM_nil, List.take_zero, List.zip_nil_left, List.append_nil,
        Nat.zero_le, if_true]; rfl
  | n + 1, hn, acc => by
      have h1 : n < l1.length := hn
      rw [List.range_succ, List.foldlM_append, foldlM_index l1 l2 step h n (Nat.le_of_lt h1)]
      by_cases h2 : n + 1 ≤ l2.length
      · have h2' : n < l2.length := h2
        rw [if_pos (Nat.le_of_lt h2'), if_pos h2]
        show List.foldlM step _ [n] = _
        rw [List.foldlM_cons, h, List.getElem?_eq_getElem h1, List.getElem?_eq_getElem h2']
        show some (_ ++ [(l1[n], l2[n])]) = _
        have hl : (l1.take n).length = (l2.take n).length := by
          rw [List.length_take, List.length_take, Nat.min_eq_left (Nat.le_of_lt h1),
            Nat.min_eq_left (Nat.le_of_lt h2')]
        rewrite [List.take_succ_eq_append_getElem h1, List.take_succ_eq_append_getElem h2', List.zip_append hl,
          List.append_assoc]
        rfl
      · rw [if_neg h2]
        by_cases h3 : n ≤ l2.length
        · rw [if_pos h3]
          show List.foldlM step _ [n] = _
          rw [List.foldlM_cons, h, List.getElem?_eq_getElem h1,
            List.getElem?_eq_none (Nat.le_of_not_lt (fun hlt => h2 hlt))]
          rfl
        · rw [if_neg h3]; rfl

end PP.GenPairLemmas
