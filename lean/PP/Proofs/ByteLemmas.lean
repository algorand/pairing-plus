/-
Byte-level lemmas for the encodings (C04, C05, C19), on top of the big-endian facts of
`PP/Proofs/Limbs.lean` (`beBytes`, `beToNat` are mutually inverse on fixed-length strings): they coincide
with the spec's `I2OSP`/`OS2IP`; UInt8 flag-bit facts (by exhaustion over the 256 byte values,
`decide +kernel`); `maskFirst`/`orFirst`; `Fq`/`Fr` (de)serialisation is a bijection between reduced
elements and canonical 48/32-byte strings.
-/
import PP.Proofs.Limbs
import PP.Spec.ZCash

namespace PP

/-! ## bytes -/

theorem UInt8.forall_iff (P : UInt8 → Prop) : (∀ b, P b) ↔ ∀ n, n < 256 → P (UInt8.ofNat n) := by
  constructor
  · intro h n _; exact h _
  · intro h b
    have := h b.toNat (by have := b.toNat_lt; omega)
    rwa [UInt8.ofNat_toNat] at this

/-- proof by exhaustion over the 256 byte values -/
theorem UInt8.forall_of (P : UInt8 → Prop) [DecidablePred P]
    (h : (List.range 256).all (fun n => decide (P (UInt8.ofNat n))) = true) : ∀ b, P b := by
  rw [UInt8.forall_iff]
  intro n hn
  rw [List.all_eq_true] at h
  have := h n (List.mem_range.mpr hn)
  simpa using this


theorem beToNat_nil : beToNat [] = 0 := rfl

theorem beToNat_append (as bs : Bytes) :
    beToNat (as ++ bs) = beToNat as * 256 ^ bs.length + beToNat bs := by
  show List.foldl _ _ _ = _
  rw [List.foldl_append, Limbs.beToNat_foldl]; rfl

/-! ## the spec's `I2OSP`/`OS2IP` are the model's `beBytes`/`beToNat` -/

theorem beBytes_succ_snoc (len n : Nat) :
    beBytes (len + 1) n = beBytes len (n / 256) ++ [UInt8.ofNat (n % 256)] := by
  induction len with
  | zero => rfl
  | succ k ih =>
    show UInt8.ofNat ((n >>> (8 * (k + 1))) % 256) :: beBytes (k + 1) n =
      (UInt8.ofNat (((n / 256) >>> (8 * k)) % 256) :: beBytes k (n / 256)) ++ [UInt8.ofNat (n % 256)]
    rw [ih, Nat.mul_succ, Nat.add_comm, Nat.shiftRight_add, Nat.shiftRight_eq_div_pow n 8]
    rfl

theorem I2OSP_eq_beBytes (x len : Nat) : ZCash.I2OSP x len = beBytes len x := by
  induction len generalizing x with
  | zero => rfl
  | succ k ih => rw [ZCash.I2OSP, ih, beBytes_succ_snoc]

theorem OS2IP_eq_beToNat (bs : Bytes) : ZCash.OS2IP bs = beToNat bs := by
  induction bs with
  | nil => rfl
  | cons b bs ih => rw [ZCash.OS2IP, ih, Limbs.beToNat_cons]

theorem zcash_q_eq : ZCash.q = Gen.q := by decide +kernel


/-! ## the three flag bits of the first byte

A first byte is its low five bits together with the flags `c`, `i`, `s`: the spec's `flags` and
`clearFlags` take it apart, `setFlags` puts it together (`flags_setFlags`, `clearFlags_setFlags`,
`setFlags_flags_clearFlags`).  What relates masks of one given byte is checked on the 256 values; what
depends on the flags that are or-ed in is an argument about `toNat`. -/

/-- the spec reads the flags with `testBit`, the model with the masks `0x80`, `0x40`, `0x20` -/
theorem flags_cons (b0 : UInt8) (r : Bytes) :
    ZCash.flags (b0 :: r) = ⟨decide (b0 &&& 0x80 ≠ 0), decide (b0 &&& 0x40 ≠ 0), decide (b0 &&& 0x20 ≠ 0)⟩ :=
  UInt8.forall_of (fun b => (⟨ZCash.bit b 7, ZCash.bit b 6, ZCash.bit b 5⟩ : ZCash.Flags) =
    ⟨decide (b &&& 0x80 ≠ 0), decide (b &&& 0x40 ≠ 0), decide (b &&& 0x20 ≠ 0)⟩) (by decide +kernel) b0

/-- the form-flag test of `serdes.rs` (`(b & 0x80) == 0x80`) is the one of the point decoders -/
theorem byte_bit7 (b : UInt8) : ((b &&& 0x80) == 0x80) = decide (b &&& 0x80 ≠ 0) :=
  UInt8.forall_of (fun b => ((b &&& 0x80) == 0x80) = decide (b &&& 0x80 ≠ 0)) (by decide +kernel) b

theorem byte_lt_32_iff (b : UInt8) : b &&& 0xe0 = 0 ↔ b.toNat < 32 :=
  UInt8.forall_of (fun b => b &&& 0xe0 = 0 ↔ b.toNat < 32) (by decide +kernel) b

theorem setFlags_flags_clearFlags (bs : Bytes) : ZCash.setFlags (ZCash.flags bs) (ZCash.clearFlags bs) = bs := by
  cases bs with
  | nil => rfl
  | cons b r =>
    exact congrArg (· :: r) (UInt8.forall_of (fun b =>
      (b &&& 0x1f) ||| (⟨ZCash.bit b 7, ZCash.bit b 6, ZCash.bit b 5⟩ : ZCash.Flags).toByte = b) (by decide +kernel) b)

/-- with `i` set, the bits below the form flag are zero in exactly one byte -/
theorem byte_identity (b : UInt8) (h6 : b &&& 0x40 ≠ 0) :
    b &&& 0x3f = 0 ↔ b = if b &&& 0x80 = 0 then 0x40 else 0xc0 :=
  UInt8.forall_of (fun b => b &&& 0x40 ≠ 0 → (b &&& 0x3f = 0 ↔ b = if b &&& 0x80 = 0 then 0x40 else 0xc0))
    (by decide +kernel) b h6

theorem byte_mask1f_top (b : UInt8) : (b &&& 0x1f) &&& 0xe0 = 0 := by
  rw [UInt8.and_assoc, show (0x1f &&& 0xe0 : UInt8) = 0 by decide, UInt8.and_zero]

theorem toByte_facts (f : ZCash.Flags) :
    f.toByte.toNat % 32 = 0 ∧
      ZCash.bit f.toByte 7 = f.c ∧ ZCash.bit f.toByte 6 = f.i ∧ ZCash.bit f.toByte 5 = f.s := by
  obtain ⟨c, i, s⟩ := f
  cases c <;> cases i <;> cases s <;> decide

/-- or-ing a byte `m` made of flag bits into a byte `b` without flag bits: the values add up (the two
occupy different bits), the low five bits are those of `b`, the upper bits those of `m` -/
theorem byte_or_high (b m : UInt8) (hb : b &&& 0xe0 = 0) (hm : m.toNat % 32 = 0) :
    (b ||| m).toNat = b.toNat + m.toNat ∧ (b ||| m) &&& 0x1f = b ∧
      ∀ k, 5 ≤ k → ZCash.bit (b ||| m) k = ZCash.bit m k := by
  have hb5 : b.toNat < 2 ^ 5 := (byte_lt_32_iff b).mp hb
  have hsum : (b ||| m).toNat = b.toNat + m.toNat := by
    rw [UInt8.toNat_or, Nat.or_comm, Nat.add_comm, ← Nat.div_add_mod m.toNat 32, hm, Nat.add_zero,
      Nat.mul_comm, ← Nat.shiftLeft_eq _ 5]
    exact (Nat.shiftLeft_add_eq_or_of_lt hb5 _).symm
  refine ⟨hsum, ?_, ?_⟩
  · apply UInt8.toNat_inj.mp
    rw [UInt8.toNat_and, hsum]
    show (b.toNat + m.toNat) &&& (2 ^ 5 - 1) = b.toNat
    rw [Nat.and_two_pow_sub_one_eq_mod, ← Nat.div_add_mod m.toNat 32, hm, Nat.add_zero,
      Nat.add_mul_mod_self_left]
    exact Nat.mod_eq_of_lt hb5
  · intro k hk
    show (b ||| m).toNat.testBit k = m.toNat.testBit k
    rw [UInt8.toNat_or, Nat.testBit_or,
      Nat.testBit_lt_two_pow (Nat.lt_of_lt_of_le hb5 (Nat.pow_le_pow_right (by decide) hk)), Bool.false_or]

theorem flags_setFlags (f : ZCash.Flags) (b : UInt8) (r : Bytes) (hb : b &&& 0xe0 = 0) :
    ZCash.flags (ZCash.setFlags f (b :: r)) = f := by
  obtain ⟨hm, h7, h6, h5⟩ := toByte_facts f
  obtain ⟨_, _, hk⟩ := byte_or_high b f.toByte hb hm
  show (⟨ZCash.bit (b ||| f.toByte) 7, ZCash.bit (b ||| f.toByte) 6, ZCash.bit (b ||| f.toByte) 5⟩ : ZCash.Flags) = f
  rw [hk 7 (by decide), hk 6 (by decide), hk 5 (by decide), h7, h6, h5]

/-- or-ing the flag byte into a top byte whose three flag bits are clear ADDS `flags · 256^(len−1)` to
the big-endian value: the flags occupy the top three bits and nothing else changes -/
theorem beToNat_setFlags (f : ZCash.Flags) (b : UInt8) (r : Bytes) (hb : b &&& 0xe0 = 0) :
    beToNat (ZCash.setFlags f (b :: r)) = beToNat (b :: r) + f.toByte.toNat * 256 ^ r.length := by
  show beToNat ((b ||| f.toByte) :: r) = _
  rw [Limbs.beToNat_cons, Limbs.beToNat_cons, (byte_or_high b f.toByte hb (toByte_facts f).1).1]; ring

theorem clearFlags_setFlags (f : ZCash.Flags) (b : UInt8) (r : Bytes) (hb : b &&& 0xe0 = 0) :
    ZCash.clearFlags (ZCash.setFlags f (b :: r)) = b :: r :=
  congrArg (· :: r) (byte_or_high b f.toByte hb (toByte_facts f).1).2.1

/-! ## `maskFirst`, `orFirst` -/

@[simp] theorem maskFirst_cons (b : UInt8) (r : Bytes) (m : UInt8) : maskFirst (b :: r) m = (b &&& m) :: r := rfl
@[simp] theorem orFirst_cons (b : UInt8) (r : Bytes) (m : UInt8) : orFirst (b :: r) m = (b ||| m) :: r := rfl
@[simp] theorem maskFirst_length (bs : Bytes) (m : UInt8) : (maskFirst bs m).length = bs.length := by
  cases bs <;> rfl
@[simp] theorem orFirst_length (bs : Bytes) (m : UInt8) : (orFirst bs m).length = bs.length := by
  cases bs <;> rfl

theorem orFirst_zero (bs : Bytes) : orFirst bs 0 = bs := by
  cases bs with
  | nil => rfl
  | cons b r => rw [orFirst_cons, UInt8.or_zero]

theorem orFirst_orFirst (bs : Bytes) (a b : UInt8) : orFirst (orFirst bs a) b = orFirst bs (a ||| b) := by
  cases bs with
  | nil => rfl
  | cons x r => rw [orFirst_cons, orFirst_cons, orFirst_cons, UInt8.or_assoc]

theorem headD_take (rd : Bytes) (n : Nat) (hn : 0 < n) : (rd.take n).headD 0 = rd.headD 0 := by
  cases rd with
  | nil => rw [List.take_nil]
  | cons b r =>
    obtain ⟨m, rfl⟩ : ∃ m, n = m + 1 := ⟨n - 1, by omega⟩
    rfl

theorem clearFlags_eq (bs : Bytes) : ZCash.clearFlags bs = maskFirst bs 0x1f := by
  cases bs <;> rfl

theorem setFlags_eq_orFirst (f : ZCash.Flags) (bs : Bytes) : ZCash.setFlags f bs = orFirst bs f.toByte := by
  cases bs <;> rfl

theorem beToNat_maskFirst_1f (b : UInt8) (r : Bytes) :
    beToNat (maskFirst (b :: r) 0x1f) = beToNat (b :: r) % (32 * 256 ^ r.length) := by
  rw [maskFirst_cons, Limbs.beToNat_cons, Limbs.beToNat_cons]
  have hb : (b &&& 0x1f).toNat = b.toNat % 32 := by
    rw [UInt8.toNat_and]; exact Nat.and_two_pow_sub_one_eq_mod b.toNat 5
  rw [hb, Nat.mul_comm 32, Nat.mod_mul (a := 256 ^ r.length) (b := 32)]
  have h1 : (b.toNat * 256 ^ r.length + beToNat r) % 256 ^ r.length = beToNat r := by
    rw [Nat.add_comm, Nat.add_mul_mod_self_right, Nat.mod_eq_of_lt (Limbs.beToNat_lt r)]
  have h2 : (b.toNat * 256 ^ r.length + beToNat r) / 256 ^ r.length = b.toNat := by
    rw [Nat.add_comm, Nat.add_mul_div_right _ _ (by positivity), Nat.div_eq_of_lt (Limbs.beToNat_lt r)]; simp
  rw [h1, h2]; ring

theorem beToNat_orFirst (b : UInt8) (r : Bytes) (m : UInt8) :
    beToNat (orFirst (b :: r) m) = (b ||| m).toNat * 256 ^ r.length + beToNat r := by
  rw [orFirst_cons, Limbs.beToNat_cons]

theorem all_zero_iff (r : Bytes) : r.all (· == 0) = true ↔ r = List.replicate r.length 0 := by
  induction r with
  | nil => simp
  | cons b r ih =>
    simp only [List.all_cons, Bool.and_eq_true, beq_iff_eq, List.length_cons, List.replicate_succ,
      List.cons.injEq, ih]

/-- the identity test of the decoders: after masking `c` and `i`, everything is zero -/
theorem identity_test (b0 : UInt8) (r : Bytes) (h6 : b0 &&& 0x40 ≠ 0) :
    (maskFirst (b0 :: r) 0x3f).all (· == 0) = true ↔
      b0 :: r = (if b0 &&& 0x80 = 0 then 0x40 else 0xc0) :: List.replicate r.length 0 := by
  rw [maskFirst_cons, List.all_cons, Bool.and_eq_true, beq_iff_eq, all_zero_iff, byte_identity b0 h6,
    List.cons.injEq]

/-! ## `Fq`, `Fr` as 48 / 32 big-endian bytes -/

theorem q_lt_2_381 : Gen.q < 2 ^ 381 := by decide +kernel
theorem q_lt_256_48 : Gen.q < 256 ^ 48 := by decide +kernel
theorem r_lt_2_255 : Gen.r < 2 ^ 255 := by decide +kernel
theorem r_lt_256_32 : Gen.r < 256 ^ 32 := by decide +kernel

@[simp] theorem Fq.toBytes_length (a : Fq) : (Fq.toBytes a).length = 48 := Limbs.beBytes_length _ _
@[simp] theorem Fr.toBytes_length (a : Fr) : (Fr.toBytes a).length = 32 := Limbs.beBytes_length _ _

theorem Fq.beToNat_toBytes (a : Fq) : beToNat (Fq.toBytes a) = a.v := by
  rw [Fq.toBytes, Limbs.beToNat_beBytes, Nat.mod_eq_of_lt (lt_trans a.h q_lt_256_48)]

theorem Fr.beToNat_toBytes (a : Fr) : beToNat (Fr.toBytes a) = a.v := by
  rw [Fr.toBytes, Limbs.beToNat_beBytes, Nat.mod_eq_of_lt (lt_trans a.h r_lt_256_32)]

/-- `from_repr`: the range check, for either modulus -/
theorem Zp.checked_eq_some_iff {p : Nat} (n : Nat) (a : Zp p) :
    (if h : n < p then some (⟨n, h⟩ : Zp p) else none) = some a ↔ n = a.v := by
  by_cases h : n < p
  · rw [dif_pos h, Option.some.injEq]
    exact ⟨fun e => e ▸ rfl, fun e => by cases a; cases e; rfl⟩
  · rw [dif_neg h]
    exact ⟨fun e => (nomatch e), fun e => absurd (e ▸ a.h) h⟩

theorem Zp.checked_eq_none_iff {p : Nat} (n : Nat) :
    (if h : n < p then some (⟨n, h⟩ : Zp p) else none) = none ↔ ¬ n < p := by
  by_cases h : n < p
  · rw [dif_pos h]; exact ⟨fun e => (nomatch e), fun e => absurd h e⟩
  · rw [dif_neg h]; exact ⟨fun _ => h, fun _ => rfl⟩

theorem Fq.fromBytes_eq_some_iff (bs : Bytes) (a : Fq) : Fq.fromBytes bs = some a ↔ beToNat bs = a.v :=
  Zp.checked_eq_some_iff (beToNat bs) a

theorem Fq.fromBytes_eq_none_iff (bs : Bytes) : Fq.fromBytes bs = none ↔ ¬ beToNat bs < Gen.q :=
  Zp.checked_eq_none_iff (beToNat bs)

theorem Fq.fromBytes_of_lt (bs : Bytes) (h : beToNat bs < Gen.q) : Fq.fromBytes bs = some ⟨beToNat bs, h⟩ :=
  dif_pos h

theorem Fr.fromBytes_eq_some_iff (bs : Bytes) (a : Fr) : Fr.fromBytes bs = some a ↔ beToNat bs = a.v :=
  Zp.checked_eq_some_iff (beToNat bs) a

theorem Fr.fromBytes_eq_none_iff (bs : Bytes) : Fr.fromBytes bs = none ↔ ¬ beToNat bs < Gen.r :=
  Zp.checked_eq_none_iff (beToNat bs)

theorem Fq.fromBytes_toBytes (a : Fq) : Fq.fromBytes (Fq.toBytes a) = some a :=
  (Fq.fromBytes_eq_some_iff _ _).mpr (Fq.beToNat_toBytes a)

theorem Fq.toBytes_of_fromBytes (bs : Bytes) (a : Fq) (h : Fq.fromBytes bs = some a) (hl : bs.length = 48) :
    Fq.toBytes a = bs := by
  rw [Fq.toBytes, ← (Fq.fromBytes_eq_some_iff _ _).mp h]
  exact Limbs.beBytes_beToNat hl

theorem Fr.fromBytes_toBytes (a : Fr) : Fr.fromBytes (Fr.toBytes a) = some a :=
  (Fr.fromBytes_eq_some_iff _ _).mpr (Fr.beToNat_toBytes a)

theorem Fr.toBytes_of_fromBytes (bs : Bytes) (a : Fr) (h : Fr.fromBytes bs = some a) (hl : bs.length = 32) :
    Fr.toBytes a = bs := by
  rw [Fr.toBytes, ← (Fr.fromBytes_eq_some_iff _ _).mp h]
  exact Limbs.beBytes_beToNat hl

/-- the first byte of `beBytes (len + 1) n` is `n / 256^len`, so it is small when `n` is -/
theorem beBytes_headD_lt (len n m : Nat) (h : n < m * 2 ^ (8 * len)) :
    ∃ j, j < m ∧ (beBytes (len + 1) n).headD 0 = UInt8.ofNat j := by
  refine ⟨(n >>> (8 * len)) % 256, ?_, rfl⟩
  rw [Nat.shiftRight_eq_div_pow]
  exact Nat.lt_of_le_of_lt (Nat.mod_le _ _) ((Nat.div_lt_iff_lt_mul (by positivity)).mpr h)

/-- the top byte of an encoded `Fq` has its three flag bits clear (`q < 2^381`) -/
theorem Fq.toBytes_top (a : Fq) : (Fq.toBytes a).headD 0 &&& 0xe0 = 0 := by
  obtain ⟨j, hj, e⟩ := beBytes_headD_lt 47 a.v 32
    (lt_of_lt_of_eq (lt_trans a.h q_lt_2_381) (by decide +kernel))
  rw [Fq.toBytes, e, byte_lt_32_iff, UInt8.toNat_ofNat']
  omega

/-- the top byte of an encoded `Fr` has its top bit clear (`r < 2^255`) -/
theorem Fr.toBytes_top (a : Fr) : (Fr.toBytes a).headD 0 &&& 0x80 = 0 := by
  obtain ⟨j, hj, e⟩ := beBytes_headD_lt 31 a.v 128
    (lt_of_lt_of_eq (lt_trans a.h r_lt_2_255) (by decide +kernel))
  have hm : ∀ m, m < 128 → UInt8.ofNat m &&& 0x80 = 0 := by decide +kernel
  rw [Fr.toBytes, e]
  exact hm j hj

end PP
