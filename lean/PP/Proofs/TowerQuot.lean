/-
C09, "equals arithmetic in those quotient rings", in the strongest form: ring isomorphisms between
Mathlib's quotient rings `AdjoinRoot (X² + 1)`, `AdjoinRoot (X³ - ξ)`, `AdjoinRoot (X² - v)` and the
model types with the model's own operations, sending the adjoined root to `u`, `v`, `w` and
constants to constants.
-/
import Mathlib.RingTheory.AdjoinRoot
import Mathlib.FieldTheory.KummerPolynomial
import PP.Proofs.TowerField

open Polynomial

namespace PP

/-- a commutative ring generated over a field `K` by a root `r` of an irreducible `g` is `K[X]/(g)` -/
noncomputable def adjoinRootEquiv {K S : Type} [Field K] [CommRing S] [Nontrivial S]
    (ι : K →+* S) (r : S) (g : K[X]) [Fact (Irreducible g)] (hr : g.eval₂ ι r = 0)
    (hsurj : ∀ s : S, ∃ p : K[X], p.eval₂ ι r = s) : AdjoinRoot g ≃+* S :=
  RingEquiv.ofBijective (AdjoinRoot.lift ι r hr)
    ⟨RingHom.injective _, fun s => by
      obtain ⟨p, hp⟩ := hsurj s
      exact ⟨AdjoinRoot.mk g p, by rw [AdjoinRoot.lift_mk, hp]⟩⟩

theorem adjoinRootEquiv_root {K S : Type} [Field K] [CommRing S] [Nontrivial S]
    (ι : K →+* S) (r : S) (g : K[X]) [Fact (Irreducible g)] (hr : g.eval₂ ι r = 0)
    (hsurj : ∀ s : S, ∃ p : K[X], p.eval₂ ι r = s) :
    adjoinRootEquiv ι r g hr hsurj (AdjoinRoot.root g) = r := by
  show AdjoinRoot.lift ι r hr (AdjoinRoot.root g) = r
  rw [AdjoinRoot.lift_root]

theorem adjoinRootEquiv_of {K S : Type} [Field K] [CommRing S] [Nontrivial S]
    (ι : K →+* S) (r : S) (g : K[X]) [Fact (Irreducible g)] (hr : g.eval₂ ι r = 0)
    (hsurj : ∀ s : S, ∃ p : K[X], p.eval₂ ι r = s) (c : K) :
    adjoinRootEquiv ι r g hr hsurj (AdjoinRoot.of g c) = ι c := by
  show AdjoinRoot.lift ι r hr (AdjoinRoot.of g c) = ι c
  rw [AdjoinRoot.lift_of]

section Prime
variable [hq : Fact (Nat.Prime Gen.q)]

/-! ### `Fq2 ≃ Fq[X]/(X² + 1)` -/

namespace Fq2

theorem irreducible_X_sq_add_one : Irreducible (X ^ 2 + 1 : Fq[X]) := by
  have h : (X ^ 2 + 1 : Fq[X]) = X ^ 2 - C (-1) := by simp
  rw [h]
  exact X_pow_sub_C_irreducible_of_prime Nat.prime_two Fq.sq_ne_neg_one

instance : Fact (Irreducible (X ^ 2 + 1 : Fq[X])) := ⟨irreducible_X_sq_add_one⟩

theorem eval₂_u : (X ^ 2 + 1 : Fq[X]).eval₂ ofFq u = 0 := by
  rw [eval₂_add, eval₂_pow, eval₂_X, eval₂_one, pow_two, u_mul_u]; ring

theorem exists_poly (a : Fq2) : ∃ p : Fq[X], p.eval₂ ofFq u = a :=
  ⟨C a.c0 + C a.c1 * X, by
    rw [eval₂_add, eval₂_mul, eval₂_C, eval₂_C, eval₂_X]; exact (eq_add_mul_u a).symm⟩

/-- **`Fq2` is the quotient ring `Fq[X]/(X² + 1)`**, `X ↦ u` -/
noncomputable def quotEquiv : AdjoinRoot (X ^ 2 + 1 : Fq[X]) ≃+* Fq2 :=
  adjoinRootEquiv ofFq u _ eval₂_u exists_poly

theorem quotEquiv_root : quotEquiv (AdjoinRoot.root _) = u := adjoinRootEquiv_root ..
theorem quotEquiv_of (c : Fq) : quotEquiv (AdjoinRoot.of _ c) = ofFq c := adjoinRootEquiv_of ..

end Fq2

/-! ### `Fq6 ≃ Fq2[X]/(X³ - ξ)` -/

namespace Fq6
open Fq2 (xi)

theorem irreducible_X_cube_sub_xi : Irreducible (X ^ 3 - C xi : Fq2[X]) :=
  X_pow_sub_C_irreducible_of_prime Nat.prime_three Fq2.xi_not_cube

instance : Fact (Irreducible (X ^ 3 - C xi : Fq2[X])) := ⟨irreducible_X_cube_sub_xi⟩

theorem eval₂_v : (X ^ 3 - C xi : Fq2[X]).eval₂ ofFq2 v = 0 := by
  rw [eval₂_sub, eval₂_pow, eval₂_X, eval₂_C, v_pow_three, sub_self]

theorem exists_poly (a : Fq6) : ∃ p : Fq2[X], p.eval₂ ofFq2 v = a :=
  ⟨C a.c0 + C a.c1 * X + C a.c2 * (X * X), by
    rw [eval₂_add, eval₂_add, eval₂_mul, eval₂_mul, eval₂_mul, eval₂_C, eval₂_C, eval₂_C, eval₂_X]
    exact (eq_add_mul_v a).symm⟩

/-- **`Fq6` is the quotient ring `Fq2[X]/(X³ - ξ)`**, `X ↦ v` -/
noncomputable def quotEquiv : AdjoinRoot (X ^ 3 - C xi : Fq2[X]) ≃+* Fq6 :=
  adjoinRootEquiv ofFq2 v _ eval₂_v exists_poly

theorem quotEquiv_root : quotEquiv (AdjoinRoot.root _) = v := adjoinRootEquiv_root ..
theorem quotEquiv_of (c : Fq2) : quotEquiv (AdjoinRoot.of _ c) = ofFq2 c := adjoinRootEquiv_of ..

end Fq6

/-! ### `Fq12 ≃ Fq6[X]/(X² - v)` -/

namespace Fq12
open Fq6 (v)

theorem irreducible_X_sq_sub_v : Irreducible (X ^ 2 - C v : Fq6[X]) :=
  X_pow_sub_C_irreducible_of_prime Nat.prime_two Fq6.v_not_square

instance : Fact (Irreducible (X ^ 2 - C v : Fq6[X])) := ⟨irreducible_X_sq_sub_v⟩

theorem eval₂_w : (X ^ 2 - C v : Fq6[X]).eval₂ ofFq6 w = 0 := by
  rw [eval₂_sub, eval₂_pow, eval₂_X, eval₂_C, w_pow_two, sub_self]

theorem exists_poly (a : Fq12) : ∃ p : Fq6[X], p.eval₂ ofFq6 w = a :=
  ⟨C a.c0 + C a.c1 * X, by
    rw [eval₂_add, eval₂_mul, eval₂_C, eval₂_C, eval₂_X]; exact (eq_add_mul_w a).symm⟩

/-- **`Fq12` is the quotient ring `Fq6[X]/(X² - v)`**, `X ↦ w` -/
noncomputable def quotEquiv : AdjoinRoot (X ^ 2 - C v : Fq6[X]) ≃+* Fq12 :=
  adjoinRootEquiv ofFq6 w _ eval₂_w exists_poly

theorem quotEquiv_root : quotEquiv (AdjoinRoot.root _) = w := adjoinRootEquiv_root ..
theorem quotEquiv_of (c : Fq6) : quotEquiv (AdjoinRoot.of _ c) = ofFq6 c := adjoinRootEquiv_of ..

end Fq12

end Prime
end PP
