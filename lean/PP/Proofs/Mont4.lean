/-
C08, bridge: the Montgomery-level model (`PP.Mont`, raw values) refines the canonical-level model
`Zp p` (`PP.Model.Fp`, integers modulo `p`): decoding `toZp` commutes with every operation.
-/
import PP.Proofs.ZpField
import PP.Proofs.Mont2

namespace PP.Mont

section bridge
variable {P : Params} [PosNat P.p]

/-- the canonical-level element denoted by a raw Montgomery value -/
def toZp (P : Params) [PosNat P.p] (a : ℕ) : Zp P.p := Zp.ofNat (dec P a)

theorem toZp_v (h : P.WF) (a : ℕ) : (toZp P a).v = dec P a := by
  simp [toZp, Zp.ofNat, Nat.mod_eq_of_lt (dec_lt h a)]

theorem toZp_zero : toZp P 0 = 0 := by
  show Zp.ofNat (dec P 0) = Zp.ofNat 0; rw [dec_zero]

/-- `Fq::one()` is the raw constant `R` -/
theorem toZp_R (h : P.WF) : toZp P P.R = 1 := by
  show Zp.ofNat (dec P P.R) = Zp.ofNat 1
  have : dec P P.R = 1 % P.p := by
    have := dec_enc h 1
    unfold enc at this
    rw [one_mul, ← h.R_spec] at this
    exact this
  rw [this]; exact Zp.ofNat_mod 1

theorem toZp_inj (h : P.WF) {a b : ℕ} (ha : a < P.p) (hb : b < P.p) (hab : toZp P a = toZp P b) :
    a = b := by
  have := congrArg Zp.v hab
  rw [toZp_v h, toZp_v h] at this
  exact dec_inj h ha hb this

theorem toZp_surj (h : P.WF) (z : Zp P.p) : ∃ a, a < P.p ∧ toZp P a = z := by
  refine ⟨enc P z.v, enc_lt h _, ?_⟩
  apply Zp.ext_v
  rw [toZp_v h, dec_enc h, Nat.mod_eq_of_lt z.h]

theorem toZp_add (h : P.WF) {a b : ℕ} (ha : a < P.p) (hb : b < P.p) :
    toZp P (add P a b) = toZp P a + toZp P b := by
  show Zp.ofNat (dec P (add P a b)) = Zp.ofNat ((toZp P a).v + (toZp P b).v)
  rw [toZp_v h, toZp_v h, dec_add h ha hb]; exact Zp.ofNat_mod _

theorem toZp_double (h : P.WF) {a : ℕ} (ha : a < P.p) :
    toZp P (double P a) = dbl (toZp P a) := by
  show Zp.ofNat (dec P (double P a)) = Zp.ofNat ((toZp P a).v + (toZp P a).v)
  rw [toZp_v h, dec_double h ha, two_mul]; exact Zp.ofNat_mod _

theorem toZp_sub (h : P.WF) {a b : ℕ} (ha : a < P.p) (hb : b < P.p) :
    toZp P (sub P a b) = toZp P a - toZp P b := by
  show Zp.ofNat (dec P (sub P a b)) = Zp.ofNat ((toZp P a).v + (P.p - (toZp P b).v))
  have := dec_lt h b
  rw [toZp_v h, toZp_v h, dec_sub h ha hb, show dec P a + P.p - dec P b = dec P a + (P.p - dec P b) by omega]
  exact Zp.ofNat_mod _

theorem toZp_neg (h : P.WF) {a : ℕ} (ha : a < P.p) :
    toZp P (neg P a) = - toZp P a := by
  show Zp.ofNat (dec P (neg P a)) = Zp.ofNat (P.p - (toZp P a).v)
  rw [toZp_v h, dec_neg h ha]; exact Zp.ofNat_mod _

theorem toZp_mul (h : P.WF) {a b : ℕ} (ha : a < P.p) (hb : b < P.p) :
    toZp P (mul P a b) = toZp P a * toZp P b := by
  show Zp.ofNat (dec P (mul P a b)) = Zp.ofNat ((toZp P a).v * (toZp P b).v)
  rw [toZp_v h, toZp_v h, dec_mul h ha hb]; exact Zp.ofNat_mod _

theorem toZp_square (h : P.WF) {a : ℕ} (ha : a < P.p) :
    toZp P (square P a) = sq (toZp P a) := toZp_mul h ha ha

theorem toZp_pow (h : P.WF) {a : ℕ} (ha : a < P.p) (ls : List ℕ) (hok : ∀ l ∈ ls, l < 2 ^ 64) :
    toZp P (pow P a ls) = toZp P a ^ limbsToNat ls := by
  show Zp.ofNat (dec P (pow P a ls)) = Zp.ofNat ((toZp P a).v ^ limbsToNat ls)
  rw [toZp_v h, (pow_spec h ha ls hok).2]; exact Zp.ofNat_mod _

theorem toZp_fromRepr (h : P.WF) {x a : ℕ} (hx : fromRepr P x = some a) :
    toZp P a = Zp.ofNat x ∧ (toZp P a).v = x := by
  obtain ⟨h1, _, _, h4⟩ := fromRepr_spec h hx
  refine ⟨by unfold toZp; rw [h4], by rw [toZp_v h, h4]⟩

theorem intoRepr_eq_v (h : P.WF) {a : ℕ} (ha : a < P.p) : intoRepr P a = (toZp P a).v := by
  rw [toZp_v h, (intoRepr_spec h ha).2.2]

/-- `is_zero` on the raw value is the canonical zero test -/
theorem toZp_isZero (h : P.WF) {a : ℕ} (ha : a < P.p) :
    Zp.isZero (toZp P a) = decide (a = 0) := by
  unfold Zp.isZero
  rw [toZp_v h]
  by_cases h0 : a = 0
  · subst h0; simp [dec_zero]
  · have : dec P a ≠ 0 := fun hd => h0 ((eq_zero_iff_dec_eq_zero h ha).mpr hd)
    simp [h0, this]

/-- `Ord`: comparing `into_repr()` values is comparing canonical integers -/
theorem toZp_lt (h : P.WF) {a b : ℕ} (ha : a < P.p) (hb : b < P.p) :
    Zp.lt (toZp P a) (toZp P b) = decide (intoRepr P a < intoRepr P b) := by
  unfold Zp.lt
  rw [intoRepr_eq_v h ha, intoRepr_eq_v h hb]

/-- `inverse` never runs out of fuel and agrees with the canonical-level `Zp.inv`
    (`none` exactly for zero) -/
theorem toZp_inverse (h : P.WF) (hp : Nat.Prime P.p) {a : ℕ} (ha : a < P.p) :
    ∃ o, inverse P a = some o ∧ o.map (toZp P) = Zp.inv (toZp P a) ∧ ∀ b ∈ o, b < P.p := by
  have : Fact P.p.Prime := ⟨hp⟩
  by_cases h0 : a = 0
  · subst h0
    refine ⟨none, (inverse_eq_some_none_iff P 0).mpr rfl, ?_, by simp⟩
    unfold Zp.inv
    rw [toZp_v h, dec_zero]; simp
  · obtain ⟨b, hb1, hb2, hb3⟩ := inverse_spec h hp ha h0
    refine ⟨some b, hb1, ?_, by simpa using hb2⟩
    have hd : dec P a ≠ 0 := fun hd => h0 ((eq_zero_iff_dec_eq_zero h ha).mpr hd)
    have hv : (toZp P a).v ≠ 0 := by rw [toZp_v h]; exact hd
    unfold Zp.inv
    simp only [hv, if_false, Option.map_some, Option.some.injEq]
    apply Zp.toZ_injective
    rw [Zp.toZ_inv_some _ hv]
    have e1 : Zp.toZ (toZp P a) = (dec P a : ZMod P.p) := by simp [Zp.toZ, toZp_v h]
    have e2 : Zp.toZ (toZp P b) = (dec P b : ZMod P.p) := by simp [Zp.toZ, toZp_v h]
    rw [e1, e2]
    have hc : ((dec P a * dec P b % P.p : ℕ) : ZMod P.p) = ((1 : ℕ) : ZMod P.p) := by rw [hb3]
    rw [ZMod.natCast_mod] at hc
    push_cast at hc
    exact eq_inv_of_mul_eq_one_right hc

end bridge

end PP.Mont
