/-
C16, homomorphism law of the 11-isogeny, layer 3: the kernel as a group, and the model.

* `T = (t₁, s₁)` generates the kernel: `5T + T = −5T` (one more point addition after `IsoHom11.Tk_nsmul`),
  so `11 • T = O`; `ker_eq_zmultiples`, `ker_card : #ker = 11`;
* `OnE1'`, `absE1'` : Jacobian triples denoting points of `E₁'`; `abs_iso11_eq_iso11Pt` : the model's
  `iso11` computes `iso11Pt` on every representative of every point of `E₁'`.
-/
import PP.Proofs.IsoHom11
import Mathlib.GroupTheory.OrderOfElement

namespace PP
namespace IsoHom11

open WeierstrassCurve.Affine IsoPoly Iso
open IsoHom (Wab Wab_negY Wab_addX Wab_equation_iff Wab_a₁ Wab_a₂ Wab_a₃ Wab_a₄ Wab_a₆)

local notation "b₁" => g1Codec.b
local notation "Kp" => evalP iso11Ker

/-- `5T + T = −5T` -/
theorem Tk_six : Tk 5 + Tk 1 = -Tk 5 := by
  have h1 : (1 : Nat) ≤ 1 ∧ 1 ≤ 5 := by decide
  have h5 : (1 : Nat) ≤ 5 ∧ 5 ≤ 5 := by decide
  have hne : tq 5 ≠ tq 1 := by decide +kernel
  rw [Tk_eq 5 h5, Tk_eq 1 h1, Point.add_of_X_ne hne, Point.neg_some, PP.Point.some_eq_some]
  constructor
  · rw [slope_of_X_ne hne, Wab_addX]
    decide +kernel
  · unfold addY negAddY
    rw [slope_of_X_ne hne, Wab_negY, Wab_negY, Wab_addX]
    decide +kernel

theorem Tk_eleven : 11 • Tk 1 = 0 := by
  have e5 := Tk_nsmul 5 (by decide)
  have e6 : 6 • Tk 1 = -Tk 5 := by rw [succ_nsmul, e5, Tk_six]
  have : 11 • Tk 1 = 5 • Tk 1 + 6 • Tk 1 := by rw [← add_nsmul]
  rw [this, e5, e6, add_neg_cancel]

theorem Tk_one_ne : Tk 1 ≠ 0 := by
  rw [Tk_eq 1 (by decide)]
  exact Point.some_ne_zero _

theorem addOrderOf_T : addOrderOf (Tk 1) = 11 :=
  haveI : Fact (Nat.Prime 11) := ⟨by norm_num⟩
  addOrderOf_eq_prime Tk_eleven Tk_one_ne

/-- the kernel of the isogeny on `E₁'(Fq)` is the cyclic group generated by `T` -/
theorem ker_eq_zmultiples : iso11Hom.ker = AddSubgroup.zmultiples (Tk 1) := by
  ext P
  rw [AddMonoidHom.mem_ker]
  show iso11Pt P = 0 ↔ _
  rw [iso11Pt_eq_zero_iff_Tk]
  constructor
  · rintro (rfl | ⟨k, hk, rfl | rfl⟩)
    · exact AddSubgroup.zero_mem _
    · rw [← Tk_nsmul k hk]
      exact AddSubgroup.nsmul_mem _ (AddSubgroup.mem_zmultiples _) k
    · rw [← Tk_nsmul k hk]
      exact AddSubgroup.neg_mem _ (AddSubgroup.nsmul_mem _ (AddSubgroup.mem_zmultiples _) k)
  · intro hP
    obtain ⟨n, rfl⟩ := AddSubgroup.mem_zmultiples_iff.mp hP
    have : iso11Pt (n • Tk 1) = 0 := by
      have := map_zsmul iso11Hom n (Tk 1)
      change iso11Pt (n • Tk 1) = n • iso11Pt (Tk 1) at this
      rw [this, iso11Pt_Tk, zsmul_zero]
    exact (iso11Pt_eq_zero_iff_Tk _).mp this

theorem ker_card : Nat.card iso11Hom.ker = 11 := by
  rw [ker_eq_zmultiples, Nat.card_zmultiples, addOrderOf_T]

/-- a Jacobian triple denotes a point of `E₁'`: `z = 0` (the identity) or the weighted equation -/
def OnE1' (p : Jac Fq) : Prop :=
  p.z = 0 ∨ p.y ^ 2 = p.x ^ 3 + g1EllpA * p.x * p.z ^ 4 + g1EllpB * p.z ^ 6

theorem OnE1'.affine {p : Jac Fq} (h : OnE1' p) (hz : p.z ≠ 0) :
    (p.y / p.z ^ 3) ^ 2 = fq (p.x / p.z ^ 2) := by
  have := h.resolve_left hz
  unfold fq
  field_simp
  linear_combination this

open Classical in
/-- the point of `E₁'` denoted by a Jacobian triple (`0` for `z = 0` and for off-curve triples) -/
noncomputable def absE1' (p : Jac Fq) : E1'.Point :=
  if h : p.z ≠ 0 ∧ E1'.Nonsingular (p.x / p.z ^ 2) (p.y / p.z ^ 3) then Point.some _ _ h.2 else 0

theorem absE1'_of_z_eq_zero {p : Jac Fq} (hz : p.z = 0) : absE1' p = 0 := by
  unfold absE1'; rw [dif_neg]; exact fun h => h.1 hz

theorem absE1'_of_z_ne_zero {p : Jac Fq} (h : OnE1' p) (hz : p.z ≠ 0) :
    absE1' p = Point.some (p.x / p.z ^ 2) (p.y / p.z ^ 3) (E1'_nonsingular (h.affine hz)) := by
  unfold absE1'
  rw [dif_pos ⟨hz, E1'_nonsingular (h.affine hz)⟩]

/-- every point of `E₁'` is denoted by a Jacobian triple -/
theorem absE1'_surjective (P : E1'.Point) : ∃ p, OnE1' p ∧ absE1' p = P := by
  rcases P with _ | ⟨x, y, h⟩
  · exact ⟨⟨0, 0, 0⟩, Or.inl rfl, absE1'_of_z_eq_zero rfl⟩
  · have e := E1'_eq h
    have hon : OnE1' ⟨x, y, 1⟩ := by
      right
      show y ^ 2 = x ^ 3 + g1EllpA * x * 1 ^ 4 + g1EllpB * 1 ^ 6
      unfold fq at e
      linear_combination e
    refine ⟨⟨x, y, 1⟩, hon, ?_⟩
    rw [absE1'_of_z_ne_zero hon (by show (1 : Fq) ≠ 0; exact one_ne_zero), PP.Point.some_eq_some]
    constructor
    · show x / 1 ^ 2 = x; simp
    · show y / 1 ^ 3 = y; simp

/-- the model's `iso11` computes `iso11Pt` on every Jacobian representative of every point of
    `E₁'` (identity and kernel points included) -/
theorem abs_iso11_eq_iso11Pt (p : Jac Fq) (hp : OnE1' p) :
    Jac.abs b₁ (iso11 p) = iso11Pt (absE1' p) := by
  by_cases hz : p.z = 0
  · rw [absE1'_of_z_eq_zero hz, iso11Pt_zero]
    exact Jac.abs_of_z_eq_zero
      ((jac_isZero_iff _).mp (C16.iso11_identity p ((jac_isZero_iff p).mpr hz)))
  · rw [absE1'_of_z_ne_zero hp hz, iso11Pt_some]
    exact abs_iso11_eq p hz (hp.resolve_left hz)

end IsoHom11
end PP
