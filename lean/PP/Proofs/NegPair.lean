/-
Negation and the textbook reduced ate pairing (`PP/Spec/Ate.lean`): for ALL finite inputs, with no
bilinearity assumption,

* `reducedAte (-P) Q · reducedAte P Q = 1`   (`reducedAte_neg_left_mul`, `y_P ≠ 0`),
* `reducedAte P (-Q) = reducedAte (-P) Q`    (`reducedAte_neg_right`, no hypothesis).

Idea.  `σ = Fq12.conjugate` is the automorphism of `Fq12 = Fq6[w]` fixing `Fq6` with `σ w = -w`.  The
untwisted point `ψ(T) = (x_T / w², y_T / w³)` has `σ`-even abscissa and `σ`-odd ordinate, the slope
`w⁻¹ ι l` of a tangent or chord through untwisted points is odd, and `P ∈ E(Fq)` is fixed.  Hence for the
line `l_T(P) = (y_P - y_ψT) - λ (x_P - x_ψT)`:

    σ (l_T(P)) = (y_P + y_ψT) + λ (x_P - x_ψT) = - l_T(-P)          (`conj_lineAt`)
    l_{-T}(P)  = (y_P + y_ψT) + λ (x_P - x_ψT) = - l_T(-P)          (`lineAt_ngp_untwist`)

and the accumulator of `-Q` is the negative of the accumulator of `Q`.  By induction over the loop
(`left_loop`, `right_loop`) the three Miller values `f = f_Q(P)`, `g = f_Q(-P)`, `h = f_{-Q}(P)` satisfy
`g = ± σ f` and `h = ± g`.  The sign `-1` lies in `Fq` and is killed by the final exponent `E`
(`neg_one_pow_fe`), and `f · σ f` is the relative norm, a non-zero element of `Fq6`, killed as well:
`reducedAte(-P,Q) · reducedAte(P,Q) = (σ g)^E (σ f)^E = (f · σ f)^E = 1`.
-/
import PP.Proofs.Lines4

namespace PP
namespace NegPair

open Ate Miller Lines

/-- `(x, y) ↦ (x, -y)`: the negative of a finite affine point -/
def ngp {F : Type} [Neg F] (A : F × F) : F × F := (A.1, -A.2)

@[simp] theorem ngp_fst {F : Type} [Neg F] (A : F × F) : (ngp A).1 = A.1 := rfl
@[simp] theorem ngp_snd {F : Type} [Neg F] (A : F × F) : (ngp A).2 = -A.2 := rfl

/-! ## the affine formulas and negation, in any field -/

section generic
variable {K : Type} [Field K]

theorem tangentSlope_ngp (A : K × K) : tangentSlope (ngp A) = -tangentSlope A := by
  simp only [tangentSlope, ngp, mul_neg, div_neg]

theorem chordSlope_ngp (A B : K × K) : chordSlope (ngp A) (ngp B) = -chordSlope A B := by
  simp only [chordSlope, ngp]
  rw [← neg_div]; congr 1; ring

theorem sumOfSlope_ngp (l : K) (A B : K × K) :
    sumOfSlope (-l) (ngp A) (ngp B) = ngp (sumOfSlope l A B) := by
  simp only [sumOfSlope, ngp, Prod.mk.injEq]
  constructor <;> ring

theorem affDouble_ngp (A : K × K) : affDouble (ngp A) = ngp (affDouble A) := by
  simp only [affDouble, tangentSlope_ngp, sumOfSlope_ngp]

theorem affAdd_ngp (A B : K × K) : affAdd (ngp A) (ngp B) = ngp (affAdd A B) := by
  simp only [affAdd, chordSlope_ngp, sumOfSlope_ngp]

end generic

/-! ## conjugation on the ingredients of a line -/

theorem conj_eq (x : Fq12) : Fq12.conjugate x = Fq12.conjugateEquiv x := rfl

theorem conjE_ι (a : Fq2) : Fq12.conjugateEquiv (ι a) = ι a := Fq12.conjugate_ofFq6 _
theorem conjE_κ (a : Fq) : Fq12.conjugateEquiv (κ a) = κ a := Fq12.conjugate_ofFq6 _
theorem conjE_w : Fq12.conjugateEquiv Fq12.w = -Fq12.w := Fq12.conjugate_w

theorem conjE_wInv : Fq12.conjugateEquiv wInv = -wInv := by
  have h := congrArg Fq12.conjugateEquiv wInv_mul_w
  rw [map_mul, conjE_w, map_one] at h
  linear_combination (-Fq12.conjugateEquiv wInv) * wInv_mul_w + (-wInv) * h

theorem conj_neg (x : Fq12) : Fq12.conjugate (-x) = -Fq12.conjugate x :=
  map_neg Fq12.conjugateEquiv x

theorem conj_pow (x : Fq12) (n : ℕ) : Fq12.conjugate (x ^ n) = Fq12.conjugate x ^ n :=
  map_pow Fq12.conjugateEquiv x n

theorem conj_ne_zero {x : Fq12} (h : x ≠ 0) : Fq12.conjugate x ≠ 0 := fun h0 =>
  h (by rw [← Fq12.conjugate_conjugate x, h0, Fq12.conjugate_zero])

theorem untwist_ngp (T : Fq2 × Fq2) : untwist (ngp T) = ngp (untwist T) := by
  simp only [untwist, ngp, map_neg, neg_div]

theorem embed_ngp (P : Fq × Fq) : embed (ngp P) = ngp (embed P) := by
  simp only [embed, ngp, map_neg]

/-- **`σ(l_T(P)) = -l_T(-P)`** for a line through `ψ(T)` with slope `w⁻¹ ι l` -/
theorem conj_lineAt (l : Fq2) (T : Fq2 × Fq2) (P : Fq × Fq) :
    Fq12.conjugate (lineAt (wInv * ι l) (untwist T) (embed P)) =
      -lineAt (wInv * ι l) (untwist T) (embed (ngp P)) := by
  rw [conj_eq, untwist_eq_cmap]
  simp only [lineAt, cmap, embed, ngp, map_sub, map_mul, map_pow, map_neg, conjE_ι, conjE_κ,
    conjE_wInv]
  ring

/-- **`l_{-T}(P) = -l_T(-P)`** (the slope at `-T` is the negative of the slope at `T`) -/
theorem lineAt_ngp_untwist (l : Fq2) (T : Fq2 × Fq2) (P : Fq × Fq) :
    lineAt (wInv * ι (-l)) (untwist (ngp T)) (embed P) =
      -lineAt (wInv * ι l) (untwist T) (embed (ngp P)) := by
  rw [untwist_eq_cmap, untwist_eq_cmap]
  simp only [lineAt, cmap, embed, ngp, map_neg]
  ring

theorem conj_tangentAt (T : Fq2 × Fq2) (P : Fq × Fq) :
    Fq12.conjugate (tangentAt (untwist T) (embed P)) = -tangentAt (untwist T) (embed (ngp P)) := by
  simp only [tangentAt, tangentSlope_untwist]; exact conj_lineAt _ T P

theorem conj_chordAt (T Q : Fq2 × Fq2) (P : Fq × Fq) :
    Fq12.conjugate (chordAt (untwist T) (untwist Q) (embed P)) =
      -chordAt (untwist T) (untwist Q) (embed (ngp P)) := by
  simp only [chordAt, chordSlope_untwist]; exact conj_lineAt _ T P

theorem tangentAt_ngp (T : Fq2 × Fq2) (P : Fq × Fq) :
    tangentAt (untwist (ngp T)) (embed P) = -tangentAt (untwist T) (embed (ngp P)) := by
  simp only [tangentAt, tangentSlope_untwist, tangentSlope_ngp]; exact lineAt_ngp_untwist _ T P

theorem chordAt_ngp (T Q : Fq2 × Fq2) (P : Fq × Fq) :
    chordAt (untwist (ngp T)) (untwist (ngp Q)) (embed P) =
      -chordAt (untwist T) (untwist Q) (embed (ngp P)) := by
  simp only [chordAt, chordSlope_untwist, chordSlope_ngp]; exact lineAt_ngp_untwist _ T P

/-! ## equality up to sign -/

/-- `a = ± b` -/
def Sgn (a b : Fq12) : Prop := a = b ∨ a = -b

theorem Sgn.refl (a : Fq12) : Sgn a a := Or.inl rfl

theorem Sgn.step {a b : Fq12} (h : Sgn a b) (t : Fq12) : Sgn (a ^ 2 * -t) (b ^ 2 * t) := by
  rcases h with rfl | rfl
  · right; ring
  · right; ring

theorem Sgn.mul_neg {a b : Fq12} (h : Sgn a b) (c : Fq12) : Sgn (a * -c) (b * c) := by
  rcases h with rfl | rfl
  · right; ring
  · left; ring

theorem Sgn.conj {a b : Fq12} (h : Sgn a b) : Sgn (Fq12.conjugate a) (Fq12.conjugate b) := by
  rcases h with rfl | rfl
  · exact Or.inl rfl
  · exact Or.inr (conj_neg _)

/-- `-1` lies in `Fq6`, whose non-zero elements the final exponent kills -/
theorem neg_one_pow_fe : (-1 : Fq12) ^ finalExponent = 1 :=
  FinalExp.pow_of_fe_one
    (InFq6.fe ⟨-1, neg_ne_zero.mpr one_ne_zero, by rw [map_neg, map_one]⟩)

theorem Sgn.pow_fe {a b : Fq12} (h : Sgn a b) : a ^ finalExponent = b ^ finalExponent := by
  rcases h with rfl | rfl
  · rfl
  · rw [neg_pow, neg_one_pow_fe, one_mul]

/-- the relative norm `f · σ f` of a non-zero `f` is killed by the final exponent -/
theorem norm_pow_fe {f : Fq12} (hf : f ≠ 0) : (f * Fq12.conjugate f) ^ finalExponent = 1 := by
  have hne : f * Fq12.conjugate f ≠ 0 := mul_ne_zero hf (conj_ne_zero hf)
  have hd : InFq6 (f * Fq12.conjugate f) := by
    refine ⟨_, ?_, Fq12.mul_conjugate f⟩
    intro h0
    apply hne
    rw [Fq12.mul_conjugate, h0, map_zero]
  exact FinalExp.pow_of_fe_one hd.fe

/-! ## the loops -/

/-- **`P ↦ -P`**: the textbook loops at `P` and at `-P` have the same accumulator `T`, and the value at
    `-P` is, up to sign, the conjugate of the value at `P` -/
theorem left_loop (P : Fq × Fq) (Q : Fq2 × Fq2) (bs : List Bool) (F G : Fq12) (T : Fq2 × Fq2)
    (h : Sgn (Fq12.conjugate F) G) :
    (bs.foldl (millerStep (ngp P) Q) (G, T)).2 = (bs.foldl (millerStep P Q) (F, T)).2 ∧
      Sgn (Fq12.conjugate (bs.foldl (millerStep P Q) (F, T)).1)
        (bs.foldl (millerStep (ngp P) Q) (G, T)).1 := by
  induction bs generalizing F G T with
  | nil => simp only [List.foldl_nil]; exact ⟨trivial, h⟩
  | cons b bs ih =>
    have h1 : Sgn (Fq12.conjugate (F ^ 2 * tangentAt (untwist T) (embed P)))
        (G ^ 2 * tangentAt (untwist T) (embed (ngp P))) := by
      rw [Fq12.conjugate_mul, conj_pow, conj_tangentAt]; exact h.step _
    cases b with
    | false =>
      simp only [List.foldl_cons, millerStep, Bool.false_eq_true, if_false]
      exact ih _ _ _ h1
    | true =>
      simp only [List.foldl_cons, millerStep, if_true]
      refine ih _ _ _ ?_
      rw [Fq12.conjugate_mul, conj_chordAt]; exact h1.mul_neg _

/-- **`Q ↦ -Q`**: the accumulator of `-Q` is the negative of the accumulator of `Q`, and the value at
    `(P, -Q)` is, up to sign, the value at `(-P, Q)` -/
theorem right_loop (P : Fq × Fq) (Q : Fq2 × Fq2) (bs : List Bool) (H G : Fq12) (T : Fq2 × Fq2)
    (h : Sgn H G) :
    (bs.foldl (millerStep P (ngp Q)) (H, ngp T)).2 =
        ngp (bs.foldl (millerStep (ngp P) Q) (G, T)).2 ∧
      Sgn (bs.foldl (millerStep P (ngp Q)) (H, ngp T)).1
        (bs.foldl (millerStep (ngp P) Q) (G, T)).1 := by
  induction bs generalizing H G T with
  | nil => simp only [List.foldl_nil]; exact ⟨trivial, h⟩
  | cons b bs ih =>
    have h1 : Sgn (H ^ 2 * tangentAt (untwist (ngp T)) (embed P))
        (G ^ 2 * tangentAt (untwist T) (embed (ngp P))) := by
      rw [tangentAt_ngp]; exact h.step _
    cases b with
    | false =>
      simp only [List.foldl_cons, millerStep, Bool.false_eq_true, if_false, affDouble_ngp]
      exact ih _ _ _ h1
    | true =>
      simp only [List.foldl_cons, millerStep, if_true, affDouble_ngp, affAdd_ngp]
      refine ih _ _ _ ?_
      rw [chordAt_ngp]; exact h1.mul_neg _

theorem textbookMiller_neg_left (P : Fq × Fq) (Q : Fq2 × Fq2) :
    Sgn (Fq12.conjugate (textbookMiller P Q)) (textbookMiller (ngp P) Q) :=
  (left_loop P Q (bitsBelowTop Gen.BLS_X) 1 1 Q (by rw [Fq12.conjugate_one]; exact Sgn.refl 1)).2

theorem textbookMiller_neg_right (P : Fq × Fq) (Q : Fq2 × Fq2) :
    Sgn (textbookMiller P (ngp Q)) (textbookMiller (ngp P) Q) :=
  (right_loop P Q (bitsBelowTop Gen.BLS_X) 1 1 Q (Sgn.refl 1)).2

/-! ## the reduced pairing -/

/-- `reducedAte (-P) Q = f_Q(P) ^ E` (without the conjugation) -/
theorem reducedAte_neg_left_eq (P : Fq × Fq) (Q : Fq2 × Fq2) :
    reducedAte (ngp P) Q = textbookMiller P Q ^ finalExponent := by
  have h := (textbookMiller_neg_left P Q).conj
  rw [Fq12.conjugate_conjugate] at h
  unfold reducedAte
  exact h.pow_fe.symm

/-- **`e(-P, Q) · e(P, Q) = 1`** for the textbook pairing, all `Q`, all `P` with `y_P ≠ 0` -/
theorem reducedAte_neg_left_mul (P : Fq × Fq) (Q : Fq2 × Fq2) (hy : P.2 ≠ 0) :
    reducedAte (ngp P) Q * reducedAte P Q = 1 := by
  rw [reducedAte_neg_left_eq, reducedAte, ← mul_pow]
  exact norm_pow_fe (textbookMiller_ne_zero P Q hy)

theorem reducedAte_neg_left (P : Fq × Fq) (Q : Fq2 × Fq2) (hy : P.2 ≠ 0) :
    reducedAte (ngp P) Q = (reducedAte P Q)⁻¹ :=
  eq_inv_of_mul_eq_one_left (reducedAte_neg_left_mul P Q hy)

/-- **`e(P, -Q) = e(-P, Q)`** for the textbook pairing, all `P`, `Q` -/
theorem reducedAte_neg_right (P : Fq × Fq) (Q : Fq2 × Fq2) :
    reducedAte P (ngp Q) = reducedAte (ngp P) Q := by
  unfold reducedAte
  exact (textbookMiller_neg_right P Q).conj.pow_fe

theorem reducedAte_ne_zero (P : Fq × Fq) (Q : Fq2 × Fq2) (hy : P.2 ≠ 0) : reducedAte P Q ≠ 0 :=
  pow_ne_zero _ (conj_ne_zero (textbookMiller_ne_zero P Q hy))

end NegPair
end PP
