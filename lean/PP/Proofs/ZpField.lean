/-
F2: the model type `Zp p` is the ring `ZMod p`; for prime `p` it is a field, and the model's
`inv`, `sq`, `dbl`, `isZero` are the field's.  The `CommRing`/`Field` instances are built ON the
model's own `+ - * neg 0 1` (via `Function.Injective.commRing`), so theorems proved for an abstract
field apply to the executable model without any transfer step.
-/
import Mathlib.Data.ZMod.Basic
import Mathlib.Algebra.Field.ZMod
import Mathlib.FieldTheory.Finite.Basic
import PP.Model.Field

set_option linter.unusedSectionVars false

namespace PP
namespace Zp
variable {p : Nat} [PosNat p]

instance : NeZero p := ⟨Nat.pos_iff_ne_zero.mp PosNat.pos⟩

def toZ (a : Zp p) : ZMod p := (a.v : ZMod p)

theorem toZ_injective : Function.Injective (toZ : Zp p → ZMod p) := by
  intro a b h
  have := (ZMod.natCast_eq_natCast_iff' a.v b.v p).mp h
  rw [Nat.mod_eq_of_lt a.h, Nat.mod_eq_of_lt b.h] at this
  cases a; cases b; simp_all

@[simp] theorem ofNat_v (n : Nat) : (ofNat n : Zp p).v = n % p := rfl

omit [PosNat p] in
theorem ext_v {a b : Zp p} (h : a.v = b.v) : a = b := by
  cases a; cases b; simp_all

theorem ofNat_mod (n : Nat) : (ofNat (n % p) : Zp p) = ofNat n := ext_v (Nat.mod_mod _ _)

@[simp] theorem toZ_ofNat (n : Nat) : toZ (ofNat n : Zp p) = (n : ZMod p) := by
  simp [toZ, ofNat]

theorem toZ_zero : toZ (0 : Zp p) = 0 := by
  show toZ (ofNat 0) = 0; simp
theorem toZ_one : toZ (1 : Zp p) = 1 := by
  show toZ (ofNat 1) = 1; simp
theorem toZ_add (a b : Zp p) : toZ (a + b) = toZ a + toZ b := by
  show toZ (ofNat (a.v + b.v)) = _; simp [toZ]
theorem toZ_mul (a b : Zp p) : toZ (a * b) = toZ a * toZ b := by
  show toZ (ofNat (a.v * b.v)) = _; simp [toZ]
theorem toZ_neg (a : Zp p) : toZ (-a) = -toZ a := by
  show toZ (ofNat (p - a.v)) = _
  rw [toZ_ofNat, Nat.cast_sub (le_of_lt a.h)]; simp [toZ]
theorem toZ_sub (a b : Zp p) : toZ (a - b) = toZ a - toZ b := by
  show toZ (ofNat (a.v + (p - b.v))) = _
  rw [toZ_ofNat, Nat.cast_add, Nat.cast_sub (le_of_lt b.h)]; simp [toZ]; ring

/- The data fields that `Function.Injective.commRing` asks for, written on the model's `ofNat` so
   that the ring structure is the model's own.  In particular `a ^ n` is `ofNat (a.v ^ n)` by
   definition, not an iterated model multiplication; `toZ_pow` is what relates the two. -/
instance : NatCast (Zp p) := ⟨fun n => ofNat n⟩
instance : IntCast (Zp p) := ⟨fun z => ofNat (z % (p : Int)).toNat⟩
instance : SMul ℕ (Zp p) := ⟨fun n a => ofNat (n * a.v)⟩
instance : SMul ℤ (Zp p) := ⟨fun z a => ofNat ((z % (p : Int)).toNat * a.v)⟩
instance : Pow (Zp p) ℕ := ⟨fun a n => ofNat (a.v ^ n)⟩

theorem toZ_natCast (n : ℕ) : toZ ((n : Zp p)) = (n : ZMod p) := by
  show toZ (ofNat n) = _; simp
theorem toZ_intCast (z : ℤ) : toZ ((z : Zp p)) = (z : ZMod p) := by
  show toZ (ofNat (z % (p : Int)).toNat) = _
  rw [toZ_ofNat]
  have hp : (0 : ℤ) < p := by exact_mod_cast PosNat.pos (p := p)
  have h0 : 0 ≤ z % (p : ℤ) := Int.emod_nonneg _ (ne_of_gt hp)
  have h1 : ((z % (p : ℤ)).toNat : ℤ) = z % p := Int.toNat_of_nonneg h0
  calc (((z % (p : ℤ)).toNat : ℕ) : ZMod p) = (((z % (p : ℤ)).toNat : ℤ) : ZMod p) :=
        (Int.cast_natCast _).symm
    _ = ((z % p : ℤ) : ZMod p) := by rw [h1]
    _ = z := ZMod.intCast_mod z p
theorem toZ_nsmul (n : ℕ) (a : Zp p) : toZ (n • a) = n • toZ a := by
  show toZ (ofNat (n * a.v)) = _; simp [toZ]
theorem toZ_zsmul (z : ℤ) (a : Zp p) : toZ (z • a) = z • toZ a := by
  show toZ (ofNat ((z % (p : Int)).toNat * a.v)) = _
  rw [toZ_ofNat, Nat.cast_mul]
  have h2 : (((z % (p : ℤ)).toNat : ℕ) : ZMod p) = (z : ZMod p) := by
    have := toZ_intCast (p := p) z
    rwa [show ((z : Zp p)) = ofNat (z % (p : Int)).toNat from rfl, toZ_ofNat] at this
  rw [h2, zsmul_eq_mul]; rfl
theorem toZ_pow (a : Zp p) (n : ℕ) : toZ (a ^ n) = toZ a ^ n := by
  show toZ (ofNat (a.v ^ n)) = _; simp [toZ]

instance instCommRing : CommRing (Zp p) :=
  toZ_injective.commRing toZ toZ_zero toZ_one toZ_add toZ_mul toZ_neg toZ_sub
    toZ_nsmul toZ_zsmul toZ_pow toZ_natCast toZ_intCast

theorem toZ_surjective : Function.Surjective (toZ : Zp p → ZMod p) := by
  intro z
  refine ⟨ofNat z.val, ?_⟩
  simp

def toZRingHom : Zp p →+* ZMod p where
  toFun := toZ
  map_one' := toZ_one
  map_mul' := toZ_mul
  map_zero' := toZ_zero
  map_add' := toZ_add

theorem v_eq_val (a : Zp p) : a.v = (toZ a).val := by
  simp [toZ, ZMod.val_natCast, Nat.mod_eq_of_lt a.h]

theorem eq_zero_iff (a : Zp p) : a = 0 ↔ a.v = 0 := by
  constructor
  · intro h; subst h; show (ofNat 0 : Zp p).v = 0; simp
  · intro h
    apply toZ_injective
    rw [toZ_zero]; simp [toZ, h]

theorem isZero_iff (a : Zp p) : a.isZero = true ↔ a = 0 := by
  rw [eq_zero_iff]; simp [isZero]

theorem sq_eq (a : Zp p) : sq a = a * a := rfl
theorem dbl_eq (a : Zp p) : dbl a = a + a := rfl

/-! ### exponentiation by squaring -/

theorem powModAux_eq (m : Nat) (hm : 0 < m) : ∀ (fuel b e acc : Nat), e < 2 ^ fuel → acc < m →
    powModAux m fuel b e acc = acc * b ^ e % m := by
  intro fuel
  induction fuel with
  | zero =>
    intro b e acc he hacc
    have : e = 0 := by omega
    subst this; simp [powModAux, Nat.mod_eq_of_lt hacc]
  | succ n ih =>
    intro b e acc he hacc
    unfold powModAux
    split
    · next h => subst h; simp [Nat.mod_eq_of_lt hacc]
    · next h =>
      have he2 : e / 2 < 2 ^ n := by
        rw [Nat.div_lt_iff_lt_mul (by norm_num)]; rw [pow_succ] at he; omega
      split
      · next hodd =>
        rw [ih _ _ _ he2 (Nat.mod_lt _ hm)]
        have hdec : e = 2 * (e / 2) + 1 := by omega
        conv_rhs => rw [hdec]
        rw [pow_succ, pow_mul, Nat.mul_mod, Nat.mod_mod, Nat.pow_mod (b * b % m), Nat.mod_mod,
          ← Nat.pow_mod, ← Nat.mul_mod]
        rw [show b ^ 2 = b * b from by ring]
        ring_nf
      · next heven =>
        rw [ih _ _ _ he2 hacc]
        have hdec : e = 2 * (e / 2) := by omega
        conv_rhs => rw [hdec]
        rw [pow_mul, Nat.mul_mod, Nat.pow_mod (b * b % m), Nat.mod_mod, ← Nat.pow_mod, ← Nat.mul_mod]
        rw [show b ^ 2 = b * b from by ring]

theorem powMod_eq (b e m : Nat) (hm : 1 < m) : powMod b e m = b ^ e % m := by
  unfold powMod
  rw [powModAux_eq m (by omega) _ _ _ _ (Nat.lt_log2_self) (Nat.mod_lt _ (by omega))]
  rw [Nat.mod_eq_of_lt hm, one_mul, Nat.pow_mod, Nat.mod_mod, ← Nat.pow_mod]

/-! ### the field structure for prime `p` -/

variable [hp : Fact p.Prime]

theorem toZ_inv_some (a : Zp p) (h : a.v ≠ 0) :
    toZ (ofNat (powMod a.v (p - 2) p) : Zp p) = (toZ a)⁻¹ := by
  have hp1 : 1 < p := hp.out.one_lt
  rw [toZ_ofNat, powMod_eq _ _ _ hp1]
  have hz : (toZ a) ≠ 0 := by
    intro h0
    apply h
    rw [v_eq_val, h0]; simp
  rw [ZMod.natCast_mod, Nat.cast_pow]
  show (toZ a) ^ (p - 2) = _
  have hfermat : (toZ a) ^ (p - 1) = 1 := ZMod.pow_card_sub_one_eq_one hz
  have : (toZ a) ^ (p - 2) * toZ a = 1 := by
    rw [← pow_succ]
    have : p - 2 + 1 = p - 1 := by have := hp.out.two_le; omega
    rw [this]; exact hfermat
  exact eq_inv_of_mul_eq_one_left this

/- Likewise the data fields of `Function.Injective.field`: `⁻¹` is the model's `inv` (Fermat, with
   `0⁻¹ = 0`), the rest is derived from it. -/
instance : Inv (Zp p) := ⟨fun a => (Zp.inv a).getD 0⟩
instance : Div (Zp p) := ⟨fun a b => a * b⁻¹⟩
instance : Pow (Zp p) ℤ := ⟨fun a z => match z with
  | Int.ofNat n => a ^ n
  | Int.negSucc n => (a ^ (n + 1))⁻¹⟩
instance : SMul ℚ≥0 (Zp p) := ⟨fun q a => ((q.num : Zp p) / (q.den : Zp p)) * a⟩
instance : SMul ℚ (Zp p) := ⟨fun q a => ((q.num : Zp p) / (q.den : Zp p)) * a⟩
instance : NNRatCast (Zp p) := ⟨fun q => (q.num : Zp p) / (q.den : Zp p)⟩
instance : RatCast (Zp p) := ⟨fun q => (q.num : Zp p) / (q.den : Zp p)⟩

theorem toZ_inv (a : Zp p) : toZ (a⁻¹) = (toZ a)⁻¹ := by
  show toZ ((Zp.inv a).getD 0) = _
  unfold Zp.inv
  split
  · next h =>
    have : a = 0 := (eq_zero_iff a).mpr h
    subst this
    simp [toZ_zero]
  · next h => simpa using toZ_inv_some a h

theorem toZ_div (a b : Zp p) : toZ (a / b) = toZ a / toZ b := by
  show toZ (a * b⁻¹) = _
  rw [toZ_mul, toZ_inv, div_eq_mul_inv]

theorem toZ_zpow (a : Zp p) (z : ℤ) : toZ (a ^ z) = toZ a ^ z := by
  cases z with
  | ofNat n => show toZ (a ^ n) = _; rw [toZ_pow]; simp
  | negSucc n => show toZ ((a ^ (n + 1))⁻¹) = _; rw [toZ_inv, toZ_pow]; simp [zpow_negSucc]

instance instField : Field (Zp p) :=
  toZ_injective.field toZ toZ_zero toZ_one toZ_add toZ_mul toZ_neg toZ_sub toZ_inv toZ_div
    toZ_nsmul toZ_zsmul
    (fun q a => by
      show toZ (((q.num : Zp p) / (q.den : Zp p)) * a) = _
      rw [toZ_mul, toZ_div, toZ_natCast, toZ_natCast, NNRat.smul_def, NNRat.cast_def])
    (fun q a => by
      show toZ (((q.num : Zp p) / (q.den : Zp p)) * a) = _
      rw [toZ_mul, toZ_div, toZ_intCast, toZ_natCast, Rat.smul_def, Rat.cast_def])
    toZ_pow toZ_zpow toZ_natCast toZ_intCast
    (fun q => by
      show toZ ((q.num : Zp p) / (q.den : Zp p)) = _
      rw [toZ_div, toZ_natCast, toZ_natCast, NNRat.cast_def])
    (fun q => by
      show toZ ((q.num : Zp p) / (q.den : Zp p)) = _
      rw [toZ_div, toZ_intCast, toZ_natCast, Rat.cast_def])

theorem inv_eq_none_iff (a : Zp p) : Zp.inv a = none ↔ a = 0 := by
  unfold Zp.inv; rw [eq_zero_iff]; split <;> simp_all

theorem inv_eq_some (a : Zp p) (h : a ≠ 0) : Zp.inv a = some a⁻¹ := by
  have hv : a.v ≠ 0 := fun h0 => h ((eq_zero_iff a).mpr h0)
  show Zp.inv a = some ((Zp.inv a).getD 0)
  unfold Zp.inv; simp [hv]

theorem card_eq : Fintype.card (ZMod p) = p := ZMod.card p

end Zp
end PP
