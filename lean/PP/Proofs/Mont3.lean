/-
C08, constants: the derive-generated / hard-coded constants of `Fq`, `Fr` are what they should be:
kernel evaluations on the EXTRACTED values (`PP.Gen.*`), and what follows from them (the order of
the root of unity of `Fr`, the decoded forms, `ofMont`).
-/
import PP.Proofs.Mont
import PP.Proofs.Primes

-- `fq_R2_eq` and its neighbours identify `P.W`, `P.W * P.W` with `2 ^ 384`, `2 ^ 768`, … by evaluation
set_option exponentiation.threshold 2048

namespace PP

namespace Mont
open Gen

/-! ### the moduli and Montgomery constants -/

theorem fqP_p : fqP.p = q := Primes.fq_MODULUS_eq
theorem frP_p : frP.p = r := Primes.fr_MODULUS_eq
theorem fqP_W : fqP.W = 2 ^ 384 := rfl
theorem frP_W : frP.W = 2 ^ 256 := rfl

theorem q_bits : 2 ^ 380 < q ∧ q < 2 ^ 381 := by decide +kernel
theorem r_bits : 2 ^ 254 < r ∧ r < 2 ^ 255 := by decide +kernel
theorem fq_MODULUS_BITS_eq : fq_MODULUS_BITS = 381 ∧ fq_REPR_SHAVE_BITS = 64 * 6 - 381 := by
  decide
theorem fr_MODULUS_BITS_eq : fr_MODULUS_BITS = 255 ∧ fr_REPR_SHAVE_BITS = 64 * 4 - 255 := by
  decide

theorem fq_R_eq : fq_R = 2 ^ 384 % q := fqP_wf.R_spec
theorem fq_R2_eq : fq_R2 = 2 ^ 768 % q := fqP_wf.R2_spec
theorem fq_INV_eq : (fq_INV * q + 1) % 2 ^ 64 = 0 ∧ fq_INV < 2 ^ 64 := ⟨fqP_wf.inv_spec, by decide⟩
theorem fr_R_eq : fr_R = 2 ^ 256 % r := frP_wf.R_spec
theorem fr_R2_eq : fr_R2 = 2 ^ 512 % r := frP_wf.R2_spec
theorem fr_INV_eq : (fr_INV * r + 1) % 2 ^ 64 = 0 ∧ fr_INV < 2 ^ 64 := ⟨frP_wf.inv_spec, by decide⟩

/-! ### hard-coded field elements, as Montgomery encodings -/

theorem B_COEFF_eq : B_COEFF = 4 * 2 ^ 384 % q := by decide +kernel
theorem NEGATIVE_ONE_eq : NEGATIVE_ONE = (q - 1) * 2 ^ 384 % q := by decide +kernel
theorem F_2_256_eq : F_2_256 = 2 ^ 256 * 2 ^ 384 % q := by decide +kernel
theorem F_2_192_eq : F_2_192 = 2 ^ 192 * 2 ^ 256 % r := by decide +kernel
theorem fq_GENERATOR_eq : fq_GENERATOR = fqGenerator * 2 ^ 384 % q := by decide +kernel
theorem fr_GENERATOR_eq : fr_GENERATOR = frGenerator * 2 ^ 256 % r := by decide +kernel
theorem fqGenerator_eq : fqGenerator = 2 := rfl
theorem frGenerator_eq : frGenerator = 7 := rfl

/-! ### exponents -/

theorem fq_LEGENDRE_EXP_eq : fq_LEGENDRE_EXP = (q - 1) / 2 := by decide +kernel
theorem fq_SQRT_EXP_eq : fq_SQRT_EXP = (q - 3) / 4 := by decide +kernel
theorem FQ2_SQRT_EXP1_eq : FQ2_SQRT_EXP1 = (q - 3) / 4 := by decide +kernel
theorem FQ2_SQRT_EXP2_eq : FQ2_SQRT_EXP2 = (q - 1) / 2 := by decide +kernel
theorem fr_LEGENDRE_EXP_eq : fr_LEGENDRE_EXP = (r - 1) / 2 := by decide +kernel
theorem fq_S_eq : fq_S = 1 := rfl
theorem fr_S_eq : fr_S = 32 := rfl
/-- `q − 1 = 2^1 · t` with `t` odd -/
theorem fq_two_adicity : (q - 1) % 2 ^ fq_S = 0 ∧ (q - 1) / 2 ^ fq_S % 2 = 1 := by decide +kernel
/-- `r − 1 = 2^32 · t` with `t` odd -/
theorem fr_two_adicity : (r - 1) % 2 ^ fr_S = 0 ∧ (r - 1) / 2 ^ fr_S % 2 = 1 := by decide +kernel
theorem fr_SQRT_T_EXP_eq : fr_SQRT_T_EXP = (r - 1) / 2 ^ 32 := by decide +kernel
theorem fr_SQRT_R_EXP_eq : fr_SQRT_R_EXP = ((r - 1) / 2 ^ 32 + 1) / 2 := by decide +kernel

/-! ### roots of unity -/

theorem fq_ROOT_OF_UNITY_eq_SQRT_CMP : fq_ROOT_OF_UNITY = fq_SQRT_CMP := by decide +kernel
theorem fq_ROOT_OF_UNITY_eq_NEGATIVE_ONE : fq_ROOT_OF_UNITY = NEGATIVE_ONE := by decide +kernel
theorem fq_ROOT_OF_UNITY_eq : fq_ROOT_OF_UNITY = (q - 1) * 2 ^ 384 % q := by decide +kernel
theorem fq_ROOT_OF_UNITY_powMod : powMod 2 ((q - 1) / 2) q = q - 1 := by
  decide +kernel

/-- the decoded root of unity of `Fr`: `GENERATOR^t`, `t = (r−1)/2^32` -/
def frOmega : ℕ := powMod 7 ((r - 1) / 2 ^ 32) r

theorem fr_ROOT_OF_UNITY_eq : fr_ROOT_OF_UNITY = frOmega * 2 ^ 256 % r := by decide +kernel

theorem frOmega_order_kernel : powMod frOmega (2 ^ 31) r = r - 1 ∧ powMod frOmega (2 ^ 32) r = 1 := by
  decide +kernel

theorem one_lt_r : 1 < r := Nat.lt_trans Nat.one_lt_two Primes.two_lt_r
theorem one_lt_q : 1 < q := Nat.lt_trans Nat.one_lt_two Primes.two_lt_q

theorem frOmega_eq : frOmega = 7 ^ ((r - 1) / 2 ^ 32) % r := Zp.powMod_eq _ _ _ one_lt_r

/-- `ROOT_OF_UNITY = GENERATOR^t` for `Fq` (`t = (q−1)/2`): `2^((q−1)/2) ≡ −1` -/
theorem fq_ROOT_OF_UNITY_pow : 2 ^ ((q - 1) / 2) % q = q - 1 := by
  rw [← Zp.powMod_eq _ _ _ one_lt_q]; exact fq_ROOT_OF_UNITY_powMod

/-- `ω = 7^((r−1)/2^32) mod r` has multiplicative order exactly `2^32` modulo `r`:
    `ω^(2^32) ≡ 1` and `ω^(2^31) ≡ −1 ≢ 1`. -/
theorem frOmega_order :
    frOmega ^ 2 ^ 32 % r = 1 ∧ frOmega ^ 2 ^ 31 % r = r - 1 ∧ frOmega ^ 2 ^ 31 % r ≠ 1 := by
  obtain ⟨h1, h2⟩ := frOmega_order_kernel
  rw [Zp.powMod_eq _ _ _ one_lt_r] at h1 h2
  refine ⟨h2, h1, ?_⟩
  rw [h1]; decide +kernel

/-! ### decoded forms -/

theorem dec_of_eq_enc {P : Params} (h : P.WF) {raw x : ℕ} (hx : x < P.p)
    (he : raw = x * P.W % P.p) : dec P raw = x := by
  have := dec_enc h x
  unfold enc at this
  rw [he, this, Nat.mod_eq_of_lt hx]

theorem dec_fq_R : dec fqP fq_R = 1 :=
  dec_of_eq_enc fqP_wf fqP_wf.p_gt ((Nat.one_mul _).symm ▸ fqP_wf.R_spec)
theorem dec_fr_R : dec frP fr_R = 1 :=
  dec_of_eq_enc frP_wf frP_wf.p_gt ((Nat.one_mul _).symm ▸ frP_wf.R_spec)
theorem dec_B_COEFF : dec fqP B_COEFF = 4 :=
  dec_of_eq_enc fqP_wf (by decide +kernel) B_COEFF_eq
theorem dec_NEGATIVE_ONE : dec fqP NEGATIVE_ONE = q - 1 :=
  dec_of_eq_enc fqP_wf (Nat.sub_lt fqP_wf.p_pos Nat.one_pos) NEGATIVE_ONE_eq
theorem dec_F_2_256 : dec fqP F_2_256 = 2 ^ 256 :=
  dec_of_eq_enc fqP_wf (by decide +kernel) F_2_256_eq
theorem dec_F_2_192 : dec frP F_2_192 = 2 ^ 192 :=
  dec_of_eq_enc frP_wf (by decide +kernel) F_2_192_eq
theorem dec_fq_GENERATOR : dec fqP fq_GENERATOR = fqGenerator :=
  dec_of_eq_enc fqP_wf (by decide +kernel) fq_GENERATOR_eq
theorem dec_fr_GENERATOR : dec frP fr_GENERATOR = frGenerator :=
  dec_of_eq_enc frP_wf (by decide +kernel) fr_GENERATOR_eq
theorem dec_fq_ROOT_OF_UNITY : dec fqP fq_ROOT_OF_UNITY = q - 1 :=
  dec_of_eq_enc fqP_wf (Nat.sub_lt fqP_wf.p_pos Nat.one_pos) fq_ROOT_OF_UNITY_eq
theorem dec_fr_ROOT_OF_UNITY : dec frP fr_ROOT_OF_UNITY = frOmega :=
  dec_of_eq_enc frP_wf (by decide +kernel) (by decide +kernel)

/-! ### bridge to the canonical-level model's `ofMont` -/

theorem fqRinv_spec : fqP.W * fqRinv % fqP.p = 1 := by decide +kernel
theorem frRinv_spec : frP.W * frRinv % frP.p = 1 := by decide +kernel

/-- `Fq.ofMont` (used by the canonical-level model to read raw literals) is `dec` -/
theorem Fq_ofMont_v (raw : ℕ) : (Fq.ofMont raw).v = dec fqP raw := by
  have := dec_eq_of_inverse fqP_wf fqRinv_spec raw
  rw [← this]; rfl

theorem Fr_ofMont_v (raw : ℕ) : (Fr.ofMont raw).v = dec frP raw := by
  have := dec_eq_of_inverse frP_wf frRinv_spec raw
  rw [← this]; rfl

end Mont
end PP
