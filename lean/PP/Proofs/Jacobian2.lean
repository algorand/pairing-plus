/-
C01, lemmas: batch normalisation (Montgomery's trick).  `Jac.batchNormalize` is shown to be, on EVERY
list, `some (v.map Jac.normalizeOne)`: the inverse whose `unwrap` could panic is taken of a product of
`z`s that are non-zero by the very test that selected them.
-/
import PP.Proofs.Jacobian
import Mathlib.Data.List.GetD

namespace PP

open WeierstrassCurve.Affine

variable {F : Type} [Field F] [DecidableEq F] [FieldOps F]

section
variable [LawfulFieldOps F]

theorem Jac.isNormalized_iff (P : Jac F) : P.isNormalized = true ↔ P.z = 0 ∨ P.z = 1 := by
  simp [Jac.isNormalized]

theorem Jac.z_ne_zero_of_not_isNormalized {P : Jac F} (h : ¬ P.isNormalized = true) : P.z ≠ 0 :=
  fun hz => h ((Jac.isNormalized_iff P).mpr (Or.inl hz))

/-- what batch normalisation does to one element -/
def Jac.normalizeOne (g : Jac F) : Jac F :=
  if g.isNormalized then g else ⟨g.x / g.z ^ 2, g.y / g.z ^ 3, 1⟩

theorem Jac.normalizeOne_isNormalized (g : Jac F) : g.normalizeOne.isNormalized = true := by
  unfold Jac.normalizeOne
  split
  · assumption
  · exact (Jac.isNormalized_iff _).mpr (Or.inr rfl)

theorem Jac.normalizeOne_spec {b : F} [ShortW b] {g : Jac F} (h : Jac.OnCurve b g) :
    Jac.OnCurve b g.normalizeOne ∧ Jac.abs b g.normalizeOne = Jac.abs b g := by
  unfold Jac.normalizeOne
  split
  · exact ⟨h, rfl⟩
  · next hn =>
    have hz := Jac.z_ne_zero_of_not_isNormalized hn
    rw [Jac.abs_of_z_ne_zero h hz]
    apply Jac.abs_eq_some (P := ⟨g.x / g.z ^ 2, g.y / g.z ^ 3, 1⟩) one_ne_zero <;> simp

end

theorem Jac.normalizeOne_of_isNormalized {g : Jac F} (h : g.isNormalized = true) :
    g.normalizeOne = g := by
  simp [Jac.normalizeOne, h]

/-- product of the `z` of the non-normalised elements -/
def Jac.nzProd : List (Jac F) → F
  | [] => 1
  | g :: gs => if g.isNormalized then Jac.nzProd gs else g.z * Jac.nzProd gs

/-- the partial products met by the backward pass: for each non-normalised element, the product of
    the non-normalised `z` that FOLLOW it in the list -/
def Jac.ssOf : List (Jac F) → List F
  | [] => []
  | g :: gs => if g.isNormalized then Jac.ssOf gs else Jac.nzProd gs :: Jac.ssOf gs

/-- result of the backward pass on one element -/
def Jac.invZ (g : Jac F) : Jac F := if g.isNormalized then g else ⟨g.x, g.y, g.z⁻¹⟩

theorem Jac.nzProd_append (l₁ l₂ : List (Jac F)) :
    Jac.nzProd (l₁ ++ l₂) = Jac.nzProd l₁ * Jac.nzProd l₂ := by
  induction l₁ with
  | nil => simp [Jac.nzProd]
  | cons g gs ih =>
    simp only [List.cons_append, Jac.nzProd]
    split
    · exact ih
    · rw [ih, mul_assoc]

theorem Jac.nzProd_reverse (l : List (Jac F)) : Jac.nzProd l.reverse = Jac.nzProd l := by
  induction l with
  | nil => rfl
  | cons g gs ih =>
    rw [List.reverse_cons, Jac.nzProd_append, ih]
    simp only [Jac.nzProd]
    split <;> ring

theorem Jac.ssOf_append (l₁ l₂ : List (Jac F)) :
    Jac.ssOf (l₁ ++ l₂) = (Jac.ssOf l₁).map (· * Jac.nzProd l₂) ++ Jac.ssOf l₂ := by
  induction l₁ with
  | nil => simp [Jac.ssOf]
  | cons g gs ih =>
    simp only [List.cons_append, Jac.ssOf]
    split
    · exact ih
    · rw [ih, Jac.nzProd_append]; simp

theorem Jac.bnProds_getLastD (l : List (Jac F)) (t : F) :
    (Jac.bnProds l t).getLastD t = t * Jac.nzProd l := by
  induction l generalizing t with
  | nil => simp [Jac.bnProds, Jac.nzProd]
  | cons g gs ih =>
    simp only [Jac.bnProds, Jac.nzProd]
    split
    · exact ih t
    · rw [List.getLastD_cons, ih, mul_assoc]

/-- The forward products, reversed and closed by the starting value `t`, are the total product
    followed by the list `ssOf v.reverse` that the backward pass walks along. -/
theorem Jac.bnProds_reverse (v : List (Jac F)) (t : F) :
    (Jac.bnProds v t).reverse ++ [t] =
      (t * Jac.nzProd v) :: (Jac.ssOf v.reverse).map (t * ·) := by
  induction v generalizing t with
  | nil => simp [Jac.bnProds, Jac.nzProd, Jac.ssOf]
  | cons g gs ih =>
    rw [List.reverse_cons, Jac.ssOf_append]
    simp only [Jac.bnProds, Jac.nzProd, Jac.ssOf]
    split
    · rw [ih t]; simp
    · rw [List.reverse_cons, List.append_assoc, ← List.append_assoc, ih (t * g.z)]
      simp [mul_assoc, mul_comm, mul_left_comm]

/-- Invariant of the backward pass: `tmp` inverts the product of the non-normalised `z` not yet
    visited, and the head `s` of the product list omits the current `z`, so `tmp * s = g.z⁻¹`.
    Entries of the list beyond `ssOf r` are never read (`extra`). -/
theorem Jac.bnInv_spec (r : List (Jac F)) (extra : List F) (tmp : F)
    (h : tmp * Jac.nzProd r = 1) :
    Jac.bnInv r (Jac.ssOf r ++ extra) tmp = r.map Jac.invZ := by
  induction r generalizing tmp with
  | nil => simp [Jac.bnInv]
  | cons g gs ih =>
    by_cases hn : g.isNormalized = true
    · have h' : tmp * Jac.nzProd gs = 1 := by simpa [Jac.nzProd, hn] using h
      simp only [Jac.bnInv, Jac.ssOf, hn, if_true, List.map_cons, ih tmp h']
      simp [Jac.invZ, hn]
    · have h' : tmp * (g.z * Jac.nzProd gs) = 1 := by simpa [Jac.nzProd, hn] using h
      have h1 : tmp * g.z * Jac.nzProd gs = 1 := by rw [← h']; ring
      have h2 : tmp * Jac.nzProd gs = g.z⁻¹ :=
        eq_inv_of_mul_eq_one_left (by rw [← h']; ring)
      simp only [Jac.bnInv, Jac.ssOf, hn, Bool.false_eq_true, if_false, List.cons_append,
        List.map_cons, ih (tmp * g.z) h1, h2]
      simp [Jac.invZ, hn]

variable [LawfulFieldOps F]

theorem Jac.nzProd_ne_zero (l : List (Jac F)) : Jac.nzProd l ≠ 0 := by
  induction l with
  | nil => exact one_ne_zero
  | cons g gs ih =>
    unfold Jac.nzProd
    split
    · exact ih
    · next hn => exact mul_ne_zero (Jac.z_ne_zero_of_not_isNormalized hn) ih

theorem Jac.bnAffine_invZ (g : Jac F) : Jac.bnAffine (Jac.invZ g) = Jac.normalizeOne g := by
  unfold Jac.invZ Jac.normalizeOne
  by_cases hn : g.isNormalized = true
  · simp [Jac.bnAffine, hn]
  · have hz := Jac.z_ne_zero_of_not_isNormalized hn
    have hn' : ¬ (⟨g.x, g.y, g.z⁻¹⟩ : Jac F).isNormalized = true := by
      rw [Jac.isNormalized_iff] at hn ⊢
      simpa using hn
    simp only [hn, Bool.false_eq_true, if_false, Jac.bnAffine, hn', LawfulFieldOps.sq_eq,
      Jac.mk.injEq, and_true]
    constructor <;> field_simp

/-- Rust's `prod.rev().skip(1).chain(one)` is the tail of `prod.rev() ++ [one]`, except for empty
    `prod` (all elements normalised), where the chained `one` is left over: hence `extra`. -/
theorem List.drop_one_append_singleton_aux {α : Type} (L : List α) (a : α) :
    ∃ extra, L.drop 1 ++ [a] = (L ++ [a]).tail ++ extra := by
  cases L with
  | nil => exact ⟨[a], by simp⟩
  | cons x xs => exact ⟨[], by simp⟩

/-- `batch_normalization` never panics and normalises every element independently. -/
theorem Jac.batchNormalize_eq (v : List (Jac F)) :
    Jac.batchNormalize v = some (v.map Jac.normalizeOne) := by
  unfold Jac.batchNormalize
  have hlast : (Jac.bnProds v 1).getLastD 1 = Jac.nzProd v := by
    rw [Jac.bnProds_getLastD, one_mul]
  have hne := Jac.nzProd_ne_zero v
  have hrev := Jac.bnProds_reverse v 1
  simp only [one_mul, List.map_id'] at hrev
  obtain ⟨extra, hextra⟩ := List.drop_one_append_singleton_aux (Jac.bnProds v 1).reverse (1 : F)
  rw [hrev, List.tail_cons] at hextra
  simp only [hlast, LawfulFieldOps.inv_ne _ hne, hextra]
  rw [Jac.bnInv_spec v.reverse extra _ (by rw [Jac.nzProd_reverse]; exact inv_mul_cancel₀ hne)]
  simp [Jac.bnAffine_invZ]

theorem Jac.batchNormalize_spec {b : F} [ShortW b] (v : List (Jac F))
    (hv : ∀ P ∈ v, Jac.OnCurve b P) :
    ∃ out, Jac.batchNormalize v = some out ∧ out.length = v.length ∧
      ∀ (i : Nat) (h₁ : i < out.length) (h₂ : i < v.length),
        Jac.OnCurve b out[i] ∧ Jac.abs b out[i] = Jac.abs b v[i] ∧
        out[i].isNormalized = true ∧ (v[i].isNormalized = true → out[i] = v[i]) := by
  refine ⟨_, Jac.batchNormalize_eq v, by simp, ?_⟩
  intro i h₁ h₂
  simp only [List.getElem_map]
  have hoc := hv v[i] (List.getElem_mem h₂)
  exact ⟨(Jac.normalizeOne_spec hoc).1, (Jac.normalizeOne_spec hoc).2,
    Jac.normalizeOne_isNormalized _, Jac.normalizeOne_of_isNormalized⟩

end PP
