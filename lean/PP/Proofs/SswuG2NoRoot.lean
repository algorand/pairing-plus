/-
`x³ + A'x + B'` has no root in `Fq2`, so the `y` that SSWU returns for G2 is never `0`.

`E₂'` is the curve `y² = x³ − 120s²x + 506s³` with `s = −1 + u`, the source of the 3-isogeny onto
`E₂ : y² = x³ + 2s³`.  A root would be a point of order two of `E₂'`; its image under the isogeny is a
point of order two of `E₂`, and `E₂` has none (`g2_no_two_torsion`: `−4(1+u)` is not a cube).
-/
import PP.Model.Map
import PP.Spec.Sswu
import PP.Proofs.IsoHomAlg
import PP.Proofs.AssemblyFq2

namespace PP

namespace IsoHom

/-- `s = −1 + u` -/
def s2 : Fq2 := ⟨-1, 1⟩

theorem g2EllpA_s : g2EllpA = -120 * s2 ^ 2 := by decide +kernel
theorem g2EllpB_s : g2EllpB = 506 * s2 ^ 3 := by decide +kernel
theorem g2b_s : g2Codec.b = 2 * s2 ^ 3 := by decide +kernel

end IsoHom

namespace Sswu
open PP.Spec IsoHom

/-- the isogenous curve `E₂'` has no point of order 2 over `Fq2` -/
theorem g2_no_root (x : Fq2) : sswuG g2EllpA g2EllpB x ≠ 0 := by
  unfold sswuG
  rw [g2EllpA_s, g2EllpB_s]
  exact src_no_root s2 fq2_three_ne_zero (g2b_s ▸ g2Codec_b_ne_zero')
    (fun x h => g2_no_two_torsion x (by rw [g2b_s]; linear_combination h)) x

end Sswu
end PP
